-- GENERATED by tools/harness/check.py: axiom audit for property C01
import PyEcc.Props.C01_Gen
import PyEcc.Props.C01_Logic
import PyEcc.Props.C01_Proto
import PyEcc.Props.C01_ProtoHB2
import PyEcc.Props.C01_ProtoModel
import PyEcc.Props.C01_ProtoND
import PyEcc.Props.TieBls
#print axioms PyEcc.C01.Gen.modelBilinearCode_iff_gen
#print axioms PyEcc.C01.Gen.curve_order_eq
#print axioms PyEcc.C01.Gen.is_valid_privkey_int_iff
#print axioms PyEcc.C01.Gen.is_valid_privkey_other
#print axioms PyEcc.C01.Gen.sk_rejected
#print axioms PyEcc.C01.Gen.sk_rejected_value
#print axioms PyEcc.C01.Gen.KeyGen_range
#print axioms PyEcc.C01.Gen.KeyGen_first_iteration
#print axioms PyEcc.C01.Gen.KeyGen_error
#print axioms PyEcc.C01.Gen.SkToPk_returns
#print axioms PyEcc.C01.Gen.Sign_total
#print axioms PyEcc.C01.Gen.PopProve_total
#print axioms PyEcc.C01.Gen.sign_verify
#print axioms PyEcc.C01.Gen.popProve_popVerify
#print axioms PyEcc.C01.Gen.sign_verify_exists
#print axioms PyEcc.C01.Gen.popProve_popVerify_exists
#print axioms PyEcc.C01.Gen.sign_verify_run
#print axioms PyEcc.C01.Gen.popProve_popVerify_run
#print axioms PyEcc.C01.curveOrder_eq
#print axioms PyEcc.C01.isValidPrivkey_int_iff
#print axioms PyEcc.C01.isValidPrivkey_other
#print axioms PyEcc.C01.isValidPrivkey_none_iff
#print axioms PyEcc.C01.sk_rejected
#print axioms PyEcc.C01.hkdfExpand_48_ok
#print axioms PyEcc.C01.keyGenLoop_post
#print axioms PyEcc.C01.keyGenLoop_range
#print axioms PyEcc.C01.keyGen_range
#print axioms PyEcc.C01.keyGen_first_iteration
#print axioms PyEcc.C01.keyGen_error
#print axioms PyEcc.C01.skToPk_returns
#print axioms PyEcc.C01.sign_verify
#print axioms PyEcc.C01.popProve_popVerify
#print axioms PyEcc.C01.sign_returns
#print axioms PyEcc.C01.sign_verify_exists
#print axioms PyEcc.C01.popProve_popVerify_exists
#print axioms PyEcc.C01.sign_verify'
#print axioms PyEcc.C01.popProve_popVerify'
#print axioms PyEcc.C17O.PairingFacts'.toPairingFacts
#print axioms PyEcc.C17O.pairingFacts'_iff
#print axioms PyEcc.C17O.PairingValueFacts'.toPairingValueFacts
#print axioms PyEcc.C17O.pairingValueFacts'_iff
#print axioms PyEcc.C17O.PairingValueFacts'.toPairingFacts
#print axioms PyEcc.C17O.hash_rep
#print axioms PyEcc.C17O.sign_total
#print axioms PyEcc.C17O.popProve_total
#print axioms PyEcc.C17O.sign_verify
#print axioms PyEcc.C17O.popProve_popVerify
#print axioms PyEcc.C17O.sign_verify_exists
#print axioms PyEcc.C17O.popProve_popVerify_exists
#print axioms PyEcc.C17O.verify_iff
#print axioms PyEcc.C17O.popVerify_iff
#print axioms PyEcc.C17O.aggregateVerify_iff_aggregate_sign
#print axioms PyEcc.C17O.fastAggregateVerify_iff_aggregate_sign
#print axioms PyEcc.C17O.sign_verify'
#print axioms PyEcc.C17O.verify_iff'
#print axioms PyEcc.C17O.aggregateVerify_iff_aggregate_sign'
#print axioms PyEcc.C17O.fastAggregateVerify_iff_aggregate_sign'
#print axioms PyEcc.C01.sign_verify_of_modelBilinear
#print axioms PyEcc.C01.popProve_popVerify_of_modelBilinear
#print axioms PyEcc.C01.sign_verify_exists_of_modelBilinear
#print axioms PyEcc.C01.popProve_popVerify_exists_of_modelBilinear
#print axioms PyEcc.C01.sign_verify_of_modelBilinearCode
#print axioms PyEcc.C01.popProve_popVerify_of_modelBilinearCode
#print axioms PyEcc.C02.verify_iff_of_modelBilinear
#print axioms PyEcc.C02.popVerify_iff_of_modelBilinear
#print axioms PyEcc.C02.verify_rejects_ne_of_modelBilinear
#print axioms PyEcc.C02.popVerify_rejects_ne_of_modelBilinear
#print axioms PyEcc.C02.verify_rejects_neg_of_modelBilinear
#print axioms PyEcc.C02.verify_rejects_double_of_modelBilinear
#print axioms PyEcc.C02.verify_rejects_add_of_modelBilinear
#print axioms PyEcc.C02.verify_identity_iff_of_modelBilinear
#print axioms PyEcc.C02.verify_other_key_iff_of_modelBilinear
#print axioms PyEcc.C02.verify_iff_of_modelBilinearCode
#print axioms PyEcc.C02.popVerify_iff_of_modelBilinearCode
#print axioms PyEcc.C03.aggregateVerify_iff_aggregate_sign_of_modelBilinear
#print axioms PyEcc.C03.fastAggregateVerify_iff_aggregate_sign_of_modelBilinear
#print axioms PyEcc.C03.aggregateVerify_perm_of_modelBilinear
#print axioms PyEcc.C03.aggregateVerify_iff_aggregate_sign_of_modelBilinearCode
#print axioms PyEcc.C03.fastAggregateVerify_iff_aggregate_sign_of_modelBilinearCode
#print axioms PyEcc.C01.sign_verify_nd
#print axioms PyEcc.C01.popProve_popVerify_nd
#print axioms PyEcc.C01.sign_verify_exists_nd
#print axioms PyEcc.C01.popProve_popVerify_exists_nd
#print axioms PyEcc.C01.sign_verify_ndv
#print axioms PyEcc.C01.popProve_popVerify_ndv
#print axioms PyEcc.C02.verify_iff_nd
#print axioms PyEcc.C02.popVerify_iff_nd
#print axioms PyEcc.C02.verify_rejects_ne_nd
#print axioms PyEcc.C02.popVerify_rejects_ne_nd
#print axioms PyEcc.C02.verify_rejects_neg_nd
#print axioms PyEcc.C02.verify_rejects_double_nd
#print axioms PyEcc.C02.verify_rejects_add_nd
#print axioms PyEcc.C02.verify_identity_iff_nd
#print axioms PyEcc.C02.verify_other_key_iff_nd
#print axioms PyEcc.C02.verify_rejects_other_msg_nd
#print axioms PyEcc.C02.verify_iff_ndv
#print axioms PyEcc.C02.popVerify_iff_ndv
#print axioms PyEcc.C03.aggregateVerify_iff_aggregate_sign_nd
#print axioms PyEcc.C03.fastAggregateVerify_iff_aggregate_sign_nd
#print axioms PyEcc.C03.aggregateVerify_perm_nd
#print axioms PyEcc.C03.aggregateVerify_iff_aggregate_sign_ndv
#print axioms PyEcc.C03.fastAggregateVerify_iff_aggregate_sign_ndv
#print axioms PyEcc.Tie.Bls.DST_eq
#print axioms PyEcc.Tie.Bls.POP_TAG_eq
#print axioms PyEcc.Tie.Bls.is_valid_privkey_eq
#print axioms PyEcc.Tie.Bls.is_valid_privkey_isSome
#print axioms PyEcc.Tie.Bls.is_valid_pubkey_base_eq
#print axioms PyEcc.Tie.Bls.is_valid_message_eq
#print axioms PyEcc.Tie.Bls.is_valid_signature_eq
#print axioms PyEcc.Tie.Bls.SkToPk_eq
#print axioms PyEcc.Tie.Bls.decompressG1_error
#print axioms PyEcc.Tie.Bls.KeyValidate_eq
#print axioms PyEcc.Tie.Bls.is_valid_pubkey_pop_eq
#print axioms PyEcc.Tie.Bls.is_valid_pubkey_eq
#print axioms PyEcc.Tie.Bls.CoreSign_eq
#print axioms PyEcc.Tie.Bls.Sign_eq
#print axioms PyEcc.Tie.Bls.PopProve_eq
#print axioms PyEcc.Tie.Bls.caught3_eq
#print axioms PyEcc.Tie.Bls.CoreVerify_try_eq
#print axioms PyEcc.Tie.Bls.CoreVerify_eq
#print axioms PyEcc.Tie.Bls.Verify_eq
#print axioms PyEcc.Tie.Bls.PopVerify_eq
