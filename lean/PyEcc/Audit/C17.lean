-- GENERATED by tools/harness/check.py: axiom audit for property C17
import PyEcc.Props.C17
import PyEcc.Props.C17_Consts
import PyEcc.Props.C17_Gen
import PyEcc.Props.C17_Model
import PyEcc.Props.C17_Order
import PyEcc.Props.C17_Sub
import PyEcc.Props.TieCofactor
import PyEcc.Props.TieCodec
import PyEcc.Props.TieFieldsFq
import PyEcc.Props.TieFieldsFqp
import PyEcc.Props.TieFieldsMul
import PyEcc.Props.TieFieldsPoly
import PyEcc.Props.TieFieldsInv
#print axioms PyEcc.C17.accepts_multiples
#print axioms PyEcc.C17.accepts_zero
#print axioms PyEcc.C17.subgroup_iff_order_dvd
#print axioms PyEcc.C17.subgroup_iff_prime
#print axioms PyEcc.C17.eq_zero_of_coprime
#print axioms PyEcc.C17.reject_mixed
#print axioms PyEcc.C17.clear_lands
#print axioms PyEcc.C17.clear_eff
#print axioms PyEcc.C17.subgroup_iff_cleared
#print axioms PyEcc.C17.clear_injective_on_torsion
#print axioms PyEcc.C17.blsR_prime
#print axioms PyEcc.C17.subgroup_iff_blsR
#print axioms PyEcc.C17.reject_mixed_G1
#print axioms PyEcc.C17.reject_mixed_G2
#print axioms PyEcc.C17.clear_G2_lands
#print axioms PyEcc.C17.subgroupCheck_eq
#print axioms PyEcc.C17.subgroupCheck_def
#print axioms PyEcc.C17.subgroupCheck_iff
#print axioms PyEcc.C17.clearCofactorG1_eq
#print axioms PyEcc.C17.clearCofactorG2_eq
#print axioms PyEcc.C17.spec_h1_from_seed
#print axioms PyEcc.C17.spec_h1_r
#print axioms PyEcc.C17.spec_h2_from_seed
#print axioms PyEcc.C17.spec_h2_r_twist_order
#print axioms PyEcc.C17.spec_hEffG1_from_seed
#print axioms PyEcc.C17.spec_hEffG2_from_seed
#print axioms PyEcc.C17.H_EFF_G1_eq
#print axioms PyEcc.C17.G2_COFACTOR_eq
#print axioms PyEcc.C17.H_EFF_G2_eq
#print axioms PyEcc.C17.h1_r_eq
#print axioms PyEcc.C17.coprime_h1_r
#print axioms PyEcc.C17.coprime_h2_r
#print axioms PyEcc.C17.coprime_H_EFF_G1_r
#print axioms PyEcc.C17.coprime_H_EFF_G2_r
#print axioms PyEcc.C17.bls_constants
#print axioms PyEcc.C17.p_lt_pow_2_381
#print axioms PyEcc.C17.sqrt_exponents
#print axioms PyEcc.C17.sqrt_minus_11_cubed
#print axioms PyEcc.C17.Gen.subgroup_check_eq_spec
#print axioms PyEcc.C17.Gen.subgroup_check_iff_z
#print axioms PyEcc.C17.Gen.subgroup_check_G1_iff
#print axioms PyEcc.C17.Gen.subgroup_check_G1_iff_prime
#print axioms PyEcc.C17.Gen.subgroup_check_G1_of_on_curve
#print axioms PyEcc.C17.Gen.subgroup_check_G1_iff_multiple
#print axioms PyEcc.C17.Gen.subgroup_check_G1_congr
#print axioms PyEcc.C17.Gen.subgroup_check_G1_accepts_inf
#print axioms PyEcc.C17.Gen.subgroup_check_G1_multiples
#print axioms PyEcc.C17.Gen.subgroup_check_G1_rejects_mixed
#print axioms PyEcc.C17.Gen.subgroup_check_G1_rejects_mixed_code
#print axioms PyEcc.C17.Gen.subgroup_check_G2_iff
#print axioms PyEcc.C17.Gen.subgroup_check_G2_iff_prime
#print axioms PyEcc.C17.Gen.subgroup_check_G2_of_on_curve
#print axioms PyEcc.C17.Gen.subgroup_check_G2_congr
#print axioms PyEcc.C17.Gen.subgroup_check_G2_accepts_inf
#print axioms PyEcc.C17.Gen.subgroup_check_G2_rejects_mixed
#print axioms PyEcc.C17.Gen.subgroup_check_G2_rejects_mixed_code
#print axioms PyEcc.C17.Gen.subgroup_check_G2_iff_multiple
#print axioms PyEcc.C17.Gen.subgroup_check_G2_multiples
#print axioms PyEcc.C17.Gen.clear_cofactor_eq_spec
#print axioms PyEcc.C17.Gen.multiply_clear_cofactor_G1_refines
#print axioms PyEcc.C17.Gen.multiply_clear_cofactor_G2_refines
#print axioms PyEcc.C17.Gen.multiply_clear_cofactor_G1_lands
#print axioms PyEcc.C17.Gen.clear_cofactor_G1_lands
#print axioms PyEcc.C17.Gen.multiply_clear_cofactor_G2_lands
#print axioms PyEcc.C17.Gen.clear_cofactor_G2_lands
#print axioms PyEcc.C17.Gen.multiply_clear_cofactor_G1_injective
#print axioms PyEcc.C17M.subgroupCheck_G1_iff
#print axioms PyEcc.C17M.subgroupCheck_G1_iff_prime
#print axioms PyEcc.C17M.subgroupCheck_G1_of_on_curve
#print axioms PyEcc.C17M.subgroupCheck_G1_congr
#print axioms PyEcc.C17M.subgroupCheck_G1_accepts_inf
#print axioms PyEcc.C17M.subgroupCheck_G1_multiply
#print axioms PyEcc.C17M.subgroupCheck_G1_add
#print axioms PyEcc.C17M.subgroupCheck_G1_rejects_mixed
#print axioms PyEcc.C17M.subgroupCheck_G1_rejects_mixed_code
#print axioms PyEcc.C17M.clearCofactorG1_refines
#print axioms PyEcc.C17M.subgroupCheck_G1_cleared
#print axioms PyEcc.C17M.clearCofactorG1_injective
#print axioms PyEcc.C17M.blsG1_passes
#print axioms PyEcc.C17M.blsG1_multiples_pass
#print axioms PyEcc.C17M.subgroupCheck_G2_iff
#print axioms PyEcc.C17M.subgroupCheck_G2_iff_prime
#print axioms PyEcc.C17M.subgroupCheck_G2_of_on_curve
#print axioms PyEcc.C17M.subgroupCheck_G2_congr
#print axioms PyEcc.C17M.subgroupCheck_G2_accepts_inf
#print axioms PyEcc.C17M.subgroupCheck_G2_multiply
#print axioms PyEcc.C17M.subgroupCheck_G2_add
#print axioms PyEcc.C17M.subgroupCheck_G2_rejects_mixed
#print axioms PyEcc.C17M.subgroupCheck_G2_rejects_mixed_code
#print axioms PyEcc.C17M.clearCofactorG2_refines
#print axioms PyEcc.C17M.subgroupCheck_G2_cleared
#print axioms PyEcc.C17M.blsG2_passes
#print axioms PyEcc.C17M.blsG2_multiples_pass
#print axioms PyEcc.C17O.bls_card_E1
#print axioms PyEcc.C17O.bls_card_E2
#print axioms PyEcc.C17O.bls_card_E1_trace
#print axioms PyEcc.C17O.bls_order_kills_E1
#print axioms PyEcc.C17O.bls_order_kills_E2
#print axioms PyEcc.C17O.bls_exponent_E1
#print axioms PyEcc.C17O.multiply_order_G1
#print axioms PyEcc.C17O.multiply_order_G2
#print axioms PyEcc.C17O.clearCofactorG1_lands
#print axioms PyEcc.C17O.clearCofactorG2_lands
#print axioms PyEcc.C17O.torsion_iff_cleared_E1
#print axioms PyEcc.C17O.torsion_iff_cleared_E2
#print axioms PyEcc.C17O.torsion_E1_cyclic
#print axioms PyEcc.C17O.torsion_E2_cyclic
#print axioms PyEcc.C17O.subgroupCheck_G1_iff_multiple
#print axioms PyEcc.C17O.subgroupCheck_G2_iff_multiple
#print axioms PyEcc.C17O.hash_good_proved
#print axioms PyEcc.C17Sub.subgroup_check_iff
#print axioms PyEcc.C17Sub.subgroup_check_iff_order_dvd
#print axioms PyEcc.C17Sub.subgroup_check_rejects_mixed
#print axioms PyEcc.C17Sub.subgroup_check_rejects_mixed_G2
#print axioms PyEcc.C17Sub.clear_cofactor_G2_refines
#print axioms PyEcc.C17Sub.clearCofactorG1_unfold
#print axioms PyEcc.C17Sub.clearCofactorG2_unfold
#print axioms PyEcc.C17Sub.subgroup_check_cleared_G2
#print axioms PyEcc.C17Sub.rep_iff
#print axioms PyEcc.C17Sub.rep_iff_prime
#print axioms PyEcc.C17Sub.good_congr
#print axioms PyEcc.C17Sub.good_accepts_inf
#print axioms PyEcc.C17Sub.rep_multiply
#print axioms PyEcc.C17Sub.rep_add
#print axioms PyEcc.C17Sub.rep_rejects_mixed
#print axioms PyEcc.C17Sub.rep_rejects_mixed_code
#print axioms PyEcc.C17Sub.rep_cleared
#print axioms PyEcc.C17Sub.rep_clear_injective
#print axioms PyEcc.Tie.multiply_clear_cofactor_G1_eq
#print axioms PyEcc.Tie.multiply_clear_cofactor_G2_eq
#print axioms PyEcc.Tie.clear_cofactor_G1_eq
#print axioms PyEcc.Tie.clear_cofactor_G2_eq
#print axioms PyEcc.Tie.subgroup_check_eq
#print axioms PyEcc.Tie.flag_bit
#print axioms PyEcc.Tie.nat_decide_eq_beq
#print axioms PyEcc.Tie.get_flags_eq
#print axioms PyEcc.Tie.is_point_at_infinity_eq
#print axioms PyEcc.Tie.compress_G1_eq
#print axioms PyEcc.Tie.decompress_G1_eq
#print axioms PyEcc.Tie.compress_G2_eq
#print axioms PyEcc.Tie.decompress_G2_eq
#print axioms PyEcc.Tie.G2_to_signature_eq
#print axioms PyEcc.Tie.signature_to_G2_eq
#print axioms PyEcc.Tie.G1_to_pubkey_eq
#print axioms PyEcc.Tie.pubkey_to_G1_eq
#print axioms PyEcc.Tie.prime_field_inv_loop_fst
#print axioms PyEcc.Tie.prime_field_inv_eq
#print axioms PyEcc.Tie.int_odd_iff
#print axioms PyEcc.Tie.Fq.ofInt_n
#print axioms PyEcc.Tie.Fq.one_n
#print axioms PyEcc.Tie.Fq.zero_n
#print axioms PyEcc.Tie.FqRef.init_int_eq
#print axioms PyEcc.Tie.FqRef.init_fq_eq
#print axioms PyEcc.Tie.FqRef.add_fq_eq
#print axioms PyEcc.Tie.FqRef.add_int_eq
#print axioms PyEcc.Tie.FqRef.mul_fq_eq
#print axioms PyEcc.Tie.FqRef.mul_int_eq
#print axioms PyEcc.Tie.FqRef.sub_fq_eq
#print axioms PyEcc.Tie.FqRef.sub_int_eq
#print axioms PyEcc.Tie.FqRef.rsub_fq_eq
#print axioms PyEcc.Tie.FqRef.rsub_int_eq
#print axioms PyEcc.Tie.FqRef.div_fq_eq
#print axioms PyEcc.Tie.FqRef.div_int_eq
#print axioms PyEcc.Tie.FqRef.rdiv_fq_eq
#print axioms PyEcc.Tie.FqRef.rdiv_int_eq
#print axioms PyEcc.Tie.FqRef.truediv_fq_eq
#print axioms PyEcc.Tie.FqRef.truediv_int_eq
#print axioms PyEcc.Tie.FqRef.rtruediv_fq_eq
#print axioms PyEcc.Tie.FqRef.rtruediv_int_eq
#print axioms PyEcc.Tie.FqRef.rmul_fq_eq
#print axioms PyEcc.Tie.FqRef.rmul_int_eq
#print axioms PyEcc.Tie.FqRef.radd_fq_eq
#print axioms PyEcc.Tie.FqRef.radd_int_eq
#print axioms PyEcc.Tie.FqRef.pow_loop_fst
#print axioms PyEcc.Tie.FqRef.pow_eq
#print axioms PyEcc.Tie.FqRef.eq_fq_eq
#print axioms PyEcc.Tie.FqRef.eq_int_eq
#print axioms PyEcc.Tie.FqRef.ne_fq_eq
#print axioms PyEcc.Tie.FqRef.ne_int_eq
#print axioms PyEcc.Tie.FqRef.neg_eq
#print axioms PyEcc.Tie.FqRef.int_eq
#print axioms PyEcc.Tie.FqRef.lt_fq_eq
#print axioms PyEcc.Tie.FqRef.lt_int_eq
#print axioms PyEcc.Tie.FqRef.one_eq
#print axioms PyEcc.Tie.FqRef.zero_eq
#print axioms PyEcc.Tie.FqOpt.pow_eq_ref
#print axioms PyEcc.Tie.FqOpt.init_int_eq
#print axioms PyEcc.Tie.FqOpt.init_fq_eq
#print axioms PyEcc.Tie.FqOpt.add_fq_eq
#print axioms PyEcc.Tie.FqOpt.add_int_eq
#print axioms PyEcc.Tie.FqOpt.mul_fq_eq
#print axioms PyEcc.Tie.FqOpt.mul_int_eq
#print axioms PyEcc.Tie.FqOpt.sub_fq_eq
#print axioms PyEcc.Tie.FqOpt.sub_int_eq
#print axioms PyEcc.Tie.FqOpt.rsub_fq_eq
#print axioms PyEcc.Tie.FqOpt.rsub_int_eq
#print axioms PyEcc.Tie.FqOpt.div_fq_eq
#print axioms PyEcc.Tie.FqOpt.div_int_eq
#print axioms PyEcc.Tie.FqOpt.rdiv_fq_eq
#print axioms PyEcc.Tie.FqOpt.rdiv_int_eq
#print axioms PyEcc.Tie.FqOpt.truediv_fq_eq
#print axioms PyEcc.Tie.FqOpt.truediv_int_eq
#print axioms PyEcc.Tie.FqOpt.rtruediv_fq_eq
#print axioms PyEcc.Tie.FqOpt.rtruediv_int_eq
#print axioms PyEcc.Tie.FqOpt.rmul_fq_eq
#print axioms PyEcc.Tie.FqOpt.rmul_int_eq
#print axioms PyEcc.Tie.FqOpt.radd_fq_eq
#print axioms PyEcc.Tie.FqOpt.radd_int_eq
#print axioms PyEcc.Tie.FqOpt.pow_eq
#print axioms PyEcc.Tie.FqOpt.eq_fq_eq
#print axioms PyEcc.Tie.FqOpt.eq_int_eq
#print axioms PyEcc.Tie.FqOpt.ne_fq_eq
#print axioms PyEcc.Tie.FqOpt.ne_int_eq
#print axioms PyEcc.Tie.FqOpt.neg_eq
#print axioms PyEcc.Tie.FqOpt.int_eq
#print axioms PyEcc.Tie.FqOpt.lt_fq_eq
#print axioms PyEcc.Tie.FqOpt.lt_int_eq
#print axioms PyEcc.Tie.FqOpt.one_eq
#print axioms PyEcc.Tie.FqOpt.zero_eq
#print axioms PyEcc.Tie.FqOpt.sgn0_eq
#print axioms PyEcc.Tie.fields_foldl_rel
#print axioms PyEcc.Tie.fields_foldl_inv
#print axioms PyEcc.Tie.any_ne_eq_all
#print axioms PyEcc.Tie.length_scalar
#print axioms PyEcc.Tie.FqpRef.init_ints_eq
#print axioms PyEcc.Tie.FqpRef.init_fqs_eq
#print axioms PyEcc.Tie.FqpRef.add_eq
#print axioms PyEcc.Tie.FqpRef.sub_eq
#print axioms PyEcc.Tie.FqpRef.neg_eq
#print axioms PyEcc.Tie.FqpRef.mul_int_eq
#print axioms PyEcc.Tie.FqpRef.div_int_eq
#print axioms PyEcc.Tie.FqpRef.truediv_int_eq
#print axioms PyEcc.Tie.FqpRef.eq_eq
#print axioms PyEcc.Tie.FqpRef.ne_eq
#print axioms PyEcc.Tie.FqpRef.init_one
#print axioms PyEcc.Tie.FqpRef.init_zero
#print axioms PyEcc.Tie.FqpRef.FQ2_one_eq
#print axioms PyEcc.Tie.FqpRef.FQ2_zero_eq
#print axioms PyEcc.Tie.FqpRef.FQ12_one_eq
#print axioms PyEcc.Tie.FqpRef.FQ12_zero_eq
#print axioms PyEcc.Tie.FqpOpt.init_ints_eq
#print axioms PyEcc.Tie.FqpOpt.add_eq
#print axioms PyEcc.Tie.FqpOpt.sub_eq
#print axioms PyEcc.Tie.FqpOpt.neg_eq
#print axioms PyEcc.Tie.FqpOpt.mul_int_eq
#print axioms PyEcc.Tie.FqpOpt.div_int_eq
#print axioms PyEcc.Tie.FqpOpt.truediv_int_eq
#print axioms PyEcc.Tie.FqpOpt.eq_eq
#print axioms PyEcc.Tie.FqpOpt.ne_eq
#print axioms PyEcc.Tie.FqpOpt.mod_int_int_eq
#print axioms PyEcc.Tie.FqpOpt.mod_int_fq_eq
#print axioms PyEcc.Tie.FqpOpt.sgn0_eq
#print axioms PyEcc.Tie.FqpOpt.FQ2_sgn0_eq
#print axioms PyEcc.Tie.FqpOpt.FQ2_sgn0_err
#print axioms PyEcc.Tie.FqpOpt.init_one
#print axioms PyEcc.Tie.FqpOpt.init_zero
#print axioms PyEcc.Tie.FqpOpt.FQ2_one_eq
#print axioms PyEcc.Tie.FqpOpt.FQ2_zero_eq
#print axioms PyEcc.Tie.FqpOpt.FQ12_one_eq
#print axioms PyEcc.Tie.FqpOpt.FQ12_zero_eq
#print axioms PyEcc.Tie.AllRed.updAt
#print axioms PyEcc.Tie.AllRed.dropLast
#print axioms PyEcc.Tie.AllRed.map_id
#print axioms PyEcc.Tie.allRed_convLoop
#print axioms PyEcc.Tie.allRed_refReduce
#print axioms PyEcc.Tie.sqmulLoop_eq
#print axioms PyEcc.Tie.sqmulLoop_pow
#print axioms PyEcc.Tie.MulRef.mul_loop_eq
#print axioms PyEcc.Tie.MulRef.mul_fqp_eq
#print axioms PyEcc.Tie.MulRef.wf_mul
#print axioms PyEcc.Tie.MulRef.pow_loop0_eq
#print axioms PyEcc.Tie.MulRef.pow_eq
#print axioms PyEcc.Tie.MulRef.rmul_int_eq
#print axioms PyEcc.Tie.MulRef.rmul_fqp_eq
#print axioms PyEcc.Tie.MulOpt.mul_fqp_eq
#print axioms PyEcc.Tie.MulOpt.pow_loop0_eq
#print axioms PyEcc.Tie.MulOpt.pow_eq
#print axioms PyEcc.Tie.MulOpt.rmul_int_eq
#print axioms PyEcc.Tie.MulOpt.rmul_fqp_eq
#print axioms PyEcc.Tie.updAt_set
#print axioms PyEcc.Tie.updAt_set_add
#print axioms PyEcc.Tie.updAt_set_sub
#print axioms PyEcc.Tie.degLoop_eq
#print axioms PyEcc.Tie.deg_loop0_eq
#print axioms PyEcc.Tie.deg_eq
#print axioms PyEcc.Tie.PolyOpt.optimized_poly_rounded_div_eq
#print axioms PyEcc.Tie.PolyOpt.inv_loop_eq
#print axioms PyEcc.Tie.PolyOpt.inv_eq
#print axioms PyEcc.Tie.PolyOpt.div_fqp_eq
#print axioms PyEcc.Tie.PolyOpt.truediv_fqp_eq
#print axioms PyEcc.Tie.InvRef.cong_val
#print axioms PyEcc.Tie.InvRef.length_vals
#print axioms PyEcc.Tie.InvRef.getI_vals
#print axioms PyEcc.Tie.InvRef.congL_vals
#print axioms PyEcc.Tie.InvRef.length_updN
#print axioms PyEcc.Tie.InvRef.getN_updN
#print axioms PyEcc.Tie.InvRef.vals_updN
#print axioms PyEcc.Tie.InvRef.CongL.upd
#print axioms PyEcc.Tie.InvRef.eq_zero_iff
#print axioms PyEcc.Tie.InvRef.deg_dyn_loop0_eq
#print axioms PyEcc.Tie.InvRef.deg_dyn_eq
#print axioms PyEcc.Tie.InvRef.foldlM_bind_ok_rel
#print axioms PyEcc.Tie.InvRef.truediv_fq
#print axioms PyEcc.Tie.InvRef.cong_sub_int
#print axioms PyEcc.Tie.InvRef.poly_rounded_div_eq
#print axioms PyEcc.Tie.InvRef.poly_rounded_div_float
#print axioms PyEcc.Tie.InvRef.low_lead_fq
#print axioms PyEcc.Tie.InvRef.upd_exact
#print axioms PyEcc.Tie.InvRef.isFq_sub
#print axioms PyEcc.Tie.InvRef.pass_rel
#print axioms PyEcc.Tie.InvRef.double_loop
#print axioms PyEcc.Tie.InvRef.inv_loop0_succ
#print axioms PyEcc.Tie.InvRef.inv_loop0_stop
#print axioms PyEcc.Tie.InvRef.AllFq.lowShape
#print axioms PyEcc.Tie.InvRef.inv_loop_eq
#print axioms PyEcc.Tie.InvRef.vals_map_fq
#print axioms PyEcc.Tie.InvRef.vals_map_int
#print axioms PyEcc.Tie.InvRef.vals_append
#print axioms PyEcc.Tie.InvRef.isFq_getN_map_fq
#print axioms PyEcc.Tie.InvRef.lowShape_init
#print axioms PyEcc.Tie.InvRef.toInt_eq_val
#print axioms PyEcc.Tie.InvRef.wf_inv
#print axioms PyEcc.Tie.InvRef.inv_eq
#print axioms PyEcc.Tie.InvRef.inv_no_float
#print axioms PyEcc.Tie.InvRef.inv_of_init_ints
#print axioms PyEcc.Tie.InvRef.inv_of_init_fqs
#print axioms PyEcc.Tie.InvRef.div_fqp_eq
#print axioms PyEcc.Tie.InvRef.truediv_fqp_eq
