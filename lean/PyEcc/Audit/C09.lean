-- GENERATED by tools/harness/check.py: axiom audit for property C09
import PyEcc.Props.C09
import PyEcc.Props.C09_Consts
import PyEcc.Props.C09_Gen
import PyEcc.Props.TieCodec
import PyEcc.Props.TieSwu
import PyEcc.Props.TieHash
import PyEcc.Props.TieBls
import PyEcc.Props.TieBlsAgg
#print axioms PyEcc.C09.dst_basic_eq_spec
#print axioms PyEcc.C09.dst_aug_eq_spec
#print axioms PyEcc.C09.dst_pop_eq_spec
#print axioms PyEcc.C09.popTag_eq_spec
#print axioms PyEcc.C09.dst_eq_spec
#print axioms PyEcc.C09.spec_tags_consistent
#print axioms PyEcc.C09.dst_bytes
#print axioms PyEcc.C09.curveOrder_eq_spec
#print axioms PyEcc.C09.curveOrder_eq_spec_r
#print axioms PyEcc.C09.blsG1_eq_spec
#print axioms PyEcc.C09.blsG1_coords
#print axioms PyEcc.C09.skToPk_eq_spec
#print axioms PyEcc.C09.skToPk_invalid
#print axioms PyEcc.C09.isValidPrivkey_iff
#print axioms PyEcc.C09.coreSign_eq_spec
#print axioms PyEcc.C09.sign_basic_eq_spec
#print axioms PyEcc.C09.sign_aug_eq_spec
#print axioms PyEcc.C09.sign_pop_eq_spec
#print axioms PyEcc.C09.sign_eq_spec
#print axioms PyEcc.C09.sign_invalid
#print axioms PyEcc.C09.popProve_eq_spec
#print axioms PyEcc.C09.fq2_one_ne_zero
#print axioms PyEcc.C09.add_Z2
#print axioms PyEcc.C09.decompressG2_ok
#print axioms PyEcc.C09.s2p_ok
#print axioms PyEcc.C09.s2p_err
#print axioms PyEcc.C09.s2p_len
#print axioms PyEcc.C09.loop_of_lengths
#print axioms PyEcc.C09.spec_Aggregate_cons
#print axioms PyEcc.C09.spec_aggregate_invalid_iff
#print axioms PyEcc.C09.aggregate_eq_spec
#print axioms PyEcc.C09.aggregate_ok_iff
#print axioms PyEcc.C09.aggregate_error_iff
#print axioms PyEcc.C09.ok_of_toOption
#print axioms PyEcc.C09.skToPk_one
#print axioms PyEcc.C09.spec_SkToPk_one
#print axioms PyEcc.C09.aggregate_inf_inf
#print axioms PyEcc.C09.spec_aggregate_short
#print axioms PyEcc.C09.spec_aggregate_zero
#print axioms PyEcc.C09.Consts.spec_tags_ascii
#print axioms PyEcc.C09.Consts.spec_lengths
#print axioms PyEcc.C09.Consts.spec_iso11Z_nonsquare
#print axioms PyEcc.C09.Consts.utf8_eq_ascii
#print axioms PyEcc.C09.Consts.ofHex_ofList
#print axioms PyEcc.C09.Consts.hexBytes_of_ofHex
#print axioms PyEcc.C09.Consts.ofHex_basic
#print axioms PyEcc.C09.Consts.ofHex_aug
#print axioms PyEcc.C09.Consts.ofHex_pop
#print axioms PyEcc.C09.Consts.ofHex_popTag
#print axioms PyEcc.C09.Consts.dst_basic
#print axioms PyEcc.C09.Consts.dst_aug
#print axioms PyEcc.C09.Consts.dst_pop
#print axioms PyEcc.C09.Consts.pop_tag
#print axioms PyEcc.C09.Consts.tags_eq_spec
#print axioms PyEcc.C09.Consts.tags_distinct
#print axioms PyEcc.C09.Consts.lengths
#print axioms PyEcc.C09.Consts.iso11_params
#print axioms PyEcc.C09.Consts.iso3_params
#print axioms PyEcc.C09.Consts.iso_params_typed
#print axioms PyEcc.C09.Gen.DST_eq_spec
#print axioms PyEcc.C09.Gen.is_valid_privkey_iff
#print axioms PyEcc.C09.Gen.SkToPk_eq_spec
#print axioms PyEcc.C09.Gen.SkToPk_invalid
#print axioms PyEcc.C09.Gen.CoreSign_eq_spec
#print axioms PyEcc.C09.Gen.Sign_basic_eq_spec
#print axioms PyEcc.C09.Gen.Sign_aug_eq_spec
#print axioms PyEcc.C09.Gen.Sign_pop_eq_spec
#print axioms PyEcc.C09.Gen.Sign_eq_spec
#print axioms PyEcc.C09.Gen.Sign_invalid
#print axioms PyEcc.C09.Gen.PopProve_eq_spec
#print axioms PyEcc.C09.Gen.Aggregate_eq_spec
#print axioms PyEcc.C09.Gen.Aggregate_ok_iff
#print axioms PyEcc.C09.Gen.Aggregate_error_iff
#print axioms PyEcc.C09.Gen.SkToPk_eq_compress
#print axioms PyEcc.C09.Gen.Sign_eq_compress
#print axioms PyEcc.C09.Gen.Sign_aug_eq_compress
#print axioms PyEcc.C09.Gen.PopProve_eq_compress
#print axioms PyEcc.C09.Gen.SkToPk_one
#print axioms PyEcc.Tie.flag_bit
#print axioms PyEcc.Tie.nat_decide_eq_beq
#print axioms PyEcc.Tie.get_flags_eq
#print axioms PyEcc.Tie.is_point_at_infinity_eq
#print axioms PyEcc.Tie.compress_G1_eq
#print axioms PyEcc.Tie.decompress_G1_eq
#print axioms PyEcc.Tie.compress_G2_eq
#print axioms PyEcc.Tie.decompress_G2_eq
#print axioms PyEcc.Tie.G2_to_signature_eq
#print axioms PyEcc.Tie.signature_to_G2_eq
#print axioms PyEcc.Tie.G1_to_pubkey_eq
#print axioms PyEcc.Tie.pubkey_to_G1_eq
#print axioms PyEcc.Tie.sqrt_division_FQ_eq
#print axioms PyEcc.Tie.optimized_swu_G1_eq
#print axioms PyEcc.Tie.sqrt_division_FQ2_eq
#print axioms PyEcc.Tie.optimized_swu_G2_eq
#print axioms PyEcc.Tie.map_to_curve_G1_eq
#print axioms PyEcc.Tie.map_to_curve_G2_eq
#print axioms PyEcc.Tie.hash_to_G1_eq
#print axioms PyEcc.Tie.hash_to_G2_eq
#print axioms PyEcc.Tie.foldl_append_of_step
#print axioms PyEcc.Tie.foldl_append_singleton
#print axioms PyEcc.Tie.foldlM_ok
#print axioms PyEcc.Tie.foldlM_append_of_step
#print axioms PyEcc.Tie.mapM_of_step
#print axioms PyEcc.Tie.foldlM_range'_sim
#print axioms PyEcc.Tie.foldlM_range'_sim0
#print axioms PyEcc.Tie.throw_bind_eq
#print axioms PyEcc.Tie.hkdf_extract_eq
#print axioms PyEcc.Tie.i2osp_eq
#print axioms PyEcc.Tie.os2ip_eq
#print axioms PyEcc.Tie.sha256_eq
#print axioms PyEcc.Tie.xor_eq
#print axioms PyEcc.Tie.hkdf_expand_eq
#print axioms PyEcc.Tie.expand_message_xmd_eq
#print axioms PyEcc.Tie.hash_to_field_L
#print axioms PyEcc.Tie.slice_len
#print axioms PyEcc.Tie.range_two
#print axioms PyEcc.Tie.hash_to_field_FQ_eq
#print axioms PyEcc.Tie.ofInts_pair_reduced
#print axioms PyEcc.Tie.ofInts_pair_reduced'
#print axioms PyEcc.Tie.hash_to_field_FQ2_eq
#print axioms PyEcc.Tie.Bls.DST_eq
#print axioms PyEcc.Tie.Bls.POP_TAG_eq
#print axioms PyEcc.Tie.Bls.is_valid_privkey_eq
#print axioms PyEcc.Tie.Bls.is_valid_privkey_isSome
#print axioms PyEcc.Tie.Bls.is_valid_pubkey_base_eq
#print axioms PyEcc.Tie.Bls.is_valid_message_eq
#print axioms PyEcc.Tie.Bls.is_valid_signature_eq
#print axioms PyEcc.Tie.Bls.SkToPk_eq
#print axioms PyEcc.Tie.Bls.decompressG1_error
#print axioms PyEcc.Tie.Bls.KeyValidate_eq
#print axioms PyEcc.Tie.Bls.is_valid_pubkey_pop_eq
#print axioms PyEcc.Tie.Bls.is_valid_pubkey_eq
#print axioms PyEcc.Tie.Bls.CoreSign_eq
#print axioms PyEcc.Tie.Bls.Sign_eq
#print axioms PyEcc.Tie.Bls.PopProve_eq
#print axioms PyEcc.Tie.Bls.caught3_eq
#print axioms PyEcc.Tie.Bls.CoreVerify_try_eq
#print axioms PyEcc.Tie.Bls.CoreVerify_eq
#print axioms PyEcc.Tie.Bls.Verify_eq
#print axioms PyEcc.Tie.Bls.PopVerify_eq
#print axioms PyEcc.Tie.Bls.Aggregate_eq
#print axioms PyEcc.Tie.Bls.aggLoop_eq
#print axioms PyEcc.Tie.Bls.CoreAggregateVerify_try_eq
#print axioms PyEcc.Tie.Bls.CoreAggregateVerify_eq
#print axioms PyEcc.Tie.Bls.eraseDups_length_le
#print axioms PyEcc.Tie.Bls.hasDup_eq
#print axioms PyEcc.Tie.Bls.aug_messages_eq
#print axioms PyEcc.Tie.Bls.AggregateVerify_eq
#print axioms PyEcc.Tie.Bls.AggregatePKs_eq
#print axioms PyEcc.Tie.Bls.caught2_eq
#print axioms PyEcc.Tie.Bls.FastAggregateVerify_eq
#print axioms PyEcc.Tie.Bls.keygen_L_eq
#print axioms PyEcc.Tie.Bls.KeyGen_loop_eq
#print axioms PyEcc.Tie.Bls.keygen_salt_eq
#print axioms PyEcc.Tie.Bls.bind_fst
#print axioms PyEcc.Tie.Bls.KeyGen_fuel_eq
#print axioms PyEcc.Tie.Bls.KeyGen_eq
