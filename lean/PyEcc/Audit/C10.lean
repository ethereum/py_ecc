-- GENERATED by tools/harness/check.py: axiom audit for property C10
import PyEcc.Props.C10
import PyEcc.Props.C10_Consts
import PyEcc.Props.C10_G2
import PyEcc.Props.C10_Gen
import PyEcc.Props.C10_Iso
import PyEcc.Props.C10_Struct
import PyEcc.Props.TieSwu
import PyEcc.Props.TieCofactor
import PyEcc.Props.TieHashIso
import PyEcc.Props.TieFieldsFq
import PyEcc.Props.TieFieldsFqp
#print axioms PyEcc.C10.iso11_consts
#print axioms PyEcc.C10.sqrt_division_FQ_correct
#print axioms PyEcc.C10.isSswu_toZMod
#print axioms PyEcc.C10.swu_G1_is_sswu
#print axioms PyEcc.C10.swu_G1_on_iso_curve
#print axioms PyEcc.C10.swu_G1_x_is_rfc
#print axioms PyEcc.C10.swu_G1_branch_iff
#print axioms PyEcc.C10.swu_G1_exceptional
#print axioms PyEcc.C10.swu_G1_y_ne_zero
#print axioms PyEcc.C10.swu_G1_sgn0
#print axioms PyEcc.C10.swu_G1_eq_rfc_function
#print axioms PyEcc.C10.iso11_literals
#print axioms PyEcc.C10.iso3_literals
#print axioms PyEcc.C10.ISO_3_Z_eq
#print axioms PyEcc.C10.P_MINUS_3_DIV_4_spec
#print axioms PyEcc.C10.P_MINUS_9_DIV_16_spec
#print axioms PyEcc.C10.SQRT_MINUS_11_CUBED_spec
#print axioms PyEcc.C10.POSITIVE_EIGHTH_ROOTS_OF_UNITY_spec
#print axioms PyEcc.C10.ETAS_spec
#print axioms PyEcc.C10G2.iso3_consts
#print axioms PyEcc.C10G2.swu_G2_total
#print axioms PyEcc.C10G2.swuTotal
#print axioms PyEcc.C10G2.not_swuFails
#print axioms PyEcc.C10G2.sqrt_division_FQ2_correct
#print axioms PyEcc.C10G2.swu_G2_is_sswu
#print axioms PyEcc.C10G2.swu_G2_on_iso_curve
#print axioms PyEcc.C10G2.swu_G2_x_is_rfc
#print axioms PyEcc.C10G2.swu_G2_branch_iff
#print axioms PyEcc.C10G2.swu_G2_y_ne_zero
#print axioms PyEcc.C10G2.swu_G2_sgn0
#print axioms PyEcc.C10G2.swu_G2_eq_rfc_function
#print axioms PyEcc.C10G2.swu_G2_exceptional
#print axioms PyEcc.C10.Gen.sqrt_division_FQ_correct
#print axioms PyEcc.C10.Gen.swu_G1_is_sswu
#print axioms PyEcc.C10.Gen.swu_G1_on_iso_curve
#print axioms PyEcc.C10.Gen.swu_G1_x_is_rfc
#print axioms PyEcc.C10.Gen.swu_G1_exceptional
#print axioms PyEcc.C10.Gen.swu_G1_sgn0
#print axioms PyEcc.C10.Gen.swu_G1_eq_rfc_function
#print axioms PyEcc.C10.Gen.swu_G2_total
#print axioms PyEcc.C10.Gen.swu_G2_total_range
#print axioms PyEcc.C10.Gen.sqrt_division_FQ2_correct
#print axioms PyEcc.C10.Gen.swu_G2_is_sswu
#print axioms PyEcc.C10.Gen.swu_G2_on_iso_curve
#print axioms PyEcc.C10.Gen.swu_G2_x_is_rfc
#print axioms PyEcc.C10.Gen.swu_G2_sgn0
#print axioms PyEcc.C10.Gen.swu_G2_eq_rfc_function
#print axioms PyEcc.C10.Gen.swu_G2_exceptional
#print axioms PyEcc.C10.Gen.iso_map_G1_total
#print axioms PyEcc.C10.Gen.iso_map_G1_on_curve
#print axioms PyEcc.C10.Gen.iso_map_G1_affine
#print axioms PyEcc.C10.Gen.iso_map_G1_rational
#print axioms PyEcc.C10.Gen.map_to_curve_G1_eq_iso_swu
#print axioms PyEcc.C10.Gen.map_to_curve_G1_on_curve
#print axioms PyEcc.C10.Gen.iso_map_G2_total
#print axioms PyEcc.C10.Gen.iso_map_G2_on_curve
#print axioms PyEcc.C10.Gen.iso_map_G2_rational
#print axioms PyEcc.C10.Gen.map_to_curve_G2_eq_iso_swu
#print axioms PyEcc.C10.Gen.map_to_curve_G2_on_curve
#print axioms PyEcc.C10.Gen.hash_to_field_FQ_two
#print axioms PyEcc.C10.Gen.hash_to_field_FQ2_two
#print axioms PyEcc.C10.Gen.hash_to_G1_skeleton
#print axioms PyEcc.C10.Gen.hash_to_G1_good
#print axioms PyEcc.C10.Gen.hash_to_G1_error_iff
#print axioms PyEcc.C10.Gen.hash_to_G1_total
#print axioms PyEcc.C10.Gen.hash_to_G2_skeleton
#print axioms PyEcc.C10.Gen.hash_to_G2_good
#print axioms PyEcc.C10.Gen.hash_to_G2_torsion
#print axioms PyEcc.C10.Gen.hash_to_G2_error_kind
#print axioms PyEcc.C10.Gen.hash_to_G2_error_iff
#print axioms PyEcc.C10.Gen.hash_to_G2_total
#print axioms PyEcc.C10.Gen.hash_to_G2_long_dst
#print axioms PyEcc.C10Iso.iso11_curve_F1
#print axioms PyEcc.C10Iso.iso_map_G1_on_curve
#print axioms PyEcc.C10Iso.iso_map_G1_affine
#print axioms PyEcc.C10Iso.iso_map_G1_rational
#print axioms PyEcc.C10Iso.map_to_curve_G1_on_curve
#print axioms PyEcc.C10Iso.hash_to_G1_on_curve
#print axioms PyEcc.C10Iso.iso_map_G2_on_curve
#print axioms PyEcc.C10Iso.iso_map_G2_rational
#print axioms PyEcc.C10Iso.map_to_curve_G2_on_curve
#print axioms PyEcc.C10Iso.map_to_curve_G2_good
#print axioms PyEcc.C10Iso.hash_to_G2_on_curve
#print axioms PyEcc.C10Iso.hash_good_of_order
#print axioms PyEcc.C10.do2_eq
#print axioms PyEcc.C10.xmd_error_value
#print axioms PyEcc.C10.mapToCurveG1_eq
#print axioms PyEcc.C10.mapToCurveG2_eq
#print axioms PyEcc.C10.clearCofactor_eq
#print axioms PyEcc.C10.optimizedSwuG2_shape
#print axioms PyEcc.C10.h2f_fq_cases
#print axioms PyEcc.C10.h2f_fq2_cases
#print axioms PyEcc.C10.hashToG1_eq
#print axioms PyEcc.C10.hashToG2_eq
#print axioms PyEcc.C10.hashToG1_error_iff
#print axioms PyEcc.C10.hashToG2_error_kinds
#print axioms PyEcc.C10.hashToG2_long_dst
#print axioms PyEcc.Tie.sqrt_division_FQ_eq
#print axioms PyEcc.Tie.optimized_swu_G1_eq
#print axioms PyEcc.Tie.sqrt_division_FQ2_eq
#print axioms PyEcc.Tie.optimized_swu_G2_eq
#print axioms PyEcc.Tie.map_to_curve_G1_eq
#print axioms PyEcc.Tie.map_to_curve_G2_eq
#print axioms PyEcc.Tie.hash_to_G1_eq
#print axioms PyEcc.Tie.hash_to_G2_eq
#print axioms PyEcc.Tie.multiply_clear_cofactor_G1_eq
#print axioms PyEcc.Tie.multiply_clear_cofactor_G2_eq
#print axioms PyEcc.Tie.clear_cofactor_G1_eq
#print axioms PyEcc.Tie.clear_cofactor_G2_eq
#print axioms PyEcc.Tie.subgroup_check_eq
#print axioms PyEcc.Tie.horner_loop
#print axioms PyEcc.Tie.horner_loop_isoHorner
#print axioms PyEcc.Tie.outer_loop4
#print axioms PyEcc.Tie.list4
#print axioms PyEcc.Tie.ne_nil_of_length_pos
#print axioms PyEcc.Tie.blsP_gt_one
#print axioms PyEcc.Tie.f1_pow_one
#print axioms PyEcc.Tie.zPowersOf_15
#print axioms PyEcc.Tie.iso11_table_shape
#print axioms PyEcc.Tie.iso_map_G1_eq
#print axioms PyEcc.Tie.iso3_table_shape
#print axioms PyEcc.Tie.iso_map_G2_eq
#print axioms PyEcc.Tie.f2_pow_one
#print axioms PyEcc.Tie.iso_map_G2_eq_wf
#print axioms PyEcc.Tie.prime_field_inv_loop_fst
#print axioms PyEcc.Tie.prime_field_inv_eq
#print axioms PyEcc.Tie.int_odd_iff
#print axioms PyEcc.Tie.Fq.ofInt_n
#print axioms PyEcc.Tie.Fq.one_n
#print axioms PyEcc.Tie.Fq.zero_n
#print axioms PyEcc.Tie.FqRef.init_int_eq
#print axioms PyEcc.Tie.FqRef.init_fq_eq
#print axioms PyEcc.Tie.FqRef.add_fq_eq
#print axioms PyEcc.Tie.FqRef.add_int_eq
#print axioms PyEcc.Tie.FqRef.mul_fq_eq
#print axioms PyEcc.Tie.FqRef.mul_int_eq
#print axioms PyEcc.Tie.FqRef.sub_fq_eq
#print axioms PyEcc.Tie.FqRef.sub_int_eq
#print axioms PyEcc.Tie.FqRef.rsub_fq_eq
#print axioms PyEcc.Tie.FqRef.rsub_int_eq
#print axioms PyEcc.Tie.FqRef.div_fq_eq
#print axioms PyEcc.Tie.FqRef.div_int_eq
#print axioms PyEcc.Tie.FqRef.rdiv_fq_eq
#print axioms PyEcc.Tie.FqRef.rdiv_int_eq
#print axioms PyEcc.Tie.FqRef.truediv_fq_eq
#print axioms PyEcc.Tie.FqRef.truediv_int_eq
#print axioms PyEcc.Tie.FqRef.rtruediv_fq_eq
#print axioms PyEcc.Tie.FqRef.rtruediv_int_eq
#print axioms PyEcc.Tie.FqRef.rmul_fq_eq
#print axioms PyEcc.Tie.FqRef.rmul_int_eq
#print axioms PyEcc.Tie.FqRef.radd_fq_eq
#print axioms PyEcc.Tie.FqRef.radd_int_eq
#print axioms PyEcc.Tie.FqRef.pow_loop_fst
#print axioms PyEcc.Tie.FqRef.pow_eq
#print axioms PyEcc.Tie.FqRef.eq_fq_eq
#print axioms PyEcc.Tie.FqRef.eq_int_eq
#print axioms PyEcc.Tie.FqRef.ne_fq_eq
#print axioms PyEcc.Tie.FqRef.ne_int_eq
#print axioms PyEcc.Tie.FqRef.neg_eq
#print axioms PyEcc.Tie.FqRef.int_eq
#print axioms PyEcc.Tie.FqRef.lt_fq_eq
#print axioms PyEcc.Tie.FqRef.lt_int_eq
#print axioms PyEcc.Tie.FqRef.one_eq
#print axioms PyEcc.Tie.FqRef.zero_eq
#print axioms PyEcc.Tie.FqOpt.pow_eq_ref
#print axioms PyEcc.Tie.FqOpt.init_int_eq
#print axioms PyEcc.Tie.FqOpt.init_fq_eq
#print axioms PyEcc.Tie.FqOpt.add_fq_eq
#print axioms PyEcc.Tie.FqOpt.add_int_eq
#print axioms PyEcc.Tie.FqOpt.mul_fq_eq
#print axioms PyEcc.Tie.FqOpt.mul_int_eq
#print axioms PyEcc.Tie.FqOpt.sub_fq_eq
#print axioms PyEcc.Tie.FqOpt.sub_int_eq
#print axioms PyEcc.Tie.FqOpt.rsub_fq_eq
#print axioms PyEcc.Tie.FqOpt.rsub_int_eq
#print axioms PyEcc.Tie.FqOpt.div_fq_eq
#print axioms PyEcc.Tie.FqOpt.div_int_eq
#print axioms PyEcc.Tie.FqOpt.rdiv_fq_eq
#print axioms PyEcc.Tie.FqOpt.rdiv_int_eq
#print axioms PyEcc.Tie.FqOpt.truediv_fq_eq
#print axioms PyEcc.Tie.FqOpt.truediv_int_eq
#print axioms PyEcc.Tie.FqOpt.rtruediv_fq_eq
#print axioms PyEcc.Tie.FqOpt.rtruediv_int_eq
#print axioms PyEcc.Tie.FqOpt.rmul_fq_eq
#print axioms PyEcc.Tie.FqOpt.rmul_int_eq
#print axioms PyEcc.Tie.FqOpt.radd_fq_eq
#print axioms PyEcc.Tie.FqOpt.radd_int_eq
#print axioms PyEcc.Tie.FqOpt.pow_eq
#print axioms PyEcc.Tie.FqOpt.eq_fq_eq
#print axioms PyEcc.Tie.FqOpt.eq_int_eq
#print axioms PyEcc.Tie.FqOpt.ne_fq_eq
#print axioms PyEcc.Tie.FqOpt.ne_int_eq
#print axioms PyEcc.Tie.FqOpt.neg_eq
#print axioms PyEcc.Tie.FqOpt.int_eq
#print axioms PyEcc.Tie.FqOpt.lt_fq_eq
#print axioms PyEcc.Tie.FqOpt.lt_int_eq
#print axioms PyEcc.Tie.FqOpt.one_eq
#print axioms PyEcc.Tie.FqOpt.zero_eq
#print axioms PyEcc.Tie.FqOpt.sgn0_eq
#print axioms PyEcc.Tie.fields_foldl_rel
#print axioms PyEcc.Tie.fields_foldl_inv
#print axioms PyEcc.Tie.any_ne_eq_all
#print axioms PyEcc.Tie.length_scalar
#print axioms PyEcc.Tie.FqpRef.init_ints_eq
#print axioms PyEcc.Tie.FqpRef.init_fqs_eq
#print axioms PyEcc.Tie.FqpRef.add_eq
#print axioms PyEcc.Tie.FqpRef.sub_eq
#print axioms PyEcc.Tie.FqpRef.neg_eq
#print axioms PyEcc.Tie.FqpRef.mul_int_eq
#print axioms PyEcc.Tie.FqpRef.div_int_eq
#print axioms PyEcc.Tie.FqpRef.truediv_int_eq
#print axioms PyEcc.Tie.FqpRef.eq_eq
#print axioms PyEcc.Tie.FqpRef.ne_eq
#print axioms PyEcc.Tie.FqpRef.init_one
#print axioms PyEcc.Tie.FqpRef.init_zero
#print axioms PyEcc.Tie.FqpRef.FQ2_one_eq
#print axioms PyEcc.Tie.FqpRef.FQ2_zero_eq
#print axioms PyEcc.Tie.FqpRef.FQ12_one_eq
#print axioms PyEcc.Tie.FqpRef.FQ12_zero_eq
#print axioms PyEcc.Tie.FqpOpt.init_ints_eq
#print axioms PyEcc.Tie.FqpOpt.add_eq
#print axioms PyEcc.Tie.FqpOpt.sub_eq
#print axioms PyEcc.Tie.FqpOpt.neg_eq
#print axioms PyEcc.Tie.FqpOpt.mul_int_eq
#print axioms PyEcc.Tie.FqpOpt.div_int_eq
#print axioms PyEcc.Tie.FqpOpt.truediv_int_eq
#print axioms PyEcc.Tie.FqpOpt.eq_eq
#print axioms PyEcc.Tie.FqpOpt.ne_eq
#print axioms PyEcc.Tie.FqpOpt.mod_int_int_eq
#print axioms PyEcc.Tie.FqpOpt.mod_int_fq_eq
#print axioms PyEcc.Tie.FqpOpt.sgn0_eq
#print axioms PyEcc.Tie.FqpOpt.FQ2_sgn0_eq
#print axioms PyEcc.Tie.FqpOpt.FQ2_sgn0_err
#print axioms PyEcc.Tie.FqpOpt.init_one
#print axioms PyEcc.Tie.FqpOpt.init_zero
#print axioms PyEcc.Tie.FqpOpt.FQ2_one_eq
#print axioms PyEcc.Tie.FqpOpt.FQ2_zero_eq
#print axioms PyEcc.Tie.FqpOpt.FQ12_one_eq
#print axioms PyEcc.Tie.FqpOpt.FQ12_zero_eq
