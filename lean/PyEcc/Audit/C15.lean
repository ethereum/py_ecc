-- GENERATED by tools/harness/check.py: axiom audit for property C15
import PyEcc.Props.C15
import PyEcc.Props.C15_Gen
import PyEcc.Props.TieHash
#print axioms PyEcc.C15.xmd_eq_spec
#print axioms PyEcc.C15.xmd_error_iff
#print axioms PyEcc.C15.xmd_error_kind
#print axioms PyEcc.C15.xmd_overflow_digest
#print axioms PyEcc.C15.xmd_length
#print axioms PyEcc.C15.h2f_fq2_eq_spec
#print axioms PyEcc.C15.h2f_fq_eq_spec
#print axioms PyEcc.C15.xmd_sha256_ok_iff
#print axioms PyEcc.C15.Gen.xmd_eq_spec
#print axioms PyEcc.C15.Gen.xmd_error_iff
#print axioms PyEcc.C15.Gen.xmd_error_kind
#print axioms PyEcc.C15.Gen.xmd_overflow_digest
#print axioms PyEcc.C15.Gen.xmd_length
#print axioms PyEcc.C15.Gen.xmd_sha256_ok_iff
#print axioms PyEcc.C15.Gen.f1c_n_mod
#print axioms PyEcc.C15.Gen.h2f_fq_eq_spec
#print axioms PyEcc.C15.Gen.h2f_fq2_eq_spec
#print axioms PyEcc.C15.Gen.h2f_sha256_ok_iff
#print axioms PyEcc.Tie.foldl_append_of_step
#print axioms PyEcc.Tie.foldl_append_singleton
#print axioms PyEcc.Tie.foldlM_ok
#print axioms PyEcc.Tie.foldlM_append_of_step
#print axioms PyEcc.Tie.mapM_of_step
#print axioms PyEcc.Tie.foldlM_range'_sim
#print axioms PyEcc.Tie.foldlM_range'_sim0
#print axioms PyEcc.Tie.throw_bind_eq
#print axioms PyEcc.Tie.hkdf_extract_eq
#print axioms PyEcc.Tie.i2osp_eq
#print axioms PyEcc.Tie.os2ip_eq
#print axioms PyEcc.Tie.sha256_eq
#print axioms PyEcc.Tie.xor_eq
#print axioms PyEcc.Tie.hkdf_expand_eq
#print axioms PyEcc.Tie.expand_message_xmd_eq
#print axioms PyEcc.Tie.hash_to_field_L
#print axioms PyEcc.Tie.slice_len
#print axioms PyEcc.Tie.range_two
#print axioms PyEcc.Tie.hash_to_field_FQ_eq
#print axioms PyEcc.Tie.ofInts_pair_reduced
#print axioms PyEcc.Tie.ofInts_pair_reduced'
#print axioms PyEcc.Tie.hash_to_field_FQ2_eq
