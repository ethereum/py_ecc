-- GENERATED by tools/harness/check.py: axiom audit for property C13
import PyEcc.Props.C13_Bls
import PyEcc.Props.C13_Bn
import PyEcc.Props.C13_Secp
import PyEcc.Props.TieFieldsFq
import PyEcc.Props.TieFieldsFqp
import PyEcc.Props.TieFieldsMul
import PyEcc.Props.TieFieldsPoly
import PyEcc.Props.TieFieldsInv
#print axioms PyEcc.C13.Bls.opt_is_inf_iff
#print axioms PyEcc.C13.Bls.opt_neg_toAff
#print axioms PyEcc.C13.Bls.opt_normalize
#print axioms PyEcc.C13.Bls.opt_normalize1_toAff
#print axioms PyEcc.C13.Bls.opt_eq_iff
#print axioms PyEcc.C13.Bls.opt_is_on_curve_iff
#print axioms PyEcc.C13.Bls.opt_double_toAff
#print axioms PyEcc.C13.Bls.opt_double_scale
#print axioms PyEcc.C13.Bls.opt_double_toAff_scale
#print axioms PyEcc.C13.Bls.ref_add_chord
#print axioms PyEcc.C13.Bls.ref_add_ok
#print axioms PyEcc.C13.Bls.opt_add_toAff
#print axioms PyEcc.C13.Bls.opt_add_toAff_scale_left
#print axioms PyEcc.C13.Bls.opt_add_toAff_scale_right
#print axioms PyEcc.C13.Bls.opt_neg_toAff_scale
#print axioms PyEcc.C13.Bls.opt_eq_scale
#print axioms PyEcc.C13.Bls.opt_is_on_curve_scale
#print axioms PyEcc.C13.Bls.opt_multiplyAux_toAff
#print axioms PyEcc.C13.Bls.opt_multiply_toAff
#print axioms PyEcc.C13.Bls.opt_multiply_toAff_scale
#print axioms PyEcc.C13.Bls.ref_linefunc_inf
#print axioms PyEcc.C13.Bls.ref_linefunc_toAff_inf
#print axioms PyEcc.C13.Bls.opt_linefunc_chord
#print axioms PyEcc.C13.Bls.opt_linefunc_tangent
#print axioms PyEcc.C13.Bls.opt_linefunc_vertical
#print axioms PyEcc.C13.Bls.opt_linefunc_den_eq_zero_iff
#print axioms PyEcc.C13.Bls.opt_linefunc_toAff
#print axioms PyEcc.C13.Bls.opt_linefunc_scale
#print axioms PyEcc.C13.Bn.opt_is_inf_iff
#print axioms PyEcc.C13.Bn.opt_neg_toAff
#print axioms PyEcc.C13.Bn.opt_normalize
#print axioms PyEcc.C13.Bn.opt_normalize1_toAff
#print axioms PyEcc.C13.Bn.opt_eq_iff
#print axioms PyEcc.C13.Bn.opt_is_on_curve_iff
#print axioms PyEcc.C13.Bn.opt_double_toAff
#print axioms PyEcc.C13.Bn.opt_double_toAff_scale
#print axioms PyEcc.C13.Bn.ref_add_ok
#print axioms PyEcc.C13.Bn.opt_add_toAff
#print axioms PyEcc.C13.Bn.opt_add_toAff_scale_left
#print axioms PyEcc.C13.Bn.opt_add_toAff_scale_right
#print axioms PyEcc.C13.Bn.opt_neg_toAff_scale
#print axioms PyEcc.C13.Bn.opt_eq_scale
#print axioms PyEcc.C13.Bn.opt_is_on_curve_scale
#print axioms PyEcc.C13.Bn.opt_multiply_toAff
#print axioms PyEcc.C13.Bn.opt_multiply_toAff_scale
#print axioms PyEcc.C13.Bn.ref_linefunc_toAff_inf
#print axioms PyEcc.C13.Bn.opt_linefunc_den_eq_zero_iff
#print axioms PyEcc.C13.Bn.opt_linefunc_toAff
#print axioms PyEcc.C13.Bn.opt_linefunc_scale
#print axioms PyEcc.C13.Secp.jacobian_double_identity
#print axioms PyEcc.C13.Secp.jacobian_double_cast
#print axioms PyEcc.C13.Secp.jacobian_double_z
#print axioms PyEcc.C13.Secp.jacobian_double_coord
#print axioms PyEcc.C13.Secp.jacobian_double_y_multiple
#print axioms PyEcc.C13.Secp.jacobian_add_left_identity
#print axioms PyEcc.C13.Secp.jacobian_add_right_identity
#print axioms PyEcc.C13.Secp.jacobian_add_chord_cast
#print axioms PyEcc.C13.Secp.jacobian_add_chord_coord
#print axioms PyEcc.C13.Secp.jacobian_add_inverse
#print axioms PyEcc.C13.Secp.jacobian_add_double
#print axioms PyEcc.C13.Secp.jacobian_add_coord
#print axioms PyEcc.C13.Secp.from_jacobian_z_zero
#print axioms PyEcc.C13.Secp.from_jacobian_coord
#print axioms PyEcc.C13.Secp.from_jacobian_z_multiple
#print axioms PyEcc.C13.Secp.from_jacobian_reduced
#print axioms PyEcc.C13.Secp.from_jacobian_scale
#print axioms PyEcc.C13.Secp.jacobian_double_scaled
#print axioms PyEcc.C13.Secp.jacobian_add_scaled
#print axioms PyEcc.C13.Secp.jacobian_double_zok
#print axioms PyEcc.C13.Secp.jacobian_add_zok
#print axioms PyEcc.C13.Secp.from_jacobian_double_scale
#print axioms PyEcc.C13.Secp.from_jacobian_add_scale
#print axioms PyEcc.Tie.prime_field_inv_loop_fst
#print axioms PyEcc.Tie.prime_field_inv_eq
#print axioms PyEcc.Tie.int_odd_iff
#print axioms PyEcc.Tie.Fq.ofInt_n
#print axioms PyEcc.Tie.Fq.one_n
#print axioms PyEcc.Tie.Fq.zero_n
#print axioms PyEcc.Tie.FqRef.init_int_eq
#print axioms PyEcc.Tie.FqRef.init_fq_eq
#print axioms PyEcc.Tie.FqRef.add_fq_eq
#print axioms PyEcc.Tie.FqRef.add_int_eq
#print axioms PyEcc.Tie.FqRef.mul_fq_eq
#print axioms PyEcc.Tie.FqRef.mul_int_eq
#print axioms PyEcc.Tie.FqRef.sub_fq_eq
#print axioms PyEcc.Tie.FqRef.sub_int_eq
#print axioms PyEcc.Tie.FqRef.rsub_fq_eq
#print axioms PyEcc.Tie.FqRef.rsub_int_eq
#print axioms PyEcc.Tie.FqRef.div_fq_eq
#print axioms PyEcc.Tie.FqRef.div_int_eq
#print axioms PyEcc.Tie.FqRef.rdiv_fq_eq
#print axioms PyEcc.Tie.FqRef.rdiv_int_eq
#print axioms PyEcc.Tie.FqRef.truediv_fq_eq
#print axioms PyEcc.Tie.FqRef.truediv_int_eq
#print axioms PyEcc.Tie.FqRef.rtruediv_fq_eq
#print axioms PyEcc.Tie.FqRef.rtruediv_int_eq
#print axioms PyEcc.Tie.FqRef.rmul_fq_eq
#print axioms PyEcc.Tie.FqRef.rmul_int_eq
#print axioms PyEcc.Tie.FqRef.radd_fq_eq
#print axioms PyEcc.Tie.FqRef.radd_int_eq
#print axioms PyEcc.Tie.FqRef.pow_loop_fst
#print axioms PyEcc.Tie.FqRef.pow_eq
#print axioms PyEcc.Tie.FqRef.eq_fq_eq
#print axioms PyEcc.Tie.FqRef.eq_int_eq
#print axioms PyEcc.Tie.FqRef.ne_fq_eq
#print axioms PyEcc.Tie.FqRef.ne_int_eq
#print axioms PyEcc.Tie.FqRef.neg_eq
#print axioms PyEcc.Tie.FqRef.int_eq
#print axioms PyEcc.Tie.FqRef.lt_fq_eq
#print axioms PyEcc.Tie.FqRef.lt_int_eq
#print axioms PyEcc.Tie.FqRef.one_eq
#print axioms PyEcc.Tie.FqRef.zero_eq
#print axioms PyEcc.Tie.FqOpt.pow_eq_ref
#print axioms PyEcc.Tie.FqOpt.init_int_eq
#print axioms PyEcc.Tie.FqOpt.init_fq_eq
#print axioms PyEcc.Tie.FqOpt.add_fq_eq
#print axioms PyEcc.Tie.FqOpt.add_int_eq
#print axioms PyEcc.Tie.FqOpt.mul_fq_eq
#print axioms PyEcc.Tie.FqOpt.mul_int_eq
#print axioms PyEcc.Tie.FqOpt.sub_fq_eq
#print axioms PyEcc.Tie.FqOpt.sub_int_eq
#print axioms PyEcc.Tie.FqOpt.rsub_fq_eq
#print axioms PyEcc.Tie.FqOpt.rsub_int_eq
#print axioms PyEcc.Tie.FqOpt.div_fq_eq
#print axioms PyEcc.Tie.FqOpt.div_int_eq
#print axioms PyEcc.Tie.FqOpt.rdiv_fq_eq
#print axioms PyEcc.Tie.FqOpt.rdiv_int_eq
#print axioms PyEcc.Tie.FqOpt.truediv_fq_eq
#print axioms PyEcc.Tie.FqOpt.truediv_int_eq
#print axioms PyEcc.Tie.FqOpt.rtruediv_fq_eq
#print axioms PyEcc.Tie.FqOpt.rtruediv_int_eq
#print axioms PyEcc.Tie.FqOpt.rmul_fq_eq
#print axioms PyEcc.Tie.FqOpt.rmul_int_eq
#print axioms PyEcc.Tie.FqOpt.radd_fq_eq
#print axioms PyEcc.Tie.FqOpt.radd_int_eq
#print axioms PyEcc.Tie.FqOpt.pow_eq
#print axioms PyEcc.Tie.FqOpt.eq_fq_eq
#print axioms PyEcc.Tie.FqOpt.eq_int_eq
#print axioms PyEcc.Tie.FqOpt.ne_fq_eq
#print axioms PyEcc.Tie.FqOpt.ne_int_eq
#print axioms PyEcc.Tie.FqOpt.neg_eq
#print axioms PyEcc.Tie.FqOpt.int_eq
#print axioms PyEcc.Tie.FqOpt.lt_fq_eq
#print axioms PyEcc.Tie.FqOpt.lt_int_eq
#print axioms PyEcc.Tie.FqOpt.one_eq
#print axioms PyEcc.Tie.FqOpt.zero_eq
#print axioms PyEcc.Tie.FqOpt.sgn0_eq
#print axioms PyEcc.Tie.fields_foldl_rel
#print axioms PyEcc.Tie.fields_foldl_inv
#print axioms PyEcc.Tie.any_ne_eq_all
#print axioms PyEcc.Tie.length_scalar
#print axioms PyEcc.Tie.FqpRef.init_ints_eq
#print axioms PyEcc.Tie.FqpRef.init_fqs_eq
#print axioms PyEcc.Tie.FqpRef.add_eq
#print axioms PyEcc.Tie.FqpRef.sub_eq
#print axioms PyEcc.Tie.FqpRef.neg_eq
#print axioms PyEcc.Tie.FqpRef.mul_int_eq
#print axioms PyEcc.Tie.FqpRef.div_int_eq
#print axioms PyEcc.Tie.FqpRef.truediv_int_eq
#print axioms PyEcc.Tie.FqpRef.eq_eq
#print axioms PyEcc.Tie.FqpRef.ne_eq
#print axioms PyEcc.Tie.FqpRef.init_one
#print axioms PyEcc.Tie.FqpRef.init_zero
#print axioms PyEcc.Tie.FqpRef.FQ2_one_eq
#print axioms PyEcc.Tie.FqpRef.FQ2_zero_eq
#print axioms PyEcc.Tie.FqpRef.FQ12_one_eq
#print axioms PyEcc.Tie.FqpRef.FQ12_zero_eq
#print axioms PyEcc.Tie.FqpOpt.init_ints_eq
#print axioms PyEcc.Tie.FqpOpt.add_eq
#print axioms PyEcc.Tie.FqpOpt.sub_eq
#print axioms PyEcc.Tie.FqpOpt.neg_eq
#print axioms PyEcc.Tie.FqpOpt.mul_int_eq
#print axioms PyEcc.Tie.FqpOpt.div_int_eq
#print axioms PyEcc.Tie.FqpOpt.truediv_int_eq
#print axioms PyEcc.Tie.FqpOpt.eq_eq
#print axioms PyEcc.Tie.FqpOpt.ne_eq
#print axioms PyEcc.Tie.FqpOpt.mod_int_int_eq
#print axioms PyEcc.Tie.FqpOpt.mod_int_fq_eq
#print axioms PyEcc.Tie.FqpOpt.sgn0_eq
#print axioms PyEcc.Tie.FqpOpt.FQ2_sgn0_eq
#print axioms PyEcc.Tie.FqpOpt.FQ2_sgn0_err
#print axioms PyEcc.Tie.FqpOpt.init_one
#print axioms PyEcc.Tie.FqpOpt.init_zero
#print axioms PyEcc.Tie.FqpOpt.FQ2_one_eq
#print axioms PyEcc.Tie.FqpOpt.FQ2_zero_eq
#print axioms PyEcc.Tie.FqpOpt.FQ12_one_eq
#print axioms PyEcc.Tie.FqpOpt.FQ12_zero_eq
#print axioms PyEcc.Tie.AllRed.updAt
#print axioms PyEcc.Tie.AllRed.dropLast
#print axioms PyEcc.Tie.AllRed.map_id
#print axioms PyEcc.Tie.allRed_convLoop
#print axioms PyEcc.Tie.allRed_refReduce
#print axioms PyEcc.Tie.sqmulLoop_eq
#print axioms PyEcc.Tie.sqmulLoop_pow
#print axioms PyEcc.Tie.MulRef.mul_loop_eq
#print axioms PyEcc.Tie.MulRef.mul_fqp_eq
#print axioms PyEcc.Tie.MulRef.wf_mul
#print axioms PyEcc.Tie.MulRef.pow_loop0_eq
#print axioms PyEcc.Tie.MulRef.pow_eq
#print axioms PyEcc.Tie.MulRef.rmul_int_eq
#print axioms PyEcc.Tie.MulRef.rmul_fqp_eq
#print axioms PyEcc.Tie.MulOpt.mul_fqp_eq
#print axioms PyEcc.Tie.MulOpt.pow_loop0_eq
#print axioms PyEcc.Tie.MulOpt.pow_eq
#print axioms PyEcc.Tie.MulOpt.rmul_int_eq
#print axioms PyEcc.Tie.MulOpt.rmul_fqp_eq
#print axioms PyEcc.Tie.updAt_set
#print axioms PyEcc.Tie.updAt_set_add
#print axioms PyEcc.Tie.updAt_set_sub
#print axioms PyEcc.Tie.degLoop_eq
#print axioms PyEcc.Tie.deg_loop0_eq
#print axioms PyEcc.Tie.deg_eq
#print axioms PyEcc.Tie.PolyOpt.optimized_poly_rounded_div_eq
#print axioms PyEcc.Tie.PolyOpt.inv_loop_eq
#print axioms PyEcc.Tie.PolyOpt.inv_eq
#print axioms PyEcc.Tie.PolyOpt.div_fqp_eq
#print axioms PyEcc.Tie.PolyOpt.truediv_fqp_eq
#print axioms PyEcc.Tie.InvRef.cong_val
#print axioms PyEcc.Tie.InvRef.length_vals
#print axioms PyEcc.Tie.InvRef.getI_vals
#print axioms PyEcc.Tie.InvRef.congL_vals
#print axioms PyEcc.Tie.InvRef.length_updN
#print axioms PyEcc.Tie.InvRef.getN_updN
#print axioms PyEcc.Tie.InvRef.vals_updN
#print axioms PyEcc.Tie.InvRef.CongL.upd
#print axioms PyEcc.Tie.InvRef.eq_zero_iff
#print axioms PyEcc.Tie.InvRef.deg_dyn_loop0_eq
#print axioms PyEcc.Tie.InvRef.deg_dyn_eq
#print axioms PyEcc.Tie.InvRef.foldlM_bind_ok_rel
#print axioms PyEcc.Tie.InvRef.truediv_fq
#print axioms PyEcc.Tie.InvRef.cong_sub_int
#print axioms PyEcc.Tie.InvRef.poly_rounded_div_eq
#print axioms PyEcc.Tie.InvRef.poly_rounded_div_float
#print axioms PyEcc.Tie.InvRef.low_lead_fq
#print axioms PyEcc.Tie.InvRef.upd_exact
#print axioms PyEcc.Tie.InvRef.isFq_sub
#print axioms PyEcc.Tie.InvRef.pass_rel
#print axioms PyEcc.Tie.InvRef.double_loop
#print axioms PyEcc.Tie.InvRef.inv_loop0_succ
#print axioms PyEcc.Tie.InvRef.inv_loop0_stop
#print axioms PyEcc.Tie.InvRef.AllFq.lowShape
#print axioms PyEcc.Tie.InvRef.inv_loop_eq
#print axioms PyEcc.Tie.InvRef.vals_map_fq
#print axioms PyEcc.Tie.InvRef.vals_map_int
#print axioms PyEcc.Tie.InvRef.vals_append
#print axioms PyEcc.Tie.InvRef.isFq_getN_map_fq
#print axioms PyEcc.Tie.InvRef.lowShape_init
#print axioms PyEcc.Tie.InvRef.toInt_eq_val
#print axioms PyEcc.Tie.InvRef.wf_inv
#print axioms PyEcc.Tie.InvRef.inv_eq
#print axioms PyEcc.Tie.InvRef.inv_no_float
#print axioms PyEcc.Tie.InvRef.inv_of_init_ints
#print axioms PyEcc.Tie.InvRef.inv_of_init_fqs
#print axioms PyEcc.Tie.InvRef.div_fqp_eq
#print axioms PyEcc.Tie.InvRef.truediv_fqp_eq
