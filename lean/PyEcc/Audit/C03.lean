-- GENERATED by tools/harness/check.py: axiom audit for property C03
import PyEcc.Props.C03_Gen
import PyEcc.Props.C03_Logic
import PyEcc.Props.C03_Proto
import PyEcc.Props.C01_ProtoHB2
import PyEcc.Props.C01_ProtoND
import PyEcc.Props.C01_ProtoModel
import PyEcc.Props.TieBls
import PyEcc.Props.TieBlsAgg
#print axioms PyEcc.C03.Gen.encG2_eq
#print axioms PyEcc.C03.Gen.hashPt_eq
#print axioms PyEcc.C03.Gen.map_decG2
#print axioms PyEcc.C03.Gen.enc_of_mem
#print axioms PyEcc.C03.Gen.Aggregate_eq_sum
#print axioms PyEcc.C03.Gen.Aggregate_ok_iff
#print axioms PyEcc.C03.Gen.Aggregate_perm
#print axioms PyEcc.C03.Gen.Aggregate_append
#print axioms PyEcc.C03.Gen.Aggregate_flatten
#print axioms PyEcc.C03.Gen.Aggregate_errors
#print axioms PyEcc.C03.Gen.AggregateVerify_false_early
#print axioms PyEcc.C03.Gen.AggregateVerify_basic_dup
#print axioms PyEcc.C03.Gen.AggregateVerify_badkey_false
#print axioms PyEcc.C03.Gen.FastAggregateVerify_nil
#print axioms PyEcc.C03.Gen.CoreAggregateVerify_iff
#print axioms PyEcc.C03.Gen.CoreAggregateVerify_accept_eq_iff
#print axioms PyEcc.C03.Gen.AggregateVerify_iff
#print axioms PyEcc.C03.Gen.AggregateVerify_iff_basic
#print axioms PyEcc.C03.Gen.AggregateVerify_iff_aug
#print axioms PyEcc.C03.Gen.AggregateVerify_iff_pop
#print axioms PyEcc.C03.Gen.FastAggregateVerify_iff
#print axioms PyEcc.C03.Gen.AggregateVerify_iff_aggregate_sign
#print axioms PyEcc.C03.Gen.FastAggregateVerify_iff_aggregate_sign
#print axioms PyEcc.C03.Gen.AggregateVerify_perm
#print axioms PyEcc.C03.aggFold_cons
#print axioms PyEcc.C03.aggFold_error_of_undecodable
#print axioms PyEcc.C03.aggregate_eq
#print axioms PyEcc.C03.aggregate_errors
#print axioms PyEcc.C03.hasDup_iff_not_nodup
#print axioms PyEcc.C03.coreAggregateVerify_early
#print axioms PyEcc.C03.aggregateVerify_false_early
#print axioms PyEcc.C03.aggregateVerify_basic_dup
#print axioms PyEcc.C03.aggregateVerify_pop_badkey
#print axioms PyEcc.C03.fastAggregateVerify_nil
#print axioms PyEcc.C03.aggregate_eq_sum
#print axioms PyEcc.C03.aggregate_ok_iff
#print axioms PyEcc.C03.aggregate_congr
#print axioms PyEcc.C03.aggregate_perm
#print axioms PyEcc.C03.aggregate_parts
#print axioms PyEcc.C03.aggregate_flatten
#print axioms PyEcc.C03.aggregate_append
#print axioms PyEcc.C03.exists_hashPts_iff
#print axioms PyEcc.C03.coreAggregateVerify_iff
#print axioms PyEcc.C03.aggregateVerify_iff
#print axioms PyEcc.C03.aggregateVerify_iff_basic
#print axioms PyEcc.C03.aggregateVerify_iff_aug
#print axioms PyEcc.C03.aggregateVerify_iff_pop
#print axioms PyEcc.C03.aggregateVerify_iff_aggregate_sign
#print axioms PyEcc.C03.pk_sum_eq_zero_iff
#print axioms PyEcc.C03.fastAggregateVerify_iff
#print axioms PyEcc.C03.fastAggregateVerify_iff_aggregate_sign
#print axioms PyEcc.C03.coreAggregateVerify_accept_eq_iff
#print axioms PyEcc.C03.aggregateVerify_perm
#print axioms PyEcc.C03.aggregateVerify_iff_aggregate_sign'
#print axioms PyEcc.C03.fastAggregateVerify_iff_aggregate_sign'
#print axioms PyEcc.C03.aggregateVerify_iff_aggregate_sign_nd
#print axioms PyEcc.C03.fastAggregateVerify_iff_aggregate_sign_nd
#print axioms PyEcc.C03.aggregateVerify_perm_nd
#print axioms PyEcc.C03.aggregateVerify_iff_aggregate_sign_ndv
#print axioms PyEcc.C03.fastAggregateVerify_iff_aggregate_sign_ndv
#print axioms PyEcc.C03.aggregateVerify_iff_aggregate_sign_of_modelBilinear
#print axioms PyEcc.C03.fastAggregateVerify_iff_aggregate_sign_of_modelBilinear
#print axioms PyEcc.C03.aggregateVerify_perm_of_modelBilinear
#print axioms PyEcc.C03.aggregateVerify_iff_aggregate_sign_of_modelBilinearCode
#print axioms PyEcc.C03.fastAggregateVerify_iff_aggregate_sign_of_modelBilinearCode
#print axioms PyEcc.Tie.Bls.DST_eq
#print axioms PyEcc.Tie.Bls.POP_TAG_eq
#print axioms PyEcc.Tie.Bls.is_valid_privkey_eq
#print axioms PyEcc.Tie.Bls.is_valid_privkey_isSome
#print axioms PyEcc.Tie.Bls.is_valid_pubkey_base_eq
#print axioms PyEcc.Tie.Bls.is_valid_message_eq
#print axioms PyEcc.Tie.Bls.is_valid_signature_eq
#print axioms PyEcc.Tie.Bls.SkToPk_eq
#print axioms PyEcc.Tie.Bls.decompressG1_error
#print axioms PyEcc.Tie.Bls.KeyValidate_eq
#print axioms PyEcc.Tie.Bls.is_valid_pubkey_pop_eq
#print axioms PyEcc.Tie.Bls.is_valid_pubkey_eq
#print axioms PyEcc.Tie.Bls.CoreSign_eq
#print axioms PyEcc.Tie.Bls.Sign_eq
#print axioms PyEcc.Tie.Bls.PopProve_eq
#print axioms PyEcc.Tie.Bls.caught3_eq
#print axioms PyEcc.Tie.Bls.CoreVerify_try_eq
#print axioms PyEcc.Tie.Bls.CoreVerify_eq
#print axioms PyEcc.Tie.Bls.Verify_eq
#print axioms PyEcc.Tie.Bls.PopVerify_eq
#print axioms PyEcc.Tie.Bls.Aggregate_eq
#print axioms PyEcc.Tie.Bls.aggLoop_eq
#print axioms PyEcc.Tie.Bls.CoreAggregateVerify_try_eq
#print axioms PyEcc.Tie.Bls.CoreAggregateVerify_eq
#print axioms PyEcc.Tie.Bls.eraseDups_length_le
#print axioms PyEcc.Tie.Bls.hasDup_eq
#print axioms PyEcc.Tie.Bls.aug_messages_eq
#print axioms PyEcc.Tie.Bls.AggregateVerify_eq
#print axioms PyEcc.Tie.Bls.AggregatePKs_eq
#print axioms PyEcc.Tie.Bls.caught2_eq
#print axioms PyEcc.Tie.Bls.FastAggregateVerify_eq
#print axioms PyEcc.Tie.Bls.keygen_L_eq
#print axioms PyEcc.Tie.Bls.KeyGen_loop_eq
#print axioms PyEcc.Tie.Bls.keygen_salt_eq
#print axioms PyEcc.Tie.Bls.bind_fst
#print axioms PyEcc.Tie.Bls.KeyGen_fuel_eq
#print axioms PyEcc.Tie.Bls.KeyGen_eq
