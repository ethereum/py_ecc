-- GENERATED by tools/harness/check.py: axiom audit for property C05
import PyEcc.Props.C05
import PyEcc.Props.C05_Gen
import PyEcc.Props.C05_Neg
import PyEcc.Props.C05_NegBn
import PyEcc.Props.C05_Order
import PyEcc.Props.TiePairing
import PyEcc.Props.TieMiller
import PyEcc.Props.TieHashCurve
import PyEcc.Props.TieFieldsFq
import PyEcc.Props.TieFieldsFqp
import PyEcc.Props.TieFieldsMul
import PyEcc.Props.TieFieldsPoly
import PyEcc.Props.TieFieldsInv
#print axioms PyEcc.C05.refBls_is_on_curve_none
#print axioms PyEcc.C05.refBn_is_on_curve_none
#print axioms PyEcc.C05.optBls_is_on_curve_inf
#print axioms PyEcc.C05.optBn_is_on_curve_inf
#print axioms PyEcc.C05.pairingRefBls_inf_left
#print axioms PyEcc.C05.pairingRefBls_inf_right
#print axioms PyEcc.C05.pairingRefBls_offcurve
#print axioms PyEcc.C05.pairingRefBn_inf_left
#print axioms PyEcc.C05.pairingRefBn_inf_right
#print axioms PyEcc.C05.pairingRefBn_offcurve
#print axioms PyEcc.C05.pairingOptBls_error_iff
#print axioms PyEcc.C05.pairingOptBls_offcurve
#print axioms PyEcc.C05.pairingOptBls_inf_left
#print axioms PyEcc.C05.pairingOptBls_inf_right
#print axioms PyEcc.C05.pairingOptBn_error_iff
#print axioms PyEcc.C05.pairingOptBn_offcurve
#print axioms PyEcc.C05.pairingOptBn_inf_left
#print axioms PyEcc.C05.pairingOptBn_inf_right
#print axioms PyEcc.C05.pairing_inf_left
#print axioms PyEcc.C05.pairing_inf_right
#print axioms PyEcc.C05.pairing_offcurve
#print axioms PyEcc.C05.HB1.isBilinear
#print axioms PyEcc.C05.bilinear_ab
#print axioms PyEcc.C05.bilinear_ab_int
#print axioms PyEcc.C05.bilinear_unit
#print axioms PyEcc.C05.bilinear_neg
#print axioms PyEcc.C05.bilinear_order
#print axioms PyEcc.C05.bilinear_mod_order
#print axioms PyEcc.C05.HB1₀.toUnits
#print axioms PyEcc.C05.bilinear_field
#print axioms PyEcc.C05.Gen.pairing_optBls_unfold
#print axioms PyEcc.C05.Gen.pairing_optBn_unfold
#print axioms PyEcc.C05.Gen.pairing_refBls_unfold
#print axioms PyEcc.C05.Gen.pairing_refBn_unfold
#print axioms PyEcc.C05.Gen.pairing_inf_left
#print axioms PyEcc.C05.Gen.pairing_inf_right
#print axioms PyEcc.C05.Gen.pairing_offcurve
#print axioms PyEcc.C05.Gen.pairing_opt_error_iff
#print axioms PyEcc.C05.Gen.pairing_pow_r
#print axioms PyEcc.C05.Gen.pairing_orderOf
#print axioms PyEcc.C05.Gen.pairing_neg_optBls
#print axioms PyEcc.C05.Gen.miller_loop_neg_optBls
#print axioms PyEcc.C05.Gen.pairing_neg_refBls
#print axioms PyEcc.C05.Gen.pairing_neg_optBn
#print axioms PyEcc.C05.Gen.pairing_neg_refBn
#print axioms PyEcc.C05Neg.Fp6_grading_bls
#print axioms PyEcc.C05Neg.finalExp_kills_Fp6_bls
#print axioms PyEcc.C05Neg.line_product_in_Fp6
#print axioms PyEcc.C05Neg.line_ne_zero_at_G1
#print axioms PyEcc.C05Neg.pairing_neg_right
#print axioms PyEcc.C05Neg.pairing_neg_left
#print axioms PyEcc.C05Neg.pairing_ne_zero
#print axioms PyEcc.C05Neg.pairing_pow_r
#print axioms PyEcc.C05Neg.millerLoop_neg_right
#print axioms PyEcc.C05Neg.pairingRefBls_neg_right
#print axioms PyEcc.C05Neg.pairingRefBls_neg_left
#print axioms PyEcc.C05NegBn.Fp6_grading_bn
#print axioms PyEcc.C05NegBn.pairingOptBn_neg_right
#print axioms PyEcc.C05NegBn.pairingOptBn_neg_left
#print axioms PyEcc.C05NegBn.pairingRefBn_neg_right
#print axioms PyEcc.C05NegBn.pairingRefBn_neg_left
#print axioms PyEcc.C05N.finalExp_root_of_unity
#print axioms PyEcc.C05N.finalExp_orderOf
#print axioms PyEcc.C05N.pairingOptBls_is_pow
#print axioms PyEcc.C05N.pairingOptBn_is_pow
#print axioms PyEcc.C05N.pairingOptBls_pow_r
#print axioms PyEcc.C05N.pairingOptBls_orderOf
#print axioms PyEcc.C05N.pairingOptBn_pow_r
#print axioms PyEcc.C05N.pairingOptBn_orderOf
#print axioms PyEcc.C05N.refMillerStep_wf
#print axioms PyEcc.C05N.refMillerLoop_is_pow
#print axioms PyEcc.C05N.pairingRefBls_is_pow
#print axioms PyEcc.C05N.pairingRefBn_is_pow
#print axioms PyEcc.C05N.pairingRefBls_pow_r
#print axioms PyEcc.C05N.pairingRefBls_orderOf
#print axioms PyEcc.C05N.pairingRefBn_pow_r
#print axioms PyEcc.C05N.pairingRefBn_orderOf
#print axioms PyEcc.Tie.pairing_optBls_eq
#print axioms PyEcc.Tie.final_exponentiate_optBls_eq
#print axioms PyEcc.Tie.pairing_optBn_eq
#print axioms PyEcc.Tie.pairing_refBls_eq
#print axioms PyEcc.Tie.pairing_refBn_eq
#print axioms PyEcc.Tie.final_exponentiate_optBn_eq
#print axioms PyEcc.Tie.final_exponentiate_refBls_eq
#print axioms PyEcc.Tie.final_exponentiate_refBn_eq
#print axioms PyEcc.Tie.foldl_rel
#print axioms PyEcc.Tie.foldl_map_eq
#print axioms PyEcc.Tie.optBls_core_eq
#print axioms PyEcc.Tie.miller_loop_optBls_eq
#print axioms PyEcc.Tie.optBn_core_eq
#print axioms PyEcc.Tie.miller_loop_optBn_eq
#print axioms PyEcc.Tie.and_two_pow_ne_zero_iff
#print axioms PyEcc.Tie.refStep_swap
#print axioms PyEcc.Tie.refBls_core_eq
#print axioms PyEcc.Tie.miller_loop_refBls_eq
#print axioms PyEcc.Tie.refBn_core_eq
#print axioms PyEcc.Tie.miller_loop_refBn_eq
#print axioms PyEcc.Tie.embed12_0_6
#print axioms PyEcc.Tie.embed12_1_7
#print axioms PyEcc.Tie.embed12_3_9
#print axioms PyEcc.Tie.twist_optbls_eq
#print axioms PyEcc.Tie.twist_optbn_eq
#print axioms PyEcc.Tie.cast_point_to_fq12_optbls_eq
#print axioms PyEcc.Tie.cast_point_to_fq12_optbn_eq
#print axioms PyEcc.Tie.exp_by_p_eq
#print axioms PyEcc.Tie.ofInt_n_cast
#print axioms PyEcc.Tie.sub_n_cast
#print axioms PyEcc.Tie.mulInt_n_cast
#print axioms PyEcc.Tie.mul_emod_left'
#print axioms PyEcc.Tie.ofInts_embed_congr
#print axioms PyEcc.Tie.embed_ref_sub
#print axioms PyEcc.Tie.embed_ref_sub9
#print axioms PyEcc.Tie.twist_refbls_eq
#print axioms PyEcc.Tie.twist_refbn_eq
#print axioms PyEcc.Tie.cast_point_to_fq12_refbls_eq
#print axioms PyEcc.Tie.cast_point_to_fq12_refbn_eq
#print axioms PyEcc.Tie.prime_field_inv_loop_fst
#print axioms PyEcc.Tie.prime_field_inv_eq
#print axioms PyEcc.Tie.int_odd_iff
#print axioms PyEcc.Tie.Fq.ofInt_n
#print axioms PyEcc.Tie.Fq.one_n
#print axioms PyEcc.Tie.Fq.zero_n
#print axioms PyEcc.Tie.FqRef.init_int_eq
#print axioms PyEcc.Tie.FqRef.init_fq_eq
#print axioms PyEcc.Tie.FqRef.add_fq_eq
#print axioms PyEcc.Tie.FqRef.add_int_eq
#print axioms PyEcc.Tie.FqRef.mul_fq_eq
#print axioms PyEcc.Tie.FqRef.mul_int_eq
#print axioms PyEcc.Tie.FqRef.sub_fq_eq
#print axioms PyEcc.Tie.FqRef.sub_int_eq
#print axioms PyEcc.Tie.FqRef.rsub_fq_eq
#print axioms PyEcc.Tie.FqRef.rsub_int_eq
#print axioms PyEcc.Tie.FqRef.div_fq_eq
#print axioms PyEcc.Tie.FqRef.div_int_eq
#print axioms PyEcc.Tie.FqRef.rdiv_fq_eq
#print axioms PyEcc.Tie.FqRef.rdiv_int_eq
#print axioms PyEcc.Tie.FqRef.truediv_fq_eq
#print axioms PyEcc.Tie.FqRef.truediv_int_eq
#print axioms PyEcc.Tie.FqRef.rtruediv_fq_eq
#print axioms PyEcc.Tie.FqRef.rtruediv_int_eq
#print axioms PyEcc.Tie.FqRef.rmul_fq_eq
#print axioms PyEcc.Tie.FqRef.rmul_int_eq
#print axioms PyEcc.Tie.FqRef.radd_fq_eq
#print axioms PyEcc.Tie.FqRef.radd_int_eq
#print axioms PyEcc.Tie.FqRef.pow_loop_fst
#print axioms PyEcc.Tie.FqRef.pow_eq
#print axioms PyEcc.Tie.FqRef.eq_fq_eq
#print axioms PyEcc.Tie.FqRef.eq_int_eq
#print axioms PyEcc.Tie.FqRef.ne_fq_eq
#print axioms PyEcc.Tie.FqRef.ne_int_eq
#print axioms PyEcc.Tie.FqRef.neg_eq
#print axioms PyEcc.Tie.FqRef.int_eq
#print axioms PyEcc.Tie.FqRef.lt_fq_eq
#print axioms PyEcc.Tie.FqRef.lt_int_eq
#print axioms PyEcc.Tie.FqRef.one_eq
#print axioms PyEcc.Tie.FqRef.zero_eq
#print axioms PyEcc.Tie.FqOpt.pow_eq_ref
#print axioms PyEcc.Tie.FqOpt.init_int_eq
#print axioms PyEcc.Tie.FqOpt.init_fq_eq
#print axioms PyEcc.Tie.FqOpt.add_fq_eq
#print axioms PyEcc.Tie.FqOpt.add_int_eq
#print axioms PyEcc.Tie.FqOpt.mul_fq_eq
#print axioms PyEcc.Tie.FqOpt.mul_int_eq
#print axioms PyEcc.Tie.FqOpt.sub_fq_eq
#print axioms PyEcc.Tie.FqOpt.sub_int_eq
#print axioms PyEcc.Tie.FqOpt.rsub_fq_eq
#print axioms PyEcc.Tie.FqOpt.rsub_int_eq
#print axioms PyEcc.Tie.FqOpt.div_fq_eq
#print axioms PyEcc.Tie.FqOpt.div_int_eq
#print axioms PyEcc.Tie.FqOpt.rdiv_fq_eq
#print axioms PyEcc.Tie.FqOpt.rdiv_int_eq
#print axioms PyEcc.Tie.FqOpt.truediv_fq_eq
#print axioms PyEcc.Tie.FqOpt.truediv_int_eq
#print axioms PyEcc.Tie.FqOpt.rtruediv_fq_eq
#print axioms PyEcc.Tie.FqOpt.rtruediv_int_eq
#print axioms PyEcc.Tie.FqOpt.rmul_fq_eq
#print axioms PyEcc.Tie.FqOpt.rmul_int_eq
#print axioms PyEcc.Tie.FqOpt.radd_fq_eq
#print axioms PyEcc.Tie.FqOpt.radd_int_eq
#print axioms PyEcc.Tie.FqOpt.pow_eq
#print axioms PyEcc.Tie.FqOpt.eq_fq_eq
#print axioms PyEcc.Tie.FqOpt.eq_int_eq
#print axioms PyEcc.Tie.FqOpt.ne_fq_eq
#print axioms PyEcc.Tie.FqOpt.ne_int_eq
#print axioms PyEcc.Tie.FqOpt.neg_eq
#print axioms PyEcc.Tie.FqOpt.int_eq
#print axioms PyEcc.Tie.FqOpt.lt_fq_eq
#print axioms PyEcc.Tie.FqOpt.lt_int_eq
#print axioms PyEcc.Tie.FqOpt.one_eq
#print axioms PyEcc.Tie.FqOpt.zero_eq
#print axioms PyEcc.Tie.FqOpt.sgn0_eq
#print axioms PyEcc.Tie.fields_foldl_rel
#print axioms PyEcc.Tie.fields_foldl_inv
#print axioms PyEcc.Tie.any_ne_eq_all
#print axioms PyEcc.Tie.length_scalar
#print axioms PyEcc.Tie.FqpRef.init_ints_eq
#print axioms PyEcc.Tie.FqpRef.init_fqs_eq
#print axioms PyEcc.Tie.FqpRef.add_eq
#print axioms PyEcc.Tie.FqpRef.sub_eq
#print axioms PyEcc.Tie.FqpRef.neg_eq
#print axioms PyEcc.Tie.FqpRef.mul_int_eq
#print axioms PyEcc.Tie.FqpRef.div_int_eq
#print axioms PyEcc.Tie.FqpRef.truediv_int_eq
#print axioms PyEcc.Tie.FqpRef.eq_eq
#print axioms PyEcc.Tie.FqpRef.ne_eq
#print axioms PyEcc.Tie.FqpRef.init_one
#print axioms PyEcc.Tie.FqpRef.init_zero
#print axioms PyEcc.Tie.FqpRef.FQ2_one_eq
#print axioms PyEcc.Tie.FqpRef.FQ2_zero_eq
#print axioms PyEcc.Tie.FqpRef.FQ12_one_eq
#print axioms PyEcc.Tie.FqpRef.FQ12_zero_eq
#print axioms PyEcc.Tie.FqpOpt.init_ints_eq
#print axioms PyEcc.Tie.FqpOpt.add_eq
#print axioms PyEcc.Tie.FqpOpt.sub_eq
#print axioms PyEcc.Tie.FqpOpt.neg_eq
#print axioms PyEcc.Tie.FqpOpt.mul_int_eq
#print axioms PyEcc.Tie.FqpOpt.div_int_eq
#print axioms PyEcc.Tie.FqpOpt.truediv_int_eq
#print axioms PyEcc.Tie.FqpOpt.eq_eq
#print axioms PyEcc.Tie.FqpOpt.ne_eq
#print axioms PyEcc.Tie.FqpOpt.mod_int_int_eq
#print axioms PyEcc.Tie.FqpOpt.mod_int_fq_eq
#print axioms PyEcc.Tie.FqpOpt.sgn0_eq
#print axioms PyEcc.Tie.FqpOpt.FQ2_sgn0_eq
#print axioms PyEcc.Tie.FqpOpt.FQ2_sgn0_err
#print axioms PyEcc.Tie.FqpOpt.init_one
#print axioms PyEcc.Tie.FqpOpt.init_zero
#print axioms PyEcc.Tie.FqpOpt.FQ2_one_eq
#print axioms PyEcc.Tie.FqpOpt.FQ2_zero_eq
#print axioms PyEcc.Tie.FqpOpt.FQ12_one_eq
#print axioms PyEcc.Tie.FqpOpt.FQ12_zero_eq
#print axioms PyEcc.Tie.AllRed.updAt
#print axioms PyEcc.Tie.AllRed.dropLast
#print axioms PyEcc.Tie.AllRed.map_id
#print axioms PyEcc.Tie.allRed_convLoop
#print axioms PyEcc.Tie.allRed_refReduce
#print axioms PyEcc.Tie.sqmulLoop_eq
#print axioms PyEcc.Tie.sqmulLoop_pow
#print axioms PyEcc.Tie.MulRef.mul_loop_eq
#print axioms PyEcc.Tie.MulRef.mul_fqp_eq
#print axioms PyEcc.Tie.MulRef.wf_mul
#print axioms PyEcc.Tie.MulRef.pow_loop0_eq
#print axioms PyEcc.Tie.MulRef.pow_eq
#print axioms PyEcc.Tie.MulRef.rmul_int_eq
#print axioms PyEcc.Tie.MulRef.rmul_fqp_eq
#print axioms PyEcc.Tie.MulOpt.mul_fqp_eq
#print axioms PyEcc.Tie.MulOpt.pow_loop0_eq
#print axioms PyEcc.Tie.MulOpt.pow_eq
#print axioms PyEcc.Tie.MulOpt.rmul_int_eq
#print axioms PyEcc.Tie.MulOpt.rmul_fqp_eq
#print axioms PyEcc.Tie.updAt_set
#print axioms PyEcc.Tie.updAt_set_add
#print axioms PyEcc.Tie.updAt_set_sub
#print axioms PyEcc.Tie.degLoop_eq
#print axioms PyEcc.Tie.deg_loop0_eq
#print axioms PyEcc.Tie.deg_eq
#print axioms PyEcc.Tie.PolyOpt.optimized_poly_rounded_div_eq
#print axioms PyEcc.Tie.PolyOpt.inv_loop_eq
#print axioms PyEcc.Tie.PolyOpt.inv_eq
#print axioms PyEcc.Tie.PolyOpt.div_fqp_eq
#print axioms PyEcc.Tie.PolyOpt.truediv_fqp_eq
#print axioms PyEcc.Tie.InvRef.cong_val
#print axioms PyEcc.Tie.InvRef.length_vals
#print axioms PyEcc.Tie.InvRef.getI_vals
#print axioms PyEcc.Tie.InvRef.congL_vals
#print axioms PyEcc.Tie.InvRef.length_updN
#print axioms PyEcc.Tie.InvRef.getN_updN
#print axioms PyEcc.Tie.InvRef.vals_updN
#print axioms PyEcc.Tie.InvRef.CongL.upd
#print axioms PyEcc.Tie.InvRef.eq_zero_iff
#print axioms PyEcc.Tie.InvRef.deg_dyn_loop0_eq
#print axioms PyEcc.Tie.InvRef.deg_dyn_eq
#print axioms PyEcc.Tie.InvRef.foldlM_bind_ok_rel
#print axioms PyEcc.Tie.InvRef.truediv_fq
#print axioms PyEcc.Tie.InvRef.cong_sub_int
#print axioms PyEcc.Tie.InvRef.poly_rounded_div_eq
#print axioms PyEcc.Tie.InvRef.poly_rounded_div_float
#print axioms PyEcc.Tie.InvRef.low_lead_fq
#print axioms PyEcc.Tie.InvRef.upd_exact
#print axioms PyEcc.Tie.InvRef.isFq_sub
#print axioms PyEcc.Tie.InvRef.pass_rel
#print axioms PyEcc.Tie.InvRef.double_loop
#print axioms PyEcc.Tie.InvRef.inv_loop0_succ
#print axioms PyEcc.Tie.InvRef.inv_loop0_stop
#print axioms PyEcc.Tie.InvRef.AllFq.lowShape
#print axioms PyEcc.Tie.InvRef.inv_loop_eq
#print axioms PyEcc.Tie.InvRef.vals_map_fq
#print axioms PyEcc.Tie.InvRef.vals_map_int
#print axioms PyEcc.Tie.InvRef.vals_append
#print axioms PyEcc.Tie.InvRef.isFq_getN_map_fq
#print axioms PyEcc.Tie.InvRef.lowShape_init
#print axioms PyEcc.Tie.InvRef.toInt_eq_val
#print axioms PyEcc.Tie.InvRef.wf_inv
#print axioms PyEcc.Tie.InvRef.inv_eq
#print axioms PyEcc.Tie.InvRef.inv_no_float
#print axioms PyEcc.Tie.InvRef.inv_of_init_ints
#print axioms PyEcc.Tie.InvRef.inv_of_init_fqs
#print axioms PyEcc.Tie.InvRef.div_fqp_eq
#print axioms PyEcc.Tie.InvRef.truediv_fqp_eq
