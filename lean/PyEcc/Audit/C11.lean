-- GENERATED by tools/harness/check.py: axiom audit for property C11
import PyEcc.Props.C11
import PyEcc.Props.C11_G2
import PyEcc.Props.C11_G2Full
import PyEcc.Props.C11_Gen
import PyEcc.Props.TieCodec
import PyEcc.Props.TieHashCodec
import PyEcc.Props.TieFieldsFq
import PyEcc.Props.TieFieldsFqp
import PyEcc.Props.TieFieldsMul
import PyEcc.Props.TieFieldsPoly
import PyEcc.Props.TieFieldsInv
#print axioms PyEcc.C11.compress_lt
#print axioms PyEcc.C11.getFlags_eq
#print axioms PyEcc.C11.getFlags_compress
#print axioms PyEcc.C11.g1ToPubkey_length
#print axioms PyEcc.C11.pubkeyToG1_g1ToPubkey
#print axioms PyEcc.C11.decompressG1_ignores_high_bits
#print axioms PyEcc.C11.decompress_G1_error_kind
#print axioms PyEcc.C11.decompress_G1_accepts_iff
#print axioms PyEcc.C11.compress_decompress_G1
#print axioms PyEcc.C11.g1ToPubkey_pubkeyToG1
#print axioms PyEcc.C11.decompress_compress_G1_partial
#print axioms PyEcc.C11.x0_points_iff
#print axioms PyEcc.C11.x0_roundtrip_fails
#print axioms PyEcc.C11.blsG1_round_trip_hyp
#print axioms PyEcc.C11.compressG2_ok_iff
#print axioms PyEcc.C11.compressG2_error_kind
#print axioms PyEcc.C11.compressG2_range
#print axioms PyEcc.C11.compressG2_lt
#print axioms PyEcc.C11.g2ToSignature_ok
#print axioms PyEcc.C11.g2ToSignature_length
#print axioms PyEcc.C11.signatureToG2_g2ToSignature
#print axioms PyEcc.C11.decompress_G2_error_kind
#print axioms PyEcc.C11.decompressG2_rejects_second_word
#print axioms PyEcc.C11.decompressG2_rejects_second_word_flags
#print axioms PyEcc.C11.compress_decompress_G2_oncurve
#print axioms PyEcc.C11.decompressG2_ok_shape
#print axioms PyEcc.C11.decompress_compress_G2_inf
#print axioms PyEcc.C11.blsG2_on_curve
#print axioms PyEcc.C11.no_x0_point_G2
#print axioms PyEcc.C11.no_y0_point_G2
#print axioms PyEcc.C11.decompress_compress_G2
#print axioms PyEcc.C11.compress_decompress_G2
#print axioms PyEcc.C11.decompressG2_ignores_high_bits
#print axioms PyEcc.C11.decompress_G2_accepts_iff
#print axioms PyEcc.C11.signatureToG2_g2ToSignature_roundtrip
#print axioms PyEcc.C11.g2ToSignature_signatureToG2
#print axioms PyEcc.C11.blsG2_canon
#print axioms PyEcc.C11.double_blsG2_hyp
#print axioms PyEcc.C11.Gen.get_flags_eq
#print axioms PyEcc.C11.Gen.is_point_at_infinity_iff
#print axioms PyEcc.C11.Gen.compress_G1_lt
#print axioms PyEcc.C11.Gen.get_flags_compress_G1
#print axioms PyEcc.C11.Gen.G1_to_pubkey_length
#print axioms PyEcc.C11.Gen.pubkey_to_G1_G1_to_pubkey
#print axioms PyEcc.C11.Gen.decompress_G1_ignores_high_bits
#print axioms PyEcc.C11.Gen.decompress_G1_error_kind
#print axioms PyEcc.C11.Gen.decompress_G1_accepts_iff
#print axioms PyEcc.C11.Gen.compress_decompress_G1
#print axioms PyEcc.C11.Gen.G1_to_pubkey_pubkey_to_G1
#print axioms PyEcc.C11.Gen.decompress_compress_G1_partial
#print axioms PyEcc.C11.Gen.x0_roundtrip_fails
#print axioms PyEcc.C11.Gen.modular_squareroot_in_FQ2_correct
#print axioms PyEcc.C11.Gen.compress_G2_ok_iff
#print axioms PyEcc.C11.Gen.compress_G2_range
#print axioms PyEcc.C11.Gen.G2_to_signature_length
#print axioms PyEcc.C11.Gen.decompress_G2_error_kind
#print axioms PyEcc.C11.Gen.decompress_G2_rejects_second_word
#print axioms PyEcc.C11.Gen.decompress_G2_ignores_high_bits
#print axioms PyEcc.C11.Gen.decompress_G2_ok_shape
#print axioms PyEcc.C11.Gen.decompress_compress_G2
#print axioms PyEcc.C11.Gen.compress_decompress_G2
#print axioms PyEcc.C11.Gen.decompress_G2_accepts_iff
#print axioms PyEcc.C11.Gen.signature_to_G2_G2_to_signature_roundtrip
#print axioms PyEcc.C11.Gen.G2_to_signature_signature_to_G2
#print axioms PyEcc.Tie.flag_bit
#print axioms PyEcc.Tie.nat_decide_eq_beq
#print axioms PyEcc.Tie.get_flags_eq
#print axioms PyEcc.Tie.is_point_at_infinity_eq
#print axioms PyEcc.Tie.compress_G1_eq
#print axioms PyEcc.Tie.decompress_G1_eq
#print axioms PyEcc.Tie.compress_G2_eq
#print axioms PyEcc.Tie.decompress_G2_eq
#print axioms PyEcc.Tie.G2_to_signature_eq
#print axioms PyEcc.Tie.signature_to_G2_eq
#print axioms PyEcc.Tie.G1_to_pubkey_eq
#print axioms PyEcc.Tie.pubkey_to_G1_eq
#print axioms PyEcc.Tie.mem_everyOther
#print axioms PyEcc.Tie.findIdx_everyOther
#print axioms PyEcc.Tie.eighth_roots_nodup
#print axioms PyEcc.Tie.index_ok
#print axioms PyEcc.Tie.modular_squareroot_in_FQ2_eq
#print axioms PyEcc.Tie.prime_field_inv_loop_fst
#print axioms PyEcc.Tie.prime_field_inv_eq
#print axioms PyEcc.Tie.int_odd_iff
#print axioms PyEcc.Tie.Fq.ofInt_n
#print axioms PyEcc.Tie.Fq.one_n
#print axioms PyEcc.Tie.Fq.zero_n
#print axioms PyEcc.Tie.FqRef.init_int_eq
#print axioms PyEcc.Tie.FqRef.init_fq_eq
#print axioms PyEcc.Tie.FqRef.add_fq_eq
#print axioms PyEcc.Tie.FqRef.add_int_eq
#print axioms PyEcc.Tie.FqRef.mul_fq_eq
#print axioms PyEcc.Tie.FqRef.mul_int_eq
#print axioms PyEcc.Tie.FqRef.sub_fq_eq
#print axioms PyEcc.Tie.FqRef.sub_int_eq
#print axioms PyEcc.Tie.FqRef.rsub_fq_eq
#print axioms PyEcc.Tie.FqRef.rsub_int_eq
#print axioms PyEcc.Tie.FqRef.div_fq_eq
#print axioms PyEcc.Tie.FqRef.div_int_eq
#print axioms PyEcc.Tie.FqRef.rdiv_fq_eq
#print axioms PyEcc.Tie.FqRef.rdiv_int_eq
#print axioms PyEcc.Tie.FqRef.truediv_fq_eq
#print axioms PyEcc.Tie.FqRef.truediv_int_eq
#print axioms PyEcc.Tie.FqRef.rtruediv_fq_eq
#print axioms PyEcc.Tie.FqRef.rtruediv_int_eq
#print axioms PyEcc.Tie.FqRef.rmul_fq_eq
#print axioms PyEcc.Tie.FqRef.rmul_int_eq
#print axioms PyEcc.Tie.FqRef.radd_fq_eq
#print axioms PyEcc.Tie.FqRef.radd_int_eq
#print axioms PyEcc.Tie.FqRef.pow_loop_fst
#print axioms PyEcc.Tie.FqRef.pow_eq
#print axioms PyEcc.Tie.FqRef.eq_fq_eq
#print axioms PyEcc.Tie.FqRef.eq_int_eq
#print axioms PyEcc.Tie.FqRef.ne_fq_eq
#print axioms PyEcc.Tie.FqRef.ne_int_eq
#print axioms PyEcc.Tie.FqRef.neg_eq
#print axioms PyEcc.Tie.FqRef.int_eq
#print axioms PyEcc.Tie.FqRef.lt_fq_eq
#print axioms PyEcc.Tie.FqRef.lt_int_eq
#print axioms PyEcc.Tie.FqRef.one_eq
#print axioms PyEcc.Tie.FqRef.zero_eq
#print axioms PyEcc.Tie.FqOpt.pow_eq_ref
#print axioms PyEcc.Tie.FqOpt.init_int_eq
#print axioms PyEcc.Tie.FqOpt.init_fq_eq
#print axioms PyEcc.Tie.FqOpt.add_fq_eq
#print axioms PyEcc.Tie.FqOpt.add_int_eq
#print axioms PyEcc.Tie.FqOpt.mul_fq_eq
#print axioms PyEcc.Tie.FqOpt.mul_int_eq
#print axioms PyEcc.Tie.FqOpt.sub_fq_eq
#print axioms PyEcc.Tie.FqOpt.sub_int_eq
#print axioms PyEcc.Tie.FqOpt.rsub_fq_eq
#print axioms PyEcc.Tie.FqOpt.rsub_int_eq
#print axioms PyEcc.Tie.FqOpt.div_fq_eq
#print axioms PyEcc.Tie.FqOpt.div_int_eq
#print axioms PyEcc.Tie.FqOpt.rdiv_fq_eq
#print axioms PyEcc.Tie.FqOpt.rdiv_int_eq
#print axioms PyEcc.Tie.FqOpt.truediv_fq_eq
#print axioms PyEcc.Tie.FqOpt.truediv_int_eq
#print axioms PyEcc.Tie.FqOpt.rtruediv_fq_eq
#print axioms PyEcc.Tie.FqOpt.rtruediv_int_eq
#print axioms PyEcc.Tie.FqOpt.rmul_fq_eq
#print axioms PyEcc.Tie.FqOpt.rmul_int_eq
#print axioms PyEcc.Tie.FqOpt.radd_fq_eq
#print axioms PyEcc.Tie.FqOpt.radd_int_eq
#print axioms PyEcc.Tie.FqOpt.pow_eq
#print axioms PyEcc.Tie.FqOpt.eq_fq_eq
#print axioms PyEcc.Tie.FqOpt.eq_int_eq
#print axioms PyEcc.Tie.FqOpt.ne_fq_eq
#print axioms PyEcc.Tie.FqOpt.ne_int_eq
#print axioms PyEcc.Tie.FqOpt.neg_eq
#print axioms PyEcc.Tie.FqOpt.int_eq
#print axioms PyEcc.Tie.FqOpt.lt_fq_eq
#print axioms PyEcc.Tie.FqOpt.lt_int_eq
#print axioms PyEcc.Tie.FqOpt.one_eq
#print axioms PyEcc.Tie.FqOpt.zero_eq
#print axioms PyEcc.Tie.FqOpt.sgn0_eq
#print axioms PyEcc.Tie.fields_foldl_rel
#print axioms PyEcc.Tie.fields_foldl_inv
#print axioms PyEcc.Tie.any_ne_eq_all
#print axioms PyEcc.Tie.length_scalar
#print axioms PyEcc.Tie.FqpRef.init_ints_eq
#print axioms PyEcc.Tie.FqpRef.init_fqs_eq
#print axioms PyEcc.Tie.FqpRef.add_eq
#print axioms PyEcc.Tie.FqpRef.sub_eq
#print axioms PyEcc.Tie.FqpRef.neg_eq
#print axioms PyEcc.Tie.FqpRef.mul_int_eq
#print axioms PyEcc.Tie.FqpRef.div_int_eq
#print axioms PyEcc.Tie.FqpRef.truediv_int_eq
#print axioms PyEcc.Tie.FqpRef.eq_eq
#print axioms PyEcc.Tie.FqpRef.ne_eq
#print axioms PyEcc.Tie.FqpRef.init_one
#print axioms PyEcc.Tie.FqpRef.init_zero
#print axioms PyEcc.Tie.FqpRef.FQ2_one_eq
#print axioms PyEcc.Tie.FqpRef.FQ2_zero_eq
#print axioms PyEcc.Tie.FqpRef.FQ12_one_eq
#print axioms PyEcc.Tie.FqpRef.FQ12_zero_eq
#print axioms PyEcc.Tie.FqpOpt.init_ints_eq
#print axioms PyEcc.Tie.FqpOpt.add_eq
#print axioms PyEcc.Tie.FqpOpt.sub_eq
#print axioms PyEcc.Tie.FqpOpt.neg_eq
#print axioms PyEcc.Tie.FqpOpt.mul_int_eq
#print axioms PyEcc.Tie.FqpOpt.div_int_eq
#print axioms PyEcc.Tie.FqpOpt.truediv_int_eq
#print axioms PyEcc.Tie.FqpOpt.eq_eq
#print axioms PyEcc.Tie.FqpOpt.ne_eq
#print axioms PyEcc.Tie.FqpOpt.mod_int_int_eq
#print axioms PyEcc.Tie.FqpOpt.mod_int_fq_eq
#print axioms PyEcc.Tie.FqpOpt.sgn0_eq
#print axioms PyEcc.Tie.FqpOpt.FQ2_sgn0_eq
#print axioms PyEcc.Tie.FqpOpt.FQ2_sgn0_err
#print axioms PyEcc.Tie.FqpOpt.init_one
#print axioms PyEcc.Tie.FqpOpt.init_zero
#print axioms PyEcc.Tie.FqpOpt.FQ2_one_eq
#print axioms PyEcc.Tie.FqpOpt.FQ2_zero_eq
#print axioms PyEcc.Tie.FqpOpt.FQ12_one_eq
#print axioms PyEcc.Tie.FqpOpt.FQ12_zero_eq
#print axioms PyEcc.Tie.AllRed.updAt
#print axioms PyEcc.Tie.AllRed.dropLast
#print axioms PyEcc.Tie.AllRed.map_id
#print axioms PyEcc.Tie.allRed_convLoop
#print axioms PyEcc.Tie.allRed_refReduce
#print axioms PyEcc.Tie.sqmulLoop_eq
#print axioms PyEcc.Tie.sqmulLoop_pow
#print axioms PyEcc.Tie.MulRef.mul_loop_eq
#print axioms PyEcc.Tie.MulRef.mul_fqp_eq
#print axioms PyEcc.Tie.MulRef.wf_mul
#print axioms PyEcc.Tie.MulRef.pow_loop0_eq
#print axioms PyEcc.Tie.MulRef.pow_eq
#print axioms PyEcc.Tie.MulRef.rmul_int_eq
#print axioms PyEcc.Tie.MulRef.rmul_fqp_eq
#print axioms PyEcc.Tie.MulOpt.mul_fqp_eq
#print axioms PyEcc.Tie.MulOpt.pow_loop0_eq
#print axioms PyEcc.Tie.MulOpt.pow_eq
#print axioms PyEcc.Tie.MulOpt.rmul_int_eq
#print axioms PyEcc.Tie.MulOpt.rmul_fqp_eq
#print axioms PyEcc.Tie.updAt_set
#print axioms PyEcc.Tie.updAt_set_add
#print axioms PyEcc.Tie.updAt_set_sub
#print axioms PyEcc.Tie.degLoop_eq
#print axioms PyEcc.Tie.deg_loop0_eq
#print axioms PyEcc.Tie.deg_eq
#print axioms PyEcc.Tie.PolyOpt.optimized_poly_rounded_div_eq
#print axioms PyEcc.Tie.PolyOpt.inv_loop_eq
#print axioms PyEcc.Tie.PolyOpt.inv_eq
#print axioms PyEcc.Tie.PolyOpt.div_fqp_eq
#print axioms PyEcc.Tie.PolyOpt.truediv_fqp_eq
#print axioms PyEcc.Tie.InvRef.cong_val
#print axioms PyEcc.Tie.InvRef.length_vals
#print axioms PyEcc.Tie.InvRef.getI_vals
#print axioms PyEcc.Tie.InvRef.congL_vals
#print axioms PyEcc.Tie.InvRef.length_updN
#print axioms PyEcc.Tie.InvRef.getN_updN
#print axioms PyEcc.Tie.InvRef.vals_updN
#print axioms PyEcc.Tie.InvRef.CongL.upd
#print axioms PyEcc.Tie.InvRef.eq_zero_iff
#print axioms PyEcc.Tie.InvRef.deg_dyn_loop0_eq
#print axioms PyEcc.Tie.InvRef.deg_dyn_eq
#print axioms PyEcc.Tie.InvRef.foldlM_bind_ok_rel
#print axioms PyEcc.Tie.InvRef.truediv_fq
#print axioms PyEcc.Tie.InvRef.cong_sub_int
#print axioms PyEcc.Tie.InvRef.poly_rounded_div_eq
#print axioms PyEcc.Tie.InvRef.poly_rounded_div_float
#print axioms PyEcc.Tie.InvRef.low_lead_fq
#print axioms PyEcc.Tie.InvRef.upd_exact
#print axioms PyEcc.Tie.InvRef.isFq_sub
#print axioms PyEcc.Tie.InvRef.pass_rel
#print axioms PyEcc.Tie.InvRef.double_loop
#print axioms PyEcc.Tie.InvRef.inv_loop0_succ
#print axioms PyEcc.Tie.InvRef.inv_loop0_stop
#print axioms PyEcc.Tie.InvRef.AllFq.lowShape
#print axioms PyEcc.Tie.InvRef.inv_loop_eq
#print axioms PyEcc.Tie.InvRef.vals_map_fq
#print axioms PyEcc.Tie.InvRef.vals_map_int
#print axioms PyEcc.Tie.InvRef.vals_append
#print axioms PyEcc.Tie.InvRef.isFq_getN_map_fq
#print axioms PyEcc.Tie.InvRef.lowShape_init
#print axioms PyEcc.Tie.InvRef.toInt_eq_val
#print axioms PyEcc.Tie.InvRef.wf_inv
#print axioms PyEcc.Tie.InvRef.inv_eq
#print axioms PyEcc.Tie.InvRef.inv_no_float
#print axioms PyEcc.Tie.InvRef.inv_of_init_ints
#print axioms PyEcc.Tie.InvRef.inv_of_init_fqs
#print axioms PyEcc.Tie.InvRef.div_fqp_eq
#print axioms PyEcc.Tie.InvRef.truediv_fqp_eq
