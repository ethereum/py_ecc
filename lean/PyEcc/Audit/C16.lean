-- GENERATED by tools/harness/check.py: axiom audit for property C16
import PyEcc.Props.C16
import PyEcc.Props.C16_Gen
import PyEcc.Props.TieHash
import PyEcc.Props.TieBls
#print axioms PyEcc.C16.hmac_eq_spec
#print axioms PyEcc.C16.hkdfExtract_eq_spec
#print axioms PyEcc.C16.hmac_empty_key
#print axioms PyEcc.C16.hkdfExtract_empty_salt
#print axioms PyEcc.C16.hkdfExpand_eq_spec
#print axioms PyEcc.C16.hkdfExpand_eq
#print axioms PyEcc.C16.hkdfExpand_error_iff
#print axioms PyEcc.C16.hkdfExpand_length
#print axioms PyEcc.C16.keygen_L
#print axioms PyEcc.C16.spec_keyGen_some_iff
#print axioms PyEcc.C16.spec_keyGen_none_iff
#print axioms PyEcc.C16.keyGenLoop_eq_spec
#print axioms PyEcc.C16.keyGen_eq_spec
#print axioms PyEcc.C16.keyGenLoop_sound
#print axioms PyEcc.C16.keyGen_sound
#print axioms PyEcc.C16.toyHash_WF
#print axioms PyEcc.C16.keyGenLoop_complete
#print axioms PyEcc.C16.keyGen_complete
#print axioms PyEcc.C16.keyGen_range
#print axioms PyEcc.C16.Gen.hkdf_extract_eq_spec
#print axioms PyEcc.C16.Gen.hkdf_extract_empty_salt
#print axioms PyEcc.C16.Gen.hkdf_expand_eq_spec
#print axioms PyEcc.C16.Gen.hkdf_expand_eq
#print axioms PyEcc.C16.Gen.hkdf_expand_error_iff
#print axioms PyEcc.C16.Gen.hkdf_expand_length
#print axioms PyEcc.C16.Gen.keygen_L
#print axioms PyEcc.C16.Gen.KeyGen_eq_spec
#print axioms PyEcc.C16.Gen.KeyGen_sound
#print axioms PyEcc.C16.Gen.KeyGen_complete
#print axioms PyEcc.C16.Gen.KeyGen_range
#print axioms PyEcc.C16.Gen.KeyGen_fuel_irrelevant
#print axioms PyEcc.Tie.foldl_append_of_step
#print axioms PyEcc.Tie.foldl_append_singleton
#print axioms PyEcc.Tie.foldlM_ok
#print axioms PyEcc.Tie.foldlM_append_of_step
#print axioms PyEcc.Tie.mapM_of_step
#print axioms PyEcc.Tie.foldlM_range'_sim
#print axioms PyEcc.Tie.foldlM_range'_sim0
#print axioms PyEcc.Tie.throw_bind_eq
#print axioms PyEcc.Tie.hkdf_extract_eq
#print axioms PyEcc.Tie.i2osp_eq
#print axioms PyEcc.Tie.os2ip_eq
#print axioms PyEcc.Tie.sha256_eq
#print axioms PyEcc.Tie.xor_eq
#print axioms PyEcc.Tie.hkdf_expand_eq
#print axioms PyEcc.Tie.expand_message_xmd_eq
#print axioms PyEcc.Tie.hash_to_field_L
#print axioms PyEcc.Tie.slice_len
#print axioms PyEcc.Tie.range_two
#print axioms PyEcc.Tie.hash_to_field_FQ_eq
#print axioms PyEcc.Tie.ofInts_pair_reduced
#print axioms PyEcc.Tie.ofInts_pair_reduced'
#print axioms PyEcc.Tie.hash_to_field_FQ2_eq
#print axioms PyEcc.Tie.Bls.DST_eq
#print axioms PyEcc.Tie.Bls.POP_TAG_eq
#print axioms PyEcc.Tie.Bls.is_valid_privkey_eq
#print axioms PyEcc.Tie.Bls.is_valid_privkey_isSome
#print axioms PyEcc.Tie.Bls.is_valid_pubkey_base_eq
#print axioms PyEcc.Tie.Bls.is_valid_message_eq
#print axioms PyEcc.Tie.Bls.is_valid_signature_eq
#print axioms PyEcc.Tie.Bls.SkToPk_eq
#print axioms PyEcc.Tie.Bls.decompressG1_error
#print axioms PyEcc.Tie.Bls.KeyValidate_eq
#print axioms PyEcc.Tie.Bls.is_valid_pubkey_pop_eq
#print axioms PyEcc.Tie.Bls.is_valid_pubkey_eq
#print axioms PyEcc.Tie.Bls.CoreSign_eq
#print axioms PyEcc.Tie.Bls.Sign_eq
#print axioms PyEcc.Tie.Bls.PopProve_eq
#print axioms PyEcc.Tie.Bls.caught3_eq
#print axioms PyEcc.Tie.Bls.CoreVerify_try_eq
#print axioms PyEcc.Tie.Bls.CoreVerify_eq
#print axioms PyEcc.Tie.Bls.Verify_eq
#print axioms PyEcc.Tie.Bls.PopVerify_eq
