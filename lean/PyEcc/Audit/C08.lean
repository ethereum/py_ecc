-- GENERATED by tools/harness/check.py: axiom audit for property C08
import PyEcc.Props.C08
import PyEcc.Props.C08_Fq12
import PyEcc.Props.C08_Fqp
import PyEcc.Props.C08_FqpInv
import PyEcc.Props.C08_Gen
import PyEcc.Props.TieFieldsFq
import PyEcc.Props.TieFieldsFqp
import PyEcc.Props.TieFieldsMul
import PyEcc.Props.TieFieldsPoly
import PyEcc.Props.TieFieldsInv
#print axioms PyEcc.C08.fq_ringEquiv_zmod
#print axioms PyEcc.C08.fq_div_inv_zmod
#print axioms PyEcc.C08.primeFieldInv_correct
#print axioms PyEcc.C08.add_assoc
#print axioms PyEcc.C08.add_comm
#print axioms PyEcc.C08.mul_assoc
#print axioms PyEcc.C08.mul_comm
#print axioms PyEcc.C08.left_distrib
#print axioms PyEcc.C08.right_distrib
#print axioms PyEcc.C08.zero_add
#print axioms PyEcc.C08.add_zero
#print axioms PyEcc.C08.one_mul
#print axioms PyEcc.C08.mul_one
#print axioms PyEcc.C08.zero_mul
#print axioms PyEcc.C08.neg_add_cancel
#print axioms PyEcc.C08.sub_eq_add_neg
#print axioms PyEcc.C08.sub_self
#print axioms PyEcc.C08.notation_is_model
#print axioms PyEcc.C08.pow_zero
#print axioms PyEcc.C08.pow_succ
#print axioms PyEcc.C08.pow_eq_prod
#print axioms PyEcc.C08.pow_add
#print axioms PyEcc.C08.pow_mul
#print axioms PyEcc.C08.ofInt_eq_iff
#print axioms PyEcc.C08.ofInt_n
#print axioms PyEcc.C08.ofInt_self_n
#print axioms PyEcc.C08.addInt_eq
#print axioms PyEcc.C08.mulInt_eq
#print axioms PyEcc.C08.subInt_eq
#print axioms PyEcc.C08.rsubInt_eq
#print axioms PyEcc.C08.addInt_congr
#print axioms PyEcc.C08.mulInt_congr
#print axioms PyEcc.C08.canonical
#print axioms PyEcc.C08.eq_iff_n
#print axioms PyEcc.C08.toZMod_eq_iff
#print axioms PyEcc.C08.eqInt_iff
#print axioms PyEcc.C08.eqInt_false_of_not_canonical
#print axioms PyEcc.C08.eqInt_ofInt_iff
#print axioms PyEcc.C08.mul_inv_cancel
#print axioms PyEcc.C08.inv_zero
#print axioms PyEcc.C08.div_eq_mul_inv
#print axioms PyEcc.C08.div_mul_cancel
#print axioms PyEcc.C08.div_zero
#print axioms PyEcc.C08.div_self
#print axioms PyEcc.C08.mul_eq_zero
#print axioms PyEcc.C08.divInt_eq
#print axioms PyEcc.C08.rdivInt_eq
#print axioms PyEcc.C08.pow_card_sub_one
#print axioms PyEcc.C08F12.irreducible_bls12
#print axioms PyEcc.C08F12.irreducible_bn12
#print axioms PyEcc.C08F12.bls_fq12_mul_inv_cancel
#print axioms PyEcc.C08F12.bn_fq12_mul_inv_cancel
#print axioms PyEcc.C08F12.bls_fq12_div_mul_cancel
#print axioms PyEcc.C08F12.bn_fq12_div_mul_cancel
#print axioms PyEcc.C08F12.bls_fq12_inv_div_spec
#print axioms PyEcc.C08F12.bn_fq12_inv_div_spec
#print axioms PyEcc.C08F12.bls_fq12_inv_opt_eq_ref
#print axioms PyEcc.C08F12.bn_fq12_inv_opt_eq_ref
#print axioms PyEcc.C08P.refines_quotient
#print axioms PyEcc.C08P.results_canonical
#print axioms PyEcc.C08P.eq_iff_toQ_eq
#print axioms PyEcc.C08P.beq_iff
#print axioms PyEcc.C08P.add_assoc
#print axioms PyEcc.C08P.add_comm
#print axioms PyEcc.C08P.add_zero
#print axioms PyEcc.C08P.zero_add
#print axioms PyEcc.C08P.add_neg_cancel
#print axioms PyEcc.C08P.sub_eq_add_neg
#print axioms PyEcc.C08P.mul_assoc
#print axioms PyEcc.C08P.mul_comm
#print axioms PyEcc.C08P.mul_one
#print axioms PyEcc.C08P.one_mul
#print axioms PyEcc.C08P.mul_zero
#print axioms PyEcc.C08P.left_distrib
#print axioms PyEcc.C08P.right_distrib
#print axioms PyEcc.C08P.pow_zero
#print axioms PyEcc.C08P.pow_succ
#print axioms PyEcc.C08P.pow_add
#print axioms PyEcc.C08P.mulInt_eq_mul_ofIntScalar
#print axioms PyEcc.C08P.mulInt_mod
#print axioms PyEcc.C08P.ofIntScalar_mod
#print axioms PyEcc.C08P.divInt_eq_mulInt
#print axioms PyEcc.C08P.toQ_ne_zero
#print axioms PyEcc.C08P.inv_refines
#print axioms PyEcc.C08P.mul_inv_cancel
#print axioms PyEcc.C08P.inv_zero
#print axioms PyEcc.C08P.div_mul_cancel
#print axioms PyEcc.C08P.inv_div_spec
#print axioms PyEcc.C08P.fq2_mul_inv_cancel
#print axioms PyEcc.C08P.bls_fq2_mul_inv_cancel
#print axioms PyEcc.C08P.bn_fq2_mul_inv_cancel
#print axioms PyEcc.C08.Gen.Red.lift
#print axioms PyEcc.C08.Gen.red_n
#print axioms PyEcc.C08.Gen.cn
#print axioms PyEcc.C08.Gen.red_of_eq
#print axioms PyEcc.C08.Gen.n_inj
#print axioms PyEcc.C08.Gen.prime_field_inv_correct
#print axioms PyEcc.C08.Gen.prime_field_inv_mul
#print axioms PyEcc.C08.Gen.FqRef.results_reduced
#print axioms PyEcc.C08.Gen.FqRef.init_int_red
#print axioms PyEcc.C08.Gen.FqRef.refines_zmod
#print axioms PyEcc.C08.Gen.FqRef.add_assoc
#print axioms PyEcc.C08.Gen.FqRef.add_comm
#print axioms PyEcc.C08.Gen.FqRef.mul_assoc
#print axioms PyEcc.C08.Gen.FqRef.mul_comm
#print axioms PyEcc.C08.Gen.FqRef.distrib
#print axioms PyEcc.C08.Gen.FqRef.neutral
#print axioms PyEcc.C08.Gen.FqRef.neg_sub
#print axioms PyEcc.C08.Gen.FqRef.pow_laws
#print axioms PyEcc.C08.Gen.FqRef.int_operands
#print axioms PyEcc.C08.Gen.FqRef.eq_iff
#print axioms PyEcc.C08.Gen.FqRef.div_laws
#print axioms PyEcc.C08.Gen.FqRef.div_int_operands
#print axioms PyEcc.C08.Gen.FqRef.div_refines_zmod
#print axioms PyEcc.C08.Gen.FqRef.pow_card_sub_one
#print axioms PyEcc.C08.Gen.FqOpt.results_reduced
#print axioms PyEcc.C08.Gen.FqOpt.init_int_red
#print axioms PyEcc.C08.Gen.FqOpt.refines_zmod
#print axioms PyEcc.C08.Gen.FqOpt.add_assoc
#print axioms PyEcc.C08.Gen.FqOpt.add_comm
#print axioms PyEcc.C08.Gen.FqOpt.mul_assoc
#print axioms PyEcc.C08.Gen.FqOpt.mul_comm
#print axioms PyEcc.C08.Gen.FqOpt.distrib
#print axioms PyEcc.C08.Gen.FqOpt.neutral
#print axioms PyEcc.C08.Gen.FqOpt.neg_sub
#print axioms PyEcc.C08.Gen.FqOpt.pow_laws
#print axioms PyEcc.C08.Gen.FqOpt.int_operands
#print axioms PyEcc.C08.Gen.FqOpt.eq_iff
#print axioms PyEcc.C08.Gen.FqOpt.div_laws
#print axioms PyEcc.C08.Gen.FqOpt.div_int_operands
#print axioms PyEcc.C08.Gen.FqOpt.div_refines_zmod
#print axioms PyEcc.C08.Gen.FqOpt.pow_card_sub_one
#print axioms PyEcc.C08.Gen.zero_coeffs
#print axioms PyEcc.C08.Gen.of_ok
#print axioms PyEcc.C08.Gen.wfa
#print axioms PyEcc.C08.Gen.wfm
#print axioms PyEcc.C08.Gen.wfn
#print axioms PyEcc.C08.Gen.wfp
#print axioms PyEcc.C08.Gen.wf0
#print axioms PyEcc.C08.Gen.wf1
#print axioms PyEcc.C08.Gen.FqpRef.IsCanon.isObj
#print axioms PyEcc.C08.Gen.FqpRef.IsObj.lift
#print axioms PyEcc.C08.Gen.FqpRef.IsCanon.lift
#print axioms PyEcc.C08.Gen.FqpRef.isObj_obj
#print axioms PyEcc.C08.Gen.FqpRef.isCanon_obj
#print axioms PyEcc.C08.Gen.FqpRef.obj_inj
#print axioms PyEcc.C08.Gen.FqpRef.t_add
#print axioms PyEcc.C08.Gen.FqpRef.t_sub
#print axioms PyEcc.C08.Gen.FqpRef.t_neg
#print axioms PyEcc.C08.Gen.FqpRef.t_mul
#print axioms PyEcc.C08.Gen.FqpRef.t_mulInt
#print axioms PyEcc.C08.Gen.FqpRef.t_divInt
#print axioms PyEcc.C08.Gen.FqpRef.t_pow
#print axioms PyEcc.C08.Gen.FqpRef.t_init
#print axioms PyEcc.C08.Gen.FqpRef.t_eq
#print axioms PyEcc.C08.Gen.FqpRef.zero_one_calls
#print axioms PyEcc.C08.Gen.FqpRef.zeroCall_eq
#print axioms PyEcc.C08.Gen.FqpRef.oneCall_eq
#print axioms PyEcc.C08.Gen.FqpRef.init_ints_canon
#print axioms PyEcc.C08.Gen.FqpRef.results_canonical
#print axioms PyEcc.C08.Gen.FqpRef.refines_quotient
#print axioms PyEcc.C08.Gen.FqpRef.eq_iff
#print axioms PyEcc.C08.Gen.FqpRef.add_assoc_comm
#print axioms PyEcc.C08.Gen.FqpRef.mul_assoc_comm
#print axioms PyEcc.C08.Gen.FqpRef.distrib
#print axioms PyEcc.C08.Gen.FqpRef.neutral_neg
#print axioms PyEcc.C08.Gen.FqpRef.pow_laws
#print axioms PyEcc.C08.Gen.FqpRef.int_operands
#print axioms PyEcc.C08.Gen.FqpOpt.IsCanon.isObj
#print axioms PyEcc.C08.Gen.FqpOpt.IsObj.lift
#print axioms PyEcc.C08.Gen.FqpOpt.IsCanon.lift
#print axioms PyEcc.C08.Gen.FqpOpt.isObj_obj
#print axioms PyEcc.C08.Gen.FqpOpt.isCanon_obj
#print axioms PyEcc.C08.Gen.FqpOpt.obj_inj
#print axioms PyEcc.C08.Gen.FqpOpt.t_add
#print axioms PyEcc.C08.Gen.FqpOpt.t_sub
#print axioms PyEcc.C08.Gen.FqpOpt.t_neg
#print axioms PyEcc.C08.Gen.FqpOpt.t_mul
#print axioms PyEcc.C08.Gen.FqpOpt.t_mulInt
#print axioms PyEcc.C08.Gen.FqpOpt.t_divInt
#print axioms PyEcc.C08.Gen.FqpOpt.t_pow
#print axioms PyEcc.C08.Gen.FqpOpt.t_init
#print axioms PyEcc.C08.Gen.FqpOpt.t_eq
#print axioms PyEcc.C08.Gen.FqpOpt.t_inv
#print axioms PyEcc.C08.Gen.FqpOpt.t_div
#print axioms PyEcc.C08.Gen.FqpOpt.zero_one_calls
#print axioms PyEcc.C08.Gen.FqpOpt.zeroCall_eq
#print axioms PyEcc.C08.Gen.FqpOpt.oneCall_eq
#print axioms PyEcc.C08.Gen.FqpOpt.init_ints_canon
#print axioms PyEcc.C08.Gen.FqpOpt.results_canonical
#print axioms PyEcc.C08.Gen.FqpOpt.refines_quotient
#print axioms PyEcc.C08.Gen.FqpOpt.eq_iff
#print axioms PyEcc.C08.Gen.FqpOpt.add_assoc_comm
#print axioms PyEcc.C08.Gen.FqpOpt.mul_assoc_comm
#print axioms PyEcc.C08.Gen.FqpOpt.distrib
#print axioms PyEcc.C08.Gen.FqpOpt.neutral_neg
#print axioms PyEcc.C08.Gen.FqpOpt.pow_laws
#print axioms PyEcc.C08.Gen.FqpOpt.int_operands
#print axioms PyEcc.C08.Gen.FqpOpt.ne_zero_of_coeffs
#print axioms PyEcc.C08.Gen.FqpOpt.inv_laws
#print axioms PyEcc.C08.Gen.FqpOpt.div_laws
#print axioms PyEcc.C08.Gen.FqpOpt.inv_zero
#print axioms PyEcc.C08.Gen.FqpOpt.inv_div_refine
#print axioms PyEcc.C08.Gen.FqpOpt.fq2_inv_laws
#print axioms PyEcc.C08.Gen.FqpOpt.bls_fq12_inv_laws
#print axioms PyEcc.C08.Gen.FqpOpt.bn_fq12_inv_laws
#print axioms PyEcc.Tie.prime_field_inv_loop_fst
#print axioms PyEcc.Tie.prime_field_inv_eq
#print axioms PyEcc.Tie.int_odd_iff
#print axioms PyEcc.Tie.Fq.ofInt_n
#print axioms PyEcc.Tie.Fq.one_n
#print axioms PyEcc.Tie.Fq.zero_n
#print axioms PyEcc.Tie.FqRef.init_int_eq
#print axioms PyEcc.Tie.FqRef.init_fq_eq
#print axioms PyEcc.Tie.FqRef.add_fq_eq
#print axioms PyEcc.Tie.FqRef.add_int_eq
#print axioms PyEcc.Tie.FqRef.mul_fq_eq
#print axioms PyEcc.Tie.FqRef.mul_int_eq
#print axioms PyEcc.Tie.FqRef.sub_fq_eq
#print axioms PyEcc.Tie.FqRef.sub_int_eq
#print axioms PyEcc.Tie.FqRef.rsub_fq_eq
#print axioms PyEcc.Tie.FqRef.rsub_int_eq
#print axioms PyEcc.Tie.FqRef.div_fq_eq
#print axioms PyEcc.Tie.FqRef.div_int_eq
#print axioms PyEcc.Tie.FqRef.rdiv_fq_eq
#print axioms PyEcc.Tie.FqRef.rdiv_int_eq
#print axioms PyEcc.Tie.FqRef.truediv_fq_eq
#print axioms PyEcc.Tie.FqRef.truediv_int_eq
#print axioms PyEcc.Tie.FqRef.rtruediv_fq_eq
#print axioms PyEcc.Tie.FqRef.rtruediv_int_eq
#print axioms PyEcc.Tie.FqRef.rmul_fq_eq
#print axioms PyEcc.Tie.FqRef.rmul_int_eq
#print axioms PyEcc.Tie.FqRef.radd_fq_eq
#print axioms PyEcc.Tie.FqRef.radd_int_eq
#print axioms PyEcc.Tie.FqRef.pow_loop_fst
#print axioms PyEcc.Tie.FqRef.pow_eq
#print axioms PyEcc.Tie.FqRef.eq_fq_eq
#print axioms PyEcc.Tie.FqRef.eq_int_eq
#print axioms PyEcc.Tie.FqRef.ne_fq_eq
#print axioms PyEcc.Tie.FqRef.ne_int_eq
#print axioms PyEcc.Tie.FqRef.neg_eq
#print axioms PyEcc.Tie.FqRef.int_eq
#print axioms PyEcc.Tie.FqRef.lt_fq_eq
#print axioms PyEcc.Tie.FqRef.lt_int_eq
#print axioms PyEcc.Tie.FqRef.one_eq
#print axioms PyEcc.Tie.FqRef.zero_eq
#print axioms PyEcc.Tie.FqOpt.pow_eq_ref
#print axioms PyEcc.Tie.FqOpt.init_int_eq
#print axioms PyEcc.Tie.FqOpt.init_fq_eq
#print axioms PyEcc.Tie.FqOpt.add_fq_eq
#print axioms PyEcc.Tie.FqOpt.add_int_eq
#print axioms PyEcc.Tie.FqOpt.mul_fq_eq
#print axioms PyEcc.Tie.FqOpt.mul_int_eq
#print axioms PyEcc.Tie.FqOpt.sub_fq_eq
#print axioms PyEcc.Tie.FqOpt.sub_int_eq
#print axioms PyEcc.Tie.FqOpt.rsub_fq_eq
#print axioms PyEcc.Tie.FqOpt.rsub_int_eq
#print axioms PyEcc.Tie.FqOpt.div_fq_eq
#print axioms PyEcc.Tie.FqOpt.div_int_eq
#print axioms PyEcc.Tie.FqOpt.rdiv_fq_eq
#print axioms PyEcc.Tie.FqOpt.rdiv_int_eq
#print axioms PyEcc.Tie.FqOpt.truediv_fq_eq
#print axioms PyEcc.Tie.FqOpt.truediv_int_eq
#print axioms PyEcc.Tie.FqOpt.rtruediv_fq_eq
#print axioms PyEcc.Tie.FqOpt.rtruediv_int_eq
#print axioms PyEcc.Tie.FqOpt.rmul_fq_eq
#print axioms PyEcc.Tie.FqOpt.rmul_int_eq
#print axioms PyEcc.Tie.FqOpt.radd_fq_eq
#print axioms PyEcc.Tie.FqOpt.radd_int_eq
#print axioms PyEcc.Tie.FqOpt.pow_eq
#print axioms PyEcc.Tie.FqOpt.eq_fq_eq
#print axioms PyEcc.Tie.FqOpt.eq_int_eq
#print axioms PyEcc.Tie.FqOpt.ne_fq_eq
#print axioms PyEcc.Tie.FqOpt.ne_int_eq
#print axioms PyEcc.Tie.FqOpt.neg_eq
#print axioms PyEcc.Tie.FqOpt.int_eq
#print axioms PyEcc.Tie.FqOpt.lt_fq_eq
#print axioms PyEcc.Tie.FqOpt.lt_int_eq
#print axioms PyEcc.Tie.FqOpt.one_eq
#print axioms PyEcc.Tie.FqOpt.zero_eq
#print axioms PyEcc.Tie.FqOpt.sgn0_eq
#print axioms PyEcc.Tie.fields_foldl_rel
#print axioms PyEcc.Tie.fields_foldl_inv
#print axioms PyEcc.Tie.any_ne_eq_all
#print axioms PyEcc.Tie.length_scalar
#print axioms PyEcc.Tie.FqpRef.init_ints_eq
#print axioms PyEcc.Tie.FqpRef.init_fqs_eq
#print axioms PyEcc.Tie.FqpRef.add_eq
#print axioms PyEcc.Tie.FqpRef.sub_eq
#print axioms PyEcc.Tie.FqpRef.neg_eq
#print axioms PyEcc.Tie.FqpRef.mul_int_eq
#print axioms PyEcc.Tie.FqpRef.div_int_eq
#print axioms PyEcc.Tie.FqpRef.truediv_int_eq
#print axioms PyEcc.Tie.FqpRef.eq_eq
#print axioms PyEcc.Tie.FqpRef.ne_eq
#print axioms PyEcc.Tie.FqpRef.init_one
#print axioms PyEcc.Tie.FqpRef.init_zero
#print axioms PyEcc.Tie.FqpRef.FQ2_one_eq
#print axioms PyEcc.Tie.FqpRef.FQ2_zero_eq
#print axioms PyEcc.Tie.FqpRef.FQ12_one_eq
#print axioms PyEcc.Tie.FqpRef.FQ12_zero_eq
#print axioms PyEcc.Tie.FqpOpt.init_ints_eq
#print axioms PyEcc.Tie.FqpOpt.add_eq
#print axioms PyEcc.Tie.FqpOpt.sub_eq
#print axioms PyEcc.Tie.FqpOpt.neg_eq
#print axioms PyEcc.Tie.FqpOpt.mul_int_eq
#print axioms PyEcc.Tie.FqpOpt.div_int_eq
#print axioms PyEcc.Tie.FqpOpt.truediv_int_eq
#print axioms PyEcc.Tie.FqpOpt.eq_eq
#print axioms PyEcc.Tie.FqpOpt.ne_eq
#print axioms PyEcc.Tie.FqpOpt.mod_int_int_eq
#print axioms PyEcc.Tie.FqpOpt.mod_int_fq_eq
#print axioms PyEcc.Tie.FqpOpt.sgn0_eq
#print axioms PyEcc.Tie.FqpOpt.FQ2_sgn0_eq
#print axioms PyEcc.Tie.FqpOpt.FQ2_sgn0_err
#print axioms PyEcc.Tie.FqpOpt.init_one
#print axioms PyEcc.Tie.FqpOpt.init_zero
#print axioms PyEcc.Tie.FqpOpt.FQ2_one_eq
#print axioms PyEcc.Tie.FqpOpt.FQ2_zero_eq
#print axioms PyEcc.Tie.FqpOpt.FQ12_one_eq
#print axioms PyEcc.Tie.FqpOpt.FQ12_zero_eq
#print axioms PyEcc.Tie.AllRed.updAt
#print axioms PyEcc.Tie.AllRed.dropLast
#print axioms PyEcc.Tie.AllRed.map_id
#print axioms PyEcc.Tie.allRed_convLoop
#print axioms PyEcc.Tie.allRed_refReduce
#print axioms PyEcc.Tie.sqmulLoop_eq
#print axioms PyEcc.Tie.sqmulLoop_pow
#print axioms PyEcc.Tie.MulRef.mul_loop_eq
#print axioms PyEcc.Tie.MulRef.mul_fqp_eq
#print axioms PyEcc.Tie.MulRef.wf_mul
#print axioms PyEcc.Tie.MulRef.pow_loop0_eq
#print axioms PyEcc.Tie.MulRef.pow_eq
#print axioms PyEcc.Tie.MulRef.rmul_int_eq
#print axioms PyEcc.Tie.MulRef.rmul_fqp_eq
#print axioms PyEcc.Tie.MulOpt.mul_fqp_eq
#print axioms PyEcc.Tie.MulOpt.pow_loop0_eq
#print axioms PyEcc.Tie.MulOpt.pow_eq
#print axioms PyEcc.Tie.MulOpt.rmul_int_eq
#print axioms PyEcc.Tie.MulOpt.rmul_fqp_eq
#print axioms PyEcc.Tie.updAt_set
#print axioms PyEcc.Tie.updAt_set_add
#print axioms PyEcc.Tie.updAt_set_sub
#print axioms PyEcc.Tie.degLoop_eq
#print axioms PyEcc.Tie.deg_loop0_eq
#print axioms PyEcc.Tie.deg_eq
#print axioms PyEcc.Tie.PolyOpt.optimized_poly_rounded_div_eq
#print axioms PyEcc.Tie.PolyOpt.inv_loop_eq
#print axioms PyEcc.Tie.PolyOpt.inv_eq
#print axioms PyEcc.Tie.PolyOpt.div_fqp_eq
#print axioms PyEcc.Tie.PolyOpt.truediv_fqp_eq
#print axioms PyEcc.Tie.InvRef.cong_val
#print axioms PyEcc.Tie.InvRef.length_vals
#print axioms PyEcc.Tie.InvRef.getI_vals
#print axioms PyEcc.Tie.InvRef.congL_vals
#print axioms PyEcc.Tie.InvRef.length_updN
#print axioms PyEcc.Tie.InvRef.getN_updN
#print axioms PyEcc.Tie.InvRef.vals_updN
#print axioms PyEcc.Tie.InvRef.CongL.upd
#print axioms PyEcc.Tie.InvRef.eq_zero_iff
#print axioms PyEcc.Tie.InvRef.deg_dyn_loop0_eq
#print axioms PyEcc.Tie.InvRef.deg_dyn_eq
#print axioms PyEcc.Tie.InvRef.foldlM_bind_ok_rel
#print axioms PyEcc.Tie.InvRef.truediv_fq
#print axioms PyEcc.Tie.InvRef.cong_sub_int
#print axioms PyEcc.Tie.InvRef.poly_rounded_div_eq
#print axioms PyEcc.Tie.InvRef.poly_rounded_div_float
#print axioms PyEcc.Tie.InvRef.low_lead_fq
#print axioms PyEcc.Tie.InvRef.upd_exact
#print axioms PyEcc.Tie.InvRef.isFq_sub
#print axioms PyEcc.Tie.InvRef.pass_rel
#print axioms PyEcc.Tie.InvRef.double_loop
#print axioms PyEcc.Tie.InvRef.inv_loop0_succ
#print axioms PyEcc.Tie.InvRef.inv_loop0_stop
#print axioms PyEcc.Tie.InvRef.AllFq.lowShape
#print axioms PyEcc.Tie.InvRef.inv_loop_eq
#print axioms PyEcc.Tie.InvRef.vals_map_fq
#print axioms PyEcc.Tie.InvRef.vals_map_int
#print axioms PyEcc.Tie.InvRef.vals_append
#print axioms PyEcc.Tie.InvRef.isFq_getN_map_fq
#print axioms PyEcc.Tie.InvRef.lowShape_init
#print axioms PyEcc.Tie.InvRef.toInt_eq_val
#print axioms PyEcc.Tie.InvRef.wf_inv
#print axioms PyEcc.Tie.InvRef.inv_eq
#print axioms PyEcc.Tie.InvRef.inv_no_float
#print axioms PyEcc.Tie.InvRef.inv_of_init_ints
#print axioms PyEcc.Tie.InvRef.inv_of_init_fqs
#print axioms PyEcc.Tie.InvRef.div_fqp_eq
#print axioms PyEcc.Tie.InvRef.truediv_fqp_eq
