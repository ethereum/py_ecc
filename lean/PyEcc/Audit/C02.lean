-- GENERATED by tools/harness/check.py: axiom audit for property C02
import PyEcc.Props.C02_Gen
import PyEcc.Props.C02_Proto
import PyEcc.Props.C01_ProtoHB2
import PyEcc.Props.C01_ProtoND
import PyEcc.Props.C01_ProtoModel
import PyEcc.Props.TieBls
import PyEcc.Props.TieCodec
#print axioms PyEcc.C02.Gen.verify_iff
#print axioms PyEcc.C02.Gen.popVerify_iff
#print axioms PyEcc.C02.Gen.verify_rejects_ne
#print axioms PyEcc.C02.Gen.popVerify_rejects_ne
#print axioms PyEcc.C02.Gen.verify_rejects_neg
#print axioms PyEcc.C02.Gen.verify_rejects_double
#print axioms PyEcc.C02.Gen.verify_rejects_add
#print axioms PyEcc.C02.Gen.verify_identity_iff
#print axioms PyEcc.C02.Gen.verify_other_key_iff
#print axioms PyEcc.C02.Gen.verify_cross_iff
#print axioms PyEcc.C02.Gen.verify_other_msg_iff
#print axioms PyEcc.C02.Gen.verify_rejects_other_msg
#print axioms PyEcc.C02.Gen.popVerify_of_sig_iff
#print axioms PyEcc.C02.Gen.verify_of_proof_iff
#print axioms PyEcc.C02.verify_iff
#print axioms PyEcc.C02.popVerify_iff
#print axioms PyEcc.C02.false_of_not_true
#print axioms PyEcc.C02.verify_rejects_ne
#print axioms PyEcc.C02.popVerify_rejects_ne
#print axioms PyEcc.C02.verify_rejects_neg
#print axioms PyEcc.C02.verify_rejects_double
#print axioms PyEcc.C02.verify_rejects_add
#print axioms PyEcc.C02.verify_identity_iff
#print axioms PyEcc.C02.verify_other_key_iff
#print axioms PyEcc.C02.verify_cross_iff
#print axioms PyEcc.C02.verify_other_msg_iff
#print axioms PyEcc.C02.verify_rejects_other_msg
#print axioms PyEcc.C02.popVerify_of_sig_iff
#print axioms PyEcc.C02.verify_of_proof_iff
#print axioms PyEcc.C02.verify_iff'
#print axioms PyEcc.C02.popVerify_iff'
#print axioms PyEcc.C02.verify_iff_nd
#print axioms PyEcc.C02.popVerify_iff_nd
#print axioms PyEcc.C02.verify_rejects_ne_nd
#print axioms PyEcc.C02.popVerify_rejects_ne_nd
#print axioms PyEcc.C02.verify_rejects_neg_nd
#print axioms PyEcc.C02.verify_rejects_double_nd
#print axioms PyEcc.C02.verify_rejects_add_nd
#print axioms PyEcc.C02.verify_identity_iff_nd
#print axioms PyEcc.C02.verify_other_key_iff_nd
#print axioms PyEcc.C02.verify_rejects_other_msg_nd
#print axioms PyEcc.C02.verify_iff_ndv
#print axioms PyEcc.C02.popVerify_iff_ndv
#print axioms PyEcc.C02.verify_iff_of_modelBilinear
#print axioms PyEcc.C02.popVerify_iff_of_modelBilinear
#print axioms PyEcc.C02.verify_rejects_ne_of_modelBilinear
#print axioms PyEcc.C02.popVerify_rejects_ne_of_modelBilinear
#print axioms PyEcc.C02.verify_rejects_neg_of_modelBilinear
#print axioms PyEcc.C02.verify_rejects_double_of_modelBilinear
#print axioms PyEcc.C02.verify_rejects_add_of_modelBilinear
#print axioms PyEcc.C02.verify_identity_iff_of_modelBilinear
#print axioms PyEcc.C02.verify_other_key_iff_of_modelBilinear
#print axioms PyEcc.C02.verify_iff_of_modelBilinearCode
#print axioms PyEcc.C02.popVerify_iff_of_modelBilinearCode
#print axioms PyEcc.Tie.Bls.DST_eq
#print axioms PyEcc.Tie.Bls.POP_TAG_eq
#print axioms PyEcc.Tie.Bls.is_valid_privkey_eq
#print axioms PyEcc.Tie.Bls.is_valid_privkey_isSome
#print axioms PyEcc.Tie.Bls.is_valid_pubkey_base_eq
#print axioms PyEcc.Tie.Bls.is_valid_message_eq
#print axioms PyEcc.Tie.Bls.is_valid_signature_eq
#print axioms PyEcc.Tie.Bls.SkToPk_eq
#print axioms PyEcc.Tie.Bls.decompressG1_error
#print axioms PyEcc.Tie.Bls.KeyValidate_eq
#print axioms PyEcc.Tie.Bls.is_valid_pubkey_pop_eq
#print axioms PyEcc.Tie.Bls.is_valid_pubkey_eq
#print axioms PyEcc.Tie.Bls.CoreSign_eq
#print axioms PyEcc.Tie.Bls.Sign_eq
#print axioms PyEcc.Tie.Bls.PopProve_eq
#print axioms PyEcc.Tie.Bls.caught3_eq
#print axioms PyEcc.Tie.Bls.CoreVerify_try_eq
#print axioms PyEcc.Tie.Bls.CoreVerify_eq
#print axioms PyEcc.Tie.Bls.Verify_eq
#print axioms PyEcc.Tie.Bls.PopVerify_eq
#print axioms PyEcc.Tie.flag_bit
#print axioms PyEcc.Tie.nat_decide_eq_beq
#print axioms PyEcc.Tie.get_flags_eq
#print axioms PyEcc.Tie.is_point_at_infinity_eq
#print axioms PyEcc.Tie.compress_G1_eq
#print axioms PyEcc.Tie.decompress_G1_eq
#print axioms PyEcc.Tie.compress_G2_eq
#print axioms PyEcc.Tie.decompress_G2_eq
#print axioms PyEcc.Tie.G2_to_signature_eq
#print axioms PyEcc.Tie.signature_to_G2_eq
#print axioms PyEcc.Tie.G1_to_pubkey_eq
#print axioms PyEcc.Tie.pubkey_to_G1_eq
