-- GENERATED by tools/harness/check.py: axiom audit for property C18
import PyEcc.Props.C18
import PyEcc.Props.TieSecp
#print axioms PyEcc.C18.constants_eq_sec2
#print axioms PyEcc.C18.P_N_prime
#print axioms PyEcc.C18.no_point_with_y_zero
#print axioms PyEcc.C18.origin_not_on_curve
#print axioms PyEcc.C18.no_two_torsion
#print axioms PyEcc.C18.reprSecp_injective
#print axioms PyEcc.C18.add_refines
#print axioms PyEcc.C18.add_assoc_comm
#print axioms PyEcc.C18.G_on_curve
#print axioms PyEcc.C18.G_ne_zero
#print axioms PyEcc.C18.multiply_refines_mod
#print axioms PyEcc.C18.N_smul_G
#print axioms PyEcc.C18.card_E
#print axioms PyEcc.C18.N_smul_eq_zero
#print axioms PyEcc.C18.addOrderOf_eq_N
#print axioms PyEcc.C18.zsmul_Gpt_eq_zero_iff
#print axioms PyEcc.C18.multiply_refines
#print axioms PyEcc.C18.multiply_mod_N
#print axioms PyEcc.C18.multiply_add
#print axioms PyEcc.C18.privtopub_refines
#print axioms PyEcc.C18.privtopub_ne_identity
#print axioms PyEcc.Tie.privtopub_eq
#print axioms PyEcc.Tie.ecdsa_raw_sign_eq
#print axioms PyEcc.Tie.ecdsa_raw_recover_eq
