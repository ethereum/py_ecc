-- GENERATED by tools/harness/check.py: axiom audit for property C07
import PyEcc.Props.C07Opt_Bls
import PyEcc.Props.C07Opt_Bn
import PyEcc.Props.C07_Bls
import PyEcc.Props.C07_BlsLaws
import PyEcc.Props.C07_Bn
import PyEcc.Props.C07_Consts
import PyEcc.Props.C07_ConstsG12
import PyEcc.Props.C07_Facts
import PyEcc.Props.C07_FactsG2
import PyEcc.Props.C07_Model
import PyEcc.Props.C07_Model12
import PyEcc.Props.C07_ModelBn
import PyEcc.Props.C07_Order
import PyEcc.Props.C07_OrderTwistBn
import PyEcc.Props.C07_Twist
import PyEcc.Props.C07_TwistBn
import PyEcc.Props.TieHashCurve
import PyEcc.Props.TieFieldsFq
import PyEcc.Props.TieFieldsFqp
import PyEcc.Props.TieFieldsMul
import PyEcc.Props.TieFieldsPoly
import PyEcc.Props.TieFieldsInv
#print axioms PyEcc.Represents.toAff_eq
#print axioms PyEcc.C07Opt.Bls.represents_zero
#print axioms PyEcc.C07Opt.Bls.represents_some
#print axioms PyEcc.C07Opt.Bls.represents_unique
#print axioms PyEcc.C07Opt.Bls.represents_scale
#print axioms PyEcc.C07Opt.Bls.opt_add_refines
#print axioms PyEcc.C07Opt.Bls.opt_double_refines
#print axioms PyEcc.C07Opt.Bls.opt_double_refines_two_smul
#print axioms PyEcc.C07Opt.Bls.opt_neg_refines
#print axioms PyEcc.C07Opt.Bls.opt_multiply_refines
#print axioms PyEcc.C07Opt.Bls.opt_eq_refines
#print axioms PyEcc.C07Opt.Bls.opt_is_inf_refines
#print axioms PyEcc.C07Opt.Bls.opt_on_curve_represents
#print axioms PyEcc.C07Opt.Bls.opt_on_curve_of_represents
#print axioms PyEcc.C07Opt.Bls.opt_agrees_with_ref
#print axioms PyEcc.C07Opt.Bls.opt_add_zero_right
#print axioms PyEcc.C07Opt.Bls.opt_add_zero_eq
#print axioms PyEcc.C07Opt.Bls.opt_add_self_eq
#print axioms PyEcc.C07Opt.Bls.opt_multiply_small
#print axioms PyEcc.C07Opt.Bls.opt_add_neg
#print axioms PyEcc.C07Opt.Bls.opt_add_congr
#print axioms PyEcc.C07Opt.Bls.opt_multiply_congr
#print axioms PyEcc.C07Opt.Bn.represents_zero
#print axioms PyEcc.C07Opt.Bn.represents_some
#print axioms PyEcc.C07Opt.Bn.represents_unique
#print axioms PyEcc.C07Opt.Bn.represents_scale
#print axioms PyEcc.C07Opt.Bn.opt_add_refines
#print axioms PyEcc.C07Opt.Bn.opt_double_refines
#print axioms PyEcc.C07Opt.Bn.opt_double_refines_two_smul
#print axioms PyEcc.C07Opt.Bn.opt_neg_refines
#print axioms PyEcc.C07Opt.Bn.opt_multiply_refines
#print axioms PyEcc.C07Opt.Bn.opt_eq_refines
#print axioms PyEcc.C07Opt.Bn.opt_is_inf_refines
#print axioms PyEcc.C07Opt.Bn.opt_on_curve_represents
#print axioms PyEcc.C07Opt.Bn.opt_agrees_with_ref
#print axioms PyEcc.C07Opt.Bn.opt_add_zero_right
#print axioms PyEcc.C07Opt.Bn.opt_multiply_small
#print axioms PyEcc.C07Opt.Bn.opt_add_neg
#print axioms PyEcc.C07Opt.Bn.opt_add_zero_eq
#print axioms PyEcc.C07Opt.Bn.opt_add_congr
#print axioms PyEcc.C07Opt.Bn.opt_multiply_congr
#print axioms PyEcc.C07.Bls.gen_double_eq
#print axioms PyEcc.C07.Bls.gen_neg_eq
#print axioms PyEcc.C07.Bls.gen_add_eq
#print axioms PyEcc.C07.Bls.gen_is_on_curve_iff
#print axioms PyEcc.C07.Bls.ref_add_refines
#print axioms PyEcc.C07.Bls.ref_double_refines
#print axioms PyEcc.C07.Bls.ref_neg_refines
#print axioms PyEcc.C07.Bls.ref_multiplyAux_refines
#print axioms PyEcc.C07.Bls.ref_multiply_refines
#print axioms PyEcc.C07.Bls.ref_is_on_curve_iff
#print axioms PyEcc.C07.Bls.ref_add_comm
#print axioms PyEcc.C07.Bls.ref_add_assoc
#print axioms PyEcc.C07.Bls.ref_add_neg
#print axioms PyEcc.C07.Bls.ref_add_closed
#print axioms PyEcc.C07.Bls.ref_double_closed
#print axioms PyEcc.C07.Bls.ref_neg_closed
#print axioms PyEcc.C07.Bls.ref_multiply_closed
#print axioms PyEcc.C07.Bls.ref_multiply_add
#print axioms PyEcc.C07.Bls.ref_multiply_mul
#print axioms PyEcc.C07.Bls.ref_multiply_mod
#print axioms PyEcc.C07.Bls.ref_multiply_neg
#print axioms PyEcc.C07.Bls.ref_add_zero
#print axioms PyEcc.C07.Bls.ref_add_self
#print axioms PyEcc.C07.Bls.ref_multiply_small
#print axioms PyEcc.C07.Bn.gen_is_on_curve_iff
#print axioms PyEcc.C07.Bn.ref_add_refines
#print axioms PyEcc.C07.Bn.ref_double_refines
#print axioms PyEcc.C07.Bn.ref_neg_refines
#print axioms PyEcc.C07.Bn.ref_multiply_refines
#print axioms PyEcc.C07.Bn.ref_is_on_curve_iff
#print axioms PyEcc.C07.Bn.ref_add_comm
#print axioms PyEcc.C07.Bn.ref_add_assoc
#print axioms PyEcc.C07.Bn.ref_add_neg
#print axioms PyEcc.C07.Bn.ref_add_closed
#print axioms PyEcc.C07.Bn.ref_double_closed
#print axioms PyEcc.C07.Bn.ref_neg_closed
#print axioms PyEcc.C07.Bn.ref_multiply_closed
#print axioms PyEcc.C07.Bn.ref_multiply_add
#print axioms PyEcc.C07.Bn.ref_multiply_mul
#print axioms PyEcc.C07.Bn.ref_multiply_mod
#print axioms PyEcc.C07.Bn.ref_multiply_neg
#print axioms PyEcc.C07.Bn.ref_add_zero
#print axioms PyEcc.C07.Bn.ref_add_self
#print axioms PyEcc.C07.Bn.ref_multiply_small
#print axioms PyEcc.C07.Consts.spec_bls_r_from_seed
#print axioms PyEcc.C07.Consts.spec_bls_p_from_seed
#print axioms PyEcc.C07.Consts.spec_bls_p_mod
#print axioms PyEcc.C07.Consts.spec_bls_trace
#print axioms PyEcc.C07.Consts.spec_bls_ate
#print axioms PyEcc.C07.Consts.spec_bls_g1_on_curve
#print axioms PyEcc.C07.Consts.spec_bls_g2_on_curve
#print axioms PyEcc.C07.Consts.spec_bn_from_seed
#print axioms PyEcc.C07.Consts.spec_bn_p_mod
#print axioms PyEcc.C07.Consts.spec_bn_g1_on_curve
#print axioms PyEcc.C07.Consts.spec_bn_g2_on_curve
#print axioms PyEcc.C07.Consts.spec_secp_consistent
#print axioms PyEcc.C07.Consts.bls_field_modulus
#print axioms PyEcc.C07.Consts.bls_curve_order
#print axioms PyEcc.C07.Consts.bls_model_p_r
#print axioms PyEcc.C07.Consts.bls_b
#print axioms PyEcc.C07.Consts.bls_G1
#print axioms PyEcc.C07.Consts.bls_G2
#print axioms PyEcc.C07.Consts.bls_model_generators
#print axioms PyEcc.C07.Consts.bls_moduli
#print axioms PyEcc.C07.Consts.bls_infinity
#print axioms PyEcc.C07.Consts.bls_ate_loop_count
#print axioms PyEcc.C07.Consts.bls_log_ate_loop_count
#print axioms PyEcc.C07.Consts.bls_pseudo_binary_encoding
#print axioms PyEcc.C07.Consts.bls_miller_digits
#print axioms PyEcc.C07.Consts.bn_field_modulus
#print axioms PyEcc.C07.Consts.bn_curve_order
#print axioms PyEcc.C07.Consts.bn_b_G1
#print axioms PyEcc.C07.Consts.bn_G2
#print axioms PyEcc.C07.Consts.bn_b2
#print axioms PyEcc.C07.Consts.bn_b2_int
#print axioms PyEcc.C07.Consts.bn_moduli
#print axioms PyEcc.C07.Consts.bn_infinity
#print axioms PyEcc.C07.Consts.bn_ate_loop_count
#print axioms PyEcc.C07.Consts.bn_log_ate_loop_count
#print axioms PyEcc.C07.Consts.bn_pseudo_binary_encoding
#print axioms PyEcc.C07.Consts.bn_miller_digits
#print axioms PyEcc.C07.Consts.secp_consts
#print axioms PyEcc.C07.Consts.bls_G12_ref
#print axioms PyEcc.C07.Consts.bls_G12_opt
#print axioms PyEcc.C07.Consts.bn_G12
#print axioms PyEcc.C07.Facts.no_order_two_ref_of
#print axioms PyEcc.C07.Facts.ref_multiply_of_opt
#print axioms PyEcc.C07.Facts.point_of_ref_facts
#print axioms PyEcc.C07.Facts.bn_field_ok
#print axioms PyEcc.C07.Facts.bn_G1_on_curve_ref
#print axioms PyEcc.C07.Facts.bn_G1_on_curve_opt
#print axioms PyEcc.C07.Facts.bn_G1_ne_inf
#print axioms PyEcc.C07.Facts.bn_r_G1_opt
#print axioms PyEcc.C07.Facts.bn_r_G1_ref
#print axioms PyEcc.C07.Facts.bn_no_cube_root
#print axioms PyEcc.C07.Facts.bn_no_order_two_ref
#print axioms PyEcc.C07.Facts.bn_no_order_two
#print axioms PyEcc.C07.Facts.bn_G1_point
#print axioms PyEcc.C07.Facts.bn_G1_multiply_mod
#print axioms PyEcc.C07.Facts.bls_field_ok
#print axioms PyEcc.C07.Facts.bls_G1_on_curve_ref
#print axioms PyEcc.C07.Facts.bls_G1_on_curve_opt
#print axioms PyEcc.C07.Facts.bls_G1_ne_inf
#print axioms PyEcc.C07.Facts.bls_r_G1_opt
#print axioms PyEcc.C07.Facts.bls_r_G1_ref
#print axioms PyEcc.C07.Facts.bls_no_cube_root
#print axioms PyEcc.C07.Facts.bls_no_order_two_ref
#print axioms PyEcc.C07.Facts.bls_no_order_two
#print axioms PyEcc.C07.Facts.bls_G1_point
#print axioms PyEcc.C07.Facts.bls_G1_multiply_mod
#print axioms PyEcc.C07.Facts.bls_G1_model
#print axioms PyEcc.C07.Facts.bn_G2_opt
#print axioms PyEcc.C07.Facts.bn_G2_ref
#print axioms PyEcc.C07.Facts.bls_G2_opt
#print axioms PyEcc.C07.Facts.bls_G2_ref
#print axioms PyEcc.C07.Facts.bls_G2_model
#print axioms PyEcc.C07M.g1_add_comm
#print axioms PyEcc.C07M.g1_add_assoc
#print axioms PyEcc.C07M.g1_add_zero
#print axioms PyEcc.C07M.g1_add_neg
#print axioms PyEcc.C07M.g1_closed
#print axioms PyEcc.C07M.g1_add_self
#print axioms PyEcc.C07M.g1_multiply_add
#print axioms PyEcc.C07M.g1_multiply_mul
#print axioms PyEcc.C07M.g1_multiply_mod
#print axioms PyEcc.C07M.g1_multiply_neg
#print axioms PyEcc.C07M.g1_multiply_small
#print axioms PyEcc.C07M.g1_eq_congr
#print axioms PyEcc.C07M.g2_add_comm
#print axioms PyEcc.C07M.g2_add_assoc
#print axioms PyEcc.C07M.g2_add_zero
#print axioms PyEcc.C07M.g2_add_neg
#print axioms PyEcc.C07M.g2_closed
#print axioms PyEcc.C07M.g2_add_self
#print axioms PyEcc.C07M.g2_multiply_add
#print axioms PyEcc.C07M.g2_multiply_mul
#print axioms PyEcc.C07M.g2_multiply_mod
#print axioms PyEcc.C07M.g2_multiply_neg
#print axioms PyEcc.C07M.g2_eq_congr
#print axioms PyEcc.C07M.blsG1_point
#print axioms PyEcc.C07M.blsG1_multiply_mod
#print axioms PyEcc.C07M.blsG2_point
#print axioms PyEcc.C07M.blsG2_multiply_mod
#print axioms PyEcc.C07T.OptBls12.add_comm
#print axioms PyEcc.C07T.OptBls12.add_assoc
#print axioms PyEcc.C07T.OptBls12.add_zero
#print axioms PyEcc.C07T.OptBls12.add_neg
#print axioms PyEcc.C07T.OptBls12.closed
#print axioms PyEcc.C07T.OptBls12.add_self
#print axioms PyEcc.C07T.OptBls12.multiply_add
#print axioms PyEcc.C07T.OptBls12.multiply_mul
#print axioms PyEcc.C07T.OptBls12.multiply_mod
#print axioms PyEcc.C07T.OptBls12.multiply_neg
#print axioms PyEcc.C07T.OptBls12.eq_congr
#print axioms PyEcc.C07T.OptBls12.G12_ok
#print axioms PyEcc.C07T.RefBls12.add_comm
#print axioms PyEcc.C07T.RefBls12.add_assoc
#print axioms PyEcc.C07T.RefBls12.add_zero
#print axioms PyEcc.C07T.RefBls12.add_neg
#print axioms PyEcc.C07T.RefBls12.closed
#print axioms PyEcc.C07T.RefBls12.add_self
#print axioms PyEcc.C07T.RefBls12.multiply_add
#print axioms PyEcc.C07T.RefBls12.multiply_mul
#print axioms PyEcc.C07T.RefBls12.multiply_mod
#print axioms PyEcc.C07T.RefBls12.multiply_neg
#print axioms PyEcc.C07T.RefBls12.multiply_small
#print axioms PyEcc.C07T.RefBls12.G12_ok
#print axioms PyEcc.C07T.OptBn12.add_comm
#print axioms PyEcc.C07T.OptBn12.add_assoc
#print axioms PyEcc.C07T.OptBn12.add_zero
#print axioms PyEcc.C07T.OptBn12.add_neg
#print axioms PyEcc.C07T.OptBn12.closed
#print axioms PyEcc.C07T.OptBn12.add_self
#print axioms PyEcc.C07T.OptBn12.multiply_add
#print axioms PyEcc.C07T.OptBn12.multiply_mul
#print axioms PyEcc.C07T.OptBn12.multiply_mod
#print axioms PyEcc.C07T.OptBn12.multiply_neg
#print axioms PyEcc.C07T.OptBn12.eq_congr
#print axioms PyEcc.C07T.OptBn12.G12_ok
#print axioms PyEcc.C07T.RefBn12.add_comm
#print axioms PyEcc.C07T.RefBn12.add_assoc
#print axioms PyEcc.C07T.RefBn12.add_zero
#print axioms PyEcc.C07T.RefBn12.add_neg
#print axioms PyEcc.C07T.RefBn12.closed
#print axioms PyEcc.C07T.RefBn12.add_self
#print axioms PyEcc.C07T.RefBn12.multiply_add
#print axioms PyEcc.C07T.RefBn12.multiply_mul
#print axioms PyEcc.C07T.RefBn12.multiply_mod
#print axioms PyEcc.C07T.RefBn12.multiply_neg
#print axioms PyEcc.C07T.RefBn12.multiply_small
#print axioms PyEcc.C07T.RefBn12.G12_ok
#print axioms PyEcc.C07M.Bn.g1_add_comm
#print axioms PyEcc.C07M.Bn.g1_add_assoc
#print axioms PyEcc.C07M.Bn.g1_add_zero
#print axioms PyEcc.C07M.Bn.g1_add_neg
#print axioms PyEcc.C07M.Bn.g1_closed
#print axioms PyEcc.C07M.Bn.g1_multiply_add_mul
#print axioms PyEcc.C07M.Bn.g1_multiply_mod
#print axioms PyEcc.C07M.Bn.g1_congr
#print axioms PyEcc.C07M.Bn.g2_add_comm
#print axioms PyEcc.C07M.Bn.g2_add_assoc
#print axioms PyEcc.C07M.Bn.g2_add_zero
#print axioms PyEcc.C07M.Bn.g2_add_neg
#print axioms PyEcc.C07M.Bn.g2_closed
#print axioms PyEcc.C07M.Bn.g2_multiply_add_mul
#print axioms PyEcc.C07M.Bn.g2_multiply_mod
#print axioms PyEcc.C07M.Bn.g2_congr
#print axioms PyEcc.C07M.Bn.bnG1_facts
#print axioms PyEcc.C07M.Bn.bnG1_point
#print axioms PyEcc.C07M.Bn.bnG2_point
#print axioms PyEcc.C07.Facts.bn_card_points
#print axioms PyEcc.C07.Facts.bn_nsmul_curve_order
#print axioms PyEcc.C07.Facts.bn_multiply_curve_order
#print axioms PyEcc.C07.Facts.bn_multiply_mod
#print axioms PyEcc.C17O.bn_twist_card
#print axioms PyEcc.C17O.bn_twist_no_two_torsion
#print axioms PyEcc.C17O.bn_twist_order_kills
#print axioms PyEcc.C17O.bn_multiply_twist_order
#print axioms PyEcc.C17O.bn_clear_cofactor_lands
#print axioms PyEcc.C17O.bn_twist_torsion_cyclic
#print axioms PyEcc.C07T.psi_bls
#print axioms PyEcc.C07T.embed12_bls
#print axioms PyEcc.C07T.twist_b_bls
#print axioms PyEcc.C07T.blsTwist_spec
#print axioms PyEcc.C07T.twist_opt_refines
#print axioms PyEcc.C07T.twist_ref_refines
#print axioms PyEcc.C07T.twist_opt_canon
#print axioms PyEcc.C07T.twist_opt_on_curve
#print axioms PyEcc.C07T.twist_opt_add
#print axioms PyEcc.C07T.twist_opt_double
#print axioms PyEcc.C07T.twist_opt_neg
#print axioms PyEcc.C07T.twist_opt_multiply
#print axioms PyEcc.C07T.twist_opt_is_inf
#print axioms PyEcc.C07T.twist_opt_injective
#print axioms PyEcc.C07T.twist_opt_eq_iff
#print axioms PyEcc.C07T.twist_ref_canon
#print axioms PyEcc.C07T.twist_ref_on_curve
#print axioms PyEcc.C07T.twist_ref_add
#print axioms PyEcc.C07T.twist_ref_double
#print axioms PyEcc.C07T.twist_ref_neg
#print axioms PyEcc.C07T.twist_ref_multiply
#print axioms PyEcc.C07T.twist_ref_none
#print axioms PyEcc.C07T.twist_ref_injective
#print axioms PyEcc.C07T.Bn.psi_bn
#print axioms PyEcc.C07T.Bn.embed12_bn
#print axioms PyEcc.C07T.Bn.twist_b_bn
#print axioms PyEcc.C07T.Bn.bnTwist_spec
#print axioms PyEcc.C07T.Bn.twist_opt_refines
#print axioms PyEcc.C07T.Bn.twist_ref_refines
#print axioms PyEcc.C07T.Bn.twist_opt_canon
#print axioms PyEcc.C07T.Bn.twist_opt_on_curve
#print axioms PyEcc.C07T.Bn.twist_opt_add
#print axioms PyEcc.C07T.Bn.twist_opt_double
#print axioms PyEcc.C07T.Bn.twist_opt_neg
#print axioms PyEcc.C07T.Bn.twist_opt_multiply
#print axioms PyEcc.C07T.Bn.twist_opt_is_inf
#print axioms PyEcc.C07T.Bn.twist_opt_injective
#print axioms PyEcc.C07T.Bn.twist_opt_eq_iff
#print axioms PyEcc.C07T.Bn.twist_ref_canon
#print axioms PyEcc.C07T.Bn.twist_ref_on_curve
#print axioms PyEcc.C07T.Bn.twist_ref_add
#print axioms PyEcc.C07T.Bn.twist_ref_double
#print axioms PyEcc.C07T.Bn.twist_ref_neg
#print axioms PyEcc.C07T.Bn.twist_ref_multiply
#print axioms PyEcc.C07T.Bn.twist_ref_none
#print axioms PyEcc.C07T.Bn.twist_ref_injective
#print axioms PyEcc.Tie.embed12_0_6
#print axioms PyEcc.Tie.embed12_1_7
#print axioms PyEcc.Tie.embed12_3_9
#print axioms PyEcc.Tie.twist_optbls_eq
#print axioms PyEcc.Tie.twist_optbn_eq
#print axioms PyEcc.Tie.cast_point_to_fq12_optbls_eq
#print axioms PyEcc.Tie.cast_point_to_fq12_optbn_eq
#print axioms PyEcc.Tie.exp_by_p_eq
#print axioms PyEcc.Tie.ofInt_n_cast
#print axioms PyEcc.Tie.sub_n_cast
#print axioms PyEcc.Tie.mulInt_n_cast
#print axioms PyEcc.Tie.mul_emod_left'
#print axioms PyEcc.Tie.ofInts_embed_congr
#print axioms PyEcc.Tie.embed_ref_sub
#print axioms PyEcc.Tie.embed_ref_sub9
#print axioms PyEcc.Tie.twist_refbls_eq
#print axioms PyEcc.Tie.twist_refbn_eq
#print axioms PyEcc.Tie.cast_point_to_fq12_refbls_eq
#print axioms PyEcc.Tie.cast_point_to_fq12_refbn_eq
#print axioms PyEcc.Tie.prime_field_inv_loop_fst
#print axioms PyEcc.Tie.prime_field_inv_eq
#print axioms PyEcc.Tie.int_odd_iff
#print axioms PyEcc.Tie.Fq.ofInt_n
#print axioms PyEcc.Tie.Fq.one_n
#print axioms PyEcc.Tie.Fq.zero_n
#print axioms PyEcc.Tie.FqRef.init_int_eq
#print axioms PyEcc.Tie.FqRef.init_fq_eq
#print axioms PyEcc.Tie.FqRef.add_fq_eq
#print axioms PyEcc.Tie.FqRef.add_int_eq
#print axioms PyEcc.Tie.FqRef.mul_fq_eq
#print axioms PyEcc.Tie.FqRef.mul_int_eq
#print axioms PyEcc.Tie.FqRef.sub_fq_eq
#print axioms PyEcc.Tie.FqRef.sub_int_eq
#print axioms PyEcc.Tie.FqRef.rsub_fq_eq
#print axioms PyEcc.Tie.FqRef.rsub_int_eq
#print axioms PyEcc.Tie.FqRef.div_fq_eq
#print axioms PyEcc.Tie.FqRef.div_int_eq
#print axioms PyEcc.Tie.FqRef.rdiv_fq_eq
#print axioms PyEcc.Tie.FqRef.rdiv_int_eq
#print axioms PyEcc.Tie.FqRef.truediv_fq_eq
#print axioms PyEcc.Tie.FqRef.truediv_int_eq
#print axioms PyEcc.Tie.FqRef.rtruediv_fq_eq
#print axioms PyEcc.Tie.FqRef.rtruediv_int_eq
#print axioms PyEcc.Tie.FqRef.rmul_fq_eq
#print axioms PyEcc.Tie.FqRef.rmul_int_eq
#print axioms PyEcc.Tie.FqRef.radd_fq_eq
#print axioms PyEcc.Tie.FqRef.radd_int_eq
#print axioms PyEcc.Tie.FqRef.pow_loop_fst
#print axioms PyEcc.Tie.FqRef.pow_eq
#print axioms PyEcc.Tie.FqRef.eq_fq_eq
#print axioms PyEcc.Tie.FqRef.eq_int_eq
#print axioms PyEcc.Tie.FqRef.ne_fq_eq
#print axioms PyEcc.Tie.FqRef.ne_int_eq
#print axioms PyEcc.Tie.FqRef.neg_eq
#print axioms PyEcc.Tie.FqRef.int_eq
#print axioms PyEcc.Tie.FqRef.lt_fq_eq
#print axioms PyEcc.Tie.FqRef.lt_int_eq
#print axioms PyEcc.Tie.FqRef.one_eq
#print axioms PyEcc.Tie.FqRef.zero_eq
#print axioms PyEcc.Tie.FqOpt.pow_eq_ref
#print axioms PyEcc.Tie.FqOpt.init_int_eq
#print axioms PyEcc.Tie.FqOpt.init_fq_eq
#print axioms PyEcc.Tie.FqOpt.add_fq_eq
#print axioms PyEcc.Tie.FqOpt.add_int_eq
#print axioms PyEcc.Tie.FqOpt.mul_fq_eq
#print axioms PyEcc.Tie.FqOpt.mul_int_eq
#print axioms PyEcc.Tie.FqOpt.sub_fq_eq
#print axioms PyEcc.Tie.FqOpt.sub_int_eq
#print axioms PyEcc.Tie.FqOpt.rsub_fq_eq
#print axioms PyEcc.Tie.FqOpt.rsub_int_eq
#print axioms PyEcc.Tie.FqOpt.div_fq_eq
#print axioms PyEcc.Tie.FqOpt.div_int_eq
#print axioms PyEcc.Tie.FqOpt.rdiv_fq_eq
#print axioms PyEcc.Tie.FqOpt.rdiv_int_eq
#print axioms PyEcc.Tie.FqOpt.truediv_fq_eq
#print axioms PyEcc.Tie.FqOpt.truediv_int_eq
#print axioms PyEcc.Tie.FqOpt.rtruediv_fq_eq
#print axioms PyEcc.Tie.FqOpt.rtruediv_int_eq
#print axioms PyEcc.Tie.FqOpt.rmul_fq_eq
#print axioms PyEcc.Tie.FqOpt.rmul_int_eq
#print axioms PyEcc.Tie.FqOpt.radd_fq_eq
#print axioms PyEcc.Tie.FqOpt.radd_int_eq
#print axioms PyEcc.Tie.FqOpt.pow_eq
#print axioms PyEcc.Tie.FqOpt.eq_fq_eq
#print axioms PyEcc.Tie.FqOpt.eq_int_eq
#print axioms PyEcc.Tie.FqOpt.ne_fq_eq
#print axioms PyEcc.Tie.FqOpt.ne_int_eq
#print axioms PyEcc.Tie.FqOpt.neg_eq
#print axioms PyEcc.Tie.FqOpt.int_eq
#print axioms PyEcc.Tie.FqOpt.lt_fq_eq
#print axioms PyEcc.Tie.FqOpt.lt_int_eq
#print axioms PyEcc.Tie.FqOpt.one_eq
#print axioms PyEcc.Tie.FqOpt.zero_eq
#print axioms PyEcc.Tie.FqOpt.sgn0_eq
#print axioms PyEcc.Tie.fields_foldl_rel
#print axioms PyEcc.Tie.fields_foldl_inv
#print axioms PyEcc.Tie.any_ne_eq_all
#print axioms PyEcc.Tie.length_scalar
#print axioms PyEcc.Tie.FqpRef.init_ints_eq
#print axioms PyEcc.Tie.FqpRef.init_fqs_eq
#print axioms PyEcc.Tie.FqpRef.add_eq
#print axioms PyEcc.Tie.FqpRef.sub_eq
#print axioms PyEcc.Tie.FqpRef.neg_eq
#print axioms PyEcc.Tie.FqpRef.mul_int_eq
#print axioms PyEcc.Tie.FqpRef.div_int_eq
#print axioms PyEcc.Tie.FqpRef.truediv_int_eq
#print axioms PyEcc.Tie.FqpRef.eq_eq
#print axioms PyEcc.Tie.FqpRef.ne_eq
#print axioms PyEcc.Tie.FqpRef.init_one
#print axioms PyEcc.Tie.FqpRef.init_zero
#print axioms PyEcc.Tie.FqpRef.FQ2_one_eq
#print axioms PyEcc.Tie.FqpRef.FQ2_zero_eq
#print axioms PyEcc.Tie.FqpRef.FQ12_one_eq
#print axioms PyEcc.Tie.FqpRef.FQ12_zero_eq
#print axioms PyEcc.Tie.FqpOpt.init_ints_eq
#print axioms PyEcc.Tie.FqpOpt.add_eq
#print axioms PyEcc.Tie.FqpOpt.sub_eq
#print axioms PyEcc.Tie.FqpOpt.neg_eq
#print axioms PyEcc.Tie.FqpOpt.mul_int_eq
#print axioms PyEcc.Tie.FqpOpt.div_int_eq
#print axioms PyEcc.Tie.FqpOpt.truediv_int_eq
#print axioms PyEcc.Tie.FqpOpt.eq_eq
#print axioms PyEcc.Tie.FqpOpt.ne_eq
#print axioms PyEcc.Tie.FqpOpt.mod_int_int_eq
#print axioms PyEcc.Tie.FqpOpt.mod_int_fq_eq
#print axioms PyEcc.Tie.FqpOpt.sgn0_eq
#print axioms PyEcc.Tie.FqpOpt.FQ2_sgn0_eq
#print axioms PyEcc.Tie.FqpOpt.FQ2_sgn0_err
#print axioms PyEcc.Tie.FqpOpt.init_one
#print axioms PyEcc.Tie.FqpOpt.init_zero
#print axioms PyEcc.Tie.FqpOpt.FQ2_one_eq
#print axioms PyEcc.Tie.FqpOpt.FQ2_zero_eq
#print axioms PyEcc.Tie.FqpOpt.FQ12_one_eq
#print axioms PyEcc.Tie.FqpOpt.FQ12_zero_eq
#print axioms PyEcc.Tie.AllRed.updAt
#print axioms PyEcc.Tie.AllRed.dropLast
#print axioms PyEcc.Tie.AllRed.map_id
#print axioms PyEcc.Tie.allRed_convLoop
#print axioms PyEcc.Tie.allRed_refReduce
#print axioms PyEcc.Tie.sqmulLoop_eq
#print axioms PyEcc.Tie.sqmulLoop_pow
#print axioms PyEcc.Tie.MulRef.mul_loop_eq
#print axioms PyEcc.Tie.MulRef.mul_fqp_eq
#print axioms PyEcc.Tie.MulRef.wf_mul
#print axioms PyEcc.Tie.MulRef.pow_loop0_eq
#print axioms PyEcc.Tie.MulRef.pow_eq
#print axioms PyEcc.Tie.MulRef.rmul_int_eq
#print axioms PyEcc.Tie.MulRef.rmul_fqp_eq
#print axioms PyEcc.Tie.MulOpt.mul_fqp_eq
#print axioms PyEcc.Tie.MulOpt.pow_loop0_eq
#print axioms PyEcc.Tie.MulOpt.pow_eq
#print axioms PyEcc.Tie.MulOpt.rmul_int_eq
#print axioms PyEcc.Tie.MulOpt.rmul_fqp_eq
#print axioms PyEcc.Tie.updAt_set
#print axioms PyEcc.Tie.updAt_set_add
#print axioms PyEcc.Tie.updAt_set_sub
#print axioms PyEcc.Tie.degLoop_eq
#print axioms PyEcc.Tie.deg_loop0_eq
#print axioms PyEcc.Tie.deg_eq
#print axioms PyEcc.Tie.PolyOpt.optimized_poly_rounded_div_eq
#print axioms PyEcc.Tie.PolyOpt.inv_loop_eq
#print axioms PyEcc.Tie.PolyOpt.inv_eq
#print axioms PyEcc.Tie.PolyOpt.div_fqp_eq
#print axioms PyEcc.Tie.PolyOpt.truediv_fqp_eq
#print axioms PyEcc.Tie.InvRef.cong_val
#print axioms PyEcc.Tie.InvRef.length_vals
#print axioms PyEcc.Tie.InvRef.getI_vals
#print axioms PyEcc.Tie.InvRef.congL_vals
#print axioms PyEcc.Tie.InvRef.length_updN
#print axioms PyEcc.Tie.InvRef.getN_updN
#print axioms PyEcc.Tie.InvRef.vals_updN
#print axioms PyEcc.Tie.InvRef.CongL.upd
#print axioms PyEcc.Tie.InvRef.eq_zero_iff
#print axioms PyEcc.Tie.InvRef.deg_dyn_loop0_eq
#print axioms PyEcc.Tie.InvRef.deg_dyn_eq
#print axioms PyEcc.Tie.InvRef.foldlM_bind_ok_rel
#print axioms PyEcc.Tie.InvRef.truediv_fq
#print axioms PyEcc.Tie.InvRef.cong_sub_int
#print axioms PyEcc.Tie.InvRef.poly_rounded_div_eq
#print axioms PyEcc.Tie.InvRef.poly_rounded_div_float
#print axioms PyEcc.Tie.InvRef.low_lead_fq
#print axioms PyEcc.Tie.InvRef.upd_exact
#print axioms PyEcc.Tie.InvRef.isFq_sub
#print axioms PyEcc.Tie.InvRef.pass_rel
#print axioms PyEcc.Tie.InvRef.double_loop
#print axioms PyEcc.Tie.InvRef.inv_loop0_succ
#print axioms PyEcc.Tie.InvRef.inv_loop0_stop
#print axioms PyEcc.Tie.InvRef.AllFq.lowShape
#print axioms PyEcc.Tie.InvRef.inv_loop_eq
#print axioms PyEcc.Tie.InvRef.vals_map_fq
#print axioms PyEcc.Tie.InvRef.vals_map_int
#print axioms PyEcc.Tie.InvRef.vals_append
#print axioms PyEcc.Tie.InvRef.isFq_getN_map_fq
#print axioms PyEcc.Tie.InvRef.lowShape_init
#print axioms PyEcc.Tie.InvRef.toInt_eq_val
#print axioms PyEcc.Tie.InvRef.wf_inv
#print axioms PyEcc.Tie.InvRef.inv_eq
#print axioms PyEcc.Tie.InvRef.inv_no_float
#print axioms PyEcc.Tie.InvRef.inv_of_init_ints
#print axioms PyEcc.Tie.InvRef.inv_of_init_fqs
#print axioms PyEcc.Tie.InvRef.div_fqp_eq
#print axioms PyEcc.Tie.InvRef.truediv_fqp_eq
