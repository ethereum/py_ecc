-- GENERATED by tools/harness/check.py: axiom audit for property C04
import PyEcc.Props.C04
import PyEcc.Props.C04_Canon
import PyEcc.Props.C04_Gen
import PyEcc.Props.C04_Total
import PyEcc.Props.TieCodec
import PyEcc.Props.TieBls
import PyEcc.Props.TieBlsAgg
#print axioms PyEcc.C04.primitive_error_kinds
#print axioms PyEcc.C04.pairing_sig_cannot_raise
#print axioms PyEcc.C04.keyValidate_total
#print axioms PyEcc.C04.ReturnsOrSwu.total
#print axioms PyEcc.C04.ReturnsOrSwu.raised
#print axioms PyEcc.C04.verify_total_or_swu
#print axioms PyEcc.C04.verify_total
#print axioms PyEcc.C04.popVerify_total_or_swu
#print axioms PyEcc.C04.aggregateVerify_total_or_swu
#print axioms PyEcc.C04.fastAggregateVerify_eq
#print axioms PyEcc.C04.fastPre_cases
#print axioms PyEcc.C04.fastAggregateVerify_total_or_swu
#print axioms PyEcc.C04.verify_rejects_noncanonical
#print axioms PyEcc.C04.verify_malformed_returns_false
#print axioms PyEcc.C04.verify_true_iff
#print axioms PyEcc.C04.popVerify_rejects_noncanonical
#print axioms PyEcc.C04.popVerify_malformed_returns_false
#print axioms PyEcc.C04.coreAggregateVerify_rejects_noncanonical
#print axioms PyEcc.C04.aggregateVerify_rejects_noncanonical
#print axioms PyEcc.C04.fastAggregateVerify_rejects_noncanonical
#print axioms PyEcc.C04.fastAggregateVerify_malformed_returns_false
#print axioms PyEcc.C04.pairing_args_safe_core
#print axioms PyEcc.C04.pairing_args_safe_core_mem
#print axioms PyEcc.C04.pairing_args_safe_agg
#print axioms PyEcc.C04.pairing_args_safe_agg_mem
#print axioms PyEcc.C04.genPk_canon
#print axioms PyEcc.C04.infSig_canon
#print axioms PyEcc.C04.generator_args_safe
#print axioms PyEcc.C04.Gen.canonPk_eq
#print axioms PyEcc.C04.Gen.canonSig_eq
#print axioms PyEcc.C04.Gen.keyValidate_ok_iff
#print axioms PyEcc.C04.Gen.primitive_error_kinds
#print axioms PyEcc.C04.Gen.hash_to_G2_suite_total
#print axioms PyEcc.C04.Gen.pairing_sig_cannot_raise
#print axioms PyEcc.C04.Gen.KeyValidate_total
#print axioms PyEcc.C04.Gen.Verify_total
#print axioms PyEcc.C04.Gen.PopVerify_total
#print axioms PyEcc.C04.Gen.AggregateVerify_total
#print axioms PyEcc.C04.Gen.FastAggregateVerify_total
#print axioms PyEcc.C04.Gen.never_raises
#print axioms PyEcc.C04.Gen.Verify_rejects_noncanonical
#print axioms PyEcc.C04.Gen.Verify_malformed_returns_false
#print axioms PyEcc.C04.Gen.Verify_true_iff
#print axioms PyEcc.C04.Gen.PopVerify_rejects_noncanonical
#print axioms PyEcc.C04.Gen.PopVerify_malformed_returns_false
#print axioms PyEcc.C04.Gen.AggregateVerify_rejects_noncanonical
#print axioms PyEcc.C04.Gen.AggregateVerify_badkey_false
#print axioms PyEcc.C04.Gen.FastAggregateVerify_rejects_noncanonical
#print axioms PyEcc.C04.Gen.FastAggregateVerify_malformed_returns_false
#print axioms PyEcc.C04.Gen.CoreVerify_try_args_safe
#print axioms PyEcc.C04.Gen.CoreAggregateVerify_try_args_safe
#print axioms PyEcc.C04.Gen.generator_args_safe
#print axioms PyEcc.C04.verify_total'
#print axioms PyEcc.C04.swu_samples
#print axioms PyEcc.C04.popVerify_total'
#print axioms PyEcc.C04.aggregateVerify_total'
#print axioms PyEcc.C04.fastAggregateVerify_total'
#print axioms PyEcc.C04.never_raises
#print axioms PyEcc.C04.hashToG2_error_kind'
#print axioms PyEcc.C04.hashToG2_returns
#print axioms PyEcc.C04.aggregateVerify_badkey_false'
#print axioms PyEcc.Tie.flag_bit
#print axioms PyEcc.Tie.nat_decide_eq_beq
#print axioms PyEcc.Tie.get_flags_eq
#print axioms PyEcc.Tie.is_point_at_infinity_eq
#print axioms PyEcc.Tie.compress_G1_eq
#print axioms PyEcc.Tie.decompress_G1_eq
#print axioms PyEcc.Tie.compress_G2_eq
#print axioms PyEcc.Tie.decompress_G2_eq
#print axioms PyEcc.Tie.G2_to_signature_eq
#print axioms PyEcc.Tie.signature_to_G2_eq
#print axioms PyEcc.Tie.G1_to_pubkey_eq
#print axioms PyEcc.Tie.pubkey_to_G1_eq
#print axioms PyEcc.Tie.Bls.DST_eq
#print axioms PyEcc.Tie.Bls.POP_TAG_eq
#print axioms PyEcc.Tie.Bls.is_valid_privkey_eq
#print axioms PyEcc.Tie.Bls.is_valid_privkey_isSome
#print axioms PyEcc.Tie.Bls.is_valid_pubkey_base_eq
#print axioms PyEcc.Tie.Bls.is_valid_message_eq
#print axioms PyEcc.Tie.Bls.is_valid_signature_eq
#print axioms PyEcc.Tie.Bls.SkToPk_eq
#print axioms PyEcc.Tie.Bls.decompressG1_error
#print axioms PyEcc.Tie.Bls.KeyValidate_eq
#print axioms PyEcc.Tie.Bls.is_valid_pubkey_pop_eq
#print axioms PyEcc.Tie.Bls.is_valid_pubkey_eq
#print axioms PyEcc.Tie.Bls.CoreSign_eq
#print axioms PyEcc.Tie.Bls.Sign_eq
#print axioms PyEcc.Tie.Bls.PopProve_eq
#print axioms PyEcc.Tie.Bls.caught3_eq
#print axioms PyEcc.Tie.Bls.CoreVerify_try_eq
#print axioms PyEcc.Tie.Bls.CoreVerify_eq
#print axioms PyEcc.Tie.Bls.Verify_eq
#print axioms PyEcc.Tie.Bls.PopVerify_eq
#print axioms PyEcc.Tie.Bls.Aggregate_eq
#print axioms PyEcc.Tie.Bls.aggLoop_eq
#print axioms PyEcc.Tie.Bls.CoreAggregateVerify_try_eq
#print axioms PyEcc.Tie.Bls.CoreAggregateVerify_eq
#print axioms PyEcc.Tie.Bls.eraseDups_length_le
#print axioms PyEcc.Tie.Bls.hasDup_eq
#print axioms PyEcc.Tie.Bls.aug_messages_eq
#print axioms PyEcc.Tie.Bls.AggregateVerify_eq
#print axioms PyEcc.Tie.Bls.AggregatePKs_eq
#print axioms PyEcc.Tie.Bls.caught2_eq
#print axioms PyEcc.Tie.Bls.FastAggregateVerify_eq
#print axioms PyEcc.Tie.Bls.keygen_L_eq
#print axioms PyEcc.Tie.Bls.KeyGen_loop_eq
#print axioms PyEcc.Tie.Bls.keygen_salt_eq
#print axioms PyEcc.Tie.Bls.bind_fst
#print axioms PyEcc.Tie.Bls.KeyGen_fuel_eq
#print axioms PyEcc.Tie.Bls.KeyGen_eq
