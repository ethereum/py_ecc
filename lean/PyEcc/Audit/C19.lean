-- GENERATED by tools/harness/check.py: axiom audit for property C19
import PyEcc.Props.C19
import PyEcc.Props.C19_Gen
import PyEcc.Props.C19_Sound
import PyEcc.Props.TieSecp
#print axioms PyEcc.C19.recover_rejects
#print axioms PyEcc.C19.residue_test
#print axioms PyEcc.C19.recover_error_iff
#print axioms PyEcc.C19.recover_error_kind
#print axioms PyEcc.C19.recover_parity
#print axioms PyEcc.C19.recover_vector
#print axioms PyEcc.C19.Gen.recover_rejects
#print axioms PyEcc.C19.Gen.recover_error_iff
#print axioms PyEcc.C19.Gen.recover_error_kind
#print axioms PyEcc.C19.Gen.recover_ok_or_value_error
#print axioms PyEcc.C19.Gen.recover_parity
#print axioms PyEcc.C19.Gen.recover_sound
#print axioms PyEcc.C19.Gen.recover_headline
#print axioms PyEcc.C19.recover_sound
#print axioms PyEcc.Tie.privtopub_eq
#print axioms PyEcc.Tie.ecdsa_raw_sign_eq
#print axioms PyEcc.Tie.ecdsa_raw_recover_eq
