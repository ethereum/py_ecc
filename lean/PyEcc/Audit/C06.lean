-- GENERATED by tools/harness/check.py: axiom audit for property C06
import PyEcc.Props.C06
import PyEcc.Props.C06_Gen
import PyEcc.Props.C06_Recover
import PyEcc.Props.TieSecp
import PyEcc.Props.TieHashSecp
#print axioms PyEcc.C06.sign_total
#print axioms PyEcc.C06.N_odd
#print axioms PyEcc.C06.sign_shape
#print axioms PyEcc.C06.sign_deterministic
#print axioms PyEcc.C06.nonce_chain
#print axioms PyEcc.C06.nonce_is_rfc6979
#print axioms PyEcc.C06.nonce_is_rfc6979_int
#print axioms PyEcc.C06.Gen.bytes_to_int_spec
#print axioms PyEcc.C06.Gen.s0_eq
#print axioms PyEcc.C06.Gen.sign_total
#print axioms PyEcc.C06.Gen.sign_shape
#print axioms PyEcc.C06.Gen.nonce_is_rfc6979
#print axioms PyEcc.C06.Gen.nonce_is_rfc6979_int
#print axioms PyEcc.C06.Gen.privtopub_refines
#print axioms PyEcc.C06.Gen.sign_recover
#print axioms PyEcc.C06.Gen.sign_recover_deterministic
#print axioms PyEcc.C06.Gen.sign_headline
#print axioms PyEcc.C06.sign_recover
#print axioms PyEcc.C06.sign_recover_deterministic
#print axioms PyEcc.Tie.privtopub_eq
#print axioms PyEcc.Tie.ecdsa_raw_sign_eq
#print axioms PyEcc.Tie.ecdsa_raw_recover_eq
#print axioms PyEcc.Tie.bytes_to_int_eq
#print axioms PyEcc.Tie.deterministic_generate_k_eq
