/-
  The kernel evaluation (`decide +kernel`: kernel reduction only,
  no compiled evaluator, no axioms) of the optimized bn128 pairing on the generators,
  `optimized_bn128.pairing(G2, G1)`, over the verified fast `FQ12` arithmetic `FBn`
  (`Lemmas/NondegFast.lean`, `Lemmas/NondegLoopBn.lean`).

  HEAVY MODULE (thorough tier).  The kernel evaluates
    step 0  `twist(G2)`, `cast_point_to_fq12(G1)`;
    step A  `Q1`, `nQ2`: four powers `** field_modulus` (254-bit exponent; the two of `z = 1` need none);
    step B  the Miller loop, 64 iterations, signed digits (89 line evaluations, `double`/`add` of the
            running FQ12 point), and the two Frobenius line steps;
    step C  two products that CHECK, instead of computing them, the division and the value of
            `millerVal ** (p⁶ − 1)` (`NondegSem.toL_div_of_mul`, `NondegSem.toL_pow_of_conj`);
    step D  the power `** ((p⁶ + 1) // r)` (1268-bit exponent), the rest of the plain power
            `** ((p¹² − 1) // r)` of `pairing`.
  The literals below are what `#eval` of the same functions prints; the last one agrees with
  `py_ecc.optimized_bn128.pairing(G2, G1)` of the working tree (compared coefficient by coefficient).
-/
import PyEcc.Lemmas.NondegLoopBn
import PyEcc.Sem.TransferFq

namespace PyEcc.NondegBnSem
open PyEcc PyEcc.Gen.Consts PyEcc.Transfer PyEcc.NondegSem F12

/-- `twist(G2)`, coordinate `x` (`z` is `1`) -/
def twQx : FBn := F12.of
  ⟨0,
   0,
   16260673061341949275257563295988632869519996389676903622179081103440260644990,
   0,
   0,
   0,
   0,
   0,
   11559732032986387107991004021392285783925812861821192530917403151452391805634,
   0,
   0,
   0⟩

/-- `twist(G2)`, coordinate `y` -/
def twQy : FBn := F12.of
  ⟨0,
   0,
   0,
   15530828784031078730107954109694902500959150953518636601196686752670329677317,
   0,
   0,
   0,
   0,
   0,
   4082367875863433681332203403145435568316851327593401208105741076214120093531,
   0,
   0⟩

/-- `Q1 = (x ** p, y ** p, z ** p)` for `Q = twist(G2)`, coordinate `x` (`z` is `1`) -/
def frobAx : FBn := F12.of
  ⟨0,
   0,
   2969780724365357708749738771877769408604039298331095339722613029641514873246,
   0,
   0,
   0,
   0,
   0,
   6070174842523651825461006324987645339257276059765462992338211551285097849152,
   0,
   0,
   0⟩

/-- `Q1`, coordinate `y` -/
def frobAy : FBn := F12.of
  ⟨0,
   0,
   0,
   741567356056682212153857235572055310493764535744992559119539381116352257856,
   0,
   0,
   0,
   0,
   0,
   14979195929948718632567968180703131754953567972706796447883440492471033097811,
   0,
   0⟩

/-- `nQ2 = (x1 ** p, -y1 ** p, z1 ** p)`, coordinate `x` (`z` is `1`) -/
def frobBx : FBn := F12.of
  ⟨0,
   0,
   3259203684210884710674422538972828116863431943402825808364451918369448360663,
   0,
   0,
   0,
   0,
   0,
   9297169622091300181688275113796795577971148135373186795446279807370186273215,
   0,
   0,
   0⟩

/-- `nQ2`, coordinate `y` -/
def frobBy : FBn := F12.of
  ⟨0,
   0,
   0,
   15530828784031078730107954109694902500959150953518636601196686752670329677317,
   0,
   0,
   0,
   0,
   0,
   4082367875863433681332203403145435568316851327593401208105741076214120093531,
   0,
   0⟩

/-- `f_num * _n1 * _n2` -/
def millerNum : FBn := F12.of
  ⟨20054037783664694840923716458107106057298868755290949219562669865159924812909,
   7954710253999401591964471186352299349255376087328765749371774674860149665827,
   11872023675935551889488678238428365991074288955983385735924739360424783331413,
   19799303704810165819613658739905273833127692816738127975586973950736493880153,
   3443024755606289908420583461414862347839209887998987698283863916860179529209,
   7329727268640981987595518520146667186789219211366301703562191821310871031327,
   7830841717725219845645017345485270045376275284259624527920138232844227482041,
   9441759450208954060831762719859903537416594188287258315690578763077193984068,
   2110374587526622099912271086253958652005714814611745008409114220028762978652,
   21662225513780944146645473551748157508876656056563922671364298750050234352477,
   20968605726439927753288256206198622890433642788189318067006080448364915120639,
   12802326545325446842804188926051182721987463485476828230834806673592161505237⟩

/-- `f_den * _d1 * _d2` -/
def millerDen : FBn := F12.of
  ⟨0,
   0,
   0,
   0,
   6211778072179784228570893046571841675035973069994525165806018080682507985387,
   0,
   0,
   0,
   0,
   0,
   17167249023623154018627233521868275907310606665985628780917243473692426828678,
   0⟩

/-- the Miller value `f_num * _n1 * _n2 / (f_den * _d1 * _d2)` of `(G2, G1)` (`pairing(G2, G1, final_exponentiate=False)`) -/
def millerVal : Y12 :=
  ⟨19366241451639710135964591260249453030992491851219576746250900037907036053310,
   15907222772112304358111557366659474924970730522549833837368898205388968076831,
   12348092326001274455558504943652768366708477592727843034277917124618507843936,
   20233270714694587554153961919592201323744397525207473184446705141563361240138,
   2942794868631145755773847066851488943275042158250063036984155137702123239854,
   3207767341500944460987539322072619657540561130964230784439789180514799385248,
   20888797654042080861819469588665540025398199427911465555728580441863153171981,
   16900040042960563345761622485656399612589078044884375345231286750256513984575,
   5079089315299249892005929118991494031733582234390978696088338257573013822844,
   1842581047054823825194856933741982697323392809400303959517070720252842536598,
   6262773509376439877050778104402483395946707998475647376752194229255535575373,
   15530946201257089389839817776167542652841380767249084560849694679602921562106⟩

/-- `millerVal ** (p⁶ − 1)` -/
def easyVal : FBn := F12.of
  ⟨2434529919384379139882567850527219513626030550883207727079790341259197532811,
   15891372461671757249666468202571394054448572976190531057444999985129064027948,
   15151489323121904253673409757743453462778343188369090517127941821979530196092,
   5202604585266606957613846049158772457489688610513358143363564416010521214781,
   15968366973936726979834915156924328982223573092519487183612260177248978573027,
   14645030918387104077809167753158649365253802671385132301615565374071602421026,
   7779134134141679160519416639136779719093323842815340083861609617707490797933,
   21086468311715144304368650958063509635977938428959646604023152857185193297711,
   17174372830385140239959593997086763525210755589906497461549016474461360086139,
   18841936242214620883953818075640027072091769217824201305818357339024444402955,
   19312433957408400030280525833420755839886133407971515565003677425349238525846,
   14540102678140049226793914232965324030185486027795300684895759409543076545747⟩

/-- `pairing(G2, G1)` as an element of the model's optimized bn128 `FQ12` (coefficient list) -/
def pairingG2G1 : OBn12 :=
  ⟨[18443897754565973717256850119554731228214108935025491924036055734000366132575,
    10734401203193558706037776473742910696504851986739882094082017010340198538454,
    5985796159921227033560968606339653189163760772067273492369082490994528765680,
    4093294155816392700623820137842432921872230622290337094591654151434545306688,
    642121370160833232766181493494955044074321385528883791668868426879070103434,
    4527449849947601357037044178952942489926487071653896435602814872334098625391,
    3758435817766288188804561253838670030762970764366672594784247447067868088068,
    18059168546148152671857026372711724379319778306792011146784665080987064164612,
    14656606573936501743457633041048024656612227301473084805627390748872617280984,
    17918828665069491344039743589118342552553375221610735811112289083834142789347,
    19455424343576886430889849773367397946457449073528455097210946839000147698372,
    7484542354754424633621663080190936924481536615300815203692506276894207018007]⟩

/-- step 0: `twist(G2)` and `cast_point_to_fq12(G1)` -/
theorem calc_twist : twistY bnG2 = (twQx, twQy, 1) ∧ castY bnG1 = (1, 2, 1) := by
  decide +kernel

/-- step A: the Frobenius images `Q1`, `nQ2` -/
theorem calc_frob : MillerBnSem.frobG bnP (twQx, twQy, (1 : FBn)) = ((frobAx, frobAy, 1), (frobBx, frobBy, 1)) := by
  have h : twQx ^ bnP = frobAx ∧ twQy ^ bnP = frobAy ∧ frobAx ^ bnP = frobBx ∧ -(frobAy ^ bnP) = frobBy := by
    decide +kernel
  simp only [MillerBnSem.frobG, h.1, h.2.1, h.2.2.1, h.2.2.2, one_powF]

/-- step B: the 64 iterations of the Miller loop and the two Frobenius line steps -/
theorem calc_tail :
    MillerBnSem.optBnTailPair ((frobAx, frobAy, 1), (frobBx, frobBy, 1)) (1, 2, 1)
        (loopY MillerBnSem.bnDigits (twQx, twQy, 1) (1, 2, 1))
      = (millerNum, millerDen) := by decide +kernel

/-- steps 0–B together: numerator and denominator of the Miller value of `(G2, G1)` -/
theorem calc_miller : millerY MillerBnSem.bnDigits (twistY bnG2) (castY bnG1) = (millerNum, millerDen) := by
  rw [calc_twist.1, calc_twist.2, millerY, calc_frob, calc_tail]

/-- step C: `millerVal` is the quotient and `easyVal` is `millerVal ** (p⁶ − 1)`, each checked by one
    product; the operands are reduced and not zero -/
theorem calc_checks :
    millerVal.toF * millerDen = millerNum ∧
    easyVal * millerVal.toF = F12.of (X12.conjF bnP millerVal.toF) ∧
    X12.Good bnP millerNum ∧ X12.Good bnP millerDen ∧ X12.Good bnP millerVal.toF ∧
    toL millerDen ≠ 0 ∧ millerVal.toL ≠ 0 := by decide +kernel

/-- step D: the rest of the final power -/
theorem calc_pow :
    toL (easyVal ^ ((bnP ^ 6 + 1) / optimized_bn128_curve_order)) = pairingG2G1 := by decide +kernel

/-- the guards of `pairing(G2, G1)` pass -/
theorem calc_guards :
    Gen.OptBn.is_on_curve bnG2 (⟨optimized_bn128_b2⟩ : OBn2) = true ∧
    Gen.OptBn.is_on_curve bnG1 (Fq.ofInt optimized_bn128_b : Fq bnP) = true ∧
    ¬ (bnG1.2.2 = 0 ∨ bnG2.2.2 = 0) := by decide +kernel

theorem calc_ne : pairingG2G1 ≠ 1 ∧ pairingG2G1 ≠ 0 := by decide +kernel

end PyEcc.NondegBnSem
