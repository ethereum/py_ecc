/-
  The kernel evaluation (`decide +kernel`: kernel reduction
  only, no compiled evaluator, no axioms) of the optimized BLS12-381 pairing on the generators, `pairing(G2, G1)`, over the
  verified fast `FQ12` arithmetic (`Lemmas/NondegFast.lean`, `Lemmas/NondegLoop.lean`).

  HEAVY MODULE (thorough tier).  The kernel evaluates
    step A  the Miller loop, 63 iterations (68 line evaluations; `R` over the fast `FQ2`, `f` over the fast `FQ12`);
    step B  two products that CHECK, instead of computing them, the division `f_num / f_den` and the value of
            `(f_num / f_den) ** (p⁶ − 1)` (`NondegSem.toL_div_of_mul`, `NondegSem.toL_pow_of_conj`);
    step C  the power `** ((p⁶ + 1) // r)` (2030-bit exponent), the rest of the plain power
            `** ((p¹² − 1) // r)` of `pairing`.
  The literals below are what `#eval` of the same functions prints, and agree with
  `py_ecc.optimized_bls12_381.pairing(G2, G1)` of the working tree (checked by the harness).
-/
import PyEcc.Lemmas.NondegLoop

namespace PyEcc.NondegSem
open PyEcc PyEcc.Gen.Consts F12

/-- `f_num` after the 63 iterations of the optimized Miller loop on `(G2, G1)` -/
def millerNum : FBls := F12.of
  ⟨3227747023163064424800299062211664078027170278176228509142959973854741474646443791349505337001040357545569155772548,
   541506961493425099162573788461766373009210685252852983862532330307534360927656606981938461989686960410307655047218,
   3013844662400644969343292265399716595284849571929223560306245277443897228965825307631019228036940047996625989761150,
   2397936704377350573001109347421092925944431527479517767029992582725183511272123802137128966535299428418644392580634,
   2915447708853789719437734930994563393832967474538110082762289653181756406708553768585005172494646178298155346578101,
   129108843914375480820010816480547031781854209653770708866047400705600779944451052508957735157446036273970894123825,
   1122341722627933901205801517834146563362729544148798412320024793940980166846729287959073099071483421511653772559488,
   2535530981093756687000650867580807192589798504191839426260590932540512673995176426358011132386986231857104409262068,
   1669118823555818973206363368042195307912103021599921848791764447540169277485152968004218014634320894347180549812324,
   1124965188343001127558401615444891059946039933392322021308818707938090495656209978652032164237294933191027083168570,
   1696994040501505944372654285804248217040262334651032318777256687250334444629785752913350199077381099627601379992434,
   1739071043521664765022425483437261572124862037879202343228985530698694132856717351453457606760115616278350955013041⟩

/-- `f_den` after the 63 iterations of the optimized Miller loop on `(G2, G1)` -/
def millerDen : FBls := F12.of
  ⟨374952471943875420950322901125566534086934851044664474964754787067678503221046516970250818260606152415793323378565,
   0,
   0,
   0,
   0,
   0,
   989382981422013743233519600328226045407065110162680455201957435257198643511322012125368585644081513820516437814719,
   0,
   0,
   0,
   0,
   0⟩

/-- the Miller value `f_num / f_den` of `(G2, G1)` (`pairing(G2, G1, final_exponentiate=False)`) -/
def millerVal : X12 :=
  ⟨3842785500781247704853421637581596125018484552750442487213282351905335618031183237758839300407315012262459040918999,
   426692965776399645896024549764450265570868448180835072601957125080530549302398061291199895330170128989412930829754,
   1350079123053515198048294301750706118007076927729432285699240921689781830981159499593966421101476188910269758853404,
   1485630439707573914298392881434440343914088668210809845214937193905524629854172903089873890863614761049648707123535,
   3295208596638326494563067020299421602068849909285359094461715549556762485407606944369619825062591489576829137016408,
   593471104881228644601092309336892943056951235063529940999580794311706441217239703796500418888911877232163135002983,
   1038821663459708230604169229582617785424028553284718902075931858397213253938772191837620355868029958955999436473204,
   945139901409301334716510099996669795369870707152096756727788228130197865605512898435198003470462586999797295658091,
   130937890660325991298703740792832932395544339914396980524248157242614740543151259817781366757060095948209524529309,
   2041922342580490078329509996910434398113399006562150443686803162388080310562817226464059564954643025496456912520620,
   453927390217947537429511839750838598533725264283611106238551690466911451205860021154009727226776575415767768529178,
   1419402595267533106743680011957090853009907611945173272566144443521758953494251189151066548423721634430655744429497⟩

/-- `millerVal ** (p⁶ − 1)` -/
def easyVal : FBls := F12.of
  ⟨2434055521033581153351180807241465895836463814794550804484047805266385461748616692356826093009885984400124099705594,
   1641587099248296133228579627119019836323019668748540367813333372921421445396136927825961793224521744627387334998261,
   1694266736137189931577424262928277621236299219335311265415113992199042501764809946614210984837706177118890499018938,
   2910348437478326384228969812774897273875017178966407548953127923588672494429726406684868237497657239792210160580079,
   1140447311894697405149775717345351212796539468428780095771638377864539754474815985901953593467986826946628427130443,
   3700734982128554511056366486591062064025822288002033055675381937868579214168826612992766966720109349190012405792043,
   530280842640129443657582891615910992453948671789416228309537306579375225738612181756358116522902684128304081489912,
   3462181531384267964705894785715758591977722174550004475700089220209547927723681588659246838982473357725170126489634,
   3776289079645643482959603471167783945788494979862753200796196189548062361633295383170906681628262870592796086325923,
   1287996221979984214617076245476348766139561224958234245646224933442842926227832370671385213841157666392705275698306,
   1700647743725829383206392722205506391895669952639621668489867531386100160466754587898088779937283835343975241058544,
   3257868591292127695426273984752163636650071375206943337305993232301098408247453798670221901046621246590503275656043⟩

/-- the twelve coefficients of `pairing(G2, G1)` -/
def pairingVal : FBls := F12.of
  ⟨3408834164464458755751340723502736743445402614640994055433339214424916442641449510670327077303074893591740399366532,
   1017299873256115394687936133146817339783508925356207904663165117501336940438300180831508525168135575931758510829235,
   1919447955347661378578718469488414822573562393353397544098339472673901193098010131520945815709482515519580400649694,
   233557331756520805040932826416017142246700002714928636467514104620558679338483625829873520553081791155104026612174,
   2882199334237819327910933128503231887000342950792587449681715803095618652567681747054312179958427092970985872417068,
   579878855790610229145575079003483905368886712027403088810647643659132674704592975818766405092658613973478871626949,
   3268798540077874559188095304926415053902298079662269128631117894259354335713488241073281881110999874366368799440511,
   2688711983546324406847903726099677850388169649284572370749691792743294691894680263880362424577638309433508620982332,
   3520140447471844017044610248175793726488927385800919015247604269617056365166670232096113218155158979455637700602719,
   1555267885602801620621747613743921378408444002839854792606782732724136830563310004098024452104661167182680744848589,
   2626389147790168154036854297373352480470342009417426750876875476996308393122833154115295241935326582225976246741447,
   873321072950766150592434764742436722571574260472569072177205897167854308426485977134306337249021436737462538398830⟩

/-- `pairing(G2, G1)` as an element of the model's optimized `FQ12` (coefficient list) -/
def pairingG2G1 : OBls12 := toL pairingVal

/-- the generator `G2` over the fast `FQ2` -/
def fastG2 : TG := Transfer.mapT Gi.ofF blsG2

theorem calc_G2 : Transfer.GoodT Gi.Good fastG2 ∧ toT2 fastG2 = blsG2 := by decide +kernel

/-- step A: the Miller loop (kernel evaluation over the fast arithmetic) -/
theorem calc_miller :
    millerX (digitsFrom optimized_bls12_381_pseudo_binary_encoding 62) fastG2 blsG1
      = (millerNum, millerDen) := by decide +kernel

/-- step B: `millerVal` is `f_num / f_den` and `easyVal` is `millerVal ** (p⁶ − 1)`, each checked by one
    product; the operands are reduced and not zero -/
theorem calc_checks :
    (F12.of millerVal : FBls) * millerDen = millerNum ∧
    easyVal * (F12.of millerVal : FBls) = F12.of (X12.conjF blsP millerVal) ∧
    X12.Good blsP millerNum ∧ X12.Good blsP millerDen ∧ X12.Good blsP millerVal ∧
    toL millerDen ≠ 0 ∧ X12.toL millerVal ≠ 0 := by decide +kernel

/-- step C: the rest of the final power -/
theorem calc_pow :
    easyVal ^ ((blsP ^ 6 + 1) / optimized_bls12_381_curve_order) = pairingVal := by decide +kernel

/-- the guards of `pairing(G2, G1)` pass -/
theorem calc_guards :
    Gen.OptBls.is_on_curve blsG2 (⟨optimized_bls12_381_b2⟩ : OBls2) = true ∧
    Gen.OptBls.is_on_curve blsG1 (Fq.ofInt optimized_bls12_381_b : Fq blsP) = true ∧
    ¬ (blsG1.2.2 = 0 ∨ blsG2.2.2 = 0) := by decide +kernel

theorem calc_ne : pairingG2G1 ≠ 1 ∧ pairingG2G1 ≠ 0 := by decide +kernel

end PyEcc.NondegSem
