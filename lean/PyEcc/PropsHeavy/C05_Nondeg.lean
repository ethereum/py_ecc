/-
  Property C05, non-degeneracy clause: for the optimized BLS12-381
  pairing of py_ecc, `pairing(G2, G1)` is not `FQ12.one()`; it has multiplicative order exactly
  `curve_order`.

  HEAVY (thorough tier): imports `PropsHeavy/C05_NondegCalc.lean`, ≈ 7 s of kernel evaluation.

  How it is proved.  `pairing(G2, G1)` is EVALUATED by the Lean kernel (`decide +kernel`: kernel
  reduction only, no compiled evaluator, no axiom): the model's Miller loop and final power are re-expressed over a fast
  FQ12 arithmetic (`X12`: 12 naturals, explicit product formulas), which is PROVED to return the same
  coefficient lists as the model's list arithmetic for all inputs (`NondegSem.goodHom_toL`,
  `NondegSem.optBlsMillerLoop_fast`); the kernel then computes the twelve coefficients.  The division
  `f_num / f_den` is checked by one product, and so is the first factor `p⁶ − 1` of the final exponent:
  the `p⁶`-power map is `w ↦ −w` (`NegSem.sigma_w`), so `x ** (p⁶ − 1)` is the `y` with `y·x = x̄`.  With the
  general root-of-unity theorem (`C05N.pairingOptBls_orderOf`, `Props/C05_Order.lean`) the order is `r`.
-/
import PyEcc.PropsHeavy.C05_NondegCalc
import PyEcc.Lemmas.NondegChecked
import PyEcc.Props.C05_Order
import PyEcc.Props.C12_Miller
import PyEcc.Lemmas.NegField

namespace PyEcc.C05N
open PyEcc PyEcc.Gen.Consts PyEcc.Fqp PyEcc.FqpSem PyEcc.PairingSem PyEcc.NondegSem F12

/-- the Miller loop on `(G2, G1)` ends with `f_num / f_den = millerVal` -/
theorem miller_G2_G1 (fe : Option ℕ) :
    optBlsMillerLoop (digitsFrom optimized_bls12_381_pseudo_binary_encoding 62) fe blsG2 blsG1
      = match fe with
        | some e => X12.toL millerVal ^ e
        | none => X12.toL millerVal := by
  obtain ⟨hd, -, gn, gd, gv, hd0, -⟩ := calc_checks
  rw [← calc_G2.2, optBlsMillerLoop_fast _ _ calc_G2.1, calc_miller]
  dsimp only
  rw [toL_div, toL_div_of_mul (z := F12.of millerVal) Irred12.sane_bls12 gn gd gv hd0 hd]
  rfl

/-- **The value of `pairing(G2, G1)`** (optimized bls12_381, generators of the module):
    `optimized_bls12_381.pairing(G2, G1)` returns (no exception) the FQ12 element whose twelve
    coefficients are the literal `NondegSem.pairingVal` (`pairingG2G1 = toL pairingVal`). -/
theorem pairingOptBls_G2_G1 : pairingOptBls blsG2 blsG1 true = .ok pairingG2G1 := by
  obtain ⟨h2, h1, hz⟩ := calc_guards
  obtain ⟨-, he, -, -, gv, -, hv0⟩ := calc_checks
  rw [pairingOptBls_ok true h2 h1, if_neg hz, if_pos rfl,
    miller_G2_G1]
  simp only
  rw [finalExp_bls.opt_split, X12.toL_eq, toL_pow_of_conj (x := F12.of millerVal) (by decide) NegSem.sigma_apply NegSem.sigma_w gv hv0 he,
    calc_pow]
  rfl

/-- **The Miller value of `(G2, G1)`**: `pairing(G2, G1, final_exponentiate=False)` returns
    `f_num / f_den` with the coefficients `NondegSem.millerVal`, a non-zero element of FQ12. -/
theorem pairingOptBls_G2_G1_miller :
    pairingOptBls blsG2 blsG1 false = .ok (X12.toL millerVal) ∧ X12.toL millerVal ≠ 0 := by
  obtain ⟨h2, h1, hz⟩ := calc_guards
  refine ⟨?_, calc_checks.2.2.2.2.2.2⟩
  rw [pairingOptBls_ok false h2 h1, if_neg hz,
    if_neg Bool.false_ne_true, miller_G2_G1]

/-- **Non-degeneracy: `pairing(G2, G1) != FQ12.one()`** (optimized bls12_381).  The call returns a
    value `v` (it does not raise), and `v` is neither `FQ12.one()` nor `FQ12.zero()`. -/
theorem pairingOptBls_G2_G1_ne_one :
    ∃ v, pairingOptBls blsG2 blsG1 true = .ok v ∧ v ≠ 1 ∧ v ≠ 0 :=
  ⟨pairingG2G1, pairingOptBls_G2_G1, calc_ne.1, calc_ne.2⟩

/-- **`pairing(G2, G1)` has order exactly `r`**: the value `v` returned by
    `optimized_bls12_381.pairing(G2, G1)` satisfies `v ** curve_order == 1`, `v != 1`, and its
    multiplicative order in the field `FQ12 = Fp[w]/(w¹² − 2w⁶ + 2)` is exactly `curve_order`
    (the prime `r`): it generates the group `μ_r` of `r`-th roots of unity, the target group of the
    pairing. -/
theorem pairingOptBls_G2_G1_order (v : OBls12) (h : pairingOptBls blsG2 blsG1 true = .ok v) :
    v ^ optimized_bls12_381_curve_order = 1 ∧ v ≠ 1 ∧
      orderOf (toQ v) = optimized_bls12_381_curve_order := by
  have hv : v = pairingG2G1 := by
    rw [pairingOptBls_G2_G1] at h; exact (Except.ok.inj h).symm
  have h1 : v ≠ 1 := hv ▸ calc_ne.1
  have h0 : v ≠ 0 := hv ▸ calc_ne.2
  refine ⟨?_, h1, pairingOptBls_orderOf _ _ v h h1 h0⟩
  rcases pairingOptBls_pow_r _ _ v h with e | e
  · exact e
  · exact absurd e h0

/-- non-vacuity of the hypothesis of `pairingOptBls_G2_G1_order` (and of the hypotheses `v ≠ 1`,
    `v ≠ 0` of `pairingOptBls_orderOf` in `Props/C05_Order.lean`): the call returns such a value -/
example : ∃ v, pairingOptBls blsG2 blsG1 true = .ok v ∧ v ≠ 1 ∧ v ≠ 0 := pairingOptBls_G2_G1_ne_one

/-- **The reference pairing is non-degenerate too**: `bls12_381.pairing` on the same generators
    (read in the reference module's affine representation: `normalize(G2)`, `normalize(G1)`) returns
    the same twelve coefficients, hence a value different from `FQ12.one()`. -/
theorem pairingRefBls_G2_G1 :
    (pairingRefBls (C12M.refOfOptG2 blsG2) (C12M.refOfOptG1 blsG1)).map Fqp.coeffs
      = .ok pairingG2G1.coeffs ∧ pairingG2G1.coeffs ≠ (1 : RBls12).coeffs := by
  refine ⟨?_, by decide +kernel⟩
  rw [← C12M.pairingOptBls_eq_pairingRefBls_normalize blsG2 blsG1 C17M.blsG2_passes.1
    C17M.blsG2_passes.2.2, pairingOptBls_G2_G1]
  rfl

end PyEcc.C05N
