/-
  Property C05, the BILINEARITY clause (under the named hypothesis) and the
  NON-DEGENERACY clause, restated about the GENERATED code (`Gen.ExtraPairing.*.pairing`,
  `Gen.OptBls.add / multiply / is_on_curve`, `Gen.ExtraCodec.subgroup_check`).  Companion of `Props/C05_Gen.lean`.

  HEAVY IMPORTS: this file imports `Lemmas/ModelPairing.lean` (→ `Lemmas/NdFromModel.lean` → `PropsHeavy/C05_Nondeg.lean`,
  ≈ 7 s of kernel evaluation, once) and `PropsHeavy/C05_NondegBn.lean`; it is kept apart from `C05_Gen.lean` for that
  reason (`Props/C01_ProtoModel.lean` has the same dependency).  The file itself elaborates in seconds.

  * `GenBilinearCode` — the named hypothesis, stated on generated functions ONLY:
        `pairing(add(Q, Q'), P) == pairing(Q, P) * pairing(Q', P)`,  `pairing(Q, add(P, P')) == pairing(Q, P) * pairing(Q, P')`
    for all triples with reduced coefficients that pass `is_on_curve` and `subgroup_check`.  It is EQUIVALENT to the
    project's hypothesis `NdSem.ModelBilinearCode` (`genBilinearCode_iff`) — same strength, the model functions replaced
    by the generated ones through the tie theorems.  It is a closed mathematical statement (bilinearity of the optimal
    ate pairing as implemented: divisors / Weil reciprocity, not in Mathlib) — a hypothesis, never an axiom; its
    "instance" would be its proof, so no `example` of it is given (its side conditions are shown satisfiable below).
  * `pairing_bilinear_ab` — C05's headline clause FROM that hypothesis: `pairing(b·Q, a·P) == pairing(Q, P) ** (a·b)`.
  * `pairing_G2_G1_nondegenerate_*` — unconditional: `pairing(G2, G1)` is not `FQ12.one()`, has order exactly `r`.
-/
import PyEcc.Lemmas.ModelPairing
import PyEcc.PropsHeavy.C05_NondegBn
import PyEcc.Props.TiePairing
import PyEcc.Props.TieCofactor

set_option linter.unusedSectionVars false

namespace PyEcc.C05.Gen
open PyEcc PyEcc.Gen.Consts PyEcc.Fqp PyEcc.FqpSem PyEcc.Transfer PyEcc.BlsSem PyEcc.BlsProto PyEcc.NdSem

/-- **Named hypothesis: bilinearity of the generated optimized bls12_381 `pairing`, as a statement about the generated
    code alone.**  For all FQ2 triples `Q`, `Q'` with reduced coefficients and all FQ triples `P`, `P'` that pass the
    generated `is_on_curve` and `subgroup_check`:
    * `pairing(add(Q, Q'), P) == pairing(Q, P) * pairing(Q', P)`,
    * `pairing(Q, add(P, P')) == pairing(Q, P) * pairing(Q, P')`
    (equalities of FQ12 coefficient lists, for the values the three calls return). -/
structure GenBilinearCode : Prop where
  add_left : ∀ (Q Q' : G2Pt) (P : G1Pt), CanonT Q → CanonT Q' →
    Gen.OptBls.is_on_curve Q blsB2 = true → Gen.OptBls.is_on_curve Q' blsB2 = true →
    Gen.OptBls.is_on_curve P blsB = true →
    Gen.ExtraCodec.subgroup_check Q = true → Gen.ExtraCodec.subgroup_check Q' = true →
    Gen.ExtraCodec.subgroup_check P = true →
    ∀ v v' w : OBls12, Gen.ExtraPairing.OptBls.pairing Q P true = .ok v →
      Gen.ExtraPairing.OptBls.pairing Q' P true = .ok v' →
      Gen.ExtraPairing.OptBls.pairing (Gen.OptBls.add Q Q') P true = .ok w → w = v * v'
  add_right : ∀ (Q : G2Pt) (P P' : G1Pt), CanonT Q →
    Gen.OptBls.is_on_curve Q blsB2 = true → Gen.OptBls.is_on_curve P blsB = true →
    Gen.OptBls.is_on_curve P' blsB = true →
    Gen.ExtraCodec.subgroup_check Q = true → Gen.ExtraCodec.subgroup_check P = true →
    Gen.ExtraCodec.subgroup_check P' = true →
    ∀ v v' w : OBls12, Gen.ExtraPairing.OptBls.pairing Q P true = .ok v →
      Gen.ExtraPairing.OptBls.pairing Q P' true = .ok v' →
      Gen.ExtraPairing.OptBls.pairing Q (Gen.OptBls.add P P') true = .ok w → w = v * v'

/-- the hypothesis on the generated code is exactly the project's code-level hypothesis `ModelBilinearCode` -/
theorem genBilinearCode_iff : GenBilinearCode ↔ ModelBilinearCode :=
  ⟨fun h => ⟨by simpa only [Tie.subgroup_check_eq, Tie.pairing_optBls_eq] using h.add_left,
      by simpa only [Tie.subgroup_check_eq, Tie.pairing_optBls_eq] using h.add_right⟩,
    fun h => ⟨by simpa only [Tie.subgroup_check_eq, Tie.pairing_optBls_eq] using h.add_left,
      by simpa only [Tie.subgroup_check_eq, Tie.pairing_optBls_eq] using h.add_right⟩⟩

section
variable [DecidableEq K2]

/-- **C05 headline clause on the generated code, conditional on `GenBilinearCode`:
    `pairing(multiply(Q, b), multiply(P, a)) == pairing(Q, P) ** (a * b)`.**  For every FQ2 triple `Q` with reduced
    coefficients and every FQ triple `P` that pass the generated `is_on_curve` and `subgroup_check` (any projective
    representatives), and all naturals `a`, `b` (`0`, `1`, `r − 1`, `r`, full width, …): both generated `pairing` calls
    return, and the value of the second is the `(a·b)`-th power (the generated-class `**`, as FQ12 coefficient lists) of
    the value of the first. -/
theorem pairing_bilinear_ab (h : GenBilinearCode) (Q : G2Pt) (P : G1Pt) (cQ : CanonT Q)
    (honQ : Gen.OptBls.is_on_curve Q blsB2 = true) (honP : Gen.OptBls.is_on_curve P blsB = true)
    (hsQ : Gen.ExtraCodec.subgroup_check Q = true) (hsP : Gen.ExtraCodec.subgroup_check P = true) (a b : ℕ) :
    ∃ v w : OBls12, Gen.ExtraPairing.OptBls.pairing Q P true = .ok v ∧
      Gen.ExtraPairing.OptBls.pairing (Gen.OptBls.multiply Q b) (Gen.OptBls.multiply P a) true = .ok w ∧
      w = v ^ (a * b) := by
  have mb : ModelBilinear := (genBilinearCode_iff.mp h).toModelBilinear
  rw [Tie.subgroup_check_eq] at hsQ hsP
  simp only [Tie.pairing_optBls_eq]
  obtain ⟨q, rq⟩ := repG2_of_on_curve cQ honQ
  obtain ⟨p, r⟩ := curveF1.exists_rep (goodT_true P) honP
  have rp := r.rep
  have hq : blsR • q = 0 := rq.subgroupCheck_iff.mp hsQ
  have hp : blsR • p = 0 := (C17Sub.rep_iff r).mp hsP
  have rqb := rq.multiply b
  have rpa := (r.multiply a).rep
  have hqb : blsR • (b • q) = 0 := by rw [smul_comm, hq, smul_zero]
  have hpa : blsR • (a • p) = 0 := by rw [smul_comm, hp, smul_zero]
  obtain ⟨v, hv⟩ := pairing_true_ok rq rp
  obtain ⟨w, hw⟩ := pairing_true_ok rqb rpa
  refine ⟨v, w, hv, hw, ?_⟩
  have wv : WF v := C12.pairingOptBls_wf Q P true v hv
  have cw : Canon w := by
    obtain ⟨m, _, _, hwm⟩ := C05N.pairingOptBls_is_pow hw
    rw [hwm]; exact pow_canon CodecSem.blsP_pos hd12 m _
  apply toQ_inj cw (pow_canon CodecSem.blsP_pos hd12 v _)
  have e1 := valM_spec_true rq rp hq hp hv
  have e2 := valM_spec_true rqb rpa hqb hpa hw
  have e3 : (toQ (v ^ (a * b)) : K12) = toQ v ^ (a * b) := toQ_pow hd12 wv _
  have hb : IsBilinear blsR eM := mb.toPairingValueFacts''.toPairingFacts''.isBilinear
  refine e2.trans (Eq.trans ?_ e3.symm)
  rw [e1, ← mb.eM_val hqb hpa, ← mb.eM_val hq hp, hb.nsmul_left hq hpa, hb.nsmul_right hq hp, ← pow_mul,
    Units.val_pow_eq_pow_val]

/-- the hypothesis itself, read on the generated code: additivity in each argument (this IS `GenBilinearCode`, with the
    existence of the three returned values supplied) -/
theorem pairing_additive (h : GenBilinearCode) (Q Q' : G2Pt) (P : G1Pt) (cQ : CanonT Q) (cQ' : CanonT Q')
    (honQ : Gen.OptBls.is_on_curve Q blsB2 = true) (honQ' : Gen.OptBls.is_on_curve Q' blsB2 = true)
    (honP : Gen.OptBls.is_on_curve P blsB = true)
    (hsQ : Gen.ExtraCodec.subgroup_check Q = true) (hsQ' : Gen.ExtraCodec.subgroup_check Q' = true)
    (hsP : Gen.ExtraCodec.subgroup_check P = true) :
    ∃ v v' w : OBls12, Gen.ExtraPairing.OptBls.pairing Q P true = .ok v ∧
      Gen.ExtraPairing.OptBls.pairing Q' P true = .ok v' ∧
      Gen.ExtraPairing.OptBls.pairing (Gen.OptBls.add Q Q') P true = .ok w ∧ w = v * v' := by
  obtain ⟨q, rq⟩ := repG2_of_on_curve cQ honQ
  obtain ⟨q', rq'⟩ := repG2_of_on_curve cQ' honQ'
  obtain ⟨p, r⟩ := curveF1.exists_rep (goodT_true P) honP
  have rp := r.rep
  have ra := rq.add rq'
  obtain ⟨v, hv⟩ := pairing_true_ok rq rp
  obtain ⟨v', hv'⟩ := pairing_true_ok rq' rp
  obtain ⟨w, hw⟩ := pairing_true_ok ra rp
  rw [← Tie.pairing_optBls_eq] at hv hv' hw
  exact ⟨v, v', w, hv, hv', hw, h.add_left Q Q' P cQ cQ' honQ honQ' honP hsQ hsQ' hsP v v' w hv hv' hw⟩

end

/-! ## non-degeneracy (unconditional, by kernel evaluation of the whole pairing) -/

/-- **`pairing(G2, G1)` is not `FQ12.one()` and has order exactly `r`, generated optimized bls12_381**: the call
    returns a value `v` with `v != FQ12.one()`, `v != FQ12.zero()`, `v ** curve_order == FQ12.one()`, and the
    multiplicative order of `v` in `FQ12 = Fp[w]/(w¹² − 2w⁶ + 2)` is exactly `curve_order`. -/
theorem pairing_G2_G1_nondegenerate_optBls :
    ∃ v, Gen.ExtraPairing.OptBls.pairing blsG2 blsG1 true = .ok v ∧ v ≠ 1 ∧ v ≠ 0 ∧
      v ^ optimized_bls12_381_curve_order = 1 ∧ orderOf (toQ v) = optimized_bls12_381_curve_order := by
  obtain ⟨v, e, h1, h0⟩ := C05N.pairingOptBls_G2_G1_ne_one
  obtain ⟨hr, _, ho⟩ := C05N.pairingOptBls_G2_G1_order v e
  exact ⟨v, by rw [Tie.pairing_optBls_eq]; exact e, h1, h0, hr, ho⟩

/-- **the same for the generated optimized bn128 `pairing(G2, G1)`** -/
theorem pairing_G2_G1_nondegenerate_optBn :
    ∃ v, Gen.ExtraPairing.OptBn.pairing bnG2 bnG1 true = .ok v ∧ v ≠ 1 ∧ v ≠ 0 ∧
      v ^ optimized_bn128_curve_order = 1 ∧ orderOf (toQ v) = optimized_bn128_curve_order := by
  obtain ⟨v, e, h1, h0⟩ := C05NB.pairingOptBn_G2_G1_ne_one
  obtain ⟨hr, _, ho⟩ := C05NB.pairingOptBn_G2_G1_order v e
  exact ⟨v, by rw [Tie.pairing_optBn_eq]; exact e, h1, h0, hr, ho⟩

/-- **the generated REFERENCE pairings are non-degenerate too**: `bls12_381.pairing` and `bn128.pairing` on the generators
    read in the reference modules' affine representation (`normalize(G2)`, `normalize(G1)`) return the same twelve
    coefficients as the optimized pairings, different from those of `FQ12.one()`. -/
theorem pairing_G2_G1_nondegenerate_ref :
    ((Gen.ExtraPairing.RefBls.pairing (C12M.refOfOptG2 blsG2) (C12M.refOfOptG1 blsG1)).map Fqp.coeffs
        = (Gen.ExtraPairing.OptBls.pairing blsG2 blsG1 true).map Fqp.coeffs ∧
      (Gen.ExtraPairing.RefBls.pairing (C12M.refOfOptG2 blsG2) (C12M.refOfOptG1 blsG1)).map Fqp.coeffs
        ≠ .ok (1 : RBls12).coeffs) ∧
    ((Gen.ExtraPairing.RefBn.pairing (C12MB.refOfOptG2 bnG2) (C12MB.refOfOptG1 bnG1)).map Fqp.coeffs
        = (Gen.ExtraPairing.OptBn.pairing bnG2 bnG1 true).map Fqp.coeffs ∧
      (Gen.ExtraPairing.RefBn.pairing (C12MB.refOfOptG2 bnG2) (C12MB.refOfOptG1 bnG1)).map Fqp.coeffs
        ≠ .ok (1 : RBn12).coeffs) := by
  rw [Tie.pairing_refBls_eq, Tie.pairing_optBls_eq, Tie.pairing_refBn_eq, Tie.pairing_optBn_eq,
    C05N.pairingRefBls_G2_G1.1, C05N.pairingOptBls_G2_G1, C05NB.pairingRefBn_G2_G1.1, C05NB.pairingOptBn_G2_G1]
  refine ⟨⟨rfl, fun h => C05N.pairingRefBls_G2_G1.2 (Except.ok.inj h)⟩,
    ⟨rfl, fun h => C05NB.pairingRefBn_G2_G1.2 (Except.ok.inj h)⟩⟩

/-- the generators satisfy the side conditions of `GenBilinearCode` / `pairing_bilinear_ab` -/
example : CanonT blsG2 ∧ Gen.OptBls.is_on_curve blsG2 blsB2 = true ∧ Gen.OptBls.is_on_curve blsG1 blsB = true ∧
    Gen.ExtraCodec.subgroup_check blsG2 = true ∧ Gen.ExtraCodec.subgroup_check blsG1 = true :=
  ⟨C17M.blsG2_passes.1, C17M.blsG2_passes.2.1, C17M.blsG1_passes.1,
    by rw [Tie.subgroup_check_eq]; exact C17M.blsG2_passes.2.2,
    by rw [Tie.subgroup_check_eq]; exact C17M.blsG1_passes.2⟩

end PyEcc.C05.Gen
