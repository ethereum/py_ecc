/-
  Property C05, non-degeneracy clause for the bn128 implementations:
  `optimized_bn128.pairing(G2, G1)` and `bn128.pairing(G2, G1)` are not `FQ12.one()`; the value has
  multiplicative order exactly `curve_order`.

  HEAVY (thorough tier): imports `PropsHeavy/C05_NondegBnCalc.lean`, ≈ 7 s of kernel evaluation.

  How it is proved.  `pairing(G2, G1)` is EVALUATED by the Lean kernel (`decide +kernel`: kernel
  reduction only, no compiled evaluator, no axiom): the model's optimized bn128 Miller loop (64 signed
  digits, running point over FQ12), its two Frobenius line steps and the final power are re-expressed
  over a fast FQ12 arithmetic (`FBn`: 12 naturals, explicit product formulas with `w¹² = 18w⁶ − 82`
  folded in), which is PROVED to return the same coefficient lists as the model's list arithmetic for
  all inputs (`NondegSem.goodHom_toL`, `NondegBnSem.optBnMillerLoop_fast`); the kernel then computes
  the twelve coefficients.  The division is checked by one product, and so is the first factor `p⁶ − 1`
  of the final exponent: the `p⁶`-power map is `w ↦ −w` (`NegBnSem.sigma_w`), so `x ** (p⁶ − 1)` is the
  `y` with `y·x = x̄`.  With the general root-of-unity theorem (`C05N.pairingOptBn_orderOf`,
  `Props/C05_Order.lean`) the order is `r`; the reference pairing returns the same coefficients
  (`C12MB.pairingOptBn_eq_pairingRefBn_normalize`, `Props/C12_MillerBn.lean`).
-/
import PyEcc.PropsHeavy.C05_NondegBnCalc
import PyEcc.Lemmas.NondegChecked
import PyEcc.Props.C05_Order
import PyEcc.Props.C12_MillerBn
import PyEcc.Lemmas.NegBnField

namespace PyEcc.C05NB
open PyEcc PyEcc.Gen PyEcc.Gen.Consts PyEcc.Fqp PyEcc.FqpSem PyEcc.PairingSem PyEcc.Transfer
  PyEcc.NondegBnSem PyEcc.NondegSem PyEcc.NondegSem.F12

/-- the Miller loop on `(G2, G1)` ends with the quotient `millerVal` -/
theorem miller_G2_G1 (fe : Option ℕ) :
    optBnMillerLoop MillerBnSem.bnDigits fe (twistOptBn bnG2)
        (castFq12 bnG1.1, castFq12 bnG1.2.1, castFq12 bnG1.2.2)
      = match fe with
        | some e => millerVal.toL ^ e
        | none => millerVal.toL := by
  obtain ⟨hd, -, gn, gd, gv, hd0, -⟩ := calc_checks
  rw [optBnMillerLoop_fast, calc_miller]
  dsimp only
  rw [toL_div, toL_div_of_mul Irred12.sane_bn12 gn gd gv hd0 hd, Y12.toL_toF]
  rfl

/-- **The value of `pairing(G2, G1)`** (optimized bn128, generators of the module):
    `optimized_bn128.pairing(G2, G1)` returns (no exception) the FQ12 element whose twelve
    coefficients are the literal `NondegBnSem.pairingG2G1` — the same twelve integers py_ecc prints. -/
theorem pairingOptBn_G2_G1 : pairingOptBn bnG2 bnG1 true = .ok pairingG2G1 := by
  obtain ⟨h2, h1, hz⟩ := calc_guards
  obtain ⟨-, he, -, -, gv, -, hv0⟩ := calc_checks
  rw [pairingOptBn_ok true h2 h1, if_neg hz, if_pos rfl,
    miller_G2_G1]
  simp only
  rw [finalExp_bn.opt_split, ← Y12.toL_toF, toL_pow_of_conj (by decide) NegBnSem.sigma_apply NegBnSem.sigma_w gv
    (Y12.toL_toF _ ▸ hv0) he, calc_pow]

/-- **The Miller value of `(G2, G1)`**: `pairing(G2, G1, final_exponentiate=False)` returns
    `f_num·n1·n2 / (f_den·d1·d2)` with the coefficients `NondegBnSem.millerVal`, a non-zero element
    of FQ12. -/
theorem pairingOptBn_G2_G1_miller :
    pairingOptBn bnG2 bnG1 false = .ok (Y12.toL millerVal) ∧ Y12.toL millerVal ≠ 0 := by
  obtain ⟨h2, h1, hz⟩ := calc_guards
  refine ⟨?_, calc_checks.2.2.2.2.2.2⟩
  rw [pairingOptBn_ok false h2 h1, if_neg hz,
    if_neg Bool.false_ne_true, miller_G2_G1]

/-- **Non-degeneracy: `pairing(G2, G1) != FQ12.one()`** (optimized bn128).  The call returns a value
    `v` (it does not raise), and `v` is neither `FQ12.one()` nor `FQ12.zero()`. -/
theorem pairingOptBn_G2_G1_ne_one :
    ∃ v, pairingOptBn bnG2 bnG1 true = .ok v ∧ v ≠ 1 ∧ v ≠ 0 :=
  ⟨pairingG2G1, pairingOptBn_G2_G1, calc_ne.1, calc_ne.2⟩

/-- **`pairing(G2, G1)` has order exactly `r`** (optimized bn128): the value `v` returned by
    `optimized_bn128.pairing(G2, G1)` satisfies `v ** curve_order == 1`, `v != 1`, and its
    multiplicative order in the field `FQ12 = Fp[w]/(w¹² − 18w⁶ + 82)` is exactly `curve_order` (the
    prime `r`): it generates the group `μ_r` of `r`-th roots of unity, the target group of the pairing. -/
theorem pairingOptBn_G2_G1_order (v : OBn12) (h : pairingOptBn bnG2 bnG1 true = .ok v) :
    v ^ optimized_bn128_curve_order = 1 ∧ v ≠ 1 ∧
      orderOf (toQ v) = optimized_bn128_curve_order := by
  have hv : v = pairingG2G1 := by
    rw [pairingOptBn_G2_G1] at h; exact (Except.ok.inj h).symm
  have h1 : v ≠ 1 := hv ▸ calc_ne.1
  have h0 : v ≠ 0 := hv ▸ calc_ne.2
  refine ⟨?_, h1, C05N.pairingOptBn_orderOf _ _ v h h1 h0⟩
  rcases C05N.pairingOptBn_pow_r _ _ v h with e | e
  · exact e
  · exact absurd e h0

/-- non-vacuity of the hypothesis of `pairingOptBn_G2_G1_order` (and of the hypotheses `v ≠ 1`,
    `v ≠ 0` of `C05N.pairingOptBn_orderOf` in `Props/C05_Order.lean`): the call returns such a value -/
example : ∃ v, pairingOptBn bnG2 bnG1 true = .ok v ∧ v ≠ 1 ∧ v ≠ 0 := pairingOptBn_G2_G1_ne_one

/-- **The reference bn128 pairing is non-degenerate too**: `bn128.pairing` on the same generators
    (read in the reference module's affine representation: `normalize(G2)`, `normalize(G1)`) returns
    the same twelve coefficients, hence a value different from `FQ12.one()`. -/
theorem pairingRefBn_G2_G1 :
    (pairingRefBn (C12MB.refOfOptG2 bnG2) (C12MB.refOfOptG1 bnG1)).map Fqp.coeffs
      = .ok pairingG2G1.coeffs ∧ pairingG2G1.coeffs ≠ (1 : RBn12).coeffs := by
  refine ⟨?_, by decide +kernel⟩
  rw [← C12MB.pairingOptBn_eq_pairingRefBn_normalize bnG2 bnG1 (by decide +kernel)
    C07.Facts.bn_G2_opt.2.2, pairingOptBn_G2_G1]
  rfl

/-- **`bn128.pairing(G2, G1)` has order exactly `r`** (reference bn128): the call returns a value `v`
    with the twelve coefficients `NondegBnSem.pairingG2G1`; `v` is neither `FQ12.one()` nor
    `FQ12.zero()`, `v ** curve_order == 1`, and the multiplicative order of `v` in
    `FQ12 = Fp[w]/(w¹² − 18w⁶ + 82)` is exactly `curve_order`. -/
theorem pairingRefBn_G2_G1_order :
    ∃ v : RBn12, pairingRefBn (C12MB.refOfOptG2 bnG2) (C12MB.refOfOptG1 bnG1) = .ok v ∧
      v.coeffs = pairingG2G1.coeffs ∧ v ≠ 1 ∧ v ≠ 0 ∧ v ^ bn128_curve_order = 1 ∧
      orderOf (toQ v) = bn128_curve_order := by
  have h := pairingRefBn_G2_G1.1
  cases hv : pairingRefBn (C12MB.refOfOptG2 bnG2) (C12MB.refOfOptG1 bnG1) with
  | error e => rw [hv] at h; cases h
  | ok v =>
    rw [hv] at h
    have hc : v.coeffs = pairingG2G1.coeffs := Except.ok.inj h
    have hv' : v = (⟨pairingG2G1.coeffs⟩ : RBn12) := by
      cases v; simp only at hc; rw [hc]
    have h1 : v ≠ 1 := by rw [hv']; decide +kernel
    have h0 : v ≠ 0 := by rw [hv']; decide +kernel
    refine ⟨v, rfl, hc, h1, h0, ?_, C05N.pairingRefBn_orderOf _ _ v hv h1 h0⟩
    rcases C05N.pairingRefBn_pow_r _ _ v hv with e | e
    · exact e
    · exact absurd e h0

end PyEcc.C05NB
