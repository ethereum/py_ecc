/-
  For C10.  The simplified SWU map over any field: the identity `g(Z·t²·x1) = Z³·t⁶·g(x1)` and the reading of the code's
  numerator and denominator as the RFC's `x1` give `proj_isSswu`, the projective computation of `optimized_swu_G1` /
  `optimized_swu_G2` is the RFC's map (instantiated in `Lemmas/SwuG1.lean` and `Lemmas/Swu2.lean`); the relation `IsSswu`
  is functional and the straight-line RFC function satisfies it.  Over `F1 = Fq blsP`: `sqrt_division_FQ` decides
  squareness of `u/v` (`sqrtDiv_spec`, by Euler's criterion from `ZMod blsP`).
-/
import PyEcc.Spec.Rfc9380Sswu
import PyEcc.Sem.FqZMod
import PyEcc.Sem.Primes
import PyEcc.Props.C10_Consts
import PyEcc.Lemmas.SignBit
import Mathlib.Tactic.Ring
import Mathlib.Tactic.FieldSimp
import Mathlib.Tactic.LinearCombination
import Mathlib.NumberTheory.LegendreSymbol.Basic

namespace PyEcc.SwuSem
open PyEcc.Spec

section generic
variable {F : Type*} [Field F]

theorem sswuX1_of_ne (A B Z u : F) (hT : Z ^ 2 * u ^ 4 + Z * u ^ 2 ≠ 0) :
    sswuX1 A B Z u = (-B / A) * (1 + 1 / (Z ^ 2 * u ^ 4 + Z * u ^ 2)) := by
  unfold sswuX1 inv0
  simp only [inv_eq_zero, hT, if_false, one_div]

theorem sswuX1_of_eq (A B Z u : F) (hT : Z ^ 2 * u ^ 4 + Z * u ^ 2 = 0) :
    sswuX1 A B Z u = B / (Z * A) := by
  unfold sswuX1 inv0
  simp only [hT, inv_zero, if_true]

/-- **SSWU identity**: if `A·T·x1 = −B·(T + 1)` with `T = s + s²` (as for the RFC's `x1` and
    `s = Z u²` when `T ≠ 0`) then `g(s·x1) = s³·g(x1)`. -/
theorem sswu_identity (A B s x1 : F) (h : A * (s + s ^ 2) * x1 = -(B * (s + s ^ 2 + 1))) :
    sswuG A B (s * x1) = s ^ 3 * sswuG A B x1 := by
  unfold sswuG
  linear_combination (1 - s) * h

theorem proj_x1 {A B Z t T D : F} (hA : A ≠ 0) (hT : T = Z * t ^ 2 + (Z * t ^ 2) ^ 2)
    (hD0 : T = 0 → D = Z * A) (hD1 : T ≠ 0 → D = -(A * T)) :
    B * (T + 1) / D = sswuX1 A B Z t := by
  have hT' : Z ^ 2 * t ^ 4 + Z * t ^ 2 = T := by rw [hT]; ring
  by_cases h : T = 0
  · rw [sswuX1_of_eq A B Z t (hT'.trans h), hD0 h, h, zero_add, mul_one]
  · rw [sswuX1_of_ne A B Z t (hT'.trans_ne h), hD1 h, hT']
    field_simp

theorem proj_g (A B N D : F) (hD : D ≠ 0) :
    (N ^ 3 + A * N * D ^ 2 + B * D ^ 3) / D ^ 3 = sswuG A B (N / D) := by
  unfold sswuG
  field_simp

/-- step 9, the sign fix: for a `sgn0` with values in `{0, 1}` that separates `y ≠ 0` from `−y`, the
    fixed `y` has the same square, and the sign of `u` unless it is `0` -/
theorem signfix {sgn0 : F → ℕ} (hsgn : ∀ y, y ≠ 0 → sgn0 (-y) ≠ sgn0 y) (hsgn01 : ∀ y, sgn0 y < 2)
    (u y : F) :
    (if sgn0 u ≠ sgn0 y then -y else y) ^ 2 = y ^ 2 ∧
    ((if sgn0 u ≠ sgn0 y then -y else y) = 0 ∨ sgn0 (if sgn0 u ≠ sgn0 y then -y else y) = sgn0 u) := by
  rw [if_congr ne_comm rfl rfl]
  by_cases hy : y = 0
  · rw [hy, neg_zero, ite_self]
    exact ⟨rfl, Or.inl rfl⟩
  · obtain ⟨_, h2, h3⟩ := (SignBit.self hsgn).pick trivial hy (a := sgn0 u) fun _ _ => by
      have := hsgn01 y; have := hsgn01 (-y); have := hsgn01 u; omega
    exact ⟨h2, Or.inr h3⟩

/-- **The projective computation of `optimized_swu_G1` / `optimized_swu_G2` is RFC 9380's map**, over
    any field.  `T`, `N`, `D`, `U` are the code's `temp`, `numerator`, `denominator`, `u` (`v = D³`);
    `ok` is the flag of the square-root step, which decides whether `u/v` is a square and succeeds in
    the exceptional case; `y` is the candidate chosen by the code, a square root of `u/v` resp. of
    `(Zt²)³·u/v`.  Then the flag is the RFC's test `is_square(g(x1))`, and the affine point — `x` the
    final numerator over `D`, `y` after the sign fix — is related to `t` by `IsSswu`. -/
theorem proj_isSswu {sgn0 : F → ℕ} (hsgn : ∀ y, y ≠ 0 → sgn0 (-y) ≠ sgn0 y)
    (hsgn01 : ∀ y, sgn0 y < 2) {A B Z t T N D U y : F} {ok : Bool} (hA : A ≠ 0) (hD : D ≠ 0)
    (hT : T = Z * t ^ 2 + (Z * t ^ 2) ^ 2) (hN : N = B * (T + 1))
    (hD0 : T = 0 → D = Z * A ∧ ok = true) (hD1 : T ≠ 0 → D = -(A * T))
    (hU : U = N ^ 3 + A * N * D ^ 2 + B * D ^ 3) (hok : ok = true ↔ IsSquare (U / D ^ 3))
    (hy : y ^ 2 * D ^ 3 = if ok then U else (Z * t ^ 2) ^ 3 * U) :
    (ok = true ↔ IsSquare (sswuG A B (sswuX1 A B Z t))) ∧
    IsSswu sgn0 A B Z t ((if ok then N else N * (Z * t ^ 2)) / D)
      (if sgn0 t ≠ sgn0 y then -y else y) := by
  have hx1 : N / D = sswuX1 A B Z t := by
    rw [hN]; exact proj_x1 hA hT (fun h => (hD0 h).1) hD1
  have hg : U / D ^ 3 = sswuG A B (sswuX1 A B Z t) := by
    rw [hU, proj_g A B N D hD, hx1]
  rw [hg] at hok
  obtain ⟨hsq, hs⟩ := signfix hsgn hsgn01 t y
  refine ⟨hok, ?_, hs⟩
  rw [hsq]
  have hD3 := pow_ne_zero 3 hD
  cases ok
  · have hT0 : T ≠ 0 := fun h => Bool.false_ne_true (hD0 h).2
    have hid := sswu_identity A B (Z * t ^ 2) (N / D) (by
      rw [← hT, hD1 hT0, hN]; field_simp)
    rw [hx1] at hid
    simp only [Bool.false_eq_true, if_false] at hy ⊢
    refine Or.inr ⟨hok.not.mp Bool.false_ne_true, ?_, ?_⟩
    · rw [sswuX2, ← hx1]; ring
    · rw [mul_div_right_comm, hx1, mul_comm, hid, ← hg, ← mul_div_assoc, eq_div_iff hD3, hy]
  · simp only [if_true] at hy ⊢
    exact Or.inl ⟨hok.mp rfl, hx1, by rw [hx1, ← hg, eq_div_iff hD3, hy]⟩

/-- The straight-line RFC function satisfies the relational specification, for every `sqrt` that
    returns a root of each square that is passed to it, every `sgn0` with `sgn0(−y) ≠ sgn0(y)` for
    `y ≠ 0` and values in `{0, 1}`, provided `g(x2)` is a square whenever `g(x1)` is not (which
    RFC 9380 guarantees by the choice of `Z`). -/
theorem mapToCurveSimpleSwu_isSswu (sgn0 : F → ℕ) (sqrt : F → F) (A B Z u : F)
    (hsqrt : ∀ a, IsSquare a → sqrt a ^ 2 = a)
    (hsgn : ∀ y, y ≠ 0 → sgn0 (-y) ≠ sgn0 y) (hsgn01 : ∀ y, sgn0 y < 2)
    (hx2 : ¬ IsSquare (sswuG A B (sswuX1 A B Z u)) → IsSquare (sswuG A B (sswuX2 A B Z u))) :
    IsSswu sgn0 A B Z u (mapToCurveSimpleSwu sgn0 sqrt A B Z u).1
      (mapToCurveSimpleSwu sgn0 sqrt A B Z u).2 := by
  unfold mapToCurveSimpleSwu IsSswu
  dsimp only
  refine ⟨?_, (signfix hsgn hsgn01 u _).2⟩
  rw [(signfix hsgn hsgn01 u _).1]
  split
  · next h => exact Or.inl ⟨h, rfl, hsqrt _ h⟩
  · next h => exact Or.inr ⟨h, rfl, hsqrt _ (hx2 h)⟩

theorem IsSswu.on_curve {sgn0 : F → ℕ} {A B Z u x y : F} (h : IsSswu sgn0 A B Z u x y) :
    y ^ 2 = sswuG A B x := by
  rcases h.1 with ⟨_, _, h⟩ | ⟨_, _, h⟩ <;> exact h

theorem IsSswu.x_eq {sgn0 : F → ℕ} {A B Z u x y : F} (h : IsSswu sgn0 A B Z u x y) :
    (IsSquare (sswuG A B (sswuX1 A B Z u)) → x = sswuX1 A B Z u) ∧
    (¬ IsSquare (sswuG A B (sswuX1 A B Z u)) → x = sswuX2 A B Z u) := by
  rcases h.1 with ⟨h1, h2, _⟩ | ⟨h1, h2, _⟩
  · exact ⟨fun _ => h2, fun h => absurd h1 h⟩
  · exact ⟨fun h => absurd h h1, fun _ => h2⟩

/-- The relational specification determines the point: two pairs related to the same `u` are equal
    (for a `sgn0` that separates `y` from `−y`, in a field of characteristic ≠ 2 this is RFC 9380's
    `sgn0`). -/
theorem IsSswu.unique (sgn0 : F → ℕ) (A B Z u x y x' y' : F)
    (hsgn : ∀ y, y ≠ 0 → sgn0 (-y) ≠ sgn0 y)
    (h : IsSswu sgn0 A B Z u x y) (h' : IsSswu sgn0 A B Z u x' y') : x = x' ∧ y = y' := by
  have hx : x = x' := by
    by_cases hs : IsSquare (sswuG A B (sswuX1 A B Z u))
    · exact ((IsSswu.x_eq h).1 hs).trans ((IsSswu.x_eq h').1 hs).symm
    · exact ((IsSswu.x_eq h).2 hs).trans ((IsSswu.x_eq h').2 hs).symm
  have hsq : y ^ 2 = y' ^ 2 := by rw [IsSswu.on_curve h, IsSswu.on_curve h', hx]
  refine ⟨hx, ?_⟩
  have h0 : y = 0 ↔ y' = 0 := by rw [← sq_eq_zero_iff, hsq, sq_eq_zero_iff]
  rcases h.2 with hs | hs
  · rw [hs, h0.mp hs]
  rcases h'.2 with hs' | hs'
  · rw [hs', h0.mpr hs']
  exact (SignBit.self hsgn).unique trivial trivial hsq (hs.trans hs'.symm)

/-- on a curve without a point of order 2, `y ≠ 0` and the sign condition holds without exception -/
theorem IsSswu.sgn0_eq {sgn0 : F → ℕ} {A B Z u x y : F} (h : IsSswu sgn0 A B Z u x y)
    (hg : ∀ x, sswuG A B x ≠ 0) : y ≠ 0 ∧ sgn0 y = sgn0 u := by
  have hy : y ≠ 0 := fun h0 => hg x (by rw [← IsSswu.on_curve h, h0, zero_pow two_ne_zero])
  exact ⟨hy, h.2.resolve_left hy⟩

/-- a pair related to `u` is the output of the straight-line RFC function, for every correct `sqrt`:
    whichever root `sqrt` picks, step 9 fixes the sign -/
theorem IsSswu.eq_rfc {sgn0 : F → ℕ} {A B Z u x y : F} (h : IsSswu sgn0 A B Z u x y) (sqrt : F → F)
    (hsqrt : ∀ a, IsSquare a → sqrt a ^ 2 = a) (hsgn : ∀ y, y ≠ 0 → sgn0 (-y) ≠ sgn0 y)
    (hsgn01 : ∀ y, sgn0 y < 2) : (x, y) = mapToCurveSimpleSwu sgn0 sqrt A B Z u := by
  have hx2 : ¬ IsSquare (sswuG A B (sswuX1 A B Z u)) → IsSquare (sswuG A B (sswuX2 A B Z u)) :=
    fun hns => by rw [← (IsSswu.x_eq h).2 hns, ← IsSswu.on_curve h]; exact IsSquare.sq y
  have := IsSswu.unique sgn0 A B Z u _ _ _ _ hsgn h
    (mapToCurveSimpleSwu_isSswu sgn0 sqrt A B Z u hsqrt hsgn hsgn01 hx2)
  exact Prod.ext this.1 this.2

theorem exists_sqrt : ∃ sqrt : F → F, ∀ a, IsSquare a → sqrt a ^ 2 = a := by
  classical
  refine ⟨fun a => if h : IsSquare a then h.choose else 0, fun a h => ?_⟩
  simp only [dif_pos h]
  rw [sq]
  exact h.choose_spec.symm

variable {K : Type*} [Field K]

theorem isSquare_map_iff (e : F ≃+* K) (a : F) : IsSquare (e a) ↔ IsSquare a := by
  constructor
  · intro h
    have := h.map e.symm
    rwa [RingEquiv.symm_apply_apply] at this
  · intro h; exact h.map e

theorem map_sswuG (e : F ≃+* K) (A B x : F) : e (sswuG A B x) = sswuG (e A) (e B) (e x) := by
  unfold sswuG; rw [e.map_add, e.map_add, e.map_mul, e.map_pow]

theorem map_sswuX1 (e : F ≃+* K) (A B Z u : F) :
    e (sswuX1 A B Z u) = sswuX1 (e A) (e B) (e Z) (e u) := by
  have hT : e Z ^ 2 * e u ^ 4 + e Z * e u ^ 2 = e (Z ^ 2 * u ^ 4 + Z * u ^ 2) := by
    rw [e.map_add, e.map_mul, e.map_mul, e.map_pow, e.map_pow, e.map_pow]
  by_cases h : Z ^ 2 * u ^ 4 + Z * u ^ 2 = 0
  · rw [sswuX1_of_eq _ _ _ _ h, sswuX1_of_eq _ _ _ _ (by rw [hT, h, map_zero]), map_div₀, map_mul]
  · rw [sswuX1_of_ne _ _ _ _ h,
      sswuX1_of_ne _ _ _ _ (by rw [hT]; exact (map_ne_zero_iff e e.injective).mpr h), hT]
    rw [e.map_mul, map_div₀, e.map_neg, e.map_add, e.map_one, map_div₀, e.map_one]

theorem map_sswuX2 (e : F ≃+* K) (A B Z u : F) :
    e (sswuX2 A B Z u) = sswuX2 (e A) (e B) (e Z) (e u) := by
  unfold sswuX2; rw [e.map_mul, e.map_mul, e.map_pow, map_sswuX1]

theorem IsSswu.map_equiv (e : F ≃+* K) (sgn0 : F → ℕ) (sgn0' : K → ℕ)
    (hs : ∀ y, sgn0' (e y) = sgn0 y) {A B Z u x y : F} (h : IsSswu sgn0 A B Z u x y) :
    IsSswu sgn0' (e A) (e B) (e Z) (e u) (e x) (e y) := by
  obtain ⟨hxy, hsg⟩ := h
  refine ⟨?_, ?_⟩
  · rw [← map_sswuX1, ← map_sswuX2, ← map_sswuG, ← map_sswuG, isSquare_map_iff, ← map_pow]
    rcases hxy with ⟨h1, h2, h3⟩ | ⟨h1, h2, h3⟩
    · exact Or.inl ⟨h1, congrArg e h2, congrArg e h3⟩
    · exact Or.inr ⟨h1, congrArg e h2, congrArg e h3⟩
  · rcases hsg with h | h
    · left; rw [h, e.map_zero]
    · right; rw [hs, hs, h]

end generic

section F1
open Gen.Consts

theorem isSquare_toZMod (a : F1) : IsSquare (Fq.toZMod a) ↔ IsSquare a := by
  constructor
  · rintro ⟨z, hz⟩
    refine ⟨Fq.ofZMod z, Fq.toZMod_injective ?_⟩
    rw [hz, Fq.toZMod_mul, Fq.toZMod_ofZMod]
  · rintro ⟨r, hr⟩
    exact ⟨Fq.toZMod r, by rw [hr, Fq.toZMod_mul]⟩

theorem two_ne_zero_F1 : (2 : F1) ≠ 0 := by
  intro h
  have h2 := congrArg Fq.toZMod h
  rw [Fq.toZMod_zero] at h2
  have h3 : ((2 : ℕ) : ZMod blsP) = 0 := by
    rw [← h2]; exact (Fq.toZMod_natCast 2).symm
  rw [ZMod.natCast_eq_zero_iff] at h3
  exact absurd (Nat.le_of_dvd (by decide) h3) (by decide)

theorem neg_one_ne_one_F1 : (-1 : F1) ≠ 1 := by
  intro h
  apply two_ne_zero_F1
  linear_combination (-1 : F1) * h

theorem pow_half (w : F1) (hw : w ≠ 0) : w ^ (blsP / 2) = 1 ∨ w ^ (blsP / 2) = -1 := by
  have h := ZMod.pow_div_two_eq_neg_one_or_one blsP (a := Fq.toZMod w) (mt Fq.toZMod_eq_zero.mp hw)
  rcases h with h | h
  · left; apply Fq.toZMod_injective; rw [Fq.toZMod_pow, h, Fq.toZMod_one]
  · right; apply Fq.toZMod_injective; rw [Fq.toZMod_pow, h, Fq.toZMod_neg, Fq.toZMod_one]

theorem euler (w : F1) (hw : w ≠ 0) : IsSquare w ↔ w ^ (blsP / 2) = 1 := by
  rw [← isSquare_toZMod, ZMod.euler_criterion blsP (mt Fq.toZMod_eq_zero.mp hw), ← Fq.toZMod_pow,
    ← Fq.toZMod_one, Fq.toZMod_inj]

/-- Euler's criterion with `0` included -/
theorem euler_cases (w : F1) :
    (IsSquare w ∧ w * w ^ (blsP / 2) = w) ∨ (¬ IsSquare w ∧ w ^ (blsP / 2) = -1) := by
  by_cases hw : w = 0
  · exact Or.inl ⟨hw ▸ IsSquare.zero, by rw [hw, zero_mul]⟩
  rcases pow_half w hw with h | h
  · exact Or.inl ⟨(euler w hw).mpr h, by rw [h, mul_one]⟩
  · exact Or.inr ⟨fun hs => neg_one_ne_one_F1 (h ▸ (euler w hw).mp hs), h⟩

theorem blsP_half_eq : blsP / 2 = 2 * h2c_P_MINUS_3_DIV_4 + 1 := by
  have := C10.P_MINUS_3_DIV_4_spec.2
  omega

theorem sqrtDiv_snd (u v : F1) :
    (sqrtDivisionFq u v).2 = u * v * (u * v * v ^ 2) ^ h2c_P_MINUS_3_DIV_4 := rfl

theorem sqrtDiv_fst (u v : F1) :
    (sqrtDivisionFq u v).1 = decide ((sqrtDivisionFq u v).2 ^ 2 * v - u = 0) := rfl

theorem pow_aux (u v : F1) (k : ℕ) :
    (u * v * (u * v * v ^ 2) ^ k) ^ 2 * v = u * (u * v * v ^ 2) ^ (2 * k + 1) := by ring

theorem sqrtDiv_sq (u v : F1) :
    (sqrtDivisionFq u v).2 ^ 2 * v = u * (u * v * v ^ 2) ^ (blsP / 2) := by
  rw [sqrtDiv_snd, blsP_half_eq]
  exact pow_aux u v _

theorem isSquare_uv3 (u v : F1) (hv : v ≠ 0) : IsSquare (u * v * v ^ 2) ↔ IsSquare (u / v) := by
  constructor
  · intro h
    have : u / v = (u * v * v ^ 2) / (v ^ 2 * v ^ 2) := by field_simp
    rw [this]
    exact h.div (IsSquare.mul_self _)
  · intro h
    have : u * v * v ^ 2 = (u / v) * (v ^ 2 * v ^ 2) := by field_simp
    rw [this]
    exact h.mul (IsSquare.mul_self _)

/-- **`sqrt_division_FQ` is correct** (`p ≡ 3 mod 4`): for `v ≠ 0` the flag says whether `u/v` is a
    square, and the candidate `r` has `r²·v = u` if it is and `r²·v = −u` if it is not. -/
theorem sqrtDiv_spec (u v : F1) (hv : v ≠ 0) :
    ((sqrtDivisionFq u v).1 = true ↔ IsSquare (u / v)) ∧
    (sqrtDivisionFq u v).2 ^ 2 * v = if (sqrtDivisionFq u v).1 then u else -u := by
  have hsq := sqrtDiv_sq u v
  rw [sqrtDiv_fst, ← isSquare_uv3 u v hv]
  rcases euler_cases (u * v * v ^ 2) with ⟨hs, h⟩ | ⟨hs, h⟩
  · have hsq : (sqrtDivisionFq u v).2 ^ 2 * v = u :=
      hsq.trans (mul_right_cancel₀ (mul_ne_zero hv (pow_ne_zero 2 hv)) (by linear_combination h))
    have hd : decide ((sqrtDivisionFq u v).2 ^ 2 * v - u = 0) = true :=
      decide_eq_true (sub_eq_zero.mpr hsq)
    rw [hd, if_pos rfl]
    exact ⟨iff_of_true rfl hs, hsq⟩
  · rw [h, mul_neg, mul_one] at hsq
    have hd : decide ((sqrtDivisionFq u v).2 ^ 2 * v - u = 0) = false :=
      decide_eq_false fun h0 => hs (by
        -- `−u − u = 0` forces `u = 0`, a square
        rw [hsq] at h0
        have hu : u = 0 := (mul_eq_zero.mp (show (2 : F1) * u = 0 by linear_combination -h0)).resolve_left
          two_ne_zero_F1
        rw [hu, zero_mul, zero_mul]
        exact IsSquare.zero)
    rw [hd, if_neg Bool.false_ne_true]
    exact ⟨iff_of_false Bool.false_ne_true hs, hsq⟩

theorem neg_n (p : ℕ) [NeZero p] (y : Fq p) (hy : y.n ≠ 0) : (-y).n = p - y.n := by
  show (Fq.ofInt (-(y.n : ℤ))).n = _
  have h := Fq.n_ofInt (p := p) (-(y.n : ℤ))
  have hlt := y.lt
  have : (-(y.n : ℤ)) % (p : ℤ) = (p : ℤ) - y.n := by
    rw [← Int.add_emod_right, Int.emod_eq_of_lt (by omega) (by omega)]; ring
  rw [this] at h
  omega

theorem sgn0_lt_two (y : F1) : y.sgn0 < 2 := Nat.mod_lt _ (by decide)

theorem sgn0_neg_ne (y : F1) (hy : y ≠ 0) : (-y).sgn0 ≠ y.sgn0 := by
  have hn : y.n ≠ 0 := by
    intro h; apply hy; apply Fq.ext; rw [h]; rfl
  unfold Fq.sgn0
  rw [neg_n blsP y hn]
  have hlt := y.lt
  have hp : blsP % 2 = 1 := by decide +kernel
  omega

/-- the model's `FQ.sgn0` is RFC 9380's `sgn0` (m = 1) of the residue class -/
theorem sgn0_eq_spec (y : F1) : y.sgn0 = Spec.sgn0Fp (Fq.toZMod y) := by
  unfold Spec.sgn0Fp Spec.Sgn0.sgn0_m_eq_1 Fq.sgn0 Fq.toZMod
  rw [ZMod.val_natCast_of_lt y.lt]

end F1

end PyEcc.SwuSem
