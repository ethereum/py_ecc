/-
  PyEcc.Lemmas.Hb2FactsG2 — GENERATED data: concrete points of the twist `E'(Fp²)`, BLS12-381
  (`y² = x³ + 4(1+i)`), used to determine `#E'(Fp²) = h₂·r` (HB2): a point of order `q` for each
  `q ∈ {13, 23, 2713, 11953, 262069, Q}` (`Q` the 448-bit prime factor of `h₂`).  Coordinates are `FQ2`
  coefficient pairs (`Gi`, `Lemmas/FastFq2.lean`).  Found by tools (Python, `tools/leangen`); what is claimed
  of them is checked in `Lemmas/Hb2G2.lean`.
-/
import PyEcc.Lemmas.FastFq2

namespace PyEcc.Hb2

/-- a primitive cube root of unity `ω` of `Fp`, as an `FQ2` coefficient pair -/
def w2 : Gi blsP := ⟨793479390729215512621379701633421447060886740281060493010456487427281649075476305620758731620350, 0⟩
/-- `c = ω²`, so `c² = ω`, `c³ = 1` -/
def c2 : Gi blsP := ⟨4002409555221667392624310435006688643935503118305586438271171395842971157480381377015405980053539358417135540939436, 0⟩

/-- the 448-bit prime factor of `h₂` -/
def bigQ : ℕ := 402096035359507321594726366720466575392706800671181159425656785868777272553337714697862511267018014931937703598282857976535744623203249

/-- a point of order 13 of `E'(Fp²)` -/
def pt2_13 : Gi blsP × Gi blsP × Gi blsP :=
  (⟨1953315917702730639266342485355712471950853239061422153837605428152657257455014908760945862071215455784226833186615, 3613895477167149164252953227081237184428453789912523680351577717228941517908440991190941377904410219192513680144841⟩, ⟨2975271717775260127657030377581515837031199676722003822112663924508179061898666477875059811233323608645044070122784, 1487196150900205232752086068692982334727969888343761512804089239310734760333236989414863022389546249669240381344639⟩, ⟨1, 0⟩)

/-- a point of order 23 of `E'(Fp²)` -/
def pt2_23 : Gi blsP × Gi blsP × Gi blsP :=
  (⟨2223728539899964146243219172986915616794758664974281824785098287863436715509540384476529041050921239426995652509889, 3819584547047411642354479178925039155938100417240199180809436693734642404315395307176847555799401735620579337140864⟩, ⟨2670529079344055607219116010257172986936167334612250219254818358399986037631524348272002306244422066800026259050148, 3258759628397743086695441734210507629633946858416087980910212744373256030436408360455585947027904256025432965764055⟩, ⟨1, 0⟩)

/-- a point of order 2713 of `E'(Fp²)` -/
def pt2_2713 : Gi blsP × Gi blsP × Gi blsP :=
  (⟨133523286857611589450459945870345900298450668737338679401366610723031913041981311840077499696501210639293443830042, 1223749539226788042933553931650479605186531002725191246967187847749677630409070108454667301203811464177115006564737⟩, ⟨3514320928259664949095893028393107488316894624401386481511923640448617316061426524717972567231722324674466239509915, 1683426594621717473570220998074400112349302228451212746176692309646828811426297691717656737018476532229696591378078⟩, ⟨1, 0⟩)

/-- a point of order 11953 of `E'(Fp²)` -/
def pt2_11953 : Gi blsP × Gi blsP × Gi blsP :=
  (⟨1986849845393687419283322500964544156888241805880797226898487141844472096001890679123168944982753306722242260985671, 1869206498128273275070853556405668957303985229334425525058733607406687517037669125486508608139552813889431505687468⟩, ⟨1467394195974189650286527732971174379843947416327269181732179753006113299050513197406269536968320748981103896027557, 2159724139341922262272565110928894682668336234542180114502545306572949916283228984278621064808117513273359953887732⟩, ⟨1, 0⟩)

/-- a point of order 262069 of `E'(Fp²)` -/
def pt2_262069 : Gi blsP × Gi blsP × Gi blsP :=
  (⟨2095846336580811051687807910754480393329974030648788650469692780143702373684609116220908453843039435275379118765297, 943898770014387304446527182919062474839810419522311907090367608665039802162043045510969565250179275359077312830579⟩, ⟨1522424054405685874927695942784623852766861820522064735650589858603707973371360891921684741100966656990064667812858, 3520184647579671053174885122359921004907294040517556104330484695815563892943765945312232156413295956490592443628829⟩, ⟨1, 0⟩)

/-- a point of order bigQ of `E'(Fp²)` -/
def pt2_Q : Gi blsP × Gi blsP × Gi blsP :=
  (⟨2998193932339484408162082594857650429258756911114239232935475306767184721970667984291998843559182118581591404882080, 2713599735515002127609610466568556103915031743677088278195408918737949738794108633966470320654211532963587334848131⟩, ⟨2758097940224921542033107099356111241505865420604450479903099346489471680304374296076347928137985888012830963225661, 248060750628114869270936621603370176035326759327754084399785483571801973970289568609222740313923920802873109515831⟩, ⟨1, 0⟩)

end PyEcc.Hb2
