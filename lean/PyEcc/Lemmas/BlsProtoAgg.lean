/-
  Aggregation read semantically (for `Props/C03_Proto.lean`).  `Aggregate(sigs)` returns THE encoding of the group sum
  of the decoded points, with no hypothesis; order and grouping independence follow from commutativity of Mathlib's group
  and canonicity of the encoding.  Under `PairingFacts`, `_CoreAggregateVerify`, `_AggregatePKs`, `FastAggregateVerify`
  are read on points for ANY `KeyValidate`d keys (`coreAggregateVerify_sem`, `aggregatePKs_sem`,
  `fastAggregateVerify_sem`: the model computes `BlsAbs.aggVerify` on the decoded points, and `BlsAbs.verify` under the
  aggregate key `Σ pkᵢ`, which must not be the identity).  The statements about honest signers are these readings over
  ONE list of signers `(skᵢ, mᵢ)` (`…_signers`, `aggregate_signed_iff`); `signers_of_lists` and `forall₂_ok_iff` turn the
  parallel lists of the C03 statements into such a list.
-/
import PyEcc.Lemmas.BlsProto
import PyEcc.Props.C03_Logic

set_option linter.unusedSectionVars false

namespace PyEcc.BlsProto
open PyEcc PyEcc.Gen PyEcc.Gen.Consts PyEcc.FqpSem PyEcc.Transfer PyEcc.BlsSem

section Aggregate
variable [DecidableEq K2]

/-- the point a 96-byte string decodes to (`0` for strings `signature_to_G2` rejects) -/
noncomputable def decG2 (bs : Bytes) : E2 :=
  open Classical in if h : ∃ q, EncG2 bs q then Classical.choose h else 0

theorem EncG2.decG2_eq {bs : Bytes} {q : E2} (h : EncG2 bs q) : decG2 bs = q :=
  choose_eq_of_unique EncG2.point_unique h

theorem encG2_decG2 {bs : Bytes} (hl : bs.length = 96) {S : G2Pt} (h : signatureToG2 bs = .ok S) :
    EncG2 bs (decG2 bs) := by
  obtain ⟨q, r⟩ := signatureToG2_rep hl h
  have henc : EncG2 bs q := ⟨hl, S, h, r⟩
  rw [henc.decG2_eq]; exact henc

/-- the `for signature in signatures` loop: starting from a representative of `a`, it ends in a
    representative of `a` plus the decoded points -/
theorem aggFold_rep {sigs : List Bytes} (hall : ∀ sg ∈ sigs, EncG2 sg (decG2 sg)) {acc : G2Pt} {a : E2}
    (ra : RepG2 acc a) : ∃ A, C03.aggFold sigs acc = .ok A ∧ RepG2 A (sigs.foldl (fun a sg => a + decG2 sg) a) :=
  foldlM_ok_rel RepG2 ra fun sg hsg _ _ ra =>
    let ⟨_, S, hS, rS⟩ := hall sg hsg
    ⟨_, by rw [hS]; rfl, ra.add rS⟩

/-- **`Aggregate` returns the encoding of the sum** (no hypothesis beyond decodability): for a non-empty
    list of 96-byte strings that all decode, `Aggregate(sigs)` returns the encoding of `Σ decode(sᵢ)`. -/
theorem aggregate_enc {sigs : List Bytes} (hne : sigs ≠ [])
    (hall : ∀ sg ∈ sigs, sg.length = 96 ∧ ∃ S, signatureToG2 sg = .ok S) :
    ∃ bs, aggregate sigs = .ok bs ∧ EncG2 bs (sigs.map decG2).sum := by
  have henc : ∀ sg ∈ sigs, EncG2 sg (decG2 sg) := fun sg hsg => by
    obtain ⟨hl, S, hS⟩ := hall sg hsg
    exact encG2_decG2 hl hS
  obtain ⟨A, hA, rA⟩ := aggFold_rep henc .zero
  rw [← List.foldl_map, ← List.sum_eq_foldl] at rA
  obtain ⟨bs, hbs, enc⟩ := encG2_of_rep rA
  refine ⟨bs, ?_, enc⟩
  rw [C03.aggregate_eq]
  have h1 : ¬ sigs.length < 1 := by
    cases sigs with
    | nil => exact (hne rfl).elim
    | cons _ _ => simp
  have h2 : sigs.all (·.length = 96) = true := by
    rw [List.all_eq_true]; intro sg hsg; simpa using (hall sg hsg).1
  simp only [h1, h2, ↓reduceIte, Bool.not_true, Bool.false_eq_true, hA, bind, Except.bind]
  exact hbs

theorem aggregate_ok_inv {sigs : List Bytes} {bs : Bytes} (h : aggregate sigs = .ok bs) :
    sigs ≠ [] ∧ ∀ sg ∈ sigs, sg.length = 96 ∧ ∃ S, signatureToG2 sg = .ok S := by
  have hne : sigs ≠ [] := by
    rintro rfl
    rw [C03.aggregate_errors.1] at h; cases h
  have hlen : ∀ sg ∈ sigs, sg.length = 96 := by
    intro sg hsg
    by_contra hl
    rw [C03.aggregate_errors.2.1 sigs ⟨sg, hsg, hl⟩] at h; cases h
  refine ⟨hne, fun sg hsg => ⟨hlen sg hsg, ?_⟩⟩
  cases hS : signatureToG2 sg with
  | ok S => exact ⟨S, rfl⟩
  | error err =>
    rw [C03.aggregate_errors.2.2 sigs hne hlen ⟨sg, hsg, err, hS⟩] at h; cases h

/-- **Exact characterisation of `Aggregate`**: it returns `bs` iff the list is non-empty, every entry is a
    decodable 96-byte string, and `bs` is the encoding of the sum of the decoded points. -/
theorem aggregate_ok_iff_enc (sigs : List Bytes) (bs : Bytes) :
    aggregate sigs = .ok bs ↔
      sigs ≠ [] ∧ (∀ sg ∈ sigs, sg.length = 96 ∧ ∃ S, signatureToG2 sg = .ok S) ∧
        EncG2 bs (sigs.map decG2).sum := by
  constructor
  · intro h
    obtain ⟨hne, hall⟩ := aggregate_ok_inv h
    obtain ⟨bs', hbs', enc⟩ := aggregate_enc hne hall
    rw [h] at hbs'; cases hbs'
    exact ⟨hne, hall, enc⟩
  · rintro ⟨hne, hall, enc⟩
    obtain ⟨bs', hbs', enc'⟩ := aggregate_enc hne hall
    rw [hbs', enc'.bytes_unique enc]

end Aggregate

/-! ## lists of partial results

  The statements of C03 speak of parallel lists (`Forall₂`, `zip`): secret keys, their public keys, messages, hash
  points, signatures.  Every one of these relations is a partial FUNCTION of the list entry, so a related list is the
  image of the first under a total function (`okVal` below, `decG1`, `hashG2` of `Lemmas/BlsProto.lean`) and the
  proofs below are about maps over ONE list of signers. -/

/-- the value of a run that returned (`default` if it raised) -/
def okVal {ε β : Type} [Inhabited β] : Except ε β → β
  | .ok b => b
  | .error _ => default

/-- a position-wise relation that is a function `g` on a domain `D` -/
theorem forall₂_fun_iff {α β : Type*} {R : α → β → Prop} {D : α → Prop} {g : α → β}
    (hR : ∀ a b, R a b ↔ D a ∧ g a = b) {l : List α} {bs : List β} :
    List.Forall₂ R l bs ↔ (∀ a ∈ l, D a) ∧ l.map g = bs := by
  induction l generalizing bs with
  | nil => simp [eq_comm]
  | cons a l ih =>
    cases bs with
    | nil => simp
    | cons b bs => rw [List.forall₂_cons, ih, hR, List.map_cons, List.cons.injEq, List.forall_mem_cons, and_and_and_comm]

theorem forall₂_ok_iff {ε α β : Type} [Inhabited β] {f : α → Except ε β} {l : List α} {bs : List β} :
    List.Forall₂ (fun a b => f a = .ok b) l bs ↔
      (∀ a ∈ l, ∃ b, f a = .ok b) ∧ l.map (fun a => okVal (f a)) = bs :=
  forall₂_fun_iff fun a b =>
    ⟨fun h => ⟨⟨b, h⟩, by rw [h]; rfl⟩, fun ⟨⟨b', h⟩, hb⟩ => by rw [h] at hb ⊢; exact congrArg _ hb⟩

theorem torsion_sum {G : Type*} [AddCommGroup G] {l : List G} (h : ∀ x ∈ l, blsR • x = 0) :
    blsR • l.sum = 0 := by
  induction l with
  | nil => exact smul_zero _
  | cons x l ih =>
    rw [List.sum_cons, smul_add, h x (List.mem_cons_self ..), ih fun y hy => h y (List.mem_cons_of_mem _ hy),
      add_zero]

section Read
variable [DecidableEq K2] {GT : Type} [CommGroup GT] {e : E2 → E1 → GT}

theorem exists_enc_of_hashes (pf : PairingFacts e) {H : HashFn} {dst msg : Bytes} (h : Hashes H dst msg) (k : ℕ) :
    ∃ sg, EncG2 sg (k • hashG2 H dst msg) := by
  obtain ⟨mp, hmp⟩ := h
  obtain ⟨bs, _, enc⟩ := encG2_of_rep ((hashG2_rep pf hmp).multiply k)
  exact ⟨bs, enc⟩

/-- `pk` is the public key (`SkToPk`) of the valid secret key `k` -/
def KeyOf (k : ℕ) (pk : Bytes) : Prop := 0 < k ∧ k < blsR ∧ EncG1 pk (k • g1)

theorem KeyOf.valid {k : ℕ} {pk : Bytes} (h : KeyOf k pk) : keyValidate pk = true :=
  h.2.2.valid (nsmul_g1_ne_zero h.1 h.2.1) (nsmul_torsion g1_torsion k)

/-- `SkToPk(sk)` as a function of an `int` (`[]` where `SkToPk` raises) -/
def pkOf (sk : ℤ) : Bytes := okVal (skToPk (.int sk))

theorem skToPk_pkOf {sk : ℤ} (hsk : 1 ≤ sk ∧ sk < (curveOrder : ℤ)) : skToPk (.int sk) = .ok (pkOf sk) := by
  obtain ⟨pk, h, _⟩ := skToPk_ok (validPrivkey_int hsk)
  rw [pkOf, h]
  rfl

theorem keyOf_pkOf {sk : ℤ} (hsk : 1 ≤ sk ∧ sk < (curveOrder : ℤ)) : KeyOf sk.toNat (pkOf sk) :=
  have hv := validPrivkey_int hsk
  ⟨(validPrivkey_range hv).1, (validPrivkey_range hv).2, (skToPk_enc hv _).mp (skToPk_pkOf hsk)⟩

theorem pks_eq_map {sks : List ℤ} {pks : List Bytes}
    (hpks : List.Forall₂ (fun sk pk => skToPk (.int sk) = .ok pk) sks pks) : pks = sks.map pkOf :=
  (forall₂_ok_iff.mp hpks).2.symm

end Read

section AggVerify
variable [DecidableEq K2] {GT : Type} [CommGroup GT] {e : E2 → E1 → GT}

/-- the loop of `_CoreAggregateVerify` on `KeyValidate`d keys and hashable messages returns, and multiplies the
    accumulator by the Miller values of good pairing calls on `(H(mᵢ), pkᵢ)` -/
theorem aggLoop_run (pf : PairingFacts e) {H : HashFn} {dst : Bytes} :
    ∀ (l : List (Bytes × Bytes)), (∀ x ∈ l, keyValidate x.1 = true ∧ Hashes H dst x.2) →
    ∀ (acc : OBls12) (v : GT) (tr : List (G2Pt × G1Pt)), MillerOf e acc v → ∃ acc' tr',
      aggLoop H dst l acc tr = .ok (acc', tr') ∧
      MillerOf e acc' (v * (l.map fun x => e (hashG2 H dst x.2) (decG1 x.1)).prod)
  | [], _, acc, v, tr, hm => ⟨acc, tr, rfl, by simpa using hm⟩
  | (pk, msg) :: l, hl, acc, v, tr, hm => by
    obtain ⟨hkv, mp, hmp⟩ := hl _ (List.mem_cons_self ..)
    obtain ⟨P, hP, rp, _, hp⟩ := key_rep hkv
    have rh := hashG2_rep pf hmp
    obtain ⟨mv, hmv⟩ := pairing_ok rh rp
    obtain ⟨acc', tr', hrun, hm'⟩ :=
      aggLoop_run pf l (fun x hx => hl x (List.mem_cons_of_mem _ hx)) (acc * mv) _ (tr ++ [(mp, P)])
        (hm.mul rh rp (hashG2_torsion pf H dst msg) hp hmv)
    refine ⟨acc', tr', ?_, by rw [List.map_cons, List.prod_cons, ← mul_assoc]; exact hm'⟩
    rw [aggLoop_step, hkv, if_neg nofun, hP.2.1, ok_bind, hmp, ok_bind, hmv, ok_bind]
    exact hrun

theorem pairing_Z2_G1 : pairingOptBls Z2 blsG1 false = .ok (1 : OBls12) := by
  have h1 : OptBls.is_on_curve Z2 (⟨optimized_bls12_381_b2⟩ : OBls2) = true := by decide
  have h2 := blsG1_on_curve.1
  unfold pairingOptBls
  simp only [bind, Except.bind, pure, Except.pure, throw, throwThe, MonadExceptOf.throw, h1, h2]
  simp [Z2]

/-- the accumulator starts at `FQ12.one()`, the Miller value of the pairing call `pairing(∞, G1)` -/
theorem millerOf_one (pf : PairingFacts e) : MillerOf e 1 1 := by
  have := MillerOf.call (e := e) .zero g1_rep (smul_zero _) g1_torsion pairing_Z2_G1
  rwa [pf.isPairing.isBilinear.zero_left g1_torsion] at this

/-- **`_CoreAggregateVerify` read on points, for ANY keys**: on the list `l` of `(pk, message)` pairs it returns
    `True` iff the list is not empty, every key passes `KeyValidate`, every message hashes, and `sig` is the encoding
    of an `r`-torsion point `q` with `∏ e(H(mᵢ), pkᵢ) · e(q, −g1) = 1` (`BlsAbs.aggVerify`). -/
theorem coreAggregateVerify_sem (pf : PairingFacts e) (H : HashFn) (s : Suite) (l : List (Bytes × Bytes))
    (sig dst : Bytes) :
    coreAggregateVerify H s (l.map (·.1)) (l.map (·.2)) sig dst = .returned true ↔
      l ≠ [] ∧ (∀ x ∈ l, keyValidate x.1 = true ∧ Hashes H dst x.2) ∧
        ∃ q, EncG2 sig q ∧ blsR • q = 0 ∧
          BlsAbs.aggVerify e g1 (hashG2 H dst) (l.map fun x => (decG1 x.1, x.2)) q := by
  have run := fun hl => aggLoop_run pf (H := H) (dst := dst) l hl 1 1 [] (millerOf_one pf)
  -- the final exponentiation on the loop's result and `pairing(S, −G1)`
  have key : ∀ {S : G2Pt} {q : E2} {agg eS : OBls12},
      MillerOf e agg (1 * (l.map fun x => e (hashG2 H dst x.2) (decG1 x.1)).prod) → RepG2 S q → blsR • q = 0 →
      pairingOptBls S (OptBls.neg blsG1) false = .ok eS →
      (finalExponentiateOptBls (agg * eS) = (1 : OBls12) ↔
        BlsAbs.aggVerify e g1 (hashG2 H dst) (l.map fun x => (decG1 x.1, x.2)) q) := fun hm rq hq heS => by
    rw [pf.final (hm.mul rq (C07Opt.Bls.opt_neg_refines g1_rep) hq (neg_torsion g1_torsion) heS), one_mul,
      BlsAbs.aggVerify, List.map_map]
    rfl
  rw [coreAggregateVerify_true_iff, ← List.zip_of_prod rfl rfl]
  constructor
  · rintro ⟨S, agg, ext, eS, ⟨_, _, hne, hS⟩, hrun, heS, hfe⟩
    have hl : ∀ x ∈ l, keyValidate x.1 = true ∧ Hashes H dst x.2 := fun x hx =>
      let ⟨qp, _, ha⟩ := (aggLoop_allArgs hrun).mem_left x hx
      ⟨ha.1, qp.1, ha.2.2⟩
    obtain ⟨q, rq, encq, hq⟩ := canonSig_enc hS
    obtain ⟨agg', ext', hrun', hm⟩ := run hl
    cases hrun.symm.trans hrun'
    exact ⟨by rintro rfl; simp at hne, hl, q, encq, hq, (key hm rq hq heS).mp hfe⟩
  · rintro ⟨hne, hl, q, enc, hq, hagg⟩
    obtain ⟨S, hS, rq⟩ := canonSig_of_enc enc hq
    obtain ⟨eS, heS⟩ := pairing_ok rq (C07Opt.Bls.opt_neg_refines g1_rep)
    obtain ⟨agg, ext, hrun, hm⟩ := run hl
    have hvalid : (l.map (·.1)).all (isValidPubkey s) = true := by
      rw [List.all_eq_true]
      intro pk hpk
      obtain ⟨x, hx, rfl⟩ := List.mem_map.mp hpk
      obtain ⟨P, hP, _⟩ := key_rep (hl x hx).1
      exact isValidPubkey_of_canon hP
    have hlen : 1 ≤ (l.map (·.1)).length := by
      rw [List.length_map]; exact List.length_pos_iff.mpr hne
    exact ⟨S, agg, ext, eS, ⟨hvalid, by rw [List.length_map, List.length_map], hlen, hS⟩, hrun, heS,
      (key hm rq hq heS).mpr hagg⟩

/-- **`_CoreAggregateVerify` on a list of honest signers** `(skᵢ, mᵢ)`, `1 ≤ skᵢ < r`, with their public keys: it
    returns `True` iff the list is not empty, every message hashes, and `sig` is the encoding of `Σ skᵢ • H(mᵢ)`. -/
theorem coreAggregateVerify_signers (pf : PairingFacts e) (H : HashFn) (s : Suite) {l : List (ℤ × Bytes)}
    (hl : ∀ x ∈ l, 1 ≤ x.1 ∧ x.1 < (curveOrder : ℤ)) (sig dst : Bytes) :
    coreAggregateVerify H s (l.map fun x => pkOf x.1) (l.map (·.2)) sig dst = .returned true ↔
      l ≠ [] ∧ (∀ x ∈ l, Hashes H dst x.2) ∧
        EncG2 sig (l.map fun x => x.1.toNat • hashG2 H dst x.2).sum := by
  have hkey : ∀ x ∈ l, KeyOf x.1.toNat (pkOf x.1) := fun x hx => keyOf_pkOf (hl x hx)
  have hagg : ∀ {q : E2}, blsR • q = 0 →
      (BlsAbs.aggVerify e g1 (hashG2 H dst) (l.map fun x => (decG1 (pkOf x.1), x.2)) q ↔
        q = (l.map fun x => x.1.toNat • hashG2 H dst x.2).sum) := by
    intro q hq
    have := BlsAbs.abs_aggregate_verify_iff pf.isPairing g1_torsion (hashG2_torsion pf H dst)
      (l.map fun x => (x.1.toNat, x.2)) hq
    simp only [List.map_map, Function.comp_def, BlsAbs.pk, BlsAbs.sign] at this
    rw [← this, List.map_congr_left fun x hx => by rw [(hkey x hx).2.2.decG1_eq]]
  have htor : blsR • (l.map fun x => x.1.toNat • hashG2 H dst x.2).sum = 0 := torsion_sum fun y hy => by
    obtain ⟨x, _, rfl⟩ := List.mem_map.mp hy
    exact nsmul_torsion (hashG2_torsion pf H dst x.2) _
  have := coreAggregateVerify_sem pf H s (l.map fun x => (pkOf x.1, x.2)) sig dst
  simp only [List.map_map, Function.comp_def, List.map_eq_nil_iff, Ne, List.forall_mem_map] at this
  rw [this, exists_enc_iff htor hagg]
  exact and_congr_right fun _ => and_congr_left fun _ =>
    ⟨fun hh x hx => (hh x hx).2, fun hh x hx => ⟨(hkey x hx).valid, hh x hx⟩⟩

end AggVerify

section AggSign
variable [DecidableEq K2] {GT : Type} [CommGroup GT] {e : E2 → E1 → GT}

theorem aggregate_map {α : Type} {g : α → Bytes} {pt : α → E2} {l : List α}
    (h : ∀ a ∈ l, EncG2 (g a) (pt a)) (hne : l ≠ []) (sig : Bytes) :
    aggregate (l.map g) = .ok sig ↔ EncG2 sig (l.map pt).sum := by
  have hmap : (l.map g).map decG2 = l.map pt := by
    rw [List.map_map]
    exact List.map_congr_left fun a ha => (h a ha).decG2_eq
  rw [aggregate_ok_iff_enc, hmap]
  refine ⟨fun h => h.2.2, fun henc => ⟨by rwa [Ne, List.map_eq_nil_iff], fun sg hsg => ?_, henc⟩⟩
  obtain ⟨a, ha, rfl⟩ := List.mem_map.mp hsg
  obtain ⟨hl, S, hS, _⟩ := h a ha
  exact ⟨hl, S, hS⟩

/-- **"is `Aggregate` of the signatures of the signers `l`"**, for a signing function `f` that returns on `a` exactly
    when `D a`, and then the encoding of the point `pt a`: `D` holds on `l` and `sig` is the encoding of `Σ pt a`. -/
theorem aggregate_signed_iff {α : Type} {f : α → Except PyErr Bytes} {D : α → Prop} {pt : α → E2}
    {l : List α} (hf : ∀ a ∈ l, ∀ sg, f a = .ok sg ↔ D a ∧ EncG2 sg (pt a))
    (hex : ∀ a ∈ l, D a → ∃ sg, EncG2 sg (pt a)) (hne : l ≠ []) (sig : Bytes) :
    (∃ sigs, List.Forall₂ (fun a sg => f a = .ok sg) l sigs ∧ aggregate sigs = .ok sig) ↔
      (∀ a ∈ l, D a) ∧ EncG2 sig (l.map pt).sum := by
  simp only [forall₂_ok_iff, and_assoc, exists_and_left, exists_eq_left']
  have key : (∀ a ∈ l, ∃ b, f a = .ok b) → ∀ a ∈ l, D a ∧ EncG2 (okVal (f a)) (pt a) := fun hr a ha => by
    obtain ⟨b, hb⟩ := hr a ha
    rw [hb]
    exact (hf a ha b).mp hb
  constructor
  · rintro ⟨hr, hagg⟩
    exact ⟨fun a ha => (key hr a ha).1, (aggregate_map (fun a ha => (key hr a ha).2) hne sig).mp hagg⟩
  · rintro ⟨hD, henc⟩
    have hr : ∀ a ∈ l, ∃ b, f a = .ok b := fun a ha => by
      obtain ⟨sg, hsg⟩ := hex a ha (hD a ha)
      exact ⟨sg, (hf a ha sg).mpr ⟨hD a ha, hsg⟩⟩
    exact ⟨hr, (aggregate_map (fun a ha => (key hr a ha).2) hne sig).mpr henc⟩

end AggSign

section Fast
variable [DecidableEq K2] {GT : Type} [CommGroup GT] {e : E2 → E1 → GT}

theorem Z1_rep : Represents Z1 (0 : E1) := C07Opt.Bls.represents_zero (T := Z1) rfl

theorem pks_torsion {pks : List Bytes} (h : ∀ pk ∈ pks, keyValidate pk = true) :
    blsR • (pks.map decG1).sum = 0 := torsion_sum fun y hy => by
  obtain ⟨pk, hpk, rfl⟩ := List.mem_map.mp hy
  exact (key_rep (h pk hpk)).choose_spec.2.2.2

/-- **`_AggregatePKs` on `KeyValidate`d keys returns the encoding of `Σ pkᵢ`** -/
theorem aggregatePKs_sem {pks : List Bytes} (h : ∀ pk ∈ pks, keyValidate pk = true) (hne : 1 ≤ pks.length) :
    ∃ apk, aggregatePKs pks = .ok apk ∧ EncG1 apk (pks.map decG1).sum := by
  obtain ⟨A, hA, rA⟩ := aggregatePKs_rel (fun A a => Represents A a) (g := fun a pk => a + decG1 pk) hne Z1_rep
    fun pk hpk _ _ ra =>
      let ⟨P, hP, rp, _⟩ := key_rep (h pk hpk)
      ⟨P, hP.2.1, C07Opt.Bls.opt_add_refines curveF1.two ra rp⟩
  rw [← List.foldl_map, ← List.sum_eq_foldl] at rA
  obtain ⟨bs, hbs, enc⟩ := encG1_of_rep rA (pks_torsion h)
  exact ⟨bs, hA.trans hbs, enc⟩

/-- **`FastAggregateVerify` read on points, for ANY keys**: it returns `True` iff the list is not empty, every key
    passes `KeyValidate`, the aggregate key `Σ pkᵢ` is NOT the identity (the `KeyValidate` of the aggregate key), the
    message hashes and `sig` is the encoding of an `r`-torsion point that verifies under the aggregate key (the third
    condition and `BlsAbs.verify` at `Σ pkᵢ` make up `BlsAbs.fastAggVerify`). -/
theorem fastAggregateVerify_sem (pf : PairingFacts e) (H : HashFn) (pks : List Bytes) (msg sig : Bytes) :
    fastAggregateVerify H pks msg sig = .returned true ↔
      1 ≤ pks.length ∧ (∀ pk ∈ pks, keyValidate pk = true) ∧ (pks.map decG1).sum ≠ 0 ∧
        Hashes H (Suite.dst .pop) msg ∧ ∃ q, EncG2 sig q ∧ blsR • q = 0 ∧
          BlsAbs.verify e g1 (hashG2 H (Suite.dst .pop)) (pks.map decG1).sum msg q := by
  rw [C04.fastAggregateVerify_eq]
  rcases C04.fastPre_cases pks sig with ⟨hno, hp⟩ | ⟨hall, _, hne, apk, hp, hagg, _⟩
  · rw [hp]
    refine ⟨fun h => (nomatch h), fun ⟨hne, hk, _, _, q, enc, _⟩ => (hno ⟨fun pk hpk => ?_, enc.1, hne⟩).elim⟩
    exact ⟨(key_rep (hk pk hpk)).choose_spec.1.1, hk pk hpk⟩
  · rw [hp]
    have hk : ∀ pk ∈ pks, keyValidate pk = true := fun pk hpk => (hall pk hpk).2
    obtain ⟨apk', hagg', encA⟩ := aggregatePKs_sem hk hne
    cases hagg.symm.trans hagg'
    have hkv : keyValidate apk = true ↔ (pks.map decG1).sum ≠ 0 :=
      ⟨fun h => encA.decG1_eq ▸ (key_rep h).choose_spec.2.2.1, fun h0 => encA.valid h0 (pks_torsion hk)⟩
    show verify H .pop apk msg sig = _ ↔ _
    rw [verify_eq, coreVerify_sem pf, encA.decG1_eq, hkv]
    exact ⟨fun h => ⟨hne, hk, h⟩, fun h => h.2.2⟩

/-- **`FastAggregateVerify` on the public keys of valid secret keys `skᵢ`**: it returns `True` iff the list is not
    empty, the aggregate key `(Σ skᵢ) • g1` is not the identity, the message hashes, and `sig` is the encoding of
    `(Σ skᵢ) • H(m)`. -/
theorem fastAggregateVerify_signers (pf : PairingFacts e) (H : HashFn) {sks : List ℤ}
    (hsks : ∀ sk ∈ sks, 1 ≤ sk ∧ sk < (curveOrder : ℤ)) (msg sig : Bytes) :
    fastAggregateVerify H (sks.map pkOf) msg sig = .returned true ↔
      sks ≠ [] ∧ (sks.map Int.toNat).sum • g1 ≠ 0 ∧ Hashes H (Suite.dst .pop) msg ∧
        EncG2 sig ((sks.map Int.toNat).sum • hashG2 H (Suite.dst .pop) msg) := by
  have hdec : ((sks.map pkOf).map decG1).sum = BlsAbs.pk g1 (sks.map Int.toNat).sum := by
    rw [BlsAbs.pk, ← BlsAbs.sum_nsmul_const, List.map_map, List.map_map]
    exact congrArg _ (List.map_congr_left fun sk hsk => (keyOf_pkOf (hsks sk hsk)).2.2.decG1_eq)
  have hk : ∀ pk ∈ sks.map pkOf, keyValidate pk = true :=
    List.forall_mem_map.mpr fun sk hsk => (keyOf_pkOf (hsks sk hsk)).valid
  have hH := hashG2_torsion pf H (Suite.dst .pop)
  rw [fastAggregateVerify_sem pf, hdec, exists_enc_iff (nsmul_torsion (hH msg) _)
    (BlsAbs.abs_verify_iff pf.isPairing g1_torsion hH _ msg), List.length_map, Nat.succ_le_iff, List.length_pos_iff]
  exact and_congr_right fun _ => and_iff_right hk

end Fast

section Wrappers
variable [DecidableEq K2] {GT : Type} [CommGroup GT] {e : E2 → E1 → GT}

theorem encG2_eq_iff {bs bs' : Bytes} {q q' : E2} (h : EncG2 bs q) (h' : EncG2 bs' q') :
    bs = bs' ↔ q = q' :=
  ⟨fun hb => by subst hb; exact h.point_unique h', fun hq => by subst hq; exact h.bytes_unique h'⟩

/-- the message the suite hashes for the signer `x = (sk, m)` (the AUG suite prepends the signer's public key) -/
def smsg (s : Suite) (x : ℤ × Bytes) : Bytes := vmsg s (pkOf x.1) x.2

theorem vmsgs_cons (s : Suite) (pk : Bytes) (pks : List Bytes) (m : Bytes) (ms : List Bytes) :
    vmsgs s (pk :: pks) (m :: ms) = vmsg s pk m :: vmsgs s pks ms := by
  cases s <;> rfl

theorem vmsgs_signers (s : Suite) (l : List (ℤ × Bytes)) :
    vmsgs s (l.map fun x => pkOf x.1) (l.map (·.2)) = l.map (smsg s) := by
  induction l with
  | nil => cases s <;> rfl
  | cons x l ih => rw [List.map_cons, List.map_cons, vmsgs_cons, ih]; rfl

theorem sign_iff_enc (pf : PairingFacts e) (H : HashFn) (s : Suite) {x : ℤ × Bytes}
    (hx : 1 ≤ x.1 ∧ x.1 < (curveOrder : ℤ)) (sg : Bytes) :
    sign H s (.int x.1) x.2 = .ok sg ↔
      Hashes H s.dst (smsg s x) ∧ EncG2 sg (x.1.toNat • hashG2 H s.dst (smsg s x)) := by
  rw [sign_eq_coreSign H s (skToPk_pkOf hx)]
  exact coreSign_iff_hashG2 pf (validPrivkey_int hx) _ _ sg

/-- **`AggregateVerify` on a list of honest signers** `(skᵢ, mᵢ)` with their public keys, the three suites in one
    statement: it returns `True` iff the list is not empty, (basic suite) the messages are pairwise distinct, every
    message hashes, and `sig` is the encoding of `Σ skᵢ • H(m'ᵢ)`. -/
theorem aggregateVerify_signers (pf : PairingFacts e) (H : HashFn) (s : Suite) {l : List (ℤ × Bytes)}
    (hl : ∀ x ∈ l, 1 ≤ x.1 ∧ x.1 < (curveOrder : ℤ)) (sig : Bytes) :
    aggregateVerify H s (l.map fun x => pkOf x.1) (l.map (·.2)) sig = .returned true ↔
      l ≠ [] ∧ (s = .basic → (l.map (·.2)).Nodup) ∧ (∀ x ∈ l, Hashes H s.dst (smsg s x)) ∧
        EncG2 sig (l.map fun x => x.1.toNat • hashG2 H s.dst (smsg s x)).sum := by
  rw [aggregateVerify_eq, vmsgs_signers]
  split
  · next hpre =>
    refine ⟨fun h => (nomatch h), fun ⟨_, hn, _⟩ => ?_⟩
    rcases hpre with ⟨hs, hd⟩ | ⟨_, hlen⟩
    · exact ((C03.hasDup_iff_not_nodup _).mp hd (hn hs)).elim
    · simp at hlen
  · next hpre =>
    have hnd : s = .basic → (l.map (·.2)).Nodup := fun hs =>
      Decidable.not_not.mp fun hn => hpre (.inl ⟨hs, (C03.hasDup_iff_not_nodup _).mpr hn⟩)
    have := coreAggregateVerify_signers pf H s (l := l.map fun x => (x.1, smsg s x))
      (List.forall_mem_map.mpr hl) sig s.dst
    simp only [List.map_map, Function.comp_def, List.map_eq_nil_iff, Ne, List.forall_mem_map] at this
    rw [this]
    exact ⟨fun ⟨a, b, c⟩ => ⟨a, hnd, b, c⟩, fun ⟨a, _, b, c⟩ => ⟨a, b, c⟩⟩

/-- parallel lists of secret keys, their public keys and as many messages are one list of signers -/
theorem signers_of_lists {sks : List ℤ} {pks msgs : List Bytes}
    (hpks : List.Forall₂ (fun sk pk => skToPk (.int sk) = .ok pk) sks pks) (hlen : pks.length = msgs.length) :
    ∃ l : List (ℤ × Bytes), sks = l.map (·.1) ∧ pks = l.map (fun x => pkOf x.1) ∧ msgs = l.map (·.2) := by
  have hl : sks.length = msgs.length := hpks.length_eq.trans hlen
  have h1 : (sks.zip msgs).map (·.1) = sks := List.map_fst_zip hl.le
  refine ⟨sks.zip msgs, h1.symm, ?_, (List.map_snd_zip hl.ge).symm⟩
  rw [pks_eq_map hpks]
  conv_lhs => rw [← h1, List.map_map]
  rfl

end Wrappers

end PyEcc.BlsProto
