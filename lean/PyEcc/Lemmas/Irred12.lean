/-
  Why the degree-12 moduli of py_ecc are irreducible. Each is `((X − a)² + 1) ∘ X⁶`. The quadratic is irreducible over
  `ZMod p` for `p ≡ 3 (mod 4)` (`irreducible_quad`, `Sem/FqpFq2.lean`); over its splitting field, which has `p²` elements, `X⁶ − g` is irreducible for the root
  `g = a + i` as soon as `g` is neither a square nor a cube (Mathlib has the criterion for prime and for odd exponents
  only), which two power residues evaluated on pairs (`Gi p`) show; `Polynomial.irreducible_comp` assembles the two.
-/
import Mathlib.FieldTheory.KummerExtension
import Mathlib.FieldTheory.Finite.Basic
import Mathlib.NumberTheory.LegendreSymbol.Basic
import Mathlib.Algebra.Polynomial.SpecificDegree
import PyEcc.Lemmas.Gi
import PyEcc.Sem.FqpFq2

namespace PyEcc.Irred12
open Polynomial IntermediateField

universe u

theorem X_pow_six_sub_C_irreducible {K : Type u} [Field K] {a : K}
    (h2 : ∀ b : K, b ^ 2 ≠ a) (h3 : ∀ b : K, b ^ 3 ≠ a) : Irreducible (X ^ 6 - C a : K[X]) := by
  have h6 : (6 : ℕ) = 2 * 3 := rfl
  rw [h6]
  apply X_pow_mul_sub_C_irreducible (X_pow_sub_C_irreducible_of_prime Nat.prime_three h3)
  intro E _ _ x hx
  have hint : IsIntegral K x := minpoly.ne_zero_iff.mp (hx ▸ X_pow_sub_C_ne_zero three_pos a)
  apply X_pow_sub_C_irreducible_of_prime Nat.prime_two
  intro b hb
  apply h2 (Algebra.norm _ b)
  rw [← map_pow, hb, ← adjoin.powerBasis_gen hint,
    Algebra.PowerBasis.norm_gen_eq_coeff_zero_minpoly]
  simp [minpoly_gen, hx, Odd.neg_pow (show Odd 3 by decide)]

theorem not_pow_of_pow_ne_one {K : Type*} [Field K] [Finite K] {q : ℕ} (hq : Nat.card K = q)
    {ξ : K} (hξ : ξ ≠ 0) {k : ℕ} (hk0 : k ≠ 0) (hk : k ∣ q - 1)
    (h : ξ ^ ((q - 1) / k) ≠ 1) : ∀ b : K, b ^ k ≠ ξ := by
  intro b hb
  apply h
  have hb0 : b ≠ 0 := by
    rintro rfl
    rw [zero_pow hk0] at hb
    exact hξ hb.symm
  have := Fintype.ofFinite K
  rw [← hb, ← pow_mul, Nat.mul_div_cancel' hk, ← hq, Nat.card_eq_fintype_card]
  exact FiniteField.pow_card_sub_one_eq_one b hb0

variable {p : ℕ}

theorem quad_monic (a : ℕ) [Fact p.Prime] : (quad p a).Monic := by
  unfold quad
  rw [← C_1]
  exact ((monic_X_sub_C _).pow 2).add_of_left
    (by rw [degree_C one_ne_zero, degree_pow, degree_X_sub_C]; decide)

theorem quad_comp (a : ℕ) :
    (quad p a).comp (X ^ 6) = X ^ 12 - C (2 * a : ZMod p) * X ^ 6 + C ((a : ZMod p) ^ 2 + 1) := by
  simp only [quad, add_comp, pow_comp, sub_comp, X_comp, C_comp, one_comp, C_add, C_mul, C_pow, C_1]
  rw [show (C (2 : ZMod p)) = 2 from rfl]
  ring

theorem sq_eq_neg_one_of_aeval_quad {A : Type*} [CommRing A] [Algebra (ZMod p) A] {g : A} {a : ℕ}
    (h : aeval g (quad p a) = 0) : (g - (a : A)) ^ 2 = -1 := by
  rw [quad, aeval_def, eval₂_add, eval₂_pow, eval₂_sub, eval₂_X, eval₂_C, eval₂_one,
    map_natCast] at h
  exact eq_neg_of_add_eq_zero_left h

theorem X_pow_six_sub_C_irreducible_of_pow {K : Type*} [Field K] [Finite K] [CharP K p]
    (hp : p.Prime) (hp2 : 2 < p) (hcard : Nat.card K = p ^ 2) {g : K} (a : ℕ)
    (hroot : (g - (a : K)) ^ 2 = -1) (h3 : 3 ∣ p ^ 2 - 1)
    (hsq : (⟨a, 1⟩ : Gi p) ^ ((p ^ 2 - 1) / 2) = -1)
    (u : ℕ) (hcu : (⟨a, 1⟩ : Gi p) ^ ((p ^ 2 - 1) / 3) = u) (hu : u % p ≠ 1 % p) :
    Irreducible (X ^ 6 - C g : K[X]) := by
  have : NeZero p := ⟨hp.ne_zero⟩
  have hpow : ∀ e, g ^ e = Gi.phi (g - a) ((⟨a, 1⟩ : Gi p) ^ e) := fun e => by
    rw [Gi.phi_pow hroot, Gi.phi, Nat.cast_one, one_mul, add_sub_cancel]
  have hone : (-1 : K) ≠ 1 :=
    Ring.neg_one_ne_one_of_char_ne_two (by rw [ringChar.eq K p]; exact hp2.ne')
  have hpow2 : g ^ ((p ^ 2 - 1) / 2) = -1 := by
    rw [hpow, hsq, Gi.phi_neg, Gi.phi_one]
  have hpow3 : g ^ ((p ^ 2 - 1) / 3) ≠ 1 := by
    rw [hpow, hcu, Gi.phi_natCast, ← Nat.cast_one, Ne, CharP.natCast_eq_natCast K p]
    exact hu
  have h2d : 2 ∣ p ^ 2 - 1 :=
    even_iff_two_dvd.mp (Nat.Odd.sub_odd (hp.odd_of_ne_two hp2.ne').pow odd_one)
  have hg0 : g ≠ 0 := by
    rintro rfl
    rw [zero_pow_eq] at hpow2
    split at hpow2
    · exact hone hpow2.symm
    · exact neg_ne_zero.mpr one_ne_zero hpow2.symm
  exact X_pow_six_sub_C_irreducible
    (not_pow_of_pow_ne_one hcard hg0 two_ne_zero h2d (hpow2 ▸ hone))
    (not_pow_of_pow_ne_one hcard hg0 three_ne_zero h3 hpow3)

/-- If, computing on pairs of naturals (`Gi p`), `(a + i)^((p²−1)/2) = −1` and `(a + i)^((p²−1)/3) = u ∈ Fp` with
`u ≢ 1`, then `X¹² − 2aX⁶ + (a² + 1)` is irreducible over `Fp`, `p ≡ 3 (mod 4)`. -/
theorem irreducible_comp_X_pow_six [Fact p.Prime] (h4 : p % 4 = 3) (a : ℕ) (h3 : 3 ∣ p ^ 2 - 1)
    (hsq : (⟨a, 1⟩ : Gi p) ^ ((p ^ 2 - 1) / 2) = -1)
    (u : ℕ) (hcu : (⟨a, 1⟩ : Gi p) ^ ((p ^ 2 - 1) / 3) = u) (hu : u % p ≠ 1 % p) :
    Irreducible ((quad p a).comp (X ^ 6)) := by
  have hp : p.Prime := Fact.out
  refine irreducible_comp (f := quad p a) (g := X ^ 6) (quad_monic a) (monic_X_pow 6)
    (irreducible_quad h4 a) fun E _ _ x hx => ?_
  have hint : IsIntegral (ZMod p) x := minpoly.ne_zero_iff.mp (hx ▸ (quad_monic a).ne_zero)
  rw [Polynomial.map_pow, map_X]
  -- the field `Fp(x)` has `p²` elements, and `x − a` squares to `−1` in it
  have : FiniteDimensional (ZMod p) (ZMod p)⟮x⟯ := adjoin.finiteDimensional hint
  have : Finite (ZMod p)⟮x⟯ := Module.finite_of_finite (ZMod p)
  have hcard : Nat.card (ZMod p)⟮x⟯ = p ^ 2 := by
    rw [Module.natCard_eq_pow_finrank (K := ZMod p), adjoin.finrank hint, hx, quad_natDegree,
      Nat.card_zmod]
  have : CharP (ZMod p)⟮x⟯ p :=
    charP_of_injective_algebraMap (algebraMap (ZMod p) (ZMod p)⟮x⟯).injective p
  have hroot : (AdjoinSimple.gen (ZMod p) x - (a : (ZMod p)⟮x⟯)) ^ 2 = -1 :=
    sq_eq_neg_one_of_aeval_quad (by rw [← hx, ← minpoly_gen (ZMod p) x]; exact minpoly.aeval _ _)
  exact X_pow_six_sub_C_irreducible_of_pow hp (by have := hp.two_le; omega) hcard a hroot h3 hsq u hcu hu

end PyEcc.Irred12
