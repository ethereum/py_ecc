/-
  The order of the bn128 twist `E'(Fp²)`, helper level: `K2bn = F_p[X]/(X²+1)` has `p²`
  elements; `−b2` is not a cube (no point of order two); from kernel evaluations of the generated curve code
  on the points of `Lemmas/Hb2FactsBn.lean` (coefficient pairs, `Lemmas/FastFq2.lean`) points of each prime
  order dividing `2p − r`, and the generator `G2` of order `r`; hence `(2p − r)·r ∣ #E'(Fp²)`.
-/
import PyEcc.Lemmas.Hb2Phi
import PyEcc.Lemmas.Hb2FactsBn
import PyEcc.Lemmas.TwinModules
import PyEcc.Lemmas.FqpQuotFinite
import PyEcc.Props.C07_FactsG2
import PyEcc.Sem.PrattCerts2

namespace PyEcc.Hb2
open PyEcc PyEcc.Gen PyEcc.Gen.Consts PyEcc.Fqp PyEcc.FqpSem PyEcc.Transfer WeierstrassCurve

/-- the group of the bn128 twist: Mathlib points of `y² = x³ + b2` over `K2bn` -/
abbrev E2bn : Type := CurvePt (toQ bnB2 : K2bn)

/-- `b2 = 3/(9+i)` of `optimized_bn128` as a coefficient pair -/
def bnb2 : Gi bnP := Gi.ofF bnB2

theorem val2bn_bnb2 : val2bn bnb2 = toQ bnB2 := Gi.val_ofF curveF2bn.good_b

theorem bn_neg_b2_pow : Gi.Good bnb2 ∧ (-bnb2) ^ ((bnP ^ 2 - 1) / 3) ≠ 1 := by decide +kernel

/-- no point with `y = 0` on the bn128 twist: `−b2` is not a cube (`bn_neg_b2_pow`) -/
theorem bn_cube_add_b2_ne_zero : ∀ x : K2bn, x ^ 3 + toQ bnB2 ≠ 0 := by
  obtain ⟨gb, hk⟩ := bn_neg_b2_pow
  have g := goodHom_val2bn
  refine CurveSem.no_cube_root_of_pow_ne_one (N := bnP ^ bnMc2.length) NondegSem.fermat_quot
    (by decide +kernel) curveF2bn.b_ne fun h => hk ?_
  apply g.inj (g.good_pow _ (g.good_neg gb)) g.good_one
  rw [g.map_pow _ (g.good_neg gb), g.map_neg gb, g.map_one, val2bn_bnb2]
  exact h

theorem card_E2bn_le : Nat.card E2bn ≤ 2 * bnP ^ 2 + 1 := by
  classical exact card_point_le_of_card _ NondegSem.card_quot

theorem bn_twist_no_order_two (P : E2bn) (h : P + P = 0) : P = 0 := by
  classical
  exact CurveSem.no_two_torsion curveF2bn.two bn_cube_add_b2_ne_zero P h

/-- the generator `G2` of `optimized_bn128`: canonical, on the twist curve, not ∞, killed by `curve_order` -/
theorem bnG2_facts : CanonT bnG2 ∧ OptBn.is_on_curve bnG2 bnB2 = true ∧ OptBn.is_inf bnG2 = false
    ∧ OptBn.is_inf (OptBn.multiply bnG2 optimized_bn128_curve_order) = true :=
  ⟨by decide, C07.Facts.bn_G2_opt⟩

instance fact_10069 : Fact (Nat.Prime 10069) := ⟨Pratt.prime_10069⟩
instance fact_5864401 : Fact (Nat.Prime 5864401) := ⟨Pratt.prime_5864401⟩
instance fact_1875725156269 : Fact (Nat.Prime 1875725156269) := ⟨Pratt.prime_1875725156269⟩
instance fact_bnC : Fact (Nat.Prime bnC) :=
  ⟨Pratt.prime_197620364512881247228717050342013327560683201906968909⟩
instance fact_bnR : Fact (Nat.Prime optimized_bn128_curve_order) := ⟨prime_bnR⟩

/-- the code on coefficient pairs computes in `E'(K2bn)` -/
theorem curveVal2bn : CurveHom Gi.Good (val2bn : Gi bnP → K2bn) bnb2 (toQ bnB2) :=
  ⟨goodHom_val2bn, curveF2bn.two, curveF2bn.three, bn_neg_b2_pow.1, val2bn_bnb2, curveF2bn.b_ne⟩

theorem dvd_card_E2bn {T : Gi bnP × Gi bnP × Gi bnP} {q : ℕ} [Fact q.Prime]
    (f : GoodT Gi.Good T ∧ CycFacts T bnb2 q) : q ∣ Nat.card E2bn := by
  classical exact dvd_card_of_facts curveVal2bn f.1 f.2

/-- `2p − r = 10069 · 5864401 · 1875725156269 · C` -/
theorem bn_twist_dvd_card :
    (2 * optimized_bn128_field_modulus - optimized_bn128_curve_order) * optimized_bn128_curve_order
      ∣ Nat.card E2bn := by
  classical
  have d0 : optimized_bn128_curve_order ∣ Nat.card E2bn := by
    obtain ⟨c, f⟩ := bnG2_facts
    rw [OptBn.is_on_curve_eq, OptBn.is_inf_eq, OptBn.multiply_eq] at f
    exact dvd_card_of_facts curveF2bn c f
  have e : (2 * optimized_bn128_field_modulus - optimized_bn128_curve_order) * optimized_bn128_curve_order
      = [10069, 5864401, 1875725156269, bnC, optimized_bn128_curve_order].prod := by decide +kernel
  rw [e]
  refine prod_dvd_of_pairwise_coprime (by decide +kernel) ?_
  simp only [List.forall_mem_cons, List.not_mem_nil, false_imp_iff, implies_true, and_true]
  exact ⟨dvd_card_E2bn (T := ptbn_10069) (by decide +kernel),
    dvd_card_E2bn (T := ptbn_5864401) (by decide +kernel),
    dvd_card_E2bn (T := ptbn_1875725156269) (by decide +kernel),
    dvd_card_E2bn (T := ptbn_C) (by decide +kernel), d0⟩

end PyEcc.Hb2
