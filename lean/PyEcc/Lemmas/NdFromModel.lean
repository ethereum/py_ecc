/-
  The non-degeneracy clause ND of the BLS protocol bundles is a THEOREM.

  `C17O.PairingFacts' e` (`Props/C01_ProtoHB2.lean`) has the field
      `nondeg : blsR • q = 0 → e q g1 = 1 → q = 0`.
  It follows from the other fields and two facts:
    * `C17O.torsion_E2_cyclic`      — the `r`-torsion of `E'(Fp²)` is generated by the point of the constant `G2`;
    * `C05N.pairingOptBls_G2_G1_ne_one` — the model's `pairing(G2, G1)` (evaluated in the Lean kernel) is not
                                       `FQ12.one()`.
  The link field (`miller` / `value`: "the model computes `e`"), applied to the single pairing call
  `(G2, G1)`, turns the kernel fact into `e g2 g1 ≠ 1`, and `NdSem.nondeg_of_generator` (pure algebra) does
  the rest.

  `PairingFacts'' e` has ONLY `add_left`, `add_right` (HB1) and `miller` (HB1′, product form), `PairingValueFacts'' e`
  ONLY `add_left`, `add_right` (HB1) and `value` (HB1′, per pairing call), and
  `PairingValueFacts'' e → PairingFacts'' e → C17O.PairingFacts' e → BlsProto.PairingFacts e`.
-/
import PyEcc.Lemmas.NdFromOrder
import PyEcc.PropsHeavy.C05_Nondeg
import PyEcc.Props.C01_ProtoHB2

set_option linter.unusedSectionVars false

namespace PyEcc.NdSem
open PyEcc PyEcc.Gen PyEcc.Gen.Consts PyEcc.Fqp PyEcc.FqpSem PyEcc.Transfer PyEcc.BlsSem PyEcc.BlsProto

section
variable [DecidableEq K2]

theorem exists_g2 : ∃ g : E2, RepG2 blsG2 g ∧ blsR • g = 0 := by
  obtain ⟨c, _, G, r, _, hr, _⟩ := C07M.blsG2_point
  exact ⟨G, ⟨c, r⟩, hr⟩

/-- the Mathlib point of `E'(Fp²)` represented by the model's generator constant `G2` -/
noncomputable def g2 : E2 := Classical.choose exists_g2

theorem g2_rep : RepG2 blsG2 g2 := (Classical.choose_spec exists_g2).1

theorem g2_torsion : blsR • g2 = 0 := (Classical.choose_spec exists_g2).2

/-- **`g2` generates the `r`-torsion of `E'(Fp²)`** (from the group order, `C17O.torsion_E2_cyclic`) -/
theorem g2_generates (q : E2) (hq : blsR • q = 0) : ∃ k : ℕ, q = k • g2 := by
  obtain ⟨k, _, e⟩ := C17O.torsion_E2_cyclic g2 q g2_rep.2 hq
  exact ⟨k, e⟩

/-- the single pairing call `pairing(G2, G1, final_exponentiate=False)`: it returns a Miller value `m`, it is
    a call on canonical, on-curve, `r`-torsion arguments (all side conditions of the link field hold), and
    `final_exponentiate(m)` is not `FQ12.one()` (kernel evaluation, `C05N.pairingOptBls_G2_G1_ne_one`). -/
theorem generator_call : ∃ m : OBls12, (⟨blsG2, blsG1, g2, g1, m⟩ : Arg).Good ∧
    finalExponentiateOptBls m ≠ 1 := by
  obtain ⟨m, hm⟩ := pairing_ok g2_rep g1_rep
  refine ⟨m, ⟨g2_rep, g1_rep, g2_torsion, g1_torsion, hm⟩, ?_⟩
  obtain ⟨v, hv, hne, _⟩ := C05N.pairingOptBls_G2_G1_ne_one
  have hv2 := C12.pairingOptBls_false_then_final blsG2 blsG1 m hm
  intro h1
  rw [h1, hv] at hv2
  exact hne (Except.ok.inj hv2)

end

/-- **`PairingFacts'' e`: HB1 and HB1′, nothing else.**  `e : E2 → E1 → GT` is "the
    reduced pairing" on Mathlib's point groups of `E'(Fp²)` and `E(Fp)`, with values in any commutative
    group.  In plain words:
    * `add_left`, `add_right` — **HB1, bilinearity**: on `r`-torsion points `e` is additive in each argument;
    * `miller` — **HB1′, the model computes `e`**: for every non-empty list of pairing calls on canonical,
      on-curve, `r`-torsion arguments, `final_exponentiate(∏ Miller values) == FQ12.one()` exactly when the
      product of the `e`-values of the represented points is `1`.
    Non-degeneracy (ND), the group orders (HB2) and "`hash_to_G2` lands in the subgroup" (HT6) are NOT
    assumed: they are proved. -/
structure PairingFacts'' [DecidableEq K2] {GT : Type} [CommGroup GT] (e : E2 → E1 → GT) : Prop where
  add_left : ∀ {q q' : E2} {p : E1}, blsR • q = 0 → blsR • q' = 0 → blsR • p = 0 →
    e (q + q') p = e q p * e q' p
  add_right : ∀ {q : E2} {p p' : E1}, blsR • q = 0 → blsR • p = 0 → blsR • p' = 0 →
    e q (p + p') = e q p * e q p'
  miller : ∀ l : List Arg, l ≠ [] → (∀ a ∈ l, a.Good) →
    (finalExponentiateOptBls (mprod (l.map Arg.m)) = (1 : OBls12) ↔
      (l.map fun a => e a.q a.p).prod = 1)

/-- **`PairingValueFacts'' e`** for `e : E2 → E1 → K12ˣ` (values in the units of
    `F_{p¹²} = F_p[X]/(X¹²−2X⁶+2)`): HB1 and, per pairing call on canonical on-curve `r`-torsion arguments
    representing `(q, p)`, "the value of `final_exponentiate(pairing(Q, P, False))` in `F_{p¹²}` is `e q p`"
    — nothing else. -/
structure PairingValueFacts'' [DecidableEq K2] (e : E2 → E1 → K12ˣ) : Prop where
  add_left : ∀ {q q' : E2} {p : E1}, blsR • q = 0 → blsR • q' = 0 → blsR • p = 0 →
    e (q + q') p = e q p * e q' p
  add_right : ∀ {q : E2} {p p' : E1}, blsR • q = 0 → blsR • p = 0 → blsR • p' = 0 →
    e q (p + p') = e q p * e q p'
  value : ∀ a : Arg, a.Good → (toQ (finalExponentiateOptBls a.m) : K12) = ((e a.q a.p : K12ˣ) : K12)

section
variable [DecidableEq K2] {GT : Type} [CommGroup GT] {e : E2 → E1 → GT}

theorem PairingFacts''.isBilinear (pf : PairingFacts'' e) : IsBilinear blsR e :=
  ⟨pf.add_left, pf.add_right⟩

/-- the link field at the single call `(G2, G1)` + the kernel evaluation: `e g2 g1 ≠ 1` -/
theorem PairingFacts''.generator_ne_one (pf : PairingFacts'' e) : e g2 g1 ≠ 1 := by
  obtain ⟨m, hgood, hne⟩ := generator_call
  have hm := pf.miller [⟨blsG2, blsG1, g2, g1, m⟩] (by simp)
    (by intro a ha; rw [List.mem_singleton] at ha; subst ha; exact hgood)
  simp only [List.map_cons, List.map_nil, mprod, List.foldl_nil, List.prod_cons, List.prod_nil,
    mul_one] at hm
  exact fun h => hne (hm.mpr h)

/-- **ND proved**: for a bilinear `e` that the model computes, an `r`-torsion point `q` of the twist curve
    with `e q g1 = 1` is `0`. -/
theorem PairingFacts''.nondeg (pf : PairingFacts'' e) {g : E1} (hg : Represents blsG1 g) {q : E2}
    (hq : blsR • q = 0) (h1 : e q g = 1) : q = 0 := by
  rw [eq_g1 hg] at h1
  exact nondeg_of_generator pf.isBilinear prime_r g2_torsion g1_torsion g2_generates
    pf.generator_ne_one hq h1

/-- **Bilinearity + "the model computes `e`" imply the bundle with ND.** -/
theorem PairingFacts''.toPairingFacts' (pf : PairingFacts'' e) : C17O.PairingFacts' e where
  add_left := pf.add_left
  add_right := pf.add_right
  nondeg := pf.nondeg
  miller := pf.miller

/-- … and hence the bundle `BlsProto.PairingFacts e` -/
theorem PairingFacts''.toPairingFacts (pf : PairingFacts'' e) : PairingFacts e :=
  pf.toPairingFacts'.toPairingFacts

/-- conversely the bundle with ND contains the one without -/
theorem PairingFacts''.of_pairingFacts' (pf : C17O.PairingFacts' e) : PairingFacts'' e :=
  ⟨pf.add_left, pf.add_right, pf.miller⟩

theorem pairingFacts''_iff : PairingFacts'' e ↔ C17O.PairingFacts' e :=
  ⟨PairingFacts''.toPairingFacts', PairingFacts''.of_pairingFacts'⟩

end

section
variable [DecidableEq K2] {e : E2 → E1 → K12ˣ}

/-- multiplicativity of the final exponentiation (proved, `C12`): the per-call link implies the product
    form -/
theorem PairingValueFacts''.miller (pv : PairingValueFacts'' e) (l : List Arg) (hne : l ≠ [])
    (hgood : ∀ a ∈ l, a.Good) :
    finalExponentiateOptBls (mprod (l.map Arg.m)) = (1 : OBls12) ↔
      (l.map fun a => e a.q a.p).prod = 1 := miller_of_value pv.value l hne hgood

theorem PairingValueFacts''.toPairingFacts'' (pv : PairingValueFacts'' e) : PairingFacts'' e :=
  ⟨pv.add_left, pv.add_right, pv.miller⟩

/-- **the smallest bundle (HB1 + per-call HB1′) implies the per-call bundle with ND** -/
theorem PairingValueFacts''.toPairingValueFacts' (pv : PairingValueFacts'' e) :
    C17O.PairingValueFacts' e where
  add_left := pv.add_left
  add_right := pv.add_right
  nondeg := pv.toPairingFacts''.nondeg
  value := pv.value

/-- … and the bundle `BlsProto.PairingFacts e` -/
theorem PairingValueFacts''.toPairingFacts (pv : PairingValueFacts'' e) : PairingFacts e :=
  pv.toPairingFacts''.toPairingFacts

theorem pairingValueFacts''_iff : PairingValueFacts'' e ↔ C17O.PairingValueFacts' e :=
  ⟨PairingValueFacts''.toPairingValueFacts', fun pv => ⟨pv.add_left, pv.add_right, pv.value⟩⟩

end

end PyEcc.NdSem
