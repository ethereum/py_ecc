/-
  The reference `linefunc` of `Gen.RefBls` (affine points `Option (F × F)`, `none` = ∞, in the exception monad)
  commutes with operation-preserving injective coordinate maps (`OpHom`) and, on a closed predicate, with `GoodHom`s
  (`Lemmas/TransferBase.lean`), as `double` and `add` do (`Lemmas/TransferRefBls.lean`).  Used for
  `toQ : Fqp .ref p mc → AdjoinRoot (modulus p mc)` on canonical elements.

  The statements are in the vocabulary of `Lemmas/TransferRefBase.lean` (`Transfer.mapO`, `Transfer.GoodO`).
  `MillerSem.mapO`, `MillerSem.GoodO` below are the spelling of the BLS12-381 statements (`Props/C12_Miller.lean`,
  `Props/C05_Gen.lean`, `MillerSem.Inv`, `Ctx`): `MillerSem.mapO` has the defining term of `Transfer.mapO`, so a fact
  about the one is a fact about the other, and `MillerSem.GoodO` is `Transfer.GoodO` by `goodO_iff`.
-/
import Mathlib.Tactic.SplitIfs
import PyEcc.Lemmas.TransferRefBls

set_option linter.unusedSectionVars false
set_option linter.unusedVariables false

namespace PyEcc.MillerSem
open PyEcc PyEcc.Gen PyEcc.Transfer

/-- apply a coordinate map to a reference-module point (`none` = ∞) -/
def mapO {A B : Type} (ψ : A → B) (p : Option (A × A)) : Option (B × B) := p.map (mapP ψ)

/-- a reference-module point with good coordinates (∞ is good) -/
def GoodO {A : Type} (Good : A → Prop) (p : Option (A × A)) : Prop :=
  ∀ q, p = some q → GoodP Good q

theorem mapO_eq {A B : Type} (ψ : A → B) (p : Option (A × A)) : mapO ψ p = Transfer.mapO ψ p := rfl

@[simp] theorem mapO_none {A B : Type} (ψ : A → B) : mapO ψ none = none := rfl
@[simp] theorem mapO_some {A B : Type} (ψ : A → B) (x y : A) :
    mapO ψ (some (x, y)) = some (ψ x, ψ y) := rfl

theorem goodO_none {A : Type} (Good : A → Prop) : GoodO Good (none : Option (A × A)) := by
  intro q h; cases h

theorem goodO_some {A : Type} {Good : A → Prop} {x y : A} (hx : Good x) (hy : Good y) :
    GoodO Good (some (x, y)) := by
  intro q h; cases h; exact ⟨hx, hy⟩

theorem goodO_iff {A : Type} {Good : A → Prop} {p : Option (A × A)} :
    GoodO Good p ↔ Transfer.GoodO Good p := by
  rcases p with _ | q
  · exact ⟨fun _ => trivial, fun _ => goodO_none _⟩
  · exact ⟨fun g => g q rfl, fun g q' e => Option.some.inj e ▸ g⟩

theorem mapO_comp {A B C : Type} (ψ : A → B) (χ : B → C) (p : Option (A × A)) :
    mapO χ (mapO ψ p) = mapO (fun a => χ (ψ a)) p :=
  Transfer.mapO_comp ψ χ p

variable {A B : Type}
  [Zero A] [One A] [Add A] [Sub A] [Mul A] [Neg A] [Div A] [NatCast A] [Pow A Nat] [DecidableEq A]
  [Zero B] [One B] [Add B] [Sub B] [Mul B] [Neg B] [Div B] [NatCast B] [Pow B Nat] [DecidableEq B]

section ophom
variable {ψ : A → B} (h : OpHom ψ)
include h

theorem linefunc_map (P1 P2 T : Option (A × A)) :
    (RefBls.linefunc P1 P2 T).map ψ
      = RefBls.linefunc (Transfer.mapO ψ P1) (Transfer.mapO ψ P2) (Transfer.mapO ψ T) := by
  rcases P1 with _ | ⟨x1, y1⟩
  · simp [RefBls.linefunc, Except.map]
  rcases P2 with _ | ⟨x2, y2⟩
  · simp [RefBls.linefunc, Except.map]
  rcases T with _ | ⟨xt, yt⟩
  · simp [RefBls.linefunc, Except.map]
  simp only [RefBls.linefunc, Transfer.mapO_some, reduceCtorEq, or_self, if_false, ne_eq, h.eq_iff]
  split_ifs <;>
    simp only [Except.map, h.map_sub, h.map_div, h.map_pow, h.map_mul, h.map_natCast]

end ophom

/-- a computation `X` over a type `S` read through `val : S → A`, all of whose values are good, and through
    `img = φ ∘ val`: the values read through `val` are good, and `φ` maps the one reading to the other -/
theorem good_of_val_img {S A B : Type} {val : S → A} {img : S → B} {φ : A → B} {Good : A → Prop}
    (hv : ∀ s, Good (val s)) (hi : ∀ s, img s = φ (val s)) (X : Except PyErr S) :
    (∀ r, X.map val = .ok r → Good r) ∧ (X.map val).map φ = X.map img := by
  rcases X with e | s
  · exact ⟨fun r hr => (nomatch hr), rfl⟩
  · exact ⟨fun r hr => Except.ok.inj hr ▸ hv s, by show Except.ok _ = Except.ok _; rw [hi]⟩

section goodhom
variable {Good : A → Prop} {φ : A → B} (h : GoodHom Good φ)
include h

open GoodSub

theorem good_linefunc {P1 P2 T : Option (A × A)} (g₁ : Transfer.GoodO Good P1)
    (g₂ : Transfer.GoodO Good P2) (g : Transfer.GoodO Good T) :
    (∀ l, RefBls.linefunc P1 P2 T = .ok l → Good l)
      ∧ (RefBls.linefunc P1 P2 T).map φ
          = RefBls.linefunc (Transfer.mapO φ P1) (Transfer.mapO φ P2) (Transfer.mapO φ T) := by
  have e1 := linefunc_map (opHom_img h) (liftO h P1 g₁) (liftO h P2 g₂) (liftO h T g)
  have e2 := linefunc_map (opHom_val h) (liftO h P1 g₁) (liftO h P2 g₂) (liftO h T g)
  rw [img_liftO, img_liftO, img_liftO] at e1
  rw [val_liftO, val_liftO, val_liftO] at e2
  rw [← e2, ← e1]
  exact good_of_val_img (val := val h) (img := img h) (fun X => X.2) (fun _ => rfl) _

end goodhom

end PyEcc.MillerSem
