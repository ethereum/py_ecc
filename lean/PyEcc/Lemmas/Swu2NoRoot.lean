/-
  The cubic `g(x) = x³ + A'x + B'` (`A' = 240i`, `B' = 1012(1+i)`) of the
  3-isogenous curve of BLS12-381 G2 has no root in `K2 = Fp²` (equivalently: the curve has no point of
  order 2, so the `y` of the SSWU map is never `0` and `sgn0(y) = sgn0(t)` holds without exception).

  Proof (as for G1, with the cubic algebra of `Lemmas/SwuNoRoot.lean`): a root `r` satisfies
  `r^(p²) = r` (Fermat in `K2`).  `h = x^p mod g` is computed by the kernel in `Fp²[x]/(g)`, with
  elements of `Fp²` written as pairs of naturals `(a, b) = a + b·i`, so `r^p = h(r)`; the Frobenius map
  `a + b·i ↦ a − b·i` is a ring homomorphism, so `r^(p²) = (h(r))^p = h̄(r^p) = h̄(h(r))`: the composition
  `c = h̄ ∘ h mod g` has `c(r) = r`.  Eliminating `r²`, `r³` between this and `g(r) = 0` leaves a linear
  equation `α·r + β = 0` with concrete `α`, `β`, and `α³·g(−β/α) ≠ 0` by evaluation.
  (This is a statement about the field `K2` only; it does not involve the model.)
-/
import PyEcc.Lemmas.Swu2Sgn
import PyEcc.Lemmas.SwuNoRoot
import PyEcc.Lemmas.FastFq2

namespace PyEcc.Swu2
open PyEcc PyEcc.Fqp PyEcc.FqpSem PyEcc.Spec PyEcc.SwuSem Gen.Consts

/-- the arithmetic of `Gi blsP`, with `A' = 240·i`, `B' = 1012·(1 + i)` -/
def ops2 : Ops (Gi blsP) := ⟨(· + ·), (· - ·), (· * ·), 0, 1, ⟨0, 240⟩, ⟨1012, 1012⟩⟩

noncomputable abbrev qi : Gi blsP → K2 := Gi.phi i2

theorem qi_eq (a : Gi blsP) : qi a = (a.re : K2) + (a.im : K2) * i2 := rfl

theorem hom2 : ops2.Hom qi :=
  ⟨Gi.phi_add _, Gi.phi_sub _, Gi.phi_mul i2_sq, Gi.phi_zero _, Gi.phi_one _⟩

theorem qi_A : qi ops2.A = kA := by rw [qi_eq, kA]; simp [ops2]
theorem qi_B : qi ops2.B = kB := by rw [qi_eq, kB]; simp [ops2]; ring

/-- `a + b·i ↦ a − b·i` -/
def conj (a : Gi blsP) : Gi blsP := ⟨a.re, Nat.sub blsP (Nat.mod a.im blsP)⟩

theorem qi_conj (a : Gi blsP) : qi (conj a) = qi a ^ blsP := by
  have h := frob_pair a.re a.im
  rw [Int.cast_natCast, Int.cast_natCast] at h
  rw [qi_eq, qi_eq, h]
  show (a.re : K2) + ((blsP - a.im % blsP : ℕ) : K2) * i2 = _
  rw [Gi.cast_sub_mod]; ring

/-- `(c0 + c1·r + c2·r²)^p = c̄0 + c̄1·r^p + c̄2·(r^p)²` -/
theorem evK_conj (r : K2) (c : Gi blsP × Gi blsP × Gi blsP) :
    evK qi (r ^ blsP) (conj c.1, conj c.2.1, conj c.2.2) = evK qi r c ^ blsP := by
  simp only [evK, qi_conj, add_pow_char, mul_pow, ← pow_mul, mul_comm]

/-- `x^p mod (x³ + A'x + B')` -/
def xPowP : Gi blsP × Gi blsP × Gi blsP := ops2.xPow 381 blsP

/-- `α³·g(−β/α)` for the linear relation `α·r + β = 0` obtained from `(h̄ ∘ h)(r) = r` -/
def nrCheck : Gi blsP :=
  ops2.check (ops2.comp (conj xPowP.1, conj xPowP.2.1, conj xPowP.2.2) xPowP)

/-- kernel evaluation: `α³·g(−β/α) ≠ 0` -/
theorem nr_facts : nrCheck ≠ 0 ∧ Gi.Good nrCheck := by decide +kernel

/-- **`x³ + A'x + B'` has no root in `K2`** -/
theorem sswuG_ne_zero (x : K2) : sswuG kA kB x ≠ 0 := by
  intro hr
  have hr' : x ^ 3 + qi ops2.A * x + qi ops2.B = 0 := by rw [qi_A, qi_B]; exact hr
  have hq : (x ^ blsP) ^ blsP = x := by
    by_cases h : x = 0
    · rw [h, zero_pow (by decide), zero_pow (by decide)]
    · rw [← pow_mul, ← sq, show blsP ^ 2 = (blsP ^ 2 - 1) + 1 by decide +kernel, pow_succ,
        fermat_K2 x h, one_mul]
  have hp : evK qi x xPowP = x ^ blsP := evK_xPow hom2 hr' 381 blsP (by decide +kernel)
  refine nr_facts.1 (Gi.val_inj nr_facts.2 (Gi.good_red 0 0) ((check_eq_zero hom2 hr' ?_).trans hom2.zero.symm))
  rw [evK_comp hom2 hr', hp, evK_conj, hp, hq]

end PyEcc.Swu2
