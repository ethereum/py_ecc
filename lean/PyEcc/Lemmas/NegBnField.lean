/-
  The conjugation `σ : x ↦ x^(p⁶)` of the bn128 field
  `K12bn = Fp[w]/(w¹² − 18w⁶ + 82)`, the grading `K12bn = Fp⁶ ⊕ w·Fp⁶` it defines, and the final exponent.
  (bn128 counterpart of `Lemmas/NegField.lean`.)

  `σ ∘ σ = id`; `σ` fixes the base field (`ConjSem.of_pow`), the image of the twist embedding `ψ : Fp² → K12bn`
  and `w²` (`MillerBnSem.inFp6_psi`, `inFp6_w2`), every non-zero element it fixes is killed by the final exponent
  `(p¹² − 1)/r` (`MillerBnSem.pow_finalExp_of_inFp6`, all in `Lemmas/MillerBnSub.lean`), but it does not fix `w`,
  so `σ w = −w` (`Lemmas/FqpQuotFrob.lean`).  `InFp6 x : σ x = x`, `InWFp6 x : σ x = −x`.
  The grading, the line function and the Miller loop over a field with such a `σ` are in `Lemmas/NegGrading.lean`,
  `Lemmas/NegLine.lean`, `Lemmas/NegMiller.lean`, `Lemmas/NegTail.lean` (`ConjSem.Ev σ`, `ConjSem.Od σ`,
  `ConjSem.TwT σ` unfold to `InFp6`, `MillerBnSem.InFp6`, `InWFp6`, `TwT`).
-/
import PyEcc.Lemmas.MillerBnSub
import PyEcc.Lemmas.NegMiller
import PyEcc.Lemmas.FqpQuotFrob

set_option linter.unusedSectionVars false

namespace PyEcc.NegBnSem
open Polynomial PyEcc PyEcc.Gen PyEcc.Gen.Consts PyEcc.Fqp PyEcc.FqpSem PyEcc.TwistSem PyEcc.PairingSem
open PyEcc.Transfer (K2bn)

/-- the generator `w` of `K12bn` -/
noncomputable abbrev wbn : K12bn := wQ bnP bnMc12

noncomputable abbrev ofZbn : ZMod bnP →+* K12bn := AdjoinRoot.of (modulus bnP bnMc12)

/-! ### the conjugation `σ` (defined in `Lemmas/MillerBnSub.lean`) -/

theorem sigma_sigma (x : K12bn) : sigma (sigma x) = x := by
  rw [sigma_apply, sigma_apply, ← pow_mul, ← pow_add]
  exact NondegSem.pow_card_quot 1 (by decide) x

/-- **`σ w = −w`**: `w² ∈ Fp⁶`, `w ∉ Fp⁶` -/
theorem sigma_w : sigma wbn = -wbn :=
  ConjSem.neg_of_sq_eq sigma ((sigma_apply _).trans MillerBnSem.inFp6_w2) (by
    rw [sigma_apply]; exact ConjSem.root_pow_ne (by decide) (by decide))

/-- `x ∈ Fp⁶`: fixed by `σ` -/
def InFp6 (x : K12bn) : Prop := sigma x = x
/-- `x ∈ w·Fp⁶`: negated by `σ` -/
def InWFp6 (x : K12bn) : Prop := sigma x = -x

theorem even_zero : InFp6 0 := map_zero sigma
theorem even_one : InFp6 1 := map_one sigma
theorem odd_zero : InWFp6 0 := by unfold InWFp6; rw [map_zero, neg_zero]
theorem odd_w3 : InWFp6 (wbn ^ 3) := ConjSem.Od.pow_odd sigma_w rfl

theorem InFp6.add {x y : K12bn} (hx : InFp6 x) (hy : InFp6 y) : InFp6 (x + y) := ConjSem.Ev.add hx hy
theorem InFp6.div {x y : K12bn} (hx : InFp6 x) (hy : InFp6 y) : InFp6 (x / y) := ConjSem.Ev.div hx hy
theorem InWFp6.div {x y : K12bn} (hx : InWFp6 x) (hy : InWFp6 y) : InFp6 (x / y) := ConjSem.Od.div hx hy

open PyEcc.MillerSem PyEcc.NegSem

variable [DecidableEq K12bn]

/-- twisted-type point: `x ∈ Fp⁶`, `y ∈ w·Fp⁶` (`∞` counts) — e.g. `twist(Q) = (ψ(x)·w², ψ(y)·w³)` -/
def TwT (R : Option (K12bn × K12bn)) : Prop := ∀ x y, R = some (x, y) → InFp6 x ∧ InWFp6 y

/-- base-type point: both coordinates in `Fp⁶` -/
def BaseT (R : Option (K12bn × K12bn)) : Prop := ∀ x y, R = some (x, y) → InFp6 x ∧ InFp6 y

theorem mapO_sigma_of_twT {R : Option (K12bn × K12bn)} (h : TwT R) : mapO sigma R = RefBls.neg R :=
  ConjSem.mapO_sigma_of_twT h

theorem loop_sigma (ate : Nat) (is : List Nat) (A T : Option (K12bn × K12bn))
    (st r : K12bn × Option (K12bn × K12bn)) (h : loopG ate is A T st = .ok r) :
    loopG ate is (mapO sigma A) (mapO sigma T) (mapSt sigma st) = .ok (mapSt sigma r) :=
  ConjSem.loop_sigma sigma ate is A T st r h

end PyEcc.NegBnSem
