/-
  PyEcc.Lemmas.TransferRefBase — vocabulary for the homomorphism principle of the REFERENCE curve modules
  (`Gen.RefBls`, `Gen.RefBn`): points are `Option (F × F)` (`none` = ∞), `add`/`multiply` return
  `Except PyErr (Option (F × F))`.  `mapO`/`mapE` apply a coordinate map, `GoodO`/`GoodE` say that the
  coordinates (if any) satisfy a predicate.
-/
import PyEcc.Lemmas.TransferBase
import PyEcc.Model.Basic

namespace PyEcc.Transfer

def mapO {A B : Type} (ψ : A → B) (p : Option (A × A)) : Option (B × B) := p.map (mapP ψ)

def mapE {A B : Type} (ψ : A → B) (r : Except PyErr (Option (A × A))) : Except PyErr (Option (B × B)) :=
  match r with
  | .error e => .error e
  | .ok p => .ok (mapO ψ p)

def GoodO {A : Type} (Good : A → Prop) (p : Option (A × A)) : Prop :=
  match p with
  | none => True
  | some q => GoodP Good q

def GoodE {A : Type} (Good : A → Prop) (r : Except PyErr (Option (A × A))) : Prop :=
  match r with
  | .error _ => True
  | .ok p => GoodO Good p

@[simp] theorem mapO_none {A B : Type} (ψ : A → B) : mapO ψ none = none := rfl
@[simp] theorem mapO_some {A B : Type} (ψ : A → B) (x y : A) : mapO ψ (some (x, y)) = some (ψ x, ψ y) := rfl
@[simp] theorem mapE_ok {A B : Type} (ψ : A → B) (p : Option (A × A)) : mapE ψ (.ok p) = .ok (mapO ψ p) := rfl
@[simp] theorem mapE_error {A B : Type} (ψ : A → B) (e : PyErr) :
    mapE ψ (.error e : Except PyErr (Option (A × A))) = .error e := rfl

theorem mapO_eq_none {A B : Type} (ψ : A → B) (p : Option (A × A)) : mapO ψ p = none ↔ p = none := by
  cases p <;> simp [mapO]

theorem exists_ok_of_mapE {A B : Type} {Good : A → Prop} {φ : A → B} {r : Except PyErr (Option (A × A))}
    {v : Option (B × B)} (g : GoodE Good r) (e : mapE φ r = .ok v) :
    ∃ s, r = .ok s ∧ GoodO Good s ∧ v = mapO φ s := by
  rcases r with err | s
  · cases e
  · exact ⟨s, rfl, g, (Except.ok.inj e).symm⟩

theorem mapO_comp {A B C : Type} (ψ : A → B) (χ : B → C) (p : Option (A × A)) :
    mapO χ (mapO ψ p) = mapO (fun a => χ (ψ a)) p := by
  rcases p with _ | ⟨x, y⟩ <;> rfl

theorem mapE_comp {A B C : Type} (ψ : A → B) (χ : B → C) (r : Except PyErr (Option (A × A))) :
    mapE χ (mapE ψ r) = mapE (fun a => χ (ψ a)) r := by
  rcases r with e | p
  · rfl
  · simp [mapO_comp]

theorem mapO_inj {A B : Type} {ψ : A → B} (hψ : Function.Injective ψ) {p q : Option (A × A)}
    (e : mapO ψ p = mapO ψ q) : p = q := by
  rcases p with _ | ⟨x, y⟩ <;> rcases q with _ | ⟨x', y'⟩
  · rfl
  · simp [mapO] at e
  · simp [mapO] at e
  · simp only [mapO_some, Option.some.injEq, Prod.mk.injEq] at e
    rw [hψ e.1, hψ e.2]

theorem mapE_inj {A B : Type} {ψ : A → B} (hψ : Function.Injective ψ)
    {r s : Except PyErr (Option (A × A))} (e : mapE ψ r = mapE ψ s) : r = s := by
  rcases r with e₁ | p <;> rcases s with e₂ | q
  · simpa using e
  · simp at e
  · simp at e
  · simp only [mapE_ok, Except.ok.injEq] at e
    rw [mapO_inj hψ e]

section
variable {A B : Type}
  {_ : Zero A} {_ : One A} {_ : Add A} {_ : Sub A} {_ : Mul A} {_ : Neg A} {_ : Div A} {_ : NatCast A} {_ : Pow A Nat}
  {_ : Zero B} {_ : One B} {_ : Add B} {_ : Sub B} {_ : Mul B} {_ : Neg B} {_ : Div B} {_ : NatCast B} {_ : Pow B Nat}
  {Good : A → Prop} {φ : A → B} (h : GoodHom Good φ)

namespace GoodSub

def liftO (p : Option (A × A)) (g : GoodO Good p) : Option (GoodSub h × GoodSub h) :=
  match p, g with
  | none, _ => none
  | some (x, y), g => some (mk h x g.1, mk h y g.2)

theorem val_liftO (p : Option (A × A)) (g : GoodO Good p) : mapO (val h) (liftO h p g) = p := by
  rcases p with _ | ⟨x, y⟩ <;> rfl

theorem img_liftO (p : Option (A × A)) (g : GoodO Good p) :
    mapO (img h) (liftO h p g) = mapO φ p := by
  rcases p with _ | ⟨x, y⟩ <;> rfl

/-- a good point is the `val`-image of a point over the subtype; there `φ ∘ val = img` (`imgO_eq`) -/
theorem exists_valO {p : Option (A × A)} (g : GoodO Good p) :
    ∃ X : Option (GoodSub h × GoodSub h), mapO (val h) X = p :=
  ⟨liftO h p g, val_liftO h p g⟩

theorem imgO_eq (X : Option (GoodSub h × GoodSub h)) : mapO (img h) X = mapO φ (mapO (val h) X) := by
  rcases X with _ | ⟨x, y⟩ <;> rfl

theorem imgE_eq (X : Except PyErr (Option (GoodSub h × GoodSub h))) :
    mapE (img h) X = mapE φ (mapE (val h) X) := by
  rcases X with e | X
  · rfl
  · simp only [mapE_ok, imgO_eq]

theorem goodO_val (X : Option (GoodSub h × GoodSub h)) : GoodO Good (mapO (val h) X) := by
  rcases X with _ | ⟨x, y⟩
  · trivial
  · exact ⟨x.2, y.2⟩

theorem goodE_val (X : Except PyErr (Option (GoodSub h × GoodSub h))) :
    GoodE Good (mapE (val h) X) := by
  rcases X with e | X
  · trivial
  · exact goodO_val h X

end GoodSub

open GoodSub
include h

theorem GoodHom.mapO_inj {p q : Option (A × A)} (gp : GoodO Good p) (gq : GoodO Good q)
    (e : mapO φ p = mapO φ q) : p = q := by
  obtain ⟨X, rfl⟩ := exists_valO h gp
  obtain ⟨Y, rfl⟩ := exists_valO h gq
  rw [← imgO_eq, ← imgO_eq] at e
  rw [Transfer.mapO_inj (opHom_img h).inj e]

end

end PyEcc.Transfer
