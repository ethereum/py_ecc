/-
  `sgn0` on `Fp²`.  The optimized `FQ2.sgn0` of the model separates `y` from `−y` for reduced `y ≠ 0`.  Every element
  of `K2 = Fp[X]/(X²+1)` is the value of exactly one reduced model element (`rep`), so RFC 9380's `sgn0` (`m = 2`) can
  be stated on `K2` (`sgn0K2`).
-/
import PyEcc.Lemmas.Swu2Field
import PyEcc.Props.C14_Fq

namespace PyEcc.Swu2
open PyEcc PyEcc.Fqp PyEcc.FqpSem Gen.Consts Polynomial

/-- on a pair, `FQ2.sgn0` is the parity of the first non-zero coefficient -/
theorem sgn0_pair (a b : ℤ) :
    Fqp.sgn0_fq2 (⟨[a, b]⟩ : F2) = if a = 0 then (b % 2).toNat else (a % 2).toNat := by
  unfold Fqp.sgn0_fq2
  simp only [getI, List.getD_cons_zero, List.getD_cons_succ, beq_iff_eq]
  split_ifs <;> omega

theorem sgn0_lt_two (y : F2) (hy : Canon y) : Fqp.sgn0_fq2 y < 2 := by
  obtain ⟨a, b, rfl, _⟩ := canon_pair hy
  rw [sgn0_pair]
  split <;> omega

theorem sgn0_neg_ne {y : F2} (hy : Canon y) (h0 : y ≠ 0) : Fqp.sgn0_fq2 (-y) ≠ Fqp.sgn0_fq2 y := by
  obtain ⟨a, b, rfl, ha0, ha1, hb0, hb1⟩ := canon_pair hy
  rw [neg_pair, sgn0_pair, sgn0_pair]
  have hp2 : (blsP : ℤ) % 2 = 1 := by decide +kernel
  by_cases ha : a = 0
  · subst ha
    have hb : b ≠ 0 := by
      rintro rfl; exact h0 zero_pair.symm
    rw [neg_zero, Int.zero_emod, if_pos rfl, if_pos rfl, neg_emod (by omega) hb1]
    omega
  · rw [neg_emod (by omega) ha1, if_neg (by omega), if_neg ha]
    omega

/-- every element of `K2` is the value of a reduced model element: these values contain `Fp` and `i` and
    are closed under `+` and `·` -/
theorem q_surj (z : K2) : ∃ x : F2, Canon x ∧ q x = z := by
  induction z using AdjoinRoot.induction_on with | ih f =>
  induction f using Polynomial.induction_on' with
  | add f g hf hg =>
    obtain ⟨x, hx⟩ := hf
    obtain ⟨y, hy⟩ := hg
    exact ⟨x + y, by rw [map_add]; exact Rq.add hx hy⟩
  | monomial n a =>
    have ha : Rq (f2c [(a.val : ℤ), ((0 : ℕ) : ℤ)]) (AdjoinRoot.of _ a) :=
      ⟨cn_f2c (ZMod.val_lt a) (by decide), by
        rw [f2c, q_pair, Int.cast_natCast, Int.cast_natCast, Nat.cast_zero, zero_mul, add_zero,
          ← map_natCast (AdjoinRoot.of _), ZMod.natCast_zmod_val]⟩
    have hi : Rq (f2c [((0 : ℕ) : ℤ), ((1 : ℕ) : ℤ)]) i2 :=
      ⟨cn_f2c (by decide) (by decide), by rw [f2c, q_pair]; simp⟩
    exact ⟨_, by
      rw [← C_mul_X_pow_eq_monomial, map_mul, map_pow, AdjoinRoot.mk_C, AdjoinRoot.mk_X]
      exact ha.mul (hi.pow n)⟩

noncomputable def rep (z : K2) : F2 := Classical.choose (q_surj z)

theorem cn_rep (z : K2) : Canon (rep z) := (Classical.choose_spec (q_surj z)).1
theorem q_rep (z : K2) : q (rep z) = z := (Classical.choose_spec (q_surj z)).2
theorem rep_q {x : F2} (hx : Canon x) : rep (q x) = x := goodHom_q.inj (cn_rep _) hx (q_rep _)

/-- RFC 9380 §4.1 `sgn0` for `Fp²` (`m = 2`): `sgn0_m_eq_2` of the canonical representatives
    `0 ≤ x_0, x_1 < p` of the two coordinates -/
noncomputable def sgn0K2 (z : K2) : ℕ :=
  Spec.Sgn0.sgn0_m_eq_2 (getI (rep z).coeffs 0).toNat (getI (rep z).coeffs 1).toNat

/-- the model's optimized `FQ2.sgn0` is RFC 9380's `sgn0` of the value -/
theorem sgn0_eq_spec {x : F2} (hx : Canon x) : Fqp.sgn0_fq2 x = sgn0K2 (q x) := by
  unfold sgn0K2
  rw [rep_q hx]
  obtain ⟨a, b, rfl, ha0, _, hb0, _⟩ := canon_pair hx
  exact (C14Fq.fq2_sgn0_eq_spec _ a b rfl ha0 hb0).1

theorem sgn0K2_lt_two (z : K2) : sgn0K2 z < 2 := by
  rw [← q_rep z, ← sgn0_eq_spec (cn_rep z)]; exact sgn0_lt_two _ (cn_rep z)

theorem sgn0K2_neg_ne (z : K2) (hz : z ≠ 0) : sgn0K2 (-z) ≠ sgn0K2 z := by
  have h0 : rep z ≠ 0 := by
    intro h; apply hz; rw [← q_rep z, h]; exact goodHom_q.map_zero
  have h := sgn0_neg_ne (cn_rep z) h0
  rwa [sgn0_eq_spec (goodHom_q.good_neg (cn_rep z)), sgn0_eq_spec (cn_rep z), q_neg, q_rep] at h

end PyEcc.Swu2
