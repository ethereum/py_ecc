/-
  The subfield `Fp⁶` of the bn128 field `K12bn = Fp[w]/(w¹² − 18w⁶ + 82)` and the final exponent `(p¹² − 1)/r`.
  `InFp6 x`: `x` is fixed by the 6-fold Frobenius, `x ^ (p⁶) = x`.  The subfield contains the image `ψ(Fp²)` of the
  twist embedding (`i ↦ w⁶ − 9`) and `w²` (hence every polynomial in `w²`: "even powers of `w`"), and every NON-ZERO
  element of it is killed by the final exponent (`(p⁶ − 1) ∣ (p¹² − 1)/r`, since `r ∤ p⁶ − 1`).
-/
import PyEcc.Lemmas.TwistBn
import PyEcc.Lemmas.ExpByP
import PyEcc.Lemmas.FqpQuotFinite
import PyEcc.Lemmas.FqpQuotFrob
import PyEcc.Lemmas.NegGrading
import Mathlib.FieldTheory.Finite.Basic
import Mathlib.Algebra.CharP.Frobenius

set_option linter.unusedSectionVars false

namespace PyEcc.MillerBnSem
open Polynomial PyEcc PyEcc.Gen PyEcc.Gen.Consts PyEcc.Fqp PyEcc.FqpSem PyEcc.Transfer PyEcc.TwistSem
  PyEcc.PairingSem

instance charP_K12bn : CharP K12bn bnP := charP_quot (p := bnP) (mc := bnMc12) (by decide)
instance charP_K2bn : CharP K2bn bnP := charP_quot (p := bnP) (mc := bnMc2) (by decide)

theorem pow_card_K2bn (a : K2bn) : a ^ (bnP ^ 2) = a :=
  NondegSem.pow_card_quot (mc := bnMc2) 1 (by decide) a

theorem pow_card_K12bn (a : K12bn) : a ^ (bnP ^ 12) = a :=
  NondegSem.pow_card_quot (mc := bnMc12) 1 (by decide) a

end PyEcc.MillerBnSem

namespace PyEcc.NegBnSem
open Polynomial PyEcc PyEcc.Gen PyEcc.Gen.Consts PyEcc.Fqp PyEcc.FqpSem PyEcc.TwistSem PyEcc.PairingSem

noncomputable def sigma : K12bn →+* K12bn := iterateFrobenius K12bn bnP 6

theorem sigma_apply (x : K12bn) : sigma x = x ^ (bnP ^ 6) := by
  unfold sigma; rw [iterateFrobenius_def]

end PyEcc.NegBnSem

namespace PyEcc.MillerBnSem
open Polynomial PyEcc PyEcc.Gen PyEcc.Gen.Consts PyEcc.Fqp PyEcc.FqpSem PyEcc.Transfer PyEcc.TwistSem
  PyEcc.PairingSem PyEcc.ConjSem

/-- `x` lies in the subfield with `p⁶` elements: it is fixed by the 6-fold Frobenius -/
def InFp6 (x : K12bn) : Prop := x ^ (bnP ^ 6) = x

/-! `InFp6 x` unfolds to `Ev NegBnSem.sigma x`: the closure lemmas are `Ev.add`, `Ev.mul`, … at `σ := NegBnSem.sigma`, and
    the base field lies in it by `of_pow`. -/

theorem inFp6_div {x y : K12bn} (hx : InFp6 x) (hy : InFp6 y) : InFp6 (x / y) :=
  Ev.div (σ := NegBnSem.sigma) hx hy
theorem inFp6_pow {x : K12bn} (hx : InFp6 x) (n : ℕ) : InFp6 (x ^ n) := Ev.pow (σ := NegBnSem.sigma) hx n
theorem inFp6_natCast (n : ℕ) : InFp6 (n : K12bn) := Ev.natCast (σ := NegBnSem.sigma) n
theorem inFp6_intCast (n : ℤ) : InFp6 (n : K12bn) := map_intCast NegBnSem.sigma n

theorem inFp6_psi (a : K2bn) : InFp6 (psiBn a) := by
  unfold InFp6
  rw [← map_pow]
  exact congrArg psiBn (NondegSem.pow_card_quot 3 (by decide) a)

/-- `ξ = 9 + i`, the non-residue with `ψ(ξ) = w⁶` -/
noncomputable def xiBn : K2bn :=
  AdjoinRoot.of _ (9 : ZMod bnP) + AdjoinRoot.of _ (1 : ZMod bnP) * AdjoinRoot.root (modulus bnP bnMc2)

theorem psi_xi : psiBn xiBn = wQ bnP bnMc12 ^ 6 := by
  unfold xiBn
  rw [psiBn_apply]
  simp

theorem xiBn_ne_zero : xiBn ≠ 0 := by
  intro h
  have := psi_xi
  rw [h, map_zero] at this
  exact pow_ne_zero 6 wQ_bn_ne_zero this.symm

theorem inFp6_w2 : InFp6 (wQ bnP bnMc12 ^ 2) :=
  ConjSem.sq_pow_eq psiBn psi_xi.symm (NondegSem.fermat_quot (mc := bnMc2) xiBn xiBn_ne_zero) finalExp_bn.split6
    (pow_ne_zero 6 (by decide))

theorem pow_finalExp_of_inFp6 {x : K12bn} (h0 : x ≠ 0) (hx : InFp6 x) : x ^ bnFinalExp = 1 := by
  rw [finalExp_bn.split]
  exact ConjSem.pow_eq_one_of_pow_eq (pow_ne_zero 6 (by decide)) h0 hx _

/-- the constant `b12 = 3` of `E(Fp¹²)` as the value of the optimized module's `b12` -/
noncomputable abbrev B12 : K12bn := toQ (bnB12 .opt)
/-- Mathlib's point group of `E : y² = x³ + 3` over `K12bn` -/
abbrev E12 : Type := CurvePt B12
abbrev OT12 : Type := OBn12 × OBn12 × OBn12

def bnR : ℕ := bn128_curve_order

theorem k12bn_two : (2 : K12bn) ≠ 0 := (k12bn_field_ok .opt).1

end PyEcc.MillerBnSem
