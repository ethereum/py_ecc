/-
  What the reference `miller_loop` does after the loop (`tailG`: for bn128 the two Frobenius line steps; the final
  power) and the whole of it (`millerG` of `Lemmas/RefMillerLoop.lean`) over a field of characteristic `p` with a ring
  endomorphism `σ` (`Lemmas/NegLine.lean`): negating either argument, non-vanishing; and the same for elements of a
  coordinate type read in the field through a `GoodHom` (`model_neg`).
-/
import PyEcc.Lemmas.NegMiller
import PyEcc.Lemmas.NegModel
import Mathlib.Algebra.CharP.Frobenius

namespace PyEcc.ConjSem
open PyEcc PyEcc.Gen PyEcc.NegSem PyEcc.NegBnSem

variable {K : Type} [Field K] {σ : K →+* K} {p : ℕ}

theorem twT_frob (hp : p % 2 = 1) {qx qy : K} (hx : Ev σ qx) (hy : Od σ qy) :
    TwT σ (some (qx ^ p, qy ^ p)) ∧ TwT σ (some ((qx ^ p) ^ p, -((qy ^ p) ^ p))) :=
  ⟨twT_some (hx.pow _) (hy.pow_odd hp),
    twT_some ((hx.pow _).pow _) ((hy.pow_odd hp).pow_odd hp).neg⟩

/-- **a vertical line through a twisted-type curve point does not vanish at a point with even coordinates** -/
theorem vertical_ne_zero (h2 : (2 : K) ≠ 0) {x2 y2 xt yt b : K} (hy2 : Od σ y2) (hyt : Ev σ yt)
    (hy0 : yt ≠ 0) (e2 : y2 ^ 2 = x2 ^ 3 + b) (et : yt ^ 2 = xt ^ 3 + b) : xt - x2 ≠ 0 := by
  intro h
  have hx : xt = x2 := sub_eq_zero.mp h
  have : (y2 - yt) * (y2 + yt) = 0 := by rw [hx] at et; linear_combination e2 - et
  apply hy0
  rcases mul_eq_zero.mp this with h1 | h1
  · have : yt = y2 := (sub_eq_zero.mp h1).symm
    exact eq_zero_of_even_of_odd h2 hyt (this ▸ hy2)
  · have : yt = -y2 := by linear_combination h1
    exact eq_zero_of_even_of_odd h2 hyt (this ▸ hy2.neg)

theorem curve_frob [Fact p.Prime] [CharP K p] {x y b : K} (hb : b ^ p = b) (e : y ^ 2 = x ^ 3 + b) :
    (y ^ p) ^ 2 = (x ^ p) ^ 3 + b := by
  have := congrArg (frobenius K p) e
  simp only [map_add, map_pow, frobenius_def] at this
  rwa [hb] at this

variable [DecidableEq K]

/-- **the tail at `−T`**, and non-vanishing.  For a twisted-type `(q_x, q_y)` and running point `R`,
    `T = (x_T, y_T)` with even coordinates: if the tail at `T` returns `v`, then `v = g^E` and the tail at
    `(x_T, −y_T)` started from `f' = ±σ(f)` returns `g'^E` with `g' = ±σ(g)`; moreover `g ≠ 0` when `f ≠ 0`,
    `y_T ≠ 0`, and (with the Frobenius steps) `T`, `−π²(q)` lie on a common curve `y² = x³ + b`. -/
theorem tail_negT (h2 : (2 : K) ≠ 0) (hp : p % 2 = 1) (frob : Bool) {qx qy xt yt : K} (hqx : Ev σ qx)
    (hqy : Od σ qy) (hxt : Ev σ xt) (hyt : Ev σ yt) (E : Nat) {f f' : K} {R : Option (K × K)} {v : K}
    (hR : TwT σ R) (hf : SgnRel σ f f')
    (h : tailG frob p E qx qy (some (xt, yt)) (f, R) = .ok v) :
    ∃ g g', v = g ^ E ∧ tailG frob p E qx qy (some (xt, -yt)) (f', R) = .ok (g' ^ E) ∧ SgnRel σ g g'
      ∧ (f ≠ 0 → yt ≠ 0 → (frob = true → ∃ b : K, ((qx ^ p) ^ p) ^ 3 + b = ((qy ^ p) ^ p) ^ 2 ∧
          yt ^ 2 = xt ^ 3 + b) → g ≠ 0) := by
  cases frob
  · cases h
    exact ⟨f, f', rfl, rfl, hf, fun hf0 _ _ => hf0⟩
  obtain ⟨t1, t2⟩ := twT_frob hp hqx hqy
  obtain ⟨l1, R', l2, h1, hadd, h3, rfl⟩ := tailG_eq_ok.mp h
  obtain ⟨l1', e1, s1⟩ := line_negT hR t1 hxt hyt h1
  have hR' := twT_add hR t1 hadd
  obtain ⟨l2', e2, s2⟩ := line_negT hR' t2 hxt hyt h3
  refine ⟨_, _, rfl, tailG_eq_ok.mpr ⟨l1', R', l2', e1, hadd, e2, rfl⟩, (hf.mul s1).mul s2, fun hf0 hy0 hc => ?_⟩
  obtain ⟨b, ecurve, eT⟩ := hc rfl
  -- the first line is not vertical: `R + π(q)` is finite, the second line was computed from it
  have hl1 : l1 ≠ 0 := (line_ne_zero h2 hR t1 hxt hyt hy0 h1).resolve_right fun ⟨_, _, _, eA, eB, hne, _⟩ => by
    rw [eA, eB, add_vertical hne] at hadd
    rw [← Except.ok.inj hadd, linefunc_none_left] at h3
    cases h3
  -- the second line may be: the vertical through `−π²(q)`, a point of the curve of `T`
  have hl2 : l2 ≠ 0 := (line_ne_zero h2 hR' t2 hxt hyt hy0 h3).elim id fun ⟨_, _, _, _, eB, _, el⟩ => by
    cases eB
    exact el ▸ vertical_ne_zero h2 (t2 _ _ rfl).2 hyt hy0 (by rw [neg_sq]; exact ecurve.symm) eT
  exact mul_ne_zero (mul_ne_zero hf0 hl1) hl2

/-- **negating the G1 argument** (reference loop, both shapes): for a twisted-type point `(q_x, q_y)`, a point
    `T = (x_T, y_T)` with even coordinates, `y_T ≠ 0` (with the Frobenius steps: both on a curve `y² = x³ + b`, `b` in
    the prime field): if the loop at `T` returns `v`, then `v = g^E` with `g ≠ 0`, the loop at `(x_T, −y_T)` returns
    some `v'`, and `v · v' = 1`. -/
theorem millerK_negT [Fact p.Prime] [CharP K p] (h2 : (2 : K) ≠ 0) (hp : p % 2 = 1) {E : ℕ}
    (hσσ : ∀ x, σ (σ x) = x) (hE : ∀ x : K, x ≠ 0 → Ev σ x → x ^ E = 1) (h2E : 2 ∣ E) {frob : Bool}
    {qx qy xt yt : K} (hqx : Ev σ qx) (hqy : Od σ qy) (hxt : Ev σ xt)
    (hyt : Ev σ yt) (hy0 : yt ≠ 0)
    (hc : frob = true → ∃ b : K, b ^ p = b ∧ qy ^ 2 = qx ^ 3 + b ∧ yt ^ 2 = xt ^ 3 + b)
    {ate : Nat} {is : List Nat} (hn : NoTrail ate is) {v : K}
    (h : millerG frob p ate is E qx qy (some (xt, yt)) = .ok v) :
    ∃ g v', g ≠ 0 ∧ v = g ^ E
      ∧ millerG frob p ate is E qx qy (some (xt, -yt)) = .ok v' ∧ v * v' = 1 := by
  have hA : TwT σ (some (qx, qy)) := twT_some hqx hqy
  unfold millerG at h ⊢
  rcases hl : loopG ate is (some (qx, qy)) (some (xt, yt)) (1, some (qx, qy)) with e | r
  · rw [hl] at h; cases h
  rw [hl, ok_bind] at h
  obtain ⟨f, R⟩ := r
  have hf0 : f ≠ 0 := loop_ne_zero h2 hA hxt hyt hy0 hn hA one_ne_zero hl
  obtain ⟨f', el, sf, hR⟩ := loop_negT hA hxt hyt ate is 1 1 _ _ hA sgnRel_one hl
  rw [el, ok_bind]
  obtain ⟨g, g', ev, et, sg, hg⟩ := tail_negT h2 hp frob hqx hqy hxt hyt E hR sf h
  have hg0 : g ≠ 0 := hg hf0 hy0 fun hfr =>
    let ⟨b, hb, eq, eT⟩ := hc hfr
    ⟨b, (curve_frob hb (curve_frob hb eq)).symm, eT⟩
  refine ⟨g, g' ^ E, hg0, ev, et, ?_⟩
  rw [ev, ← mul_pow]
  exact sg.pow_eq_one hσσ hE h2E hg0

/-- **negating the G2 argument** (reference loop): the loop at `(q_x, −q_y) = σ(q)` returns `σ(v)` -/
theorem millerK_negQ {frob : Bool} {qx qy xt yt : K} (hqx : Ev σ qx) (hqy : Od σ qy) (hxt : Ev σ xt)
    (hyt : Ev σ yt) {ate : Nat} {is : List Nat} {E : Nat} {v : K}
    (h : millerG frob p ate is E qx qy (some (xt, yt)) = .ok v) :
    millerG frob p ate is E qx (-qy) (some (xt, yt)) = .ok (σ v) := by
  have := millerG_map (opHom σ) frob p ate is E qx qy (some (xt, yt))
  rw [h, mapO_sigma_base hxt hyt, hqx, hqy] at this
  exact this.symm

/-- **Negating either argument, for good elements of a coordinate type `A` read in the field through `φ`.**  If the
    reference loop at `(q, T)` returns the value of `o`, then `o ≠ 0`, and `o · o' = 1` for every good `o'` whose value
    the loop returns at `(q, −T)`, or at `(−q, T)`.  (Hypotheses as in `millerK_negT`.) -/
theorem model_neg [Fact p.Prime] [CharP K p] {A : Type} [Zero A] [One A] [Add A] [Sub A] [Mul A] [Neg A] [Div A]
    [NatCast A] [Pow A Nat] {Good : A → Prop} {φ : A → K} (hφ : Transfer.GoodHom Good φ) (h2 : (2 : K) ≠ 0)
    (hp : p % 2 = 1) {E : ℕ} (hσσ : ∀ x, σ (σ x) = x) (hE : ∀ x : K, x ≠ 0 → Ev σ x → x ^ E = 1) (h2E : 2 ∣ E)
    (E0 : E ≠ 0) {frob : Bool} {qx qy xt yt : K} (hqx : Ev σ qx) (hqy : Od σ qy) (hxt : Ev σ xt) (hyt : Ev σ yt)
    (hy0 : yt ≠ 0) (hc : frob = true → ∃ b : K, b ^ p = b ∧ qy ^ 2 = qx ^ 3 + b ∧ yt ^ 2 = xt ^ 3 + b)
    {ate : Nat} {is : List Nat} (hn : NoTrail ate is) {o : A} (c : Good o)
    (h : millerG frob p ate is E qx qy (some (xt, yt)) = .ok (φ o)) :
    o ≠ 0 ∧ ∀ o', Good o' → (millerG frob p ate is E qx qy (some (xt, -yt)) = .ok (φ o')
      ∨ millerG frob p ate is E qx (-qy) (some (xt, yt)) = .ok (φ o')) → o * o' = 1 := by
  obtain ⟨g, v', hg0, ev, e', hm⟩ := millerK_negT h2 hp hσσ hE h2E hqx hqy hxt hyt hy0 hc hn h
  refine ⟨fun h0 => hg0 ((pow_eq_zero_iff E0).mp ?_), fun o' c' h' => mul_eq_one_of_map hφ c c' ?_⟩
  · rw [← ev, h0, hφ.map_zero]
  rcases h' with h' | h'
  · rw [← Except.ok.inj (e'.symm.trans h')]
    exact hm
  · rw [Except.ok.inj (h'.symm.trans (millerK_negQ hqx hqy hxt hyt h)), ev, map_pow, ← mul_pow]
    exact norm_pow_eq_one hσσ hE hg0

end PyEcc.ConjSem
