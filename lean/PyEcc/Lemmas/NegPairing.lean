/-
  The optimized BLS12-381 Miller value read through the reference `miller_loop` over
  `K12` (`bls_core`, from `miller_core`), the `K12` readings of `neg(Q)`, `neg(P)`, and the resulting statements about
  the optimized Miller loop with final exponentiation:
     `miller(Q, P)^E · miller(Q, −P)^E = 1`,   `miller(Q, P)^E · miller(−Q, P)^E = 1`
  in the executable `FQ12` model, for reduced regular `Q` and on-curve finite `P`.
-/
import PyEcc.Lemmas.NegField
import PyEcc.Lemmas.NegTail
import PyEcc.Lemmas.NegModel
import PyEcc.Props.C12_Miller
import PyEcc.Sem.CodecSem

set_option linter.unusedSectionVars false

namespace PyEcc.NegSem
open Polynomial PyEcc PyEcc.Gen PyEcc.Gen.Consts PyEcc.Fqp PyEcc.FqpSem PyEcc.PairingSem
  PyEcc.MillerSem PyEcc.NegBnSem PyEcc.C13 PyEcc.ConjSem
open PyEcc.Transfer (K2 CanonT mapT goodHom_F2 canonT_ops curveF2)
open PyEcc.TwistSem (goodHom_F12)

variable [DecidableEq K2] [DecidableEq K12]

/-- a G1 triple of the optimized module -/
abbrev T1 : Type := Fq blsP × Fq blsP × Fq blsP

/-- the digit list of the optimized loop -/
abbrev blsDigits : List Int := digitsFrom optimized_bls12_381_pseudo_binary_encoding 62

/-- the optimized Miller value with final exponentiation -/
abbrev optV (Q : T2) (P : T1) : OBls12 := optBlsMillerLoop blsDigits (some blsFinalExp) Q P

/-- `x`-coordinate of `twist` of the point represented by a finite `Q`, in `K12` -/
noncomputable def qxK (Q : T2) : K12 := iota (toQ Q.1 / toQ Q.2.2) / w12 ^ 2
/-- `y`-coordinate of `twist` of the point represented by a finite `Q`, in `K12` -/
noncomputable def qyK (Q : T2) : K12 := iota (toQ Q.2.1 / toQ Q.2.2) / w12 ^ 3

theorem twT_twA (q : Option (K2 × K2)) : TwT (twA q) := by
  rcases q with _ | ⟨x, y⟩
  · exact twT_none
  · exact twT_some (Ev.div (sigma_iota x) sigma_w2) (Ev.div_odd (sigma_iota y) odd_w3)

theorem even_qxK (Q : T2) : InFp6 (qxK Q) := Ev.div (sigma_iota _) sigma_w2
theorem odd_qyK (Q : T2) : InWFp6 (qyK Q) := Ev.div_odd (sigma_iota _) odd_w3
theorem even_emb (x : Fq blsP) : InFp6 (embQ blsMc12 x) := of_pow _ 6

theorem qyK_neg {Q : T2} (cQ : CanonT Q) : qyK (OptBls.neg Q) = -qyK Q ∧ qxK (OptBls.neg Q) = qxK Q := by
  refine ⟨?_, rfl⟩
  show iota (toQ (-Q.2.1) / toQ Q.2.2) / w12 ^ 3 = -(iota (toQ Q.2.1 / toQ Q.2.2) / w12 ^ 3)
  rw [(goodHom_F2 (v := .opt)).map_neg cQ.2.1, neg_div (toQ Q.2.2 : K2) (toQ Q.2.1), map_neg, neg_div (w12 ^ 3)]

/-- **the optimized Miller value is the value of the reference `miller_loop` over `K12`** at the twisted point -/
theorem bls_core {Q : T2} {P : T1} (cQ : CanonT Q) (hQz : Q.2.2 ≠ 0) (hPz : P.2.2 ≠ 0)
    (hreg : MillerRegular Q) :
    Canon (optV Q P) ∧
      millerG false blsP bls12_381_ate_loop_count (downTo bls12_381_log_ate_loop_count) blsFinalExp
        (qxK Q) (qyK Q) (some (embQ blsMc12 (P.1 / P.2.2), embQ blsMc12 (P.2.1 / P.2.2)))
        = .ok (toQ (optV Q P) : K12) := by
  obtain ⟨cq, hQ⟩ := C12M.refOfOptG2_repr cQ
  rw [goodO_iff] at cq
  rw [mapO_eq] at hQ
  obtain ⟨sr, e, cf, co, v⟩ := miller_core cQ cq hQ (rfl : toAff P = toAff P) hQz hPz hreg
  have hO := goodHom_F12 (v := .opt)
  have hR := goodHom_F12 (v := .ref)
  have tq := (TwistSem.mapO_twistRefBls cq).trans (twA_eq _).symm
  have cq12 := TwistSem.canonO_twistRefBls (p := C12M.refOfOptG2 Q)
  have hz : (toQ Q.2.2 : K2) ≠ 0 := toQ2_ne_zero cQ.2.2 hQz
  rw [← hQ, toAff_of_z_ne_zero (T := mapT toQ Q) hz] at tq
  rcases hq12 : (twistRefBls (C12M.refOfOptG2 Q) : A12) with _ | ⟨qx, qy⟩
  · rw [hq12] at tq; cases tq
  rw [hq12] at tq cq12 e
  have hx : (toQ qx : K12) = qxK Q := (Prod.mk.inj (Option.some.inj tq)).1
  have hy : (toQ qy : K12) = qyK Q := (Prod.mk.inj (Option.some.inj tq)).2
  rw [refMillerStep_eq_stepG (ops := refBlsOps) rfl, toAff_of_z_ne_zero hPz, castRef_some] at e
  have g := (millerG_good hR false blsP bls12_381_ate_loop_count (downTo bls12_381_log_ate_loop_count)
    blsFinalExp cq12.1 cq12.2 (P := some (castFq12 (P.1 / P.2.2), castFq12 (P.2.1 / P.2.2)))
    ⟨PairingSem.canon_castFq12 rfl _, PairingSem.canon_castFq12 rfl _⟩).2
  rw [millerG_false e, Transfer.mapO_some, toQ_castFq12, toQ_castFq12, hx, hy] at g
  have ev : (optBlsMillerLoop blsDigits none Q P : OBls12) ^ blsFinalExp = optV Q P :=
    (optBlsMillerLoop_some ..).symm
  rw [map_ok, hR.map_pow _ cf, ← v, ← hO.map_pow _ co, ev] at g
  exact ⟨ev ▸ hO.good_pow _ co, g.symm⟩

theorem g1_y_ne_zero {P : T1} (hon : OptBls.is_on_curve P (Fq.ofInt optimized_bls12_381_b : Fq blsP) = true)
    (hz : P.2.2 ≠ 0) : embQ blsMc12 (P.2.1 / P.2.2) ≠ 0 := by
  refine (_root_.map_ne_zero _).mpr
    (y_ne_zero_of_on_curve (Fq.ringEquiv (p := blsP)).toRingHom (fun x => ?_) hon hz)
  show x ^ 3 + Fq.toZMod (Fq.ofInt optimized_bls12_381_b : Fq blsP) ≠ 0
  rw [Fq.toZMod_ofInt, show ((optimized_bls12_381_b : ℕ) : ℤ) = 4 from rfl]
  exact_mod_cast CodecSem.cube_add_four_ne_zero x

/-- the reference loop never adds in its last iteration (bit 0 of `ate_loop_count` is 0) -/
theorem bls_noTrail : NoTrail bls12_381_ate_loop_count (downTo bls12_381_log_ate_loop_count) :=
  noTrail_downTo (by decide) _

/-- `ConjSem.model_neg` at the BLS12-381 constants and the optimized `FQ12` -/
theorem model_neg_bls {qx qy xt yt : K12} (hqx : InFp6 qx) (hqy : InWFp6 qy) (hxt : InFp6 xt)
    (hyt : InFp6 yt) (hy0 : yt ≠ 0) {o : OBls12} (c : Canon o)
    (h : millerG false blsP bls12_381_ate_loop_count (downTo bls12_381_log_ate_loop_count) blsFinalExp qx qy
      (some (xt, yt)) = .ok (toQ o)) :
    o ≠ 0 ∧ ∀ o', Canon o' →
      (millerG false blsP bls12_381_ate_loop_count (downTo bls12_381_log_ate_loop_count) blsFinalExp qx qy
          (some (xt, -yt)) = .ok (toQ o')
        ∨ millerG false blsP bls12_381_ate_loop_count (downTo bls12_381_log_ate_loop_count) blsFinalExp qx (-qy)
          (some (xt, yt)) = .ok (toQ o')) → o * o' = 1 :=
  model_neg goodHom_F12 k12_two_ne_zero (by decide) sigma_sigma (fun _ => pow_finalExp_of_even)
    finalExp_bls.two_dvd finalExp_bls.ne_zero (frob := false) hqx hqy hxt hyt hy0 nofun bls_noTrail c h

/-- **`miller_loop(Q, P) · miller_loop(Q, −P) = 1`**, and the value is not zero (both with the final power) -/
theorem optV_neg_right {Q : T2} {P : T1} (cQ : CanonT Q) (hQz : Q.2.2 ≠ 0) (hPz : P.2.2 ≠ 0)
    (hreg : MillerRegular Q)
    (honP : OptBls.is_on_curve P (Fq.ofInt optimized_bls12_381_b : Fq blsP) = true) :
    Canon (optV Q P) ∧ Canon (optV Q (OptBls.neg P)) ∧ optV Q P ≠ 0
      ∧ optV Q P * optV Q (OptBls.neg P) = 1 := by
  obtain ⟨c, e⟩ := bls_core (P := P) cQ hQz hPz hreg
  obtain ⟨c', e'⟩ := bls_core (P := OptBls.neg P) cQ hQz hPz hreg
  rw [(map_aff_neg _ P).1, (map_aff_neg _ P).2] at e'
  obtain ⟨h0, h⟩ := model_neg_bls (even_qxK Q) (odd_qyK Q) (even_emb _) (even_emb _) (g1_y_ne_zero honP hPz) c e
  exact ⟨c, c', h0, h _ c' (.inl e')⟩

/-- **`miller_loop(Q, P) · miller_loop(−Q, P) = 1`** (both with the final power) -/
theorem optV_neg_left {Q : T2} {P : T1} (cQ : CanonT Q) (hQz : Q.2.2 ≠ 0) (hPz : P.2.2 ≠ 0)
    (hreg : MillerRegular Q) (hreg' : MillerRegular (OptBls.neg Q))
    (honP : OptBls.is_on_curve P (Fq.ofInt optimized_bls12_381_b : Fq blsP) = true) :
    Canon (optV Q P) ∧ Canon (optV (OptBls.neg Q) P) ∧ optV Q P * optV (OptBls.neg Q) P = 1 := by
  obtain ⟨c, e⟩ := bls_core (P := P) cQ hQz hPz hreg
  obtain ⟨c', e'⟩ := bls_core (P := P) (canonT_ops cQ cQ 0).2.2.1 hQz hPz hreg'
  rw [(qyK_neg cQ).1, (qyK_neg cQ).2] at e'
  exact ⟨c, c', (model_neg_bls (even_qxK Q) (odd_qyK Q) (even_emb _) (even_emb _) (g1_y_ne_zero honP hPz) c e).2
    _ c' (.inr e')⟩

theorem neg_G2_facts {Q : T2} (cQ : CanonT Q) (hon : OptBls.is_on_curve Q blsB2 = true)
    (hsub : subgroupCheck Q = true) :
    CanonT (OptBls.neg Q) ∧ OptBls.is_on_curve (OptBls.neg Q) blsB2 = true
      ∧ subgroupCheck (OptBls.neg Q) = true := by
  obtain ⟨Pt, rQ⟩ := curveF2.exists_rep cQ hon
  have rN := rQ.neg
  refine ⟨rN.good, rN.on_curve, ?_⟩
  rw [C17Sub.rep_iff rN, smul_neg, (C17Sub.rep_iff rQ).mp hsub, neg_zero]

/-- **`pairing(Q, P) · pairing(Q, neg(P)) = 1`** (with reducedness of the two values) -/
theorem pairing_neg_right_core (Q : T2) (P : T1) (cQ : CanonT Q)
    (honQ : OptBls.is_on_curve Q blsB2 = true)
    (honP : OptBls.is_on_curve P (Fq.ofInt optimized_bls12_381_b : Fq blsP) = true)
    (hsub : subgroupCheck Q = true) :
    ∃ v v' : OBls12, pairingOptBls Q P true = .ok v ∧ pairingOptBls Q (OptBls.neg P) true = .ok v'
      ∧ Canon v ∧ Canon v' ∧ v ≠ 0 ∧ v * v' = 1 := by
  have hO := goodHom_F12 (v := .opt)
  refine ⟨_, _, pairingOptBls_ok true honQ honP, pairingOptBls_ok true honQ ((on_curve_neg P _).trans honP), ?_⟩
  refine ite_one_rel (R := fun v v' : OBls12 => Canon v ∧ Canon v' ∧ v ≠ 0 ∧ v * v' = 1)
    ⟨hO.good_one, hO.good_one, by decide, one_mul_one hO⟩ fun hz => ?_
  rw [not_or] at hz
  rw [if_pos rfl, finalExp_bls.opt_eq]
  exact optV_neg_right cQ hz.2 hz.1 (C12M.millerRegular_of_subgroup cQ honQ hz.2 hsub) honP

/-- **`pairing(Q, P) · pairing(neg(Q), P) = 1`** (with reducedness of the two values) -/
theorem pairing_neg_left_core (Q : T2) (P : T1) (cQ : CanonT Q)
    (honQ : OptBls.is_on_curve Q blsB2 = true)
    (honP : OptBls.is_on_curve P (Fq.ofInt optimized_bls12_381_b : Fq blsP) = true)
    (hsub : subgroupCheck Q = true) :
    ∃ v v' : OBls12, pairingOptBls Q P true = .ok v ∧ pairingOptBls (OptBls.neg Q) P true = .ok v'
      ∧ Canon v ∧ Canon v' ∧ v * v' = 1 := by
  obtain ⟨cN, honN, hsubN⟩ := neg_G2_facts cQ honQ hsub
  have hO := goodHom_F12 (v := .opt)
  refine ⟨_, _, pairingOptBls_ok true honQ honP, pairingOptBls_ok true honN honP, ?_⟩
  refine ite_one_rel (R := fun v v' : OBls12 => Canon v ∧ Canon v' ∧ v * v' = 1)
    ⟨hO.good_one, hO.good_one, one_mul_one hO⟩ fun hz => ?_
  rw [not_or] at hz
  rw [if_pos rfl, finalExp_bls.opt_eq]
  exact optV_neg_left cQ hz.2 hz.1 (C12M.millerRegular_of_subgroup cQ honQ hz.2 hsub)
    (C12M.millerRegular_of_subgroup cN honN hz.2 hsubN) honP

end PyEcc.NegSem
