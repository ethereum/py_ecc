/-
  For C15/C16 (core Lean only): the specification's `ceilDiv`, `I2OSP`, `OS2IP` are the model's `ceilDiv`,
  `toBytesBE`/`i2osp`, `os2ip`; `HashFn.WF`, what is assumed of a hash function, holds of `sha256Fn`; the model's `hmac`
  is RFC 2104's when the key padding is unambiguous (`C16.hmac_eq_spec_aux`).
-/
import PyEcc.Spec.Rfc5869
import PyEcc.Lemmas.Bytes
import PyEcc.Lemmas.Control

namespace PyEcc

/-- What is assumed of a hash function where an assumption is needed: every digest has
    `digestSize` bytes, `digestSize` is positive and not larger than the block size. -/
structure HashFn.WF (H : HashFn) : Prop where
  run_length : ∀ x, (H.run x).length = H.digestSize
  digest_pos : 0 < H.digestSize
  digest_le_block : H.digestSize ≤ H.blockSize

namespace C15

theorem ceilDiv_eq_spec (a : Nat) {b : Nat} (hb : 0 < b) : PyEcc.ceilDiv a b = Spec.ceilDiv a b := by
  unfold PyEcc.ceilDiv Spec.ceilDiv
  have h := Nat.div_add_mod a b
  have hr := Nat.mod_lt a hb
  generalize a / b = q at *
  generalize a % b = r at *
  subst h
  split
  · rename_i h0
    subst h0
    rw [show b * q + 0 + b - 1 = b * q + (b - 1) by omega, Nat.mul_add_div hb,
      Nat.div_eq_of_lt (by omega)]
  · rw [show b * q + r + b - 1 = b * (q + 1) + (r - 1) by rw [Nat.mul_add]; omega, Nat.mul_add_div hb,
      Nat.div_eq_of_lt (by omega)]

/-- `Spec.ceilDiv a b` is the least `n` with `a ≤ n·b` (sanity check of `Spec.ceilDiv`). -/
theorem spec_ceilDiv_le_iff (a n : Nat) {b : Nat} (hb : 0 < b) : Spec.ceilDiv a b ≤ n ↔ a ≤ n * b := by
  rw [← ceilDiv_eq_spec a hb, PyEcc.ceilDiv, ← Nat.lt_succ_iff, Nat.div_lt_iff_lt_mul hb, Nat.succ_mul]
  omega

theorem I2OSP_eq_toBytesBE (n x : Nat) : Spec.I2OSP x n = toBytesBE n x := by
  induction n generalizing x with
  | zero => rfl
  | succ n ih =>
    unfold toBytesBE
    rw [← ih]
    unfold Spec.I2OSP
    rw [List.range_succ, List.map_append]
    congr 1
    · apply List.map_congr_left
      intro i hi
      have hi : i < n := List.mem_range.mp hi
      rw [Nat.div_div_eq_div_mul, ← Nat.pow_succ']
      congr 4
      omega
    · simp

theorem OS2IP_eq_os2ip (x : Bytes) : Spec.OS2IP x = os2ip x := by
  induction x with
  | nil => rfl
  | cons b rest ih => rw [Spec.OS2IP, BytesLem.os2ip_cons, ih]

theorem i2osp_eq_ok {x n : Nat} (h : x < 256 ^ n) : i2osp x n = .ok (Spec.I2OSP x n) := by
  rw [BytesLem.i2osp_ok h, I2OSP_eq_toBytesBE]

theorem I2OSP_zero (n : Nat) : Spec.I2OSP 0 n = List.replicate n 0 := by
  unfold Spec.I2OSP
  rw [List.eq_replicate_iff]
  simp

theorem I2OSP_length (x n : Nat) : (Spec.I2OSP x n).length = n := by
  simp [Spec.I2OSP]

theorem I2OSP_one (x : Nat) : Spec.I2OSP x 1 = [UInt8.ofNat x] := by
  simp only [Spec.I2OSP, List.range_succ, List.range_zero, List.nil_append, List.map_cons,
    List.map_nil, Nat.sub_self, Nat.pow_zero, Nat.div_one]
  congr 1
  apply UInt8.toNat_inj.mp
  simp

/-! ### strings cut from `n` blocks of `d` bytes (`T(1) ‖ … ‖ T(N)`, `b_1 ‖ … ‖ b_ell`) -/

theorem range_map_flatten_length {f : Nat → Bytes} {d : Nat} (h : ∀ i, (f i).length = d) (n : Nat) :
    ((List.range n).map f).flatten.length = n * d := by
  induction n with
  | zero => simp
  | succ n ih =>
    rw [List.range_succ, List.map_append, List.flatten_append, List.length_append, ih, Nat.add_mul]
    simp [h]

theorem take_blocks_length {f : Nat → Bytes} {d : Nat} (hd : 0 < d) (h : ∀ i, (f i).length = d) (L : Nat) :
    (((List.range (Spec.ceilDiv L d)).map f).flatten.take L).length = L := by
  rw [List.length_take, range_map_flatten_length h]
  have := (spec_ceilDiv_le_iff L (Spec.ceilDiv L d) hd).mp (Nat.le_refl _)
  omega

/-! ### `sha256Fn` is well-formed (non-vacuity of `HashFn.WF`) -/

theorem sha256_compress_size (h b : Array UInt32) : (Sha256.compress h b).size = 8 := by
  unfold Sha256.compress
  simp only [Id.run, bind, pure]
  rfl

theorem sha256_length (x : Bytes) : (Sha256.hash x).length = 32 := by
  unfold Sha256.hash
  have := foldl_inv (·.size = 8) (l := Sha256.blocks (Sha256.wordsOf (Sha256.pad x)))
    (rfl : Sha256.H0.size = 8) fun h b _ => sha256_compress_size h b
  generalize List.foldl Sha256.compress Sha256.H0 _ = a at *
  obtain ⟨l⟩ := a
  simp at this
  match l, this with
  | [a,b,c,d,e,f,g,h], _ => rfl

theorem sha256Fn_WF : sha256Fn.WF :=
  ⟨sha256_length, by decide, by decide⟩

end C15

namespace C16

/-- The condition under which RFC 2104 is unambiguous for a key: after the optional hashing step the
    key has at most `B` bytes (so that padding gives exactly `B` bytes).  It holds for every key as
    soon as `digest_size ≤ block_size` — true of every real hash function. -/
def HmacKeyOk (H : HashFn) (key : Bytes) : Prop :=
  key.length ≤ H.blockSize ∨ (H.run key).length ≤ H.blockSize

theorem hmacKeyOk_of_WF {H : HashFn} (hw : H.WF) (key : Bytes) : HmacKeyOk H key :=
  .inr (by rw [hw.run_length]; exact hw.digest_le_block)

theorem zipWith_xor_replicate (l : Bytes) (n : Nat) (c : UInt8) (h : l.length ≤ n) :
    List.zipWith (· ^^^ ·) l (List.replicate n c) = l.map (· ^^^ c) := by
  induction l generalizing n with
  | nil => simp
  | cons a l ih =>
    cases n with
    | zero => simp at h
    | succ n =>
      rw [List.replicate_succ, List.zipWith_cons_cons, List.map_cons, ih n (by simpa using h)]

theorem hmacKey_length {H : HashFn} {key : Bytes} (h : HmacKeyOk H key) :
    (Spec.hmacKey H key).length = H.blockSize := by
  unfold Spec.hmacKey
  simp only [List.length_append, List.length_replicate]
  split
  · rcases h with h | h <;> omega
  · omega

theorem hmac_eq_spec_aux (H : HashFn) (key msg : Bytes) (h : HmacKeyOk H key) :
    hmac H key msg = Spec.hmac H key msg := by
  have hl := hmacKey_length h
  unfold hmac Spec.hmac Spec.strxor
  simp only
  rw [zipWith_xor_replicate _ _ _ (Nat.le_of_eq hl), zipWith_xor_replicate _ _ _ (Nat.le_of_eq hl)]
  rfl

end C16
end PyEcc
