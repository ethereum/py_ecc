/-
  What `exp_by_p` computes. The `Fqp` model is read in the quotient ring `(ZMod p)[X]/(X^d + Σ mcᵢ Xⁱ)`
  (`Sem/FqpQuot.lean`), which has characteristic `p`: there `(Σ cᵢ wⁱ)^p = Σ cᵢ (w^p)ⁱ`, and `exp_by_p` is
  `Σ tableᵢ · coeffᵢ`, so a table of the `(w^p)ⁱ` makes `exp_by_p(x) = x ** p` (`expByP_eq_pow_of_table`).
  Also here, for the pairings' two-step theorems (C12) and the negation proofs: well-formedness and canonicity of what the
  optimized Miller loops and `cast_point_to_fq12` return (`canon_castFq12`, `foldl_mul_spec`, `opt*MillerLoop_none_wf`).
-/
import Mathlib.Algebra.CharP.Lemmas
import Mathlib.Algebra.CharP.Algebra
import Mathlib.FieldTheory.Finite.Basic
import PyEcc.Sem.FqpQuot
import PyEcc.Lemmas.MillerModel

namespace PyEcc.PairingSem
open Polynomial PyEcc PyEcc.Fqp PyEcc.FqpSem

section generic
variable {v : Variant} {p : ℕ} {mc : List Int}

/-- `a / b = a * inv(b)` has `d` coefficients, for ANY operands -/
theorem wf_div' (hd : 1 ≤ mc.length) (a b : Fqp v p mc) : WF (Fqp.div a b) := mul_wf _ _

theorem canon_castFq12 [NeZero p] (h : mc.length = 12) (x : Fq p) : Canon (castFq12 x : Fqp v p mc) :=
  canon_ofInts (NeZero.pos p) (by rw [h]; rfl)

/-- `FQP.one() ** e == FQP.one()` in the executable model (the square-and-multiply loop on the
    coefficient lists), for every exponent. -/
theorem one_pow_model (hp : 0 < p) (hd : 1 ≤ mc.length) (e : ℕ) : (1 : Fqp v p mc) ^ e = 1 := by
  apply toQ_inj (pow_canon hp hd _ e) (canon_one hp hd)
  show toQ (Fqp.pow one e) = toQ one
  rw [toQ_pow hd (wf_one hd), toQ_one, one_pow]

theorem foldl_mul_spec (fs : List (Fqp v p mc)) (hfs : ∀ f ∈ fs, WF f) (acc : Fqp v p mc)
    (hacc : WF acc) :
    WF (fs.foldl (· * ·) acc) ∧ toQ (fs.foldl (· * ·) acc) = toQ acc * (fs.map toQ).prod := by
  induction fs generalizing acc with
  | nil => simpa using hacc
  | cons f fs ih =>
    have hf : WF f := hfs f (by simp)
    obtain ⟨w, q⟩ := ih (fun g hg => hfs g (by simp [hg])) (acc * f) (mul_wf acc f)
    refine ⟨w, ?_⟩
    rw [List.foldl_cons, q, List.map_cons, List.prod_cons]
    show toQ (mul acc f) * _ = _
    rw [toQ_mul hacc hf, mul_assoc]

theorem canon_foldl_mul (hp : 0 < p) (fs : List (Fqp v p mc))
    (acc : Fqp v p mc) (hacc : Canon acc) : Canon (fs.foldl (· * ·) acc) := by
  induction fs generalizing acc with
  | nil => exact hacc
  | cons f fs ih => exact ih (acc * f) (mul_canon hp acc f)

end generic

section expByP
variable {p : ℕ} {mc : List Int}

theorem intCast_eq_of (k : ℤ) :
    ((k : ℤ) : AdjoinRoot (modulus p mc)) = AdjoinRoot.of (modulus p mc) (k : ZMod p) :=
  (map_intCast _ k).symm

theorem intCast_mod_quot (k : ℤ) :
    (((k % (p : ℤ) : ℤ)) : AdjoinRoot (modulus p mc)) = ((k : ℤ) : AdjoinRoot (modulus p mc)) := by
  rw [intCast_eq_of, intCast_eq_of, ZMod.intCast_mod]

theorem expByP_foldl_spec (l : List (Fqp .opt p mc × Int)) (hl : ∀ tc ∈ l, WF tc.1)
    (acc : Fqp .opt p mc) (hacc : WF acc) :
    WF (l.foldl (fun acc tc => acc + Fqp.mulInt tc.1 tc.2) acc) ∧
    toQ (l.foldl (fun acc tc => acc + Fqp.mulInt tc.1 tc.2) acc) =
      toQ acc + (l.map fun tc => toQ tc.1 * ((tc.2 : ℤ) : AdjoinRoot (modulus p mc))).sum := by
  induction l generalizing acc with
  | nil => simpa using hacc
  | cons tc l ih =>
    have ht : WF tc.1 := hl tc (by simp)
    have hm : WF (mulInt tc.1 tc.2) := wf_mulInt ht _
    obtain ⟨w, q⟩ := ih (fun g hg => hl g (by simp [hg])) (acc + mulInt tc.1 tc.2) (wf_add hacc hm)
    refine ⟨w, ?_⟩
    rw [List.foldl_cons, q, List.map_cons, List.sum_cons]
    show toQ (add acc (mulInt tc.1 tc.2)) + _ = _
    rw [toQ_add hacc hm, toQ_mulInt, add_assoc]

theorem expByP_foldl_canon (hp : 0 < p) (l : List (Fqp .opt p mc × Int)) (hl : ∀ tc ∈ l, WF tc.1)
    (acc : Fqp .opt p mc) (hacc : Canon acc) :
    Canon (l.foldl (fun acc tc => acc + Fqp.mulInt tc.1 tc.2) acc) := by
  induction l generalizing acc with
  | nil => exact hacc
  | cons tc l ih =>
    exact ih (fun g hg => hl g (by simp [hg])) _
      (canon_add hp hacc.wf (wf_mulInt (hl tc (by simp)) _))

theorem wf_of_mem_zip {table : List (Fqp .opt p mc)} (ht : ∀ t ∈ table, WF t) (cs : List Int) :
    ∀ tc ∈ List.zip table cs, WF tc.1 := fun _ h => ht _ (List.of_mem_zip h).1

/-- `exp_by_p(x)` is `Σᵢ tableᵢ · int(x.coeffs[i])` in the quotient ring -/
theorem toQ_expByP (table : List (Fqp .opt p mc)) (ht : ∀ t ∈ table, WF t) (x : Fqp .opt p mc) :
    toQ (expByP table x) =
      ((List.zip table x.coeffs).map fun tc =>
        toQ tc.1 * ((tc.2 : ℤ) : AdjoinRoot (modulus p mc))).sum := by
  unfold expByP
  rw [(expByP_foldl_spec _ (wf_of_mem_zip ht _) 0 wf_zero).2]
  show toQ zero + _ = _
  rw [toQ_zero, zero_add]

theorem canon_expByP (hp : 0 < p) (table : List (Fqp .opt p mc)) (ht : ∀ t ∈ table, WF t)
    (x : Fqp .opt p mc) : Canon (expByP table x) :=
  expByP_foldl_canon hp _ (wf_of_mem_zip ht _) 0 (canon_zero hp)

/-! ### linearity of the table sum in the coefficient list -/

noncomputable def tsum (table : List (Fqp .opt p mc)) (cs : List Int) : AdjoinRoot (modulus p mc) :=
  ((List.zip table cs).map fun tc => toQ tc.1 * ((tc.2 : ℤ) : AdjoinRoot (modulus p mc))).sum

theorem tsum_add_mod (table : List (Fqp .opt p mc)) (xs ys : List Int) (h : xs.length = ys.length) :
    tsum table ((List.zipWith (· + ·) xs ys).map (fun c => c % (p : Int))) =
      tsum table xs + tsum table ys := by
  unfold tsum
  induction table generalizing xs ys with
  | nil => simp
  | cons t ts ih =>
    cases xs with
    | nil => cases ys with
      | nil => simp
      | cons y ys => simp at h
    | cons x xs =>
      cases ys with
      | nil => simp at h
      | cons y ys =>
        have h' : xs.length = ys.length := by simpa using h
        simp only [List.zipWith_cons_cons, List.map_cons, List.zip_cons_cons, List.sum_cons,
          ih xs ys h', intCast_mod_quot]
        push_cast
        ring

theorem tsum_mul_mod (table : List (Fqp .opt p mc)) (xs : List Int) (k : Int) :
    tsum table ((xs.map (fun c => c * k)).map (fun c => c % (p : Int))) =
      tsum table xs * ((k : ℤ) : AdjoinRoot (modulus p mc)) := by
  unfold tsum
  induction table generalizing xs with
  | nil => simp
  | cons t ts ih =>
    cases xs with
    | nil => simp
    | cons x xs =>
      simp only [List.map_cons, List.zip_cons_cons, List.sum_cons, ih xs, intCast_mod_quot]
      push_cast
      ring

end expByP

section frob
variable {p : ℕ} {mc : List Int} [hp : Fact p.Prime]

theorem degree_modulus (mc : List Int) : (modulus p mc).degree = mc.length := by
  unfold modulus
  rw [degree_add_eq_left_of_degree_lt (by rw [degree_X_pow]; exact degree_ev_lt mc), degree_X_pow]

theorem nontrivial_quot (hd : 1 ≤ mc.length) : Nontrivial (AdjoinRoot (modulus p mc)) := by
  apply AdjoinRoot.nontrivial
  rw [degree_modulus]
  exact_mod_cast (by omega : mc.length ≠ 0)

theorem charP_quot (hd : 1 ≤ mc.length) : CharP (AdjoinRoot (modulus p mc)) p := by
  have := nontrivial_quot (p := p) hd
  exact charP_of_injective_ringHom (f := AdjoinRoot.of (modulus p mc)) (RingHom.injective _) p

theorem intCast_pow_char (k : ℤ) :
    ((k : ℤ) : AdjoinRoot (modulus p mc)) ^ p = ((k : ℤ) : AdjoinRoot (modulus p mc)) := by
  rw [intCast_eq_of, ← map_pow, ZMod.pow_card]

/-- `(Σ lᵢ wⁱ)^p = Σ lᵢ (w^p)ⁱ`, in the list form matching `exp_by_p`'s `zip` -/
theorem evQ_pow_char (hd : 1 ≤ mc.length) (l : List Int) (k : ℕ) :
    (AdjoinRoot.root (modulus p mc) ^ p) ^ k * evQ p mc l ^ p =
      ((List.zip (List.range' k l.length) l).map fun ic =>
        (AdjoinRoot.root (modulus p mc) ^ p) ^ ic.1 *
          ((ic.2 : ℤ) : AdjoinRoot (modulus p mc))).sum := by
  have := charP_quot (p := p) hd
  induction l generalizing k with
  | nil => simp [evQ, zero_pow hp.out.ne_zero]
  | cons c cs ih =>
    rw [List.length_cons, List.range'_succ, List.zip_cons_cons, List.map_cons, List.sum_cons,
      ← ih (k + 1)]
    have : evQ p mc (c :: cs) = ((c : ℤ) : AdjoinRoot (modulus p mc)) +
        AdjoinRoot.root (modulus p mc) * evQ p mc cs := by
      rw [intCast_eq_of]
      simp [evQ, ev_cons, AdjoinRoot.mk_X]
    rw [this, add_pow_char, mul_pow, intCast_pow_char]
    ring

/-- `FQP([0]*i + [1] + [0]*(d-1-i))`, the basis element `wⁱ` -/
def basisElem {v : Variant} {p : ℕ} {mc : List Int} (i : ℕ) : Fqp v p mc :=
  Fqp.ofInts (List.replicate i 0 ++ 1 :: List.replicate (mc.length - 1 - i) 0)

omit hp in
theorem wf_basisElem {v : Variant} {i : ℕ} (hi : i < mc.length) : WF (basisElem i : Fqp v p mc) :=
  wf_ofInts (by simp; omega)

omit hp in
theorem toQ_basisElem {v : Variant} (i : ℕ) :
    toQ (basisElem i : Fqp v p mc) = AdjoinRoot.root (modulus p mc) ^ i := by
  rw [basisElem, toQ_ofInts]
  simp [evQ, ev_append, ev_replicate_zero, AdjoinRoot.mk_X]

/-- **Frobenius through a table.**  If the table is `[F 0, …, F (d-1)]` with `F i` denoting `(w^p)ⁱ`,
    then `exp_by_p(x) = x ** p` in the executable model, for every `x` with `d` coefficients. -/
theorem expByP_eq_pow_of_table (hd : 1 ≤ mc.length) (F : ℕ → Fqp .opt p mc)
    (hF : ∀ i < mc.length, WF (F i) ∧ toQ (F i) = (AdjoinRoot.root (modulus p mc) ^ p) ^ i)
    (x : Fqp .opt p mc) (hx : WF x) :
    expByP ((List.range mc.length).map F) x = x ^ p := by
  have hp0 : 0 < p := hp.out.pos
  have ht : ∀ t ∈ (List.range mc.length).map F, WF t := by
    intro t h
    obtain ⟨i, hi, rfl⟩ := List.mem_map.mp h
    exact (hF i (List.mem_range.mp hi)).1
  apply toQ_inj (canon_expByP hp0 _ ht x) (pow_canon hp0 hd x p)
  show _ = toQ (Fqp.pow x p)
  rw [toQ_expByP _ ht, toQ_pow hd hx, toQ]
  have h0 := evQ_pow_char (p := p) hd x.coeffs 0
  rw [pow_zero, one_mul] at h0
  rw [h0, List.range_eq_range', List.zip_map_left, List.map_map, hx]
  apply congrArg List.sum
  apply List.map_congr_left
  intro ic hic
  have hlt : ic.1 < mc.length := by
    have := (List.of_mem_zip hic).1
    simpa using this
  simp [(hF _ hlt).2]

end frob

section miller

/-- optimized bls12_381 `miller_loop(Q, P, False)` returns `f_num / f_den`: 12 coefficients -/
theorem optBlsMillerLoop_none_wf {p : ℕ} {mc2 mc12 : List Int} [NeZero p]
    (digits : List Int)
    (Q : Fqp .opt p mc2 × Fqp .opt p mc2 × Fqp .opt p mc2) (P : Fq p × Fq p × Fq p) :
    WF (optBlsMillerLoop digits none Q P : Fqp .opt p mc12) := by
  unfold optBlsMillerLoop
  extract_lets castP twistQ step
  generalize List.foldl step ((1, 1), Q, twistQ) digits = r
  obtain ⟨⟨a, b⟩, c, d⟩ := r
  exact mul_wf _ _

/-- optimized bn128 `miller_loop(Q, P, False)` returns a quotient: 12 coefficients -/
theorem optBnMillerLoop_none_wf {p : ℕ} {mc12 : List Int}
    (digits : List Int)
    (Q P : Fqp .opt p mc12 × Fqp .opt p mc12 × Fqp .opt p mc12) :
    WF (optBnMillerLoop digits none Q P) := by
  unfold optBnMillerLoop
  extract_lets nQ step
  generalize List.foldl step ((1, 1), Q) digits = r
  obtain ⟨⟨a, b⟩, c⟩ := r
  obtain ⟨qx, qy, qz⟩ := Q
  dsimp only
  exact mul_wf _ _

end miller

end PyEcc.PairingSem
