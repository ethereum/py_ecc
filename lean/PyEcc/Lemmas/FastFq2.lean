/-
  PyEcc.Lemmas.FastFq2 — the pairs of naturals `Gi p` (`Lemmas/Gi.lean`), which the kernel evaluates quickly,
  agree with the list-based model `FQ2 = Fqp v p [1, 0]`: `Gi.val`, the reading `Gi.phi` into `F_p[X]/(X² + 1)`,
  is `toQ ∘ Gi.toF` and a `GoodHom` on reduced pairs (`goodHom_val`), hence so is `Gi.toF` (`goodHom_toF`).
  Kernel facts about concrete `FQ2` points (scalar multiples with scalars of up to 448 bits) are evaluated on
  pairs and transported: `CycFacts.of_fast` carries the bundle `CycFacts` of `Lemmas/TransferOptBls.lean` from
  coefficient pairs to the model's `FQ2`.
-/
import PyEcc.Sem.TransferFqp
import PyEcc.Lemmas.FqpQuotFinite
import PyEcc.Lemmas.Gi

namespace PyEcc
open PyEcc.Fqp PyEcc.FqpSem PyEcc.Transfer

namespace Gi
variable {p : ℕ}

def toF {v : Variant} (x : Gi p) : Fqp v p [1, 0] := ⟨[(x.re : ℤ), (x.im : ℤ)]⟩

def ofF {v : Variant} {mc : List Int} (x : Fqp v p mc) : Gi p :=
  ⟨(getI x.coeffs 0).toNat, (getI x.coeffs 1).toNat⟩

noncomputable def val : Gi p → AdjoinRoot (modulus p [1, 0]) := phi (AdjoinRoot.root _)

theorem toQ_toF {v : Variant} (x : Gi p) : toQ (toF (v := v) x) = val x := by
  rw [toF, toQ, evQ_pair, map_intCast, map_intCast, Int.cast_natCast, Int.cast_natCast]
  rfl

theorem canon_toF {v : Variant} {x : Gi p} (hx : Good x) : Canon (toF (v := v) x) := by
  refine ⟨rfl, fun c hc => ?_⟩
  simp only [toF, List.mem_cons, List.not_mem_nil, or_false] at hc
  rcases hc with rfl | rfl
  · exact ⟨Int.natCast_nonneg _, Int.ofNat_lt.mpr hx.1⟩
  · exact ⟨Int.natCast_nonneg _, Int.ofNat_lt.mpr hx.2⟩

theorem val_inj {x y : Gi p} (hx : Good x) (hy : Good y) (h : val x = val y) : x = y := by
  have e := toQ_inj (canon_toF (v := .opt) hx) (canon_toF hy) ((toQ_toF x).trans (h.trans (toQ_toF y).symm))
  obtain ⟨a, b⟩ := x
  obtain ⟨c, d⟩ := y
  simpa [toF] using e

section field
variable [Fact p.Prime] [Fact (Irreducible (modulus p [1, 0]))]

theorem val_div (x y : Gi p) : val (x / y) = val x / val y := by
  have := charP_field (p := p) (mc := [1, 0])
  rw [show x / y = x * y ^ (p ^ 2 - 2) from rfl, val, phi_mul root_fq2_sq, phi_pow root_fq2_sq,
    div_eq_mul_inv]
  congr 1
  have h4 : 2 ^ 2 ≤ p ^ 2 := Nat.pow_le_pow_left (Fact.out : p.Prime).two_le 2
  have hp : p ^ 2 - 2 + 1 = p ^ 2 - 1 := by omega
  by_cases h0 : phi (AdjoinRoot.root (modulus p [1, 0])) y = 0
  · rw [h0, inv_zero, zero_pow (by omega)]
  · exact eq_inv_of_mul_eq_one_left (by
      rw [← pow_succ, hp]; exact NondegSem.fermat_quot (mc := [1, 0]) _ h0)

theorem goodHom_val : GoodHom Good (val : Gi p → AdjoinRoot (modulus p [1, 0])) :=
  have := charP_field (p := p) (mc := [1, 0])
  { good_zero := good_red _ _
    good_one := good_red _ _
    good_add := fun _ _ => good_red _ _
    good_sub := fun _ _ => good_red _ _
    good_mul := fun _ _ => good_red _ _
    good_neg := fun _ => good_red _ _
    good_div := fun _ _ => good_red _ _
    good_natCast := fun _ => good_red _ _
    good_pow := fun _ _ => powLoop_ind (aux := fun f o t e => powAux f t e o) (fun _ _ _ => rfl)
      (fun _ _ _ _ => rfl) (fun _ _ => good_red _ _) _ _ _ _ (good_red _ _)
    map_zero := phi_zero _
    map_one := phi_one _
    map_add := fun _ _ => phi_add _ _ _
    map_sub := fun _ _ => phi_sub _ _ _
    map_mul := fun _ _ => phi_mul root_fq2_sq _ _
    map_neg := fun _ => phi_neg _ _
    map_div := fun _ _ => val_div _ _
    map_natCast := phi_natCast _
    map_pow := fun _ _ => phi_pow root_fq2_sq _ _
    inj := val_inj }

/-- `toF` preserves every operation of the model's `FQ2` arithmetic on reduced pairs, because the value
    maps of both sides agree and `toQ` is injective on canonical elements -/
theorem goodHom_toF {v : Variant} : GoodHom Good (toF : Gi p → Fqp v p [1, 0]) :=
  (goodHom_fq2 (v := v)).of_comp canon_toF ((funext toQ_toF : (fun x => toQ (toF x)) = val) ▸ goodHom_val)

end field

theorem toF_ofF {v : Variant} {x : Fqp v p [1, 0]} (hx : Canon x) : toF (ofF x) = x := by
  obtain ⟨l⟩ := x
  match l, hx with
  | [a, b], ⟨_, h⟩ =>
    have ha := (h a (by simp)).1
    have hb := (h b (by simp)).1
    simp only [toF, ofF, getI_cons_zero, getI_cons_succ, Int.toNat_of_nonneg ha, Int.toNat_of_nonneg hb]

theorem good_ofF {v : Variant} {x : Fqp v p [1, 0]} (hx : Canon x) : Good (ofF x) := by
  have h := hx
  rw [← toF_ofF hx] at h
  exact ⟨Int.ofNat_lt.mp (h.2 _ (by simp [toF])).2, Int.ofNat_lt.mp (h.2 _ (by simp [toF])).2⟩

theorem val_ofF {v : Variant} {x : Fqp v p [1, 0]} (hx : Canon x) : val (ofF x) = toQ x := by
  rw [← toQ_toF, toF_ofF hx]

end Gi

namespace Transfer
open PyEcc.Gen WeierstrassCurve

/-- facts about a canonical `FQ2` triple of the model may be evaluated on its coefficient pairs -/
theorem CycFacts.of_fast {v : Variant} {p : ℕ} {mc : List Int} [Fact p.Prime] (h4 : p % 4 = 3)
    (hmc : mc = [1, 0]) {T : Fqp v p mc × Fqp v p mc × Fqp v p mc} {b : Fqp v p mc} {q : ℕ}
    (f : CanonT T ∧ Canon b ∧ CycFacts (mapT Gi.ofF T) (Gi.ofF b) q) : CycFacts T b q := by
  subst hmc
  obtain ⟨c, cb, f⟩ := f
  have : Fact (Irreducible (modulus p [1, 0])) := ⟨irreducible_modulus_fq2 h4⟩
  have := f.map (Gi.goodHom_toF (v := v))
    ⟨Gi.good_ofF c.1, Gi.good_ofF c.2.1, Gi.good_ofF c.2.2⟩ (Gi.good_ofF cb)
  obtain ⟨x, y, z⟩ := T
  simpa only [mapT_mk, Gi.toF_ofF c.1, Gi.toF_ofF c.2.1, Gi.toF_ofF c.2.2, Gi.toF_ofF cb] using this

noncomputable abbrev val2 : Gi blsP → K2 := Gi.val
noncomputable abbrev val2bn : Gi bnP → K2bn := Gi.val

theorem goodHom_val2 : GoodHom Gi.Good val2 := @Gi.goodHom_val blsP _ irreducible_blsMc2
theorem goodHom_val2bn : GoodHom Gi.Good val2bn := @Gi.goodHom_val bnP _ irreducible_bnMc2

end Transfer
end PyEcc
