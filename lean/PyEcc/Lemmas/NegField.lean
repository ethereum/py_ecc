/-
  The conjugation `σ : x ↦ x^(p⁶)` of the BLS12-381 field
  `K12 = Fp[w]/(w¹² − 2w⁶ + 2)`, the grading `K12 = Fp⁶ ⊕ w·Fp⁶` it defines, and the final exponent.

  `σ` is a ring automorphism with `σ ∘ σ = id` (`K12` has `p¹²` elements); it fixes the base field
  (`ConjSem.of_pow`) and the image of the twist embedding `ι : Fp² → K12` (`Fp²` has `p²` elements), hence
  `w⁶ = ι(1 + i)`, and then `w²` (`3(p² − 1) ∣ p⁶ − 1`); it does not fix `w`, so `σ w = −w` (`Lemmas/FqpQuotFrob.lean`).
  `InFp6 x : σ x = x` (the subfield `Fp⁶` with `p⁶` elements), `InWFp6 x : σ x = −x` (`w·Fp⁶`).
  Every non-zero element of `Fp⁶` is killed by the final exponent `(p¹² − 1)/r` (`(p⁶ − 1) ∣ (p¹² − 1)/r`).
  The grading, the line function and the Miller loop over a field with such a `σ` are in `Lemmas/NegGrading.lean`,
  `Lemmas/NegLine.lean`, `Lemmas/NegMiller.lean` (`ConjSem.Ev σ`, `ConjSem.Od σ` unfold to `InFp6`, `InWFp6`).
-/
import PyEcc.Lemmas.MillerField
import PyEcc.Lemmas.NegMiller
import PyEcc.Lemmas.FqpQuotFrob

namespace PyEcc.NegSem
open Polynomial PyEcc PyEcc.Gen PyEcc.Gen.Consts PyEcc.Fqp PyEcc.FqpSem PyEcc.PairingSem PyEcc.MillerSem
open PyEcc.Transfer (K2)
open PyEcc.Swu2 (i2)

instance charP_K12 : CharP K12 blsP := charP_quot (p := blsP) (mc := blsMc12) (by decide)

/-- `σ x = x ^ (p⁶)`: the 6-fold Frobenius, the non-trivial automorphism of `K12` over `Fp⁶` -/
noncomputable def sigma : K12 →+* K12 := iterateFrobenius K12 blsP 6

theorem sigma_apply (x : K12) : sigma x = x ^ (blsP ^ 6) := by
  unfold sigma; rw [iterateFrobenius_def]

theorem sigma_sigma (x : K12) : sigma (sigma x) = x := by
  rw [sigma_apply, sigma_apply, ← pow_mul, ← pow_add]
  exact NondegSem.pow_card_quot 1 (by decide) x

theorem sigma_intCast (k : ℤ) : sigma (k : K12) = (k : K12) := map_intCast sigma k

theorem sigma_iota (a : K2) : sigma (iota a) = iota a := by
  rw [sigma_apply, ← map_pow]
  exact congrArg iota (NondegSem.pow_card_quot 3 (by decide) a)

/-- `w² ∈ Fp⁶`: `w⁶ = ι(1 + i)` -/
theorem sigma_w2 : sigma (w12 ^ 2) = w12 ^ 2 := by
  have hw : w12 ^ 6 = iota (1 + i2) := by rw [map_add, map_one, iota_i2]; ring
  have hξ : (1 + i2 : K2) ^ (blsP ^ 2 - 1) = 1 :=
    NondegSem.fermat_quot _ fun h => pow_ne_zero 6 TwistSem.wQ_bls_ne_zero (by rw [hw, h, map_zero])
  rw [sigma_apply]
  exact ConjSem.sq_pow_eq iota hw hξ finalExp_bls.split6 (by decide)

/-- **`σ w = −w`**: `w` is not in `Fp⁶` -/
theorem sigma_w : sigma w12 = -w12 :=
  ConjSem.neg_of_sq_eq sigma sigma_w2 (by
    rw [sigma_apply]; exact ConjSem.root_pow_ne (by decide) (by decide))

/-- `x ∈ Fp⁶`: fixed by `σ` -/
def InFp6 (x : K12) : Prop := sigma x = x
/-- `x ∈ w·Fp⁶`: negated by `σ` -/
def InWFp6 (x : K12) : Prop := sigma x = -x

theorem even_zero : InFp6 0 := map_zero sigma
theorem even_one : InFp6 1 := map_one sigma
theorem odd_zero : InWFp6 0 := by unfold InWFp6; rw [map_zero, neg_zero]
theorem odd_w3 : InWFp6 (w12 ^ 3) := ConjSem.Od.pow_odd sigma_w rfl

theorem InFp6.add {x y : K12} (hx : InFp6 x) (hy : InFp6 y) : InFp6 (x + y) := ConjSem.Ev.add hx hy
theorem InWFp6.div {x y : K12} (hx : InWFp6 x) (hy : InWFp6 y) : InFp6 (x / y) := ConjSem.Od.div hx hy

theorem pow_finalExp_of_even {x : K12} (h0 : x ≠ 0) (hx : InFp6 x) : x ^ blsFinalExp = 1 := by
  rw [finalExp_bls.split]
  exact ConjSem.pow_eq_one_of_pow_eq (by decide) h0 ((sigma_apply x).symm.trans hx) _

theorem neg_one_pow_finalExp : (-1 : K12) ^ blsFinalExp = 1 :=
  (even_iff_two_dvd.mpr finalExp_bls.two_dvd).neg_one_pow

/-- twisted-type point: `x ∈ Fp⁶`, `y ∈ w·Fp⁶` (`∞` counts) -/
def TwT (R : Option (K12 × K12)) : Prop := ∀ x y, R = some (x, y) → InFp6 x ∧ InWFp6 y

/-- base-type point: both coordinates in `Fp⁶` -/
def BaseT (R : Option (K12 × K12)) : Prop := ∀ x y, R = some (x, y) → InFp6 x ∧ InFp6 y

end PyEcc.NegSem
