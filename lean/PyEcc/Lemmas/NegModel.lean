/-
  `neg` of the generated curve modules against the affine reading, over any field
  and along any pair of `GoodHom`s (optimized class → field ← reference class), and the step from a product
  `1` in the field to a product `FQ12.one()` in the executable model.  Stated once; `Gen.OptBn.*`, `Gen.RefBn.*`
  have the same bodies as `Gen.OptBls.*`, `Gen.RefBls.*`, so the bn128 files use the same lemmas.
-/
import PyEcc.Lemmas.MillerRefTransfer
import PyEcc.Lemmas.C13Aux
import PyEcc.Props.C13_Bls
import PyEcc.Gen.OptBls
import PyEcc.Sem.FqpQuot
import Mathlib.Algebra.Field.ZMod

namespace PyEcc.NegSem
open PyEcc PyEcc.Gen PyEcc.Fqp PyEcc.FqpSem PyEcc.MillerSem PyEcc.C13
open PyEcc.Transfer (GoodHom GoodT mapT)

section field
variable {F : Type} [Field F] [DecidableEq F]

theorem on_curve_neg (P : F × F × F) (b : F) :
    OptBls.is_on_curve (OptBls.neg P) b = OptBls.is_on_curve P b := by
  obtain ⟨x, y, z⟩ := P
  show (if OptBls.is_inf (x, y, z) = true then true else decide ((-y) ^ 2 * z - x ^ 3 = b * z ^ 3))
    = (if OptBls.is_inf (x, y, z) = true then true else decide (y ^ 2 * z - x ^ 3 = b * z ^ 3))
  simp only [neg_sq]

theorem map_aff_neg {K : Type} [Field K] (f : F →+* K) (P : F × F × F) :
    f ((OptBls.neg P).2.1 / (OptBls.neg P).2.2) = -f (P.2.1 / P.2.2)
      ∧ f ((OptBls.neg P).1 / (OptBls.neg P).2.2) = f (P.1 / P.2.2) :=
  ⟨(congrArg f (neg_div P.2.2 P.2.1)).trans (map_neg f _), rfl⟩

/-- `y ≠ 0` for a finite point of a curve `y² = x³ + b` on which `x³ + b` has no root (no 2-torsion); the root is
    looked for in any field `F'` that `F` maps to -/
theorem y_ne_zero_of_on_curve {F' : Type} [Field F'] (f : F →+* F') {b : F} (hb : ∀ x : F', x ^ 3 + f b ≠ 0)
    {P : F × F × F} (hon : OptBls.is_on_curve P b = true) (hz : P.2.2 ≠ 0) : P.2.1 / P.2.2 ≠ 0 := by
  intro h0
  obtain ⟨x, y, z⟩ := P
  obtain rfl : y = 0 := (div_eq_zero_iff.mp h0).resolve_right hz
  have hinf : OptBls.is_inf (x, 0, z) = false := by simp [OptBls.is_inf, hz]
  simp only [OptBls.is_on_curve, hinf, Bool.false_eq_true, if_false, decide_eq_true_eq] at hon
  refine hb (f (x / z)) ?_
  rw [← map_pow, ← map_add, map_eq_zero]
  field_simp
  linear_combination -hon

end field

section goodhom
variable {A B K : Type}
  [Zero A] [One A] [Add A] [Sub A] [Mul A] [Neg A] [Div A] [NatCast A] [Pow A Nat]
  [Zero B] [One B] [Add B] [Sub B] [Mul B] [Neg B] [Div B] [NatCast B] [Pow B Nat]
  [Field K]
  {GA : A → Prop} {φ : A → K} (hA : GoodHom GA φ) {GB : B → Prop} {χ : B → K} (hB : GoodHom GB χ)
include hA

theorem mul_eq_one_of_map {a b : A} (ca : GA a) (cb : GA b) (h : φ a * φ b = 1) : a * b = 1 :=
  hA.inj (hA.good_mul ca cb) hA.good_one (by rw [hA.map_mul ca cb, hA.map_one, h])

theorem one_mul_one : (1 : A) * 1 = 1 :=
  mul_eq_one_of_map hA hA.good_one hA.good_one (by rw [hA.map_one, one_mul])

include hB
variable [DecidableEq K]

theorem toAff_neg_of_good [DecidableEq B] {Q : A × A × A} {q : Option (B × B)} (cQ : GoodT GA Q) (cq : Transfer.GoodO GB q)
    (hQ : toAff (mapT φ Q) = Transfer.mapO χ q) :
    Transfer.GoodO GB (RefBls.neg q) ∧ toAff (mapT φ (OptBls.neg Q)) = Transfer.mapO χ (RefBls.neg q) := by
  obtain ⟨g, e⟩ := Transfer.BlsRef.good_neg hB cq
  have eQ : mapT φ (OptBls.neg Q) = OptBls.neg (mapT φ Q) := by
    show (φ Q.1, φ (-Q.2.1), φ Q.2.2) = _
    rw [hA.map_neg cQ.2.1]; rfl
  exact ⟨g, by rw [eQ, Bls.opt_neg_toAff, hQ, e]⟩

end goodhom

section coeffs
variable {p : ℕ} {mc : List Int} [Fact p.Prime] [Fact (Irreducible (modulus p mc))] {v w : Variant}

/-- equal coefficient lists, product `1` in one class variant ⇒ product `1` in the other -/
theorem mul_eq_one_of_coeffs (hv : GoodHom Canon (toQ : Fqp v p mc → AdjoinRoot (modulus p mc)))
    (hw : GoodHom Canon (toQ : Fqp w p mc → AdjoinRoot (modulus p mc)))
    {a a' : Fqp v p mc} {u u' : Fqp w p mc} (ca : Canon a) (ca' : Canon a')
    (e : a.coeffs = u.coeffs) (e' : a'.coeffs = u'.coeffs) (h : a * a' = 1) : u * u' = 1 := by
  have cu : Canon u := by unfold Canon at ca ⊢; rw [← e]; exact ca
  have cu' : Canon u' := by unfold Canon at ca' ⊢; rw [← e']; exact ca'
  have t : toQ u = toQ a := by unfold toQ; rw [e]
  have t' : toQ u' = toQ a' := by unfold toQ; rw [e']
  exact mul_eq_one_of_map hw cu cu' (by rw [t, t', ← hv.map_mul ca ca', h, hv.map_one])

/-- two values of one class variant with product `1`, whose coefficient lists are those of the results `X`,
    `X'` of computations in the other variant: these return normally, values with product `1` -/
theorem ok_mul_eq_one_of_coeffs (hv : GoodHom Canon (toQ : Fqp v p mc → AdjoinRoot (modulus p mc)))
    (hw : GoodHom Canon (toQ : Fqp w p mc → AdjoinRoot (modulus p mc)))
    {a a' : Fqp v p mc} {X X' : Except PyErr (Fqp w p mc)} (ca : Canon a) (ca' : Canon a')
    (t : (Except.ok a : Except PyErr (Fqp v p mc)).map Fqp.coeffs = X.map Fqp.coeffs)
    (t' : (Except.ok a' : Except PyErr (Fqp v p mc)).map Fqp.coeffs = X'.map Fqp.coeffs)
    (h : a * a' = 1) : ∃ u u', X = .ok u ∧ X' = .ok u' ∧ u * u' = 1 := by
  rcases X with _ | u
  · cases t
  rcases X' with _ | u'
  · cases t'
  exact ⟨u, u', rfl, rfl, mul_eq_one_of_coeffs hv hw ca ca' (Except.ok.inj t) (Except.ok.inj t') h⟩

end coeffs

end PyEcc.NegSem
