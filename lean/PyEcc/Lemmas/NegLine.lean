/-
  A field `K` with a ring endomorphism `σ` (for the two pairing fields: the
  conjugation `x ↦ x^(p⁶)` of `Fp¹²` over `Fp⁶`, `Lemmas/NegField.lean`, `Lemmas/NegBnField.lean`) and the
  grading it defines (`Ev σ`, `Od σ`, `Lemmas/NegGrading.lean`): the reference line function, `double`, `add`
  against it.

  A "twisted-type" point (`TwT`) has an even `x` and an odd `y` — e.g. `twist(Q)`; `double`, `add`
  preserve the type.  For twisted-type `A`, `B` and `T = (x_T, y_T)` with even coordinates:
   * `linefunc(A, B, (x_T, −y_T)) = ∓ σ(linefunc(A, B, (x_T, y_T)))`   (`line_negT`);
   * `linefunc(A, B, T) ≠ 0` when `y_T ≠ 0` and the line is not vertical (`line_ne_zero`).
  If `σ ∘ σ = id` and an even exponent `E` kills the non-zero even elements, then `(a·b)^E = 1` whenever
  `b = ±σ(a)`, `a ≠ 0` (`SgnRel.pow_eq_one`).
-/
import PyEcc.Lemmas.RefMillerLoop
import PyEcc.Lemmas.NegGrading
import Mathlib.Algebra.Field.Basic
import Mathlib.Tactic.Ring
import Mathlib.Tactic.LinearCombination

namespace PyEcc.ConjSem
open PyEcc PyEcc.Gen PyEcc.NegSem
open PyEcc.Transfer (OpHom mapO mapO_some)

variable {K : Type} [Field K] (σ : K →+* K)

theorem opHom : OpHom (σ : K → K) where
  map_zero := map_zero σ
  map_one := map_one σ
  map_add := map_add σ
  map_sub := map_sub σ
  map_mul := map_mul σ
  map_neg := map_neg σ
  map_div := map_div₀ σ
  map_natCast := map_natCast σ
  map_pow := map_pow σ
  inj := (injective_iff_map_eq_zero σ).mpr fun _ => (map_eq_zero σ).mp

/-- twisted-type point: `x` even, `y` odd (`∞` counts) -/
def TwT (R : Option (K × K)) : Prop := ∀ x y, R = some (x, y) → Ev σ x ∧ Od σ y

variable {σ}

theorem twT_none : TwT σ none := by intro x y h; cases h
theorem twT_some {x y : K} (hx : Ev σ x) (hy : Od σ y) : TwT σ (some (x, y)) := by
  intro x' y' h; cases h; exact ⟨hx, hy⟩

theorem mapO_sigma_of_twT {R : Option (K × K)} (h : TwT σ R) : mapO σ R = RefBls.neg R := by
  rcases R with _ | ⟨x, y⟩
  · rfl
  · obtain ⟨hx, hy⟩ := h x y rfl
    simp only [mapO_some, RefBls.neg, reduceCtorEq, if_false]
    rw [hx, hy]

theorem mapO_sigma_base {xt yt : K} (hxt : Ev σ xt) (hyt : Ev σ yt) :
    mapO σ (some (xt, yt)) = some (xt, yt) := by
  rw [mapO_some, hxt, hyt]

theorem odd_tangent {x y : K} (hx : Ev σ x) (hy : Od σ y) :
    Od σ ((((3 : ℕ) : K) * x ^ 2) / (((2 : ℕ) : K) * y)) :=
  ((Ev.natCast 3).mul (hx.pow 2)).div_odd ((Ev.natCast 2).mul_odd hy)

theorem odd_chord {x1 y1 x2 y2 : K} (hx1 : Ev σ x1) (hy1 : Od σ y1) (hx2 : Ev σ x2) (hy2 : Od σ y2) :
    Od σ ((y2 - y1) / (x2 - x1)) :=
  (hy2.sub hy1).div_even (hx2.sub hx1)

/-- the point `(m² − x₁ − x₂, −m·newx + m·x₁ − y₁)` of `double` / `add` with an odd slope `m` -/
theorem twT_slope {m x1 y1 x2 : K} (hm : Od σ m) (hx1 : Ev σ x1) (hy1 : Od σ y1) (hx2 : Ev σ x2)
    {nx : K} (hnx : nx = m ^ 2 - x1 - x2) : TwT σ (some (nx, -m * nx + m * x1 - y1)) := by
  have h : Ev σ nx := hnx ▸ (hm.sq.sub hx1).sub hx2
  exact twT_some h (((hm.neg.mul_even h).add (hm.mul_even hx1)).sub hy1)

variable (σ) in
def SgnRel (a b : K) : Prop := b = σ a ∨ b = -σ a

theorem SgnRel.mul {a b c d : K} (h1 : SgnRel σ a b) (h2 : SgnRel σ c d) : SgnRel σ (a * c) (b * d) := by
  unfold SgnRel at *
  rw [map_mul]
  rcases h1 with h1 | h1 <;> rcases h2 with h2 | h2 <;> rw [h1, h2]
  · left; rfl
  · right; ring
  · right; ring
  · left; ring

theorem sgnRel_one : SgnRel σ 1 1 := Or.inl (map_one σ).symm

theorem sgnRel_slope {m x1 y1 xt yt : K} (hm : Od σ m) (hx1 : Ev σ x1) (hy1 : Od σ y1) (hxt : Ev σ xt)
    (hyt : Ev σ yt) : SgnRel σ (m * (xt - x1) - (yt - y1)) (m * (xt - x1) - (-yt - y1)) := by
  unfold Ev at hx1 hxt hyt
  unfold Od at hm hy1
  refine Or.inr ?_
  rw [map_sub, map_sub, map_mul, map_sub, hm, hx1, hy1, hxt, hyt]
  ring

/-- a line with odd slope through a twisted-type point does not vanish at a point with even coordinates,
    `y_T ≠ 0`: its even part is `−y_T` -/
theorem slope_ne_zero (h2 : (2 : K) ≠ 0) {m x1 y1 xt yt : K} (hm : Od σ m) (hx1 : Ev σ x1)
    (hy1 : Od σ y1) (hxt : Ev σ xt) (hyt : Ev σ yt) (hy0 : yt ≠ 0) :
    m * (xt - x1) - (yt - y1) ≠ 0 := fun hl =>
  hy0 (neg_eq_zero.mp (even_add_odd_eq_zero h2 hyt.neg ((hm.mul_even (hxt.sub hx1)).add hy1)
    (by linear_combination hl)).1)

section finalExp
variable {E : ℕ} (hσσ : ∀ x, σ (σ x) = x) (hE : ∀ x : K, x ≠ 0 → Ev σ x → x ^ E = 1)
include hσσ hE

theorem norm_pow_eq_one {x : K} (h0 : x ≠ 0) : (x * σ x) ^ E = 1 :=
  hE _ (mul_ne_zero h0 ((map_ne_zero σ).mpr h0)) (even_mul_sigma hσσ x)

theorem SgnRel.pow_eq_one (h2E : 2 ∣ E) {f f' : K} (h0 : f ≠ 0) (h : SgnRel σ f f') : (f * f') ^ E = 1 := by
  rcases h with h | h
  · rw [h]; exact norm_pow_eq_one hσσ hE h0
  · rw [h, mul_neg, (even_iff_two_dvd.mpr h2E).neg_pow]; exact norm_pow_eq_one hσσ hE h0

end finalExp

variable [DecidableEq K]

theorem twT_double {R : Option (K × K)} (h : TwT σ R) : TwT σ (RefBls.double R) := by
  rcases R with _ | ⟨x, y⟩
  · exact h
  · obtain ⟨hx, hy⟩ := h x y rfl
    simp only [RefBls.double, RefBls.is_inf, reduceCtorEq, decide_false, Bool.false_eq_true, or_self,
      if_false]
    split_ifs
    · exact twT_none
    · exact twT_slope (odd_tangent hx hy) hx hy hx (by ring)

theorem twT_add {A B R : Option (K × K)} (hA : TwT σ A) (hB : TwT σ B)
    (h : RefBls.add A B = .ok R) : TwT σ R := by
  rcases A with _ | ⟨x1, y1⟩ <;> rcases B with _ | ⟨x2, y2⟩
  · simp [RefBls.add] at h; subst h; exact twT_none
  · simp [RefBls.add] at h; subst h; exact hB
  · simp [RefBls.add] at h; subst h; exact hA
  · obtain ⟨hx1, hy1⟩ := hA x1 y1 rfl
    obtain ⟨hx2, hy2⟩ := hB x2 y2 rfl
    simp only [RefBls.add, reduceCtorEq, or_self, if_false] at h
    by_cases c1 : x2 = x1 ∧ y2 = y1
    · rw [if_pos c1] at h; cases h; exact twT_double hA
    rw [if_neg c1] at h
    by_cases c2 : x2 = x1
    · rw [if_pos c2] at h; cases h; exact twT_none
    rw [if_neg c2] at h
    split_ifs at h
    cases h
    exact twT_slope (odd_chord hx1 hy1 hx2 hy2) hx1 hy1 hx2 rfl

theorem linefunc_some (x1 y1 x2 y2 xt yt : K) :
    RefBls.linefunc (some (x1, y1)) (some (x2, y2)) (some (xt, yt)) =
      if x1 ≠ x2 then .ok ((y2 - y1) / (x2 - x1) * (xt - x1) - (yt - y1))
      else if y1 = y2 then
        .ok ((((3 : ℕ) : K) * x1 ^ 2) / (((2 : ℕ) : K) * y1) * (xt - x1) - (yt - y1))
      else .ok (xt - x1) := by
  simp only [RefBls.linefunc, reduceCtorEq, or_self, if_false]

theorem linefunc_none_left (B T : Option (K × K)) :
    RefBls.linefunc (none : Option (K × K)) B T = .error .value := by
  simp [RefBls.linefunc]

theorem line_negT {A B : Option (K × K)} {xt yt l : K} (hA : TwT σ A) (hB : TwT σ B)
    (hxt : Ev σ xt) (hyt : Ev σ yt) (h : RefBls.linefunc A B (some (xt, yt)) = .ok l) :
    ∃ l', RefBls.linefunc A B (some (xt, -yt)) = .ok l' ∧ SgnRel σ l l' := by
  rcases A with _ | ⟨x1, y1⟩
  · simp [RefBls.linefunc] at h
  rcases B with _ | ⟨x2, y2⟩
  · simp [RefBls.linefunc] at h
  obtain ⟨hx1, hy1⟩ := hA x1 y1 rfl
  obtain ⟨hx2, hy2⟩ := hB x2 y2 rfl
  rw [linefunc_some] at h ⊢
  by_cases c1 : x1 ≠ x2
  · rw [if_pos c1] at h ⊢
    cases h
    exact ⟨_, rfl, sgnRel_slope (odd_chord hx1 hy1 hx2 hy2) hx1 hy1 hxt hyt⟩
  rw [if_neg c1] at h ⊢
  by_cases c2 : y1 = y2
  · rw [if_pos c2] at h ⊢
    cases h
    exact ⟨_, rfl, sgnRel_slope (odd_tangent hx1 hy1) hx1 hy1 hxt hyt⟩
  · rw [if_neg c2] at h ⊢
    cases h
    exact ⟨_, rfl, Or.inl (hxt.sub hx1).symm⟩

theorem add_vertical {x y1 y2 : K} (h : y1 ≠ y2) : RefBls.add (some (x, y1)) (some (x, y2)) = .ok none := by
  simp only [RefBls.add, reduceCtorEq, or_self, if_false]
  rw [if_neg fun c => h c.2.symm, if_pos trivial]

theorem line_ne_zero (h2 : (2 : K) ≠ 0) {A B : Option (K × K)} {xt yt l : K} (hA : TwT σ A) (hB : TwT σ B)
    (hxt : Ev σ xt) (hyt : Ev σ yt) (hy0 : yt ≠ 0) (h : RefBls.linefunc A B (some (xt, yt)) = .ok l) :
    l ≠ 0 ∨ ∃ x y1 y2, A = some (x, y1) ∧ B = some (x, y2) ∧ y1 ≠ y2 ∧ l = xt - x := by
  rcases A with _ | ⟨x1, y1⟩
  · rw [linefunc_none_left] at h; cases h
  rcases B with _ | ⟨x2, y2⟩
  · simp [RefBls.linefunc] at h
  obtain ⟨hx1, hy1⟩ := hA x1 y1 rfl
  obtain ⟨hx2, hy2⟩ := hB x2 y2 rfl
  rw [linefunc_some] at h
  by_cases c1 : x1 ≠ x2
  · rw [if_pos c1] at h
    cases h
    exact .inl (slope_ne_zero h2 (odd_chord hx1 hy1 hx2 hy2) hx1 hy1 hxt hyt hy0)
  rw [if_neg c1] at h
  by_cases c2 : y1 = y2
  · rw [if_pos c2] at h
    cases h
    exact .inl (slope_ne_zero h2 (odd_tangent hx1 hy1) hx1 hy1 hxt hyt hy0)
  · rw [if_neg c2] at h
    cases h
    obtain rfl := not_not.mp c1
    exact .inr ⟨x1, y1, y2, rfl, rfl, c2, rfl⟩

end PyEcc.ConjSem
