/-
  The reference `miller_loop` as one function of the coordinate type: the body `stepG` and the loop `loopG` (the
  expression of `refMillerStep` of `Model/Pairing.lean` around the GENERATED `Gen.RefBls.linefunc / double / add`;
  `Gen.RefBn.*` are the same code), the Frobenius steps and final power `tailG` of bn128, and the whole, `millerG frob`.
  An injective operation-preserving map commutes with it (`millerG_map`), and so does a `GoodHom` such as `toQ` on
  reduced `FQ12` elements (`millerG_good`): a fact proved over the field is one about the model's loop.
-/
import PyEcc.Lemmas.MillerRefTransfer
import PyEcc.Lemmas.MillerModel

set_option linter.unusedSectionVars false

namespace PyEcc.NegSem
open PyEcc PyEcc.Gen PyEcc.MillerSem
open PyEcc.Transfer (OpHom GoodHom GoodSub)

section generic
variable {A B : Type}
  [Zero A] [One A] [Add A] [Sub A] [Mul A] [Neg A] [Div A] [NatCast A] [Pow A Nat] [DecidableEq A]
  [Zero B] [One B] [Add B] [Sub B] [Mul B] [Neg B] [Div B] [NatCast B] [Pow B Nat] [DecidableEq B]

/-- body of the reference loop `for i in range(log_ate_loop_count, -1, -1)` over any coordinate type -/
def stepG (ate : Nat) (Q P : Option (A × A)) (st : A × Option (A × A)) (i : Nat) :
    Except PyErr (A × Option (A × A)) :=
  RefBls.linefunc st.2 st.2 P >>= fun l =>
    if bitSet ate i then
      RefBls.linefunc (RefBls.double st.2) Q P >>= fun l2 =>
        RefBls.add (RefBls.double st.2) Q >>= fun R2 => pure (st.1 * st.1 * l * l2, R2)
    else pure (st.1 * st.1 * l, RefBls.double st.2)

section step
variable {ate i : Nat} {Q P R : Option (A × A)} {f : A} {s : A × Option (A × A)}

/-- what an iteration that returns `s` did: the tangent line `l` at `R`, and for a clear bit `R ← 2R`; for a set bit
    also the chord `l2` through `2R` and `Q`, and `R ← 2R + Q` -/
theorem stepG_eq_ok : stepG ate Q P (f, R) i = .ok s ↔ ∃ l, RefBls.linefunc R R P = .ok l ∧
    (bitSet ate i = false ∧ s = (f * f * l, RefBls.double R) ∨
      bitSet ate i = true ∧ ∃ l2 R2, RefBls.linefunc (RefBls.double R) Q P = .ok l2 ∧
        RefBls.add (RefBls.double R) Q = .ok R2 ∧ s = (f * f * l * l2, R2)) := by
  constructor
  · intro h
    obtain ⟨l, h1, h⟩ := bind_eq_ok h
    refine ⟨l, h1, ?_⟩
    cases hb : bitSet ate i
    · rw [hb] at h
      exact .inl ⟨rfl, (Except.ok.inj h).symm⟩
    · rw [hb, if_pos rfl] at h
      obtain ⟨l2, h2, h⟩ := bind_eq_ok h
      obtain ⟨R2, h3, h⟩ := bind_eq_ok h
      exact .inr ⟨rfl, l2, R2, h2, h3, (Except.ok.inj h).symm⟩
  · rintro ⟨l, h1, ⟨hb, rfl⟩ | ⟨hb, l2, R2, h2, h3, rfl⟩⟩
    · rw [stepG, h1, ok_bind, hb]
      rfl
    · rw [stepG, h1, ok_bind, hb, if_pos rfl, h2, ok_bind, h3]
      rfl

end step

def loopG (ate : Nat) (is : List Nat) (Q P : Option (A × A)) (st : A × Option (A × A)) :
    Except PyErr (A × Option (A × A)) :=
  is.foldlM (stepG ate Q P) st

theorem loopG_nil (ate : Nat) (Q P : Option (A × A)) (st : A × Option (A × A)) :
    loopG ate [] Q P st = .ok st := rfl

theorem loopG_cons (ate : Nat) (i : Nat) (is : List Nat) (Q P : Option (A × A))
    (st : A × Option (A × A)) :
    loopG ate (i :: is) Q P st = (stepG ate Q P st i >>= fun s => loopG ate is Q P s) := by
  unfold loopG; rw [List.foldlM_cons]

def mapSt (ψ : A → B) (st : A × Option (A × A)) : B × Option (B × B) := (ψ st.1, mapO ψ st.2)

theorem mapSt_mk (ψ : A → B) (f : A) (R : Option (A × A)) : mapSt ψ (f, R) = (ψ f, Transfer.mapO ψ R) := rfl

theorem err_bind {ε α β : Type} (e : ε) (f : α → Except ε β) : (Except.error e >>= f) = .error e := error_bind e f
theorem map_err {ε α β : Type} (f : α → β) (e : ε) :
    Except.map f (Except.error e : Except ε α) = .error e := map_error f e

theorem stepG_map {ψ : A → B} (h : OpHom ψ) (ate : Nat) (Q P : Option (A × A))
    (st : A × Option (A × A)) (i : Nat) :
    (stepG ate Q P st i).map (mapSt ψ) = stepG ate (Transfer.mapO ψ Q) (Transfer.mapO ψ P) (mapSt ψ st) i := by
  obtain ⟨f, R⟩ := st
  unfold stepG
  simp only [mapSt_mk]
  rw [← linefunc_map h R R P, ← Transfer.BlsRef.double_map h]
  rcases RefBls.linefunc R R P with e | l
  · rfl
  · simp only [map_ok, ok_bind]
    cases bitSet ate i
    · simp only [Bool.false_eq_true, if_false]
      show Except.ok (ψ _, Transfer.mapO ψ _) = Except.ok _
      rw [h.map_mul, h.map_mul]
    · simp only [if_true]
      rw [← linefunc_map h, ← Transfer.BlsRef.add_map h]
      rcases RefBls.linefunc (RefBls.double R) Q P with e | l2
      · rfl
      · simp only [map_ok, ok_bind]
        rcases RefBls.add (RefBls.double R) Q with e | R2
        · rfl
        · simp only [ok_bind, Transfer.mapE_ok]
          show Except.ok (ψ _, Transfer.mapO ψ _) = Except.ok _
          rw [h.map_mul, h.map_mul, h.map_mul]

theorem loopG_map {ψ : A → B} (h : OpHom ψ) (ate : Nat) (Q P : Option (A × A)) (is : List Nat)
    (st : A × Option (A × A)) :
    (loopG ate is Q P st).map (mapSt ψ) = loopG ate is (Transfer.mapO ψ Q) (Transfer.mapO ψ P) (mapSt ψ st) :=
  (foldlM_map (mapSt ψ) (fun st i => (stepG_map h ate Q P st i).symm) is st).symm

end generic

/-- `refMillerStep` around the generated reference functions (`refBlsOps`; `refBnOps`, whose generated functions
    are the same code) is the generic loop body -/
theorem refMillerStep_eq_stepG {p : Nat} {mc12 : List Int} {ops : RefOps p mc12}
    (h : ops = ⟨RefBls.linefunc, RefBls.double, RefBls.add⟩) (ate : Nat)
    (Q P : Option (Fqp .ref p mc12 × Fqp .ref p mc12)) : refMillerStep ops ate Q P = stepG ate Q P := by
  subst h
  rfl

end PyEcc.NegSem

namespace PyEcc.NegBnSem
open PyEcc PyEcc.Gen PyEcc.MillerSem PyEcc.NegSem
open PyEcc.Transfer (OpHom GoodHom GoodSub)

section generic
variable {A B : Type}
  [Zero A] [One A] [Add A] [Sub A] [Mul A] [Neg A] [Div A] [NatCast A] [Pow A Nat] [DecidableEq A]
  [Zero B] [One B] [Add B] [Sub B] [Mul B] [Neg B] [Div B] [NatCast B] [Pow B Nat] [DecidableEq B]

/-- what the reference `miller_loop` does after the loop: with `frob` (bn128) the two Frobenius line steps around the
    generated `linefunc`, `add`; then the final power -/
def tailG (frob : Bool) (p E : Nat) (qx qy : A) (P : Option (A × A)) (s : A × Option (A × A)) : Except PyErr A :=
  if frob then refTailG RefBls.linefunc RefBls.add p E qx qy P s else pure (s.1 ^ E)

/-- what Frobenius steps that return `v` did: the line `l1` through `R` and `π(q)`, `R' = R + π(q)`, the line `l2`
    through `R'` and `−π²(q)` -/
theorem tailG_eq_ok {p E : Nat} {qx qy f v : A} {P R : Option (A × A)} :
    tailG true p E qx qy P (f, R) = .ok v ↔
      ∃ l1 R' l2, RefBls.linefunc R (some (qx ^ p, qy ^ p)) P = .ok l1 ∧
        RefBls.add R (some (qx ^ p, qy ^ p)) = .ok R' ∧
        RefBls.linefunc R' (some ((qx ^ p) ^ p, -((qy ^ p) ^ p))) P = .ok l2 ∧ v = (f * l1 * l2) ^ E := by
  constructor
  · intro h
    obtain ⟨l1, h1, h⟩ := bind_eq_ok h
    obtain ⟨R', h2, h⟩ := bind_eq_ok h
    obtain ⟨l2, h3, h⟩ := bind_eq_ok h
    exact ⟨l1, R', l2, h1, h2, h3, (Except.ok.inj h).symm⟩
  · rintro ⟨l1, R', l2, h1, h2, h3, rfl⟩
    rw [tailG, if_pos rfl, refTailG, h1, ok_bind, h2, ok_bind, h3]
    rfl

/-- the reference `miller_loop` on finite points (`frob`: bn128; without: bls12_381) -/
def millerG (frob : Bool) (p ate : Nat) (is : List Nat) (E : Nat) (qx qy : A) (P : Option (A × A)) :
    Except PyErr A :=
  loopG ate is (some (qx, qy)) P (1, some (qx, qy)) >>= tailG frob p E qx qy P

theorem millerG_false {p ate : Nat} {is : List Nat} {E : Nat} {qx qy : A} {P : Option (A × A)}
    {s : A × Option (A × A)} (h : loopG ate is (some (qx, qy)) P (1, some (qx, qy)) = .ok s) :
    millerG false p ate is E qx qy P = .ok (s.1 ^ E) := by
  unfold millerG
  rw [h]
  rfl

theorem tailG_map {ψ : A → B} (h : OpHom ψ) (frob : Bool) (p E : Nat) (qx qy : A) (P : Option (A × A))
    (s : A × Option (A × A)) :
    (tailG frob p E qx qy P s).map ψ = tailG frob p E (ψ qx) (ψ qy) (Transfer.mapO ψ P) (mapSt ψ s) := by
  obtain ⟨f, R⟩ := s
  cases frob
  · exact congrArg Except.ok (h.map_pow f E)
  unfold tailG refTailG
  simp only [mapSt_mk, if_true]
  have q1 : Transfer.mapO ψ (some (qx ^ p, qy ^ p)) = some (ψ qx ^ p, ψ qy ^ p) := by
    rw [Transfer.mapO_some, h.map_pow, h.map_pow]
  have q2 : Transfer.mapO ψ (some ((qx ^ p) ^ p, -((qy ^ p) ^ p))) = some ((ψ qx ^ p) ^ p, -((ψ qy ^ p) ^ p)) := by
    rw [Transfer.mapO_some, h.map_pow, h.map_pow, h.map_neg, h.map_pow, h.map_pow]
  rw [← q1, ← q2, ← linefunc_map h, ← Transfer.BlsRef.add_map h]
  rcases RefBls.linefunc R (some (qx ^ p, qy ^ p)) P with e | l1
  · rfl
  simp only [map_ok, ok_bind]
  rcases RefBls.add R (some (qx ^ p, qy ^ p)) with e | R'
  · rfl
  simp only [ok_bind, Transfer.mapE_ok]
  rw [← linefunc_map h]
  rcases RefBls.linefunc R' (some ((qx ^ p) ^ p, -((qy ^ p) ^ p))) P with e | l2
  · rfl
  simp only [map_ok, ok_bind]
  show Except.ok (ψ _) = Except.ok _
  rw [h.map_pow, h.map_mul, h.map_mul]

theorem millerG_map {ψ : A → B} (h : OpHom ψ) (frob : Bool) (p ate : Nat) (is : List Nat) (E : Nat) (qx qy : A)
    (P : Option (A × A)) :
    (millerG frob p ate is E qx qy P).map ψ = millerG frob p ate is E (ψ qx) (ψ qy) (Transfer.mapO ψ P) := by
  unfold millerG
  have e := loopG_map h ate (some (qx, qy)) P is (1, some (qx, qy))
  have e1 : mapSt ψ ((1 : A), some (qx, qy)) = ((1 : B), some (ψ qx, ψ qy)) := by
    show (ψ 1, _) = _
    rw [h.map_one]; rfl
  rw [e1, Transfer.mapO_some] at e
  rw [← e]
  rcases loopG ate is (some (qx, qy)) P (1, some (qx, qy)) with e | s
  · rfl
  · simp only [map_ok, ok_bind]
    exact tailG_map h frob p E qx qy P s

end generic

section goodhom
variable {A B : Type}
  [Zero A] [One A] [Add A] [Sub A] [Mul A] [Neg A] [Div A] [NatCast A] [Pow A Nat] [DecidableEq A]
  [Zero B] [One B] [Add B] [Sub B] [Mul B] [Neg B] [Div B] [NatCast B] [Pow B Nat] [DecidableEq B]
variable {Good : A → Prop} {φ : A → B} (h : GoodHom Good φ)
include h

/-- **transport along a `GoodHom`**: on good inputs the reference `miller_loop` has the same outcome as on the
    images — an exception, or a good value that `φ` maps to the value returned there -/
theorem millerG_good (frob : Bool) (p ate : Nat) (is : List Nat) (E : Nat) {qx qy : A} {P : Option (A × A)}
    (gx : Good qx) (gy : Good qy) (gP : Transfer.GoodO Good P) :
    (∀ r, millerG frob p ate is E qx qy P = .ok r → Good r)
      ∧ (millerG frob p ate is E qx qy P).map φ = millerG frob p ate is E (φ qx) (φ qy) (Transfer.mapO φ P) := by
  have e1 := millerG_map (GoodSub.opHom_img h) frob p ate is E (GoodSub.mk h qx gx) (GoodSub.mk h qy gy)
    (GoodSub.liftO h P gP)
  have e2 := millerG_map (GoodSub.opHom_val h) frob p ate is E (GoodSub.mk h qx gx) (GoodSub.mk h qy gy)
    (GoodSub.liftO h P gP)
  rw [GoodSub.img_liftO] at e1
  rw [GoodSub.val_liftO] at e2
  rw [← show _ = millerG frob p ate is E (φ qx) (φ qy) (Transfer.mapO φ P) from e1,
    ← show _ = millerG frob p ate is E qx qy P from e2]
  exact good_of_val_img (val := GoodSub.val h) (img := GoodSub.img h) (fun X => X.2) (fun _ => rfl) _

end goodhom

/-- the model's reference `miller_loop` on finite points, around the generated reference functions (`refBlsOps`;
    `refBnOps`: the same code), is `millerG` at the model's `FQ12` -/
theorem refMillerLoop_eq_millerG {p : Nat} {mc12 : List Int} {ops : RefOps p mc12}
    (h : ops = ⟨RefBls.linefunc, RefBls.double, RefBls.add⟩) (ate logAte : Nat) (frob : Bool) (E : Nat)
    (qx qy : Fqp .ref p mc12) (pp : Fqp .ref p mc12 × Fqp .ref p mc12) :
    refMillerLoop ops ate logAte frob E (some (qx, qy)) (some pp)
      = millerG frob p ate (downTo logAte) E qx qy (some pp) := by
  subst h
  cases frob <;> rfl

end PyEcc.NegBnSem
