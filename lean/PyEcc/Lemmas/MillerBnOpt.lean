/-
  PyEcc.Lemmas.MillerBnOpt — the optimized bn128 Miller loop (`optBnStep` of `Lemmas/MillerBnNaturality.lean`: signed
  digits, projective running point `R`, numerator/denominator pairs) over a field against the abstract Miller
  values: invariant `OInv k`: `R` represents `k·T`, `f_den ≠ 0`, and `f_num / f_den` is a Miller value for `k`
  (`Lemmas/MillerBnLoop.lean` has the context `Ctx`, the running scalar and the reference loop).
-/
import PyEcc.Lemmas.MillerBnLoop
import PyEcc.Lemmas.MillerBnNaturality
import PyEcc.Props.C07Opt_Bls

namespace PyEcc.MillerBnSem
open PyEcc PyEcc.Gen PyEcc.C13 PyEcc.C13.Bls WeierstrassCurve WeierstrassCurve.Affine

variable {K : Type} [Field K] [DecidableEq K] {b : K} {r E : ℕ}

theorem z_ne_of_represents {X : K × K × K} {A : CurvePt b} (rA : Represents X A) (hA : A ≠ 0) :
    X.2.2 ≠ 0 := by
  intro hz
  apply hA
  have : toAff X = reprRef A := rA
  rw [toAff_of_z_eq_zero hz] at this
  rcases A with _ | ⟨x, y, h⟩
  · rfl
  · cases this

theorem y_ne_of_represents {X : K × K × K} {A : CurvePt b} (rA : Represents X A) (hA : A ≠ 0)
    (h2 : A + A ≠ 0) : X.2.1 ≠ 0 := by
  intro hy
  have e : toAff X = reprRef A := rA
  rw [toAff_of_z_ne_zero (z_ne_of_represents rA hA)] at e
  rcases A with _ | ⟨x, y, h⟩
  · exact hA rfl
  · simp only [reprRef_some, Option.some.injEq, Prod.mk.injEq] at e
    apply h2
    apply Point.add_self_of_Y_eq
    rw [CurveSem.negY_W, ← e.2, hy, zero_div, neg_zero]

theorem acc_mul {N D n d lv : K} (hD : D ≠ 0) (hd : d ≠ 0 ∧ n / d = lv) :
    D * d ≠ 0 ∧ N * n / (D * d) = N / D * lv := by
  rw [← hd.2, mul_div_mul_comm]
  exact ⟨mul_ne_zero hD hd.1, rfl⟩

structure OInv {T : CurvePt b} {xP yP : K} (c : Ctx r E T xP yP) (k : ℕ) (st : (K × K) × (K × K × K)) :
    Prop where
  den : st.1.2 ≠ 0
  rR : Represents st.2 (k • T)
  mv : MV c.hP E T k (st.1.1 / st.1.2)

section opt
variable {T : CurvePt b} {xP yP : K} (c : Ctx r E T xP yP) {Qo castP : K × K × K}
  (rQ : Represents Qo T) (rP : toAff castP = some (xP, yP))
include c rP

theorem opt_line {T1 T2 : K × K × K} {A B : CurvePt b} (r1 : Represents T1 A) (r2 : Represents T2 B)
    (hA : A ≠ 0) (hB : B ≠ 0) (hAB : A + B ≠ 0) (hAA : A + A ≠ 0) :
    (OptBls.linefunc T1 T2 castP).2 ≠ 0
      ∧ (OptBls.linefunc T1 T2 castP).1 / (OptBls.linefunc T1 T2 castP).2 = lineVal c.hP A B := by
  have hz1 := z_ne_of_represents r1 hA
  have hz2 := z_ne_of_represents r2 hB
  have hzt : castP.2.2 ≠ 0 := fun h => by rw [toAff_of_z_eq_zero h] at rP; cases rP
  have hd : (OptBls.linefunc T1 T2 castP).2 ≠ 0 := fun h =>
    y_ne_of_represents r1 hA hAA ((opt_linefunc_den_eq_zero_iff c.two _ _ _ hz1 hz2 hzt).mp h).2
  have hl := opt_linefunc_toAff _ _ _ hz1 hz2 hzt hd
  rw [show toAff T1 = reprRef A from r1, show toAff T2 = reprRef B from r2, rP,
    ref_linefunc_lineVal c.hP hA hB hAB] at hl
  exact ⟨hd, (Except.ok.inj hl).symm⟩

include rQ

theorem opt_step (v : Int) {k : ℕ} {st : (K × K) × (K × K × K)} (inv : OInv c k st) (k0 : 0 < k)
    (kb : 2 * k + 1 < r) : OInv c (optNext k v) (optBnStep Qo castP st v) := by
  obtain ⟨⟨fN, fD⟩, R⟩ := st
  obtain ⟨den, rR, mv⟩ := inv
  simp only at den rR mv
  obtain ⟨hk, hkk, h2k, h2kT, h2k1⟩ := c.finite k0 kb
  have e2k : (2 * k) • T = k • T + k • T := by rw [two_mul, add_nsmul]
  have rR' : Represents (OptBls.double R) ((2 * k) • T) := e2k ▸ C07Opt.Bls.opt_double_refines c.two rR
  obtain ⟨den1, val1⟩ := acc_mul (N := fN) den ⟨den, rfl⟩
  obtain ⟨den', val'⟩ := acc_mul (N := fN * fN) den1 (opt_line c rP rR rR hk hk hkk hkk)
  have mv2 := mv.double c.hP E hk h2k (c.vert _ h2k)
  rw [← val1, ← val'] at mv2
  have h2k2 := c.no2 h2k
  rw [optBnStep, optBnStepG_eq, optNext]
  by_cases hv1 : v = 1
  · rw [if_pos hv1, if_pos hv1]
    obtain ⟨den'', val''⟩ := acc_mul (N := fN * fN * (OptBls.linefunc R R castP).1) den'
      (opt_line c rP rR' rQ h2k c.T0 h2kT h2k2)
    exact ⟨den'', succ_nsmul T (2 * k) ▸ C07Opt.Bls.opt_add_refines c.two rR' rQ,
      val'' ▸ mv2.add c.hP E c.T0 h2k h2k1 (c.vert _ h2k1)⟩
  rw [if_neg hv1, if_neg hv1]
  by_cases hv2 : v = -1
  · rw [if_pos hv2, if_pos hv2]
    have hkm : 2 * k - 1 + 1 = 2 * k := by omega
    have h2km : (2 * k - 1) • T ≠ 0 := c.ne_zero (by omega) (by omega)
    have esub : (2 * k - 1) • T = (2 * k) • T + -T := by
      conv_rhs => rw [← hkm, succ_nsmul]
      abel
    obtain ⟨den'', val''⟩ := acc_mul (N := fN * fN * (OptBls.linefunc R R castP).1) den'
      (opt_line c rP rR' (C07Opt.Bls.opt_neg_refines rQ) h2k (neg_ne_zero.mpr c.T0) (esub ▸ h2km) h2k2)
    rw [← hkm] at mv2
    have mv3 := mv2.sub c.hP E c.T0 (by rw [hkm]; exact h2k) h2km (c.vert _ h2km) c.vertT
    rw [hkm] at mv3
    exact ⟨den'', esub ▸ C07Opt.Bls.opt_add_refines c.two rR' (C07Opt.Bls.opt_neg_refines rQ),
      val'' ▸ mv3⟩
  · rw [if_neg hv2, if_neg hv2]
    exact ⟨den', rR', mv2⟩

theorem opt_loop : ∀ (ds : List Int) (k : ℕ) (st : (K × K) × (K × K × K)), OInv c k st →
    OptBound r k ds → OInv c (optScalar k ds) (ds.foldl (optBnStep Qo castP) st)
  | [], _, _, inv, _ => inv
  | v :: ds, _, _, inv, hb => opt_loop ds _ _ (opt_step c rQ rP v inv hb.1 hb.2.1) hb.2.2

end opt

end PyEcc.MillerBnSem
