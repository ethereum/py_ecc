/-
  Names for the intermediate values of `optimized_swu_G2(t)` /
  `sqrt_division_FQ2(u, v)` and the shape of their results.  Core Lean only (no Mathlib), so that every
  `+ * ^ - 0 1` below is, syntactically, the operation of the executable model `PyEcc/Model/Fqp.lean`
  that `optimizedSwuG2` itself uses.

  The two `for` loops ("take the first table entry that passes the test") are described by what they
  return (`foldl_first`): an entry that passes the test, or the initial value if none does.
-/
import PyEcc.Model.Swu
import PyEcc.Lemmas.Control

namespace PyEcc.Swu2

/-- A loop `for x in l: if c(x) and not found: found, res = True, g(x)`, however its body `step` is
    written: it returns `(True, g(x))` for an entry `x` with `c(x)`, or the initial `(False, y)` if
    there is none. -/
theorem foldl_first {α β : Type} {c : α → Prop} {g : α → β} {step : Bool × β → α → Bool × β}
    (hT : ∀ y x, step (true, y) x = (true, y))
    (hc : ∀ y x, c x → step (false, y) x = (true, g x))
    (hn : ∀ y x, ¬ c x → step (false, y) x = (false, y)) (l : List α) (y : β) :
    (∃ x ∈ l, c x ∧ l.foldl step (false, y) = (true, g x)) ∨
    ((∀ x ∈ l, ¬ c x) ∧ l.foldl step (false, y) = (false, y)) := by
  induction l with
  | nil => exact Or.inr ⟨fun _ h => (nomatch h), rfl⟩
  | cons x xs ih =>
    rw [List.foldl_cons]
    by_cases hx : c x
    · rw [hc y x hx]
      -- once found, the state no longer changes
      exact Or.inl ⟨x, List.mem_cons_self, hx, foldl_inv (· = (true, g x)) rfl fun _ a h => h ▸ hT _ a⟩
    · rw [hn y x hx]
      exact ih.imp (fun ⟨x', hm, h⟩ => ⟨x', List.mem_cons_of_mem _ hm, h⟩)
        fun ⟨hall, e⟩ => ⟨List.forall_mem_cons.mpr ⟨hx, hall⟩, e⟩

/-! ### `sqrt_division_FQ2` -/

/-- `gamma = (u v⁷ · v⁸)^((p²−9)/16) · u v⁷` -/
def gammaOf (u v : F2) : F2 := (u * v ^ 7 * v ^ 8) ^ Gen.Consts.h2c_P_MINUS_9_DIV_16 * (u * v ^ 7)

theorem sqrtDivisionFq2_cases (u v : F2) :
    (∃ root ∈ POSITIVE_EIGHTH_ROOTS_OF_UNITY, (root * gammaOf u v) ^ 2 * v - u = (0 : F2) ∧
      sqrtDivisionFq2 u v = (true, root * gammaOf u v)) ∨
    ((∀ root ∈ POSITIVE_EIGHTH_ROOTS_OF_UNITY, ¬ (root * gammaOf u v) ^ 2 * v - u = (0 : F2)) ∧
      sqrtDivisionFq2 u v = (false, gammaOf u v)) := by
  unfold sqrtDivisionFq2
  extract_lets temp1 temp2 g0 g
  have hg : g = gammaOf u v := rfl
  rw [hg]
  refine foldl_first (c := fun root => (root * gammaOf u v) ^ 2 * v - u = (0 : F2))
    (g := fun root => root * gammaOf u v) ?_ ?_ ?_ _ _
  · intro y x
    simp only [Bool.not_true, Bool.false_eq_true, and_false, if_false]
  · intro y x hx
    simp only [hx, Bool.not_false, and_self, if_true]
  · intro y x hx
    simp only [hx, false_and, if_false]

/-! ### `optimized_swu_G2` -/

/-- `temp = Z t² + (Z t²)²` -/
def sT (t : F2) : F2 := ISO_3_Z * t ^ 2 + (ISO_3_Z * t ^ 2) ^ 2
/-- `denominator` after the exceptional-case fix -/
def sD (t : F2) : F2 :=
  if -(ISO_3_A * sT t) = (0 : F2) then ISO_3_Z * ISO_3_A else -(ISO_3_A * sT t)
/-- `numerator` (before the second-branch update) -/
def sN (t : F2) : F2 := ISO_3_B * (sT t + (1 : F2))
/-- `v = D³` -/
def sV (t : F2) : F2 := sD t ^ 3
/-- `u = N³ + A·N·D² + B·D³` -/
def sU (t : F2) : F2 := sN t ^ 3 + ISO_3_A * sN t * sD t ^ 2 + ISO_3_B * sV t
/-- `success` -/
def sOk (t : F2) : Bool := (sqrtDivisionFq2 (sU t) (sV t)).1
/-- the candidate returned by `sqrt_division_FQ2` -/
def sR (t : F2) : F2 := (sqrtDivisionFq2 (sU t) (sV t)).2
/-- `sqrt_candidate * t**3` -/
def sC (t : F2) : F2 := sR t * t ^ 3
/-- `u(x1) = (Z t²)³ · u` -/
def sU' (t : F2) : F2 := (ISO_3_Z * t ^ 2) ^ 3 * sU t
/-- the `ETAS` loop: `(success_2, y)` after it -/
def sLoop (t : F2) : Bool × F2 :=
  ETAS.foldl (fun (st : Bool × F2) eta =>
    let (success2, y) := st
    let etaSqrtCandidate := eta * sC t
    let temp1 := etaSqrtCandidate ^ 2 * sV t - sU' t
    if temp1 = (0 : F2) ∧ !sOk t ∧ !success2 then (true, etaSqrtCandidate) else (success2, y)) (false, sR t)
/-- `y` after the sign fix, before the multiplication by `denominator` -/
def sY (t : F2) : F2 :=
  if Fqp.sgn0_fq2 t ≠ Fqp.sgn0_fq2 (sLoop t).2 then -(sLoop t).2 else (sLoop t).2
/-- final `numerator` -/
def sN' (t : F2) : F2 := if sOk t then sN t else sN t * (ISO_3_Z * t ^ 2)

theorem optimizedSwuG2_eq (t : F2) :
    optimizedSwuG2 t =
      if (!sOk t) = true ∧ (!(sLoop t).1) = true then .error .other
      else .ok (sN' t, sY t * sD t, sD t) := by
  -- the body is folded back into the named values by rewriting: left to compare the two sides by
  -- unfolding, the kernel runs both loops as far as it can
  rw [optimizedSwuG2, ← sT, ← sD, ← sN, ← sV, ← sU, ← sU']
  rw [sN', sY, sLoop, sC, sOk, sR]
  generalize sqrtDivisionFq2 (sU t) (sV t) = r
  obtain ⟨b, c⟩ := r
  dsimp only
  generalize List.foldl _ _ ETAS = r2
  obtain ⟨b2, y⟩ := r2
  cases b <;> rfl

theorem sLoop_of_ok {t : F2} (h : sOk t = true) : sLoop t = (false, sR t) := by
  rw [sLoop, h]
  exact foldl_inv (· = (false, sR t)) rfl fun _ eta e => by
    subst e
    simp only [Bool.not_true, Bool.false_eq_true, false_and, and_false, if_false]

theorem sLoop_cases {t : F2} (h : sOk t = false) :
    (∃ eta ∈ ETAS, (eta * sC t) ^ 2 * sV t - sU' t = (0 : F2) ∧ sLoop t = (true, eta * sC t)) ∨
    ((∀ eta ∈ ETAS, ¬ (eta * sC t) ^ 2 * sV t - sU' t = (0 : F2)) ∧ sLoop t = (false, sR t)) := by
  rw [sLoop, h]
  refine foldl_first (c := fun eta => (eta * sC t) ^ 2 * sV t - sU' t = (0 : F2))
    (g := fun eta => eta * sC t) ?_ ?_ ?_ _ _
  · intro y x
    simp only [Bool.not_true, Bool.false_eq_true, and_false, if_false]
  · intro y x hx
    simp only [hx, Bool.not_false, and_self, if_true]
  · intro y x hx
    simp only [hx, false_and, if_false]

end PyEcc.Swu2
