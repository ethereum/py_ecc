/-
  The optimized BLS12-381 Miller loop re-expressed over the fast `FQ12`
  arithmetic (`Lemmas/NondegFast.lean` at `w¹² = 2w⁶ − 2`), and the proof that it returns the
  coefficient list the model's `optBlsMillerLoop` returns — for ALL inputs `Q`, `P`, digit lists and
  exponents.

  The running point `R` is kept over the fast `FQ2` (`Gi blsP`, `Lemmas/FastFq2.lean`), where `double` and
  `add` are the GENERATED generic functions; `twist` and `cast_point_to_fq12` are the model's functions read
  back into the fast type (`ofL`); `linefunc` is the generated generic function instantiated at the fast
  type (`Transfer.Bls.good_*` + `goodHom_toL`, `Gi.goodHom_toF`); the one division `f_num / f_den` is the
  model's.
-/
import PyEcc.Lemmas.NondegFast
import PyEcc.Lemmas.FastFq2
import PyEcc.Lemmas.TwistBls
import PyEcc.Lemmas.BlsFrobW
import PyEcc.Lemmas.TransferOptBls

namespace PyEcc.NondegSem
open PyEcc PyEcc.Gen PyEcc.Gen.Consts PyEcc.Fqp PyEcc.FqpSem PyEcc.MillerSem
open PyEcc.Transfer (mapT mapP GoodT GoodP mapT_mk mapP_mk)
open X12 (Good)
open F12

instance : Reduces blsP blsMc12 2 2 where
  len := by decide
  hw := by linear_combination PairingSem.y_sq

/-- the fast `FQ12` of BLS12-381 -/
abbrev FBls : Type := F12 blsP blsMc12 2 2

theorem X12.toL_eq (x : X12) : X12.toL x = F12.toL (F12.of x : FBls) := rfl

/-- projective points over the fast `FQ12` of BLS12-381 -/
abbrev TX : Type := FBls × FBls × FBls
/-- projective points over the fast `FQ2` (`Gi`) of BLS12-381 -/
abbrev TG : Type := Gi blsP × Gi blsP × Gi blsP

/-- the model `FQ2` triple with the coefficients of a fast one -/
def toT2 (R : TG) : T2 := mapT Gi.toF R

/-- `twist(R)` read into the fast representation -/
def twistX (R : TG) : TX := mapT ofL (twistOptBls (toT2 R) : T12)

/-- `cast_point_to_fq12(P)` read into the fast representation -/
def castX (P : Fq blsP × Fq blsP × Fq blsP) : TX :=
  mapT ofL ((castFq12 P.1, castFq12 P.2.1, castFq12 P.2.2) : T12)

/-- body of `for v in pseudo_binary_encoding[62::-1]` of the optimized `miller_loop` over the fast types:
    `optBlsStepG` at the generated curve operations (as `MillerSem.optBlsStep` is), with `twistX` for `twist` -/
abbrev stepX (castP twistQ : TX) (Q : TG) (st : (FBls × FBls) × TG × TX) (v : Int) : (FBls × FBls) × TG × TX :=
  optBlsStepG Gen.OptBls.linefunc Gen.OptBls.double Gen.OptBls.add twistX castP twistQ Q st v

/-- the pair `(f_num, f_den)` after the loop -/
def millerX (digits : List Int) (Q : TG) (P : Fq blsP × Fq blsP × Fq blsP) : FBls × FBls :=
  (digits.foldl (stepX (castX P) (twistX Q) Q) (((1 : FBls), (1 : FBls)), Q, twistX Q)).1

theorem twistX_spec (R : TG) :
    GoodT (Good blsP) (twistX R) ∧ mapT toL (twistX R) = (twistOptBls (toT2 R) : T12) :=
  ofL_specT (TwistSem.canonT_twistOptBls _)

theorem castX_spec (P : Fq blsP × Fq blsP × Fq blsP) :
    GoodT (Good blsP) (castX P) ∧
      mapT toL (castX P) = ((castFq12 P.1, castFq12 P.2.1, castFq12 P.2.2) : T12) :=
  ofL_specT
    ⟨PairingSem.canon_castFq12 rfl _, PairingSem.canon_castFq12 rfl _, PairingSem.canon_castFq12 rfl _⟩

/-- the model state denoted by a fast state -/
def liftS (s : (FBls × FBls) × TG × TX) : (OBls12 × OBls12) × T2 × T12 :=
  (mapP toL s.1, toT2 s.2.1, mapT toL s.2.2)

/-- all components of a fast state are reduced -/
def GoodS (s : (FBls × FBls) × TG × TX) : Prop :=
  GoodP (Good blsP) s.1 ∧ GoodT Gi.Good s.2.1 ∧ GoodT (Good blsP) s.2.2

theorem liftS_mk (fN fD : FBls) (R : TG) (tR : TX) :
    liftS ((fN, fD), R, tR) = ((toL fN, toL fD), toT2 R, mapT toL tR) := rfl

theorem stepX_spec {castP twistQ : TX} (gc : GoodT (Good blsP) castP) (gq : GoodT (Good blsP) twistQ)
    {Q : TG} (gQ : GoodT Gi.Good Q) (s : (FBls × FBls) × TG × TX) (gs : GoodS s) (v : Int) :
    GoodS (stepX castP twistQ Q s v) ∧
      liftS (stepX castP twistQ Q s v)
        = optBlsStep (mapT toL castP) (mapT toL twistQ) (toT2 Q) (liftS s) v := by
  obtain ⟨⟨fN, fD⟩, R, tR⟩ := s
  obtain ⟨⟨gN, gD⟩, gR, gT⟩ := gs
  have gR : GoodT Gi.Good R := gR
  have gT : GoodT (Good blsP) tR := gT
  have hG := @Gi.goodHom_toF blsP _ Transfer.irreducible_blsMc2 .opt
  obtain ⟨gd, ed⟩ := Transfer.Bls.good_double hG gR
  obtain ⟨ga, ea⟩ := Transfer.Bls.good_add hG gd gQ
  obtain ⟨_, e1⟩ := Transfer.Bls.good_linefunc goodHom_toL gT gT gc
  obtain ⟨_, e2⟩ := Transfer.Bls.good_linefunc goodHom_toL (twistX_spec (Gen.OptBls.double R)).1 gq gc
  have ed : toT2 (Gen.OptBls.double R) = Gen.OptBls.double (toT2 R) := ed
  have ea : toT2 (Gen.OptBls.add (Gen.OptBls.double R) Q)
      = Gen.OptBls.add (Gen.OptBls.double (toT2 R)) (toT2 Q) := by rw [← ed]; exact ea
  rw [liftS_mk fN fD R tR, optBlsStep_eq_G, stepX, optBlsStepG_eq, optBlsStepG_eq, ← ea, ← ed,
    ← (twistX_spec (Gen.OptBls.double R)).2, ← (twistX_spec (Gen.OptBls.add (Gen.OptBls.double R) Q)).2,
    ← e1, ← e2]
  by_cases hv : v = 1
  · simp only [if_pos hv]
    exact ⟨⟨⟨good_mulF _ _, good_mulF _ _⟩, ga, (twistX_spec _).1⟩, by simp only [liftS_mk, mapP, toL_mul]⟩
  · simp only [if_neg hv]
    exact ⟨⟨⟨good_mulF _ _, good_mulF _ _⟩, gd, (twistX_spec _).1⟩, by simp only [liftS_mk, mapP, toL_mul]⟩

/-- **The optimized `miller_loop(Q, P, final_exponentiate)` of the model, computed by the fast
    arithmetic**: for every digit list, optional exponent, input point `P` and reduced `FQ2` triple `Q`,
    the model's value is the coefficient list of `f_num / f_den` computed over the fast types, raised (by
    the model's `**`) to the exponent if there is one. -/
theorem optBlsMillerLoop_fast (digits : List Int) (fe : Option ℕ) {Q : TG} (gQ : GoodT Gi.Good Q)
    (P : Fq blsP × Fq blsP × Fq blsP) :
    (optBlsMillerLoop digits fe (toT2 Q) P : OBls12)
      = match fe with
        | some e => toL ((millerX digits Q P).1 / (millerX digits Q P).2) ^ e
        | none => toL ((millerX digits Q P).1 / (millerX digits Q P).2) := by
  have g0 : GoodS (((1 : FBls), (1 : FBls)), Q, twistX Q) :=
    ⟨⟨good_oneF, good_oneF⟩, gQ, (twistX_spec Q).1⟩
  obtain ⟨g, e⟩ := foldl_rel (fun t s => GoodS s ∧ liftS s = t) (l := digits) ⟨g0, rfl⟩
    fun _ s v ⟨gs, rfl⟩ => stepX_spec (castX_spec P).1 (twistX_spec Q).1 gQ s gs v
  have e0 : liftS (((1 : FBls), (1 : FBls)), Q, twistX Q)
      = (((1 : OBls12), (1 : OBls12)), toT2 Q, (twistOptBls (toT2 Q) : T12)) := by
    simp only [liftS, mapP_mk, toL_one, (twistX_spec Q).2]
  rw [(castX_spec P).2, (twistX_spec Q).2, e0] at e
  have h : (optBlsMillerLoop digits none (toT2 Q) P : OBls12)
      = toL ((millerX digits Q P).1 / (millerX digits Q P).2) := by
    rw [optBlsMillerLoop_none_eq, toL_div, ← e]
    rfl
  cases fe
  · exact h
  · rw [PairingSem.optBlsMillerLoop_some, h]

end PyEcc.NondegSem
