/-
  Miller's algorithm is well defined up to vertical lines: a field-generic
  "divisor" argument in the affine coordinate ring `F[E]` of `E : y² = x³ + b` (Mathlib's
  `WeierstrassCurve.Affine.CoordinateRing`), used to compare the SIGNED-digit Miller loop of
  `optimized_bn128` with the BINARY Miller loop of `bn128`.

  For a point `A` let `I(A) = ⟨X − x_A, Y − y_A⟩` (`I(∞) = ⊤`), `v_A = X − x_A` (`v_∞ = 1`) and, for
  finite `A, B` with `A ≠ −B`, `ℓ_{A,B} = slope·(X − x_A) + y_A − Y` (chord or tangent).  Mathlib proves
      `⟨v_{A+B}⟩ · I(A) · I(B) = ⟨ℓ_{A,B}⟩ · I(A+B)`,   `I(−A) · I(A) = ⟨v_A⟩`
  (`XYIdeal_mul_XYIdeal`, `XYIdeal_neg_mul`: the ideal form of `div ℓ = (A) + (B) + (−A−B) − 3(∞)`).
  A pair `(N, D)` is Miller data for `k·T` (`MD T k N D`) when `⟨N⟩ · I(k·T) = ⟨D⟩ · I(T)^k`
  (`div (N/D) = k(T) − (kT) − (k−1)(∞)`).  Doubling, adding `T` and subtracting `T` steps preserve it with
  `N` multiplied by the line elements the loops multiply in and `D` by vertical elements only
  (`MD.double`, `MD.add`, `MD.sub`).  Two Miller data for the same `k` satisfy `N·D' = c·N'·D` with `c` a
  CONSTANT with `c⁴ = 1` (`MD.unique`: cancel `I(kT)`, units of `F[E]` are constants, compare leading
  coefficients of norms).  Evaluated at a point `P` of the curve (`evalAt`), this says: any two
  addition-subtraction chains for the same multiple give Miller values equal up to vertical-line values
  and a 4-th root of unity — `MV.unique`.
-/
import Mathlib.AlgebraicGeometry.EllipticCurve.Affine.Point
import PyEcc.Sem.CurvePt
import PyEcc.Lemmas.CurveAux

set_option linter.unusedSectionVars false
set_option linter.unusedVariables false

namespace PyEcc.MillerBnSem
open Polynomial WeierstrassCurve WeierstrassCurve.Affine Ideal
open scoped Polynomial.Bivariate

variable {F : Type} [Field F] [DecidableEq F]

section defs
variable (b : F)

/-- the coordinate ring `F[X, Y]/(Y² − X³ − b)` -/
abbrev CR : Type := (W b).CoordinateRing

/-- `I(A) = ⟨X − x_A, Y − y_A⟩`, `I(∞) = ⊤` -/
noncomputable def ptIdeal : (W b).Point → Ideal (CR b)
  | .zero => ⊤
  | .some x y _ => CoordinateRing.XYIdeal (W b) x (C y)

/-- `v_A = X − x_A`, `v_∞ = 1` -/
noncomputable def vert : (W b).Point → CR b
  | .zero => 1
  | .some x _ _ => CoordinateRing.XClass (W b) x

/-- `ℓ_{A,B} = slope·(X − x_A) + y_A − Y` for finite `A`, `B` (meaningful when `A ≠ −B`); `1` otherwise -/
noncomputable def lineEl : (W b).Point → (W b).Point → CR b
  | .some x₁ y₁ _, .some x₂ y₂ _ =>
      -CoordinateRing.YClass (W b) (linePolynomial x₁ y₁ ((W b).slope x₁ x₂ y₁ y₂))
  | _, _ => 1

end defs

variable {b : F}

theorem ptIdeal_zero : ptIdeal b (0 : (W b).Point) = ⊤ := rfl
theorem vert_zero : vert b (0 : (W b).Point) = 1 := rfl

theorem vert_ne_zero (A : (W b).Point) : vert b A ≠ 0 := by
  rcases A with _ | ⟨x, y, h⟩
  · exact one_ne_zero
  · exact CoordinateRing.XClass_ne_zero x

theorem ptIdeal_neg_mul (A : (W b).Point) :
    ptIdeal b (-A) * ptIdeal b A = span {vert b A} := by
  rcases A with _ | ⟨x, y, h⟩
  · show (⊤ : Ideal (CR b)) * ⊤ = span {1}
    rw [span_singleton_one, Ideal.mul_top]
  · exact CoordinateRing.XYIdeal_neg_mul h

theorem ptIdeal_add {A B : (W b).Point} (hA : A ≠ 0) (hB : B ≠ 0) (hAB : A + B ≠ 0) :
    span {vert b (A + B)} * (ptIdeal b A * ptIdeal b B) = span {lineEl b A B} * ptIdeal b (A + B) := by
  rcases A with _ | ⟨x₁, y₁, h₁⟩
  · exact absurd rfl hA
  rcases B with _ | ⟨x₂, y₂, h₂⟩
  · exact absurd rfl hB
  by_cases hxy : x₁ = x₂ ∧ y₁ = (W b).negY x₂ y₂
  · exact absurd (Point.add_of_Y_eq hxy.1 hxy.2) hAB
  · rw [Point.add_some hxy]
    simp only [lineEl, vert, ptIdeal, span_singleton_neg]
    exact CoordinateRing.XYIdeal_mul_XYIdeal h₁.1 h₂.1 hxy

/-- `λ(z)` = leading coefficient of the norm of `z` over `F[X]` — multiplicative, `λ(v_A) = 1`,
    `λ(ℓ_{A,B}) = −1`, `λ(c) = c²` for constants -/
noncomputable def lam (z : CR b) : F := (Algebra.norm F[X] z).leadingCoeff

theorem lam_mul (z z' : CR b) : lam (z * z') = lam z * lam z' := by
  unfold lam; rw [map_mul, leadingCoeff_mul]

theorem lam_one : lam (1 : CR b) = 1 := by
  unfold lam; rw [map_one, leadingCoeff_one]

theorem norm_basis (p q : F[X]) :
    Algebra.norm F[X] (p • (1 : CR b) + q • CoordinateRing.mk (W b) Y) = p ^ 2 - q ^ 2 * (X ^ 3 + C b) := by
  rw [CoordinateRing.norm_smul_basis]
  simp [W]

theorem lam_algebraMap (p : F[X]) : lam (algebraMap F[X] (CR b) p) = p.leadingCoeff ^ 2 := by
  unfold lam
  rw [Algebra.norm_algebraMap_of_basis (CoordinateRing.basis (W b)), Fintype.card_fin, leadingCoeff_pow]

theorem lam_zero : lam (0 : CR b) = 0 := by
  rw [← map_zero (algebraMap F[X] (CR b)), lam_algebraMap, leadingCoeff_zero, zero_pow two_ne_zero]

theorem ne_zero_of_lam {z : CR b} (h : lam z ≠ 0) : z ≠ 0 := by
  rintro rfl; exact h lam_zero

theorem lam_vert (A : (W b).Point) : lam (vert b A) = 1 := by
  rcases A with _ | ⟨x, y, h⟩
  · exact lam_one
  · exact (lam_algebraMap (X - C x)).trans (by rw [leadingCoeff_X_sub_C, one_pow])

theorem lam_line (x y l : F) :
    lam (-CoordinateRing.YClass (W b) (linePolynomial x y l)) = -1 := by
  have e : -CoordinateRing.YClass (W b) (linePolynomial x y l)
      = (linePolynomial x y l) • (1 : CR b) + (-1 : F[X]) • CoordinateRing.mk (W b) Y := by
    simp only [CoordinateRing.YClass, CoordinateRing.smul, mul_one, map_sub, map_neg, map_one]
    ring
  unfold lam
  rw [e, norm_basis, neg_one_sq, one_mul]
  have h1 : (linePolynomial x y l).degree ≤ 1 := by
    unfold linePolynomial
    compute_degree
  have hd : (linePolynomial x y l ^ 2).degree < (-(X ^ 3 + C b : F[X])).degree := by
    rw [degree_neg, degree_X_pow_add_C (by norm_num)]
    calc (linePolynomial x y l ^ 2).degree ≤ 2 • (linePolynomial x y l).degree := degree_pow_le _ _
      _ ≤ 2 • (1 : WithBot ℕ) := nsmul_le_nsmul_right h1 2
      _ < ((3 : ℕ) : WithBot ℕ) := by decide
  rw [sub_eq_add_neg, leadingCoeff_add_of_degree_lt hd, leadingCoeff_neg,
    leadingCoeff_X_pow_add_C (by norm_num)]

theorem lam_lineEl (A B : (W b).Point) : lam (lineEl b A B) ^ 2 = 1 := by
  rcases A with _ | ⟨x₁, y₁, h₁⟩
  · simp [lineEl, lam_one]
  rcases B with _ | ⟨x₂, y₂, h₂⟩
  · simp [lineEl, lam_one]
  simp only [lineEl, lam_line, neg_one_sq]

theorem lam_const (c : F) : lam (algebraMap F (CR b) c) = c ^ 2 :=
  (lam_algebraMap (C c)).trans (by rw [leadingCoeff_C])

theorem unit_const {u : CR b} (hu : IsUnit u) : ∃ c : F, u = algebraMap F (CR b) c := by
  obtain ⟨p, q, rfl⟩ := CoordinateRing.exists_smul_basis_eq u
  -- the norm of a unit is a unit of `F[X]`, of degree `0 = max (2·deg p) (2·deg q + 3)`
  have hd := degree_eq_zero_of_isUnit (hu.map (Algebra.norm F[X]))
  rw [CoordinateRing.degree_norm_smul_basis] at hd
  have hq : q = 0 := by
    by_contra hq
    have h3 : (3 : WithBot ℕ) ≤ 2 • q.degree + 3 :=
      le_add_of_nonneg_left (nsmul_nonneg (zero_le_degree_iff.mpr hq) 2)
    exact absurd (hd ▸ le_max_of_le_right h3) (by decide)
  subst hq
  have hp : p.natDegree = 0 := by
    have h2 : 2 • p.degree ≤ 0 := hd ▸ le_max_left _ _
    by_contra h
    have h1 : (1 : WithBot ℕ) ≤ p.degree := by
      rw [degree_eq_natDegree (fun h0 => h (by rw [h0, natDegree_zero]))]
      exact_mod_cast Nat.one_le_iff_ne_zero.mpr h
    have : (2 : WithBot ℕ) ≤ 2 • p.degree :=
      calc (2 : WithBot ℕ) = 2 • (1 : WithBot ℕ) := by decide
        _ ≤ 2 • p.degree := nsmul_le_nsmul_right h1 2
    exact absurd (this.trans h2) (by decide)
  obtain ⟨c, rfl⟩ : ∃ c, p = C c := ⟨_, eq_C_of_natDegree_eq_zero hp⟩
  refine ⟨c, ?_⟩
  rw [zero_smul, add_zero, CoordinateRing.smul, mul_one]
  rfl

/-- `(N, D)` is Miller data for `k·T`: `⟨N⟩ · I(k·T) = ⟨D⟩ · I(T)^k`, `λ(N) = ±1`, `λ(D) = 1` -/
structure MD (T : (W b).Point) (k : ℕ) (N D : CR b) : Prop where
  ideal : span {N} * ptIdeal b (k • T) = span {D} * ptIdeal b T ^ k
  lamN : lam N ^ 2 = 1
  lamD : lam D = 1

theorem MD.one (T : (W b).Point) : MD T 1 (1 : CR b) 1 where
  ideal := by rw [one_nsmul, pow_one]
  lamN := by rw [lam_one, one_pow]
  lamD := lam_one

/-- the ideal equations of the addition step, of the subtraction step and of the comparison of two Miller data
    hold in any commutative semiring, by associativity and commutativity alone: stated there, so that `ring`
    works on variables and not in the ideals of the coordinate ring -/
theorem ideal_add_step {M : Type} [CommSemiring M] {n₁ n₂ d₁ d₂ l v I₁ I₂ Is I : M} {j k : ℕ}
    (h₁ : n₁ * I₁ = d₁ * I ^ j) (h₂ : n₂ * I₂ = d₂ * I ^ k) (ea : v * (I₁ * I₂) = l * Is) :
    n₁ * n₂ * l * Is = d₁ * d₂ * v * I ^ (j + k) :=
  calc n₁ * n₂ * l * Is = n₁ * n₂ * (l * Is) := mul_assoc _ _ _
    _ = v * ((n₁ * I₁) * (n₂ * I₂)) := by rw [← ea]; ring
    _ = d₁ * d₂ * v * I ^ (j + k) := by rw [h₁, h₂]; ring

theorem ideal_sub_step {M : Type} [CommSemiring M] {n d l v vT I₁ In Ik I : M} {k : ℕ}
    (h : n * I₁ = d * I ^ (k + 1)) (ea : v * (I₁ * In) = l * Ik) (en : In * I = vT) :
    n * l * Ik = d * v * vT * I ^ k :=
  calc n * l * Ik = n * (l * Ik) := mul_assoc _ _ _
    _ = v * ((n * I₁) * In) := by rw [← ea]; ring
    _ = d * v * (In * I) * I ^ k := by rw [h]; ring
    _ = d * v * vT * I ^ k := by rw [en]

theorem ideal_cross {M : Type} [CommSemiring M] {n d n' d' Ik In J : M} (h : n * Ik = d * J)
    (h' : n' * Ik = d' * J) : n * d' * (In * Ik) = n' * d * (In * Ik) :=
  calc n * d' * (In * Ik) = In * d' * (n * Ik) := by ring
    _ = In * d * (n' * Ik) := by rw [h, h']; ring
    _ = n' * d * (In * Ik) := by ring

theorem MD.mul {T : (W b).Point} {j k : ℕ} {N D N' D' : CR b} (h : MD T j N D) (h' : MD T k N' D')
    (hj : j • T ≠ 0) (hk : k • T ≠ 0) (hjk : (j + k) • T ≠ 0) :
    MD T (j + k) (N * N' * lineEl b (j • T) (k • T)) (D * D' * vert b ((j + k) • T)) where
  ideal := by
    rw [add_nsmul] at hjk ⊢
    simp only [← span_singleton_mul_span_singleton]
    exact ideal_add_step h.ideal h'.ideal (ptIdeal_add hj hk hjk)
  lamN := by
    rw [lam_mul, lam_mul, mul_pow, mul_pow, h.lamN, h'.lamN, lam_lineEl, one_mul, one_mul]
  lamD := by rw [lam_mul, lam_mul, h.lamD, h'.lamD, lam_vert, one_mul, one_mul]

theorem MD.double {T : (W b).Point} {k : ℕ} {N D : CR b} (h : MD T k N D) (h1 : k • T ≠ 0)
    (h2 : (2 * k) • T ≠ 0) :
    MD T (2 * k) (N * N * lineEl b (k • T) (k • T)) (D * D * vert b ((2 * k) • T)) := by
  rw [two_mul] at h2 ⊢
  exact h.mul h h1 h1 h2

theorem MD.add {T : (W b).Point} {k : ℕ} {N D : CR b} (h : MD T k N D) (hT : T ≠ 0)
    (h1 : k • T ≠ 0) (h2 : (k + 1) • T ≠ 0) :
    MD T (k + 1) (N * lineEl b (k • T) T) (D * vert b ((k + 1) • T)) := by
  have := h.mul (MD.one T) h1 (by rwa [one_nsmul]) h2
  rwa [mul_one, mul_one, one_nsmul] at this

theorem MD.sub {T : (W b).Point} {k : ℕ} {N D : CR b} (h : MD T (k + 1) N D) (hT : T ≠ 0)
    (h1 : (k + 1) • T ≠ 0) (h2 : k • T ≠ 0) :
    MD T k (N * lineEl b ((k + 1) • T) (-T)) (D * vert b (k • T) * vert b T) where
  ideal := by
    have e : k • T = (k + 1) • T + -T := by rw [succ_nsmul]; abel
    have ea := ptIdeal_add h1 (neg_ne_zero.mpr hT) (e ▸ h2)
    rw [← e] at ea
    simp only [← span_singleton_mul_span_singleton]
    exact ideal_sub_step h.ideal ea (ptIdeal_neg_mul T)
  lamN := by rw [lam_mul, mul_pow, h.lamN, lam_lineEl, one_mul]
  lamD := by rw [lam_mul, lam_mul, h.lamD, lam_vert, lam_vert, one_mul, one_mul]

/-- **Uniqueness**: two Miller data for the same multiple differ by verticals and a constant `c`
    with `c⁴ = 1` -/
theorem MD.unique {T : (W b).Point} {k : ℕ} {N D N' D' : CR b} (h : MD T k N D) (h' : MD T k N' D') :
    ∃ c : F, c ^ 4 = 1 ∧ N * D' * algebraMap F (CR b) c = N' * D := by
  have hv := vert_ne_zero (k • T)
  have e2 : span {N * D'} * span {vert b (k • T)} = span {N' * D} * span {vert b (k • T)} := by
    rw [← ptIdeal_neg_mul]
    simp only [← span_singleton_mul_span_singleton]
    exact ideal_cross h.ideal h'.ideal
  have e3 := (span_singleton_mul_left_inj hv).mp e2
  obtain ⟨u, hu⟩ := span_singleton_eq_span_singleton.mp e3
  obtain ⟨c, hc⟩ := unit_const u.isUnit
  refine ⟨c, ?_, by rw [← hc]; exact hu⟩
  have hl := congrArg lam hu
  rw [lam_mul, lam_mul, lam_mul, hc, lam_const, h'.lamD, h.lamD, mul_one, mul_one] at hl
  have : (lam N * c ^ 2) ^ 2 = lam N' ^ 2 := by rw [hl]
  rw [mul_pow, h.lamN, h'.lamN, one_mul] at this
  rw [← this]; ring

section eval
variable {xP yP : F} (hP : (W b).Equation xP yP)

/-- evaluation `F[E] → F` at `P` -/
noncomputable def evalAt : CR b →+* F := AdjoinRoot.evalEval hP

theorem evalAt_mk (g : F[X][Y]) : evalAt hP (CoordinateRing.mk (W b) g) = g.evalEval xP yP :=
  AdjoinRoot.evalEval_mk hP g

theorem evalAt_const (c : F) : evalAt hP (algebraMap F (CR b) c) = c := by
  have : algebraMap F (CR b) c = CoordinateRing.mk (W b) (C (C c)) := rfl
  rw [this, evalAt_mk]; simp [evalEval]

noncomputable def vertVal (A : (W b).Point) : F := evalAt hP (vert b A)

noncomputable def lineVal (A B : (W b).Point) : F := evalAt hP (lineEl b A B)

theorem vertVal_some {x y : F} (h : (W b).Nonsingular x y) : vertVal hP (.some x y h) = xP - x := by
  simp only [vertVal, vert, CoordinateRing.XClass, evalAt_mk]
  simp only [evalEval, map_sub, eval_sub, eval_C, eval_X]

theorem lineVal_some {x₁ y₁ x₂ y₂ : F} (h₁ : (W b).Nonsingular x₁ y₁) (h₂ : (W b).Nonsingular x₂ y₂) :
    lineVal hP (.some x₁ y₁ h₁) (.some x₂ y₂ h₂)
      = (W b).slope x₁ x₂ y₁ y₂ * (xP - x₁) - (yP - y₁) := by
  simp only [lineVal, lineEl, CoordinateRing.YClass, map_neg, evalAt_mk, linePolynomial]
  simp only [evalEval, map_add, map_mul, map_sub, eval_sub, eval_X, eval_add, eval_mul, eval_C, neg_sub]
  ring

variable (E : ℕ)

/-- `f` is the value at `P` of the numerator `N` of Miller data `(N, D)` for `k·T` whose denominator
    value is killed by the exponent `E` -/
def MV (T : (W b).Point) (k : ℕ) (f : F) : Prop :=
  ∃ N D : CR b, MD T k N D ∧ evalAt hP N = f ∧ evalAt hP D ^ E = 1

theorem MV.one (T : (W b).Point) : MV hP E T 1 1 :=
  ⟨1, 1, MD.one T, map_one _, by rw [map_one, one_pow]⟩

theorem MV.double {T : (W b).Point} {k : ℕ} {f : F} (h : MV hP E T k f) (h1 : k • T ≠ 0)
    (h2 : (2 * k) • T ≠ 0) (hv : vertVal hP ((2 * k) • T) ^ E = 1) :
    MV hP E T (2 * k) (f * f * lineVal hP (k • T) (k • T)) := by
  obtain ⟨N, D, md, rfl, hD⟩ := h
  refine ⟨_, _, md.double h1 h2, ?_, ?_⟩
  · rw [map_mul, map_mul]; rfl
  · rw [map_mul, map_mul, mul_pow, mul_pow, hD, one_mul, one_mul]; exact hv

theorem MV.add {T : (W b).Point} {k : ℕ} {f : F} (h : MV hP E T k f) (hT : T ≠ 0) (h1 : k • T ≠ 0)
    (h2 : (k + 1) • T ≠ 0) (hv : vertVal hP ((k + 1) • T) ^ E = 1) :
    MV hP E T (k + 1) (f * lineVal hP (k • T) T) := by
  obtain ⟨N, D, md, rfl, hD⟩ := h
  refine ⟨_, _, md.add hT h1 h2, ?_, ?_⟩
  · rw [map_mul]; rfl
  · rw [map_mul, mul_pow, hD, one_mul]; exact hv

theorem MV.sub {T : (W b).Point} {k : ℕ} {f : F} (h : MV hP E T (k + 1) f) (hT : T ≠ 0)
    (h1 : (k + 1) • T ≠ 0) (h2 : k • T ≠ 0) (hv : vertVal hP (k • T) ^ E = 1)
    (hvT : vertVal hP T ^ E = 1) :
    MV hP E T k (f * lineVal hP ((k + 1) • T) (-T)) := by
  obtain ⟨N, D, md, rfl, hD⟩ := h
  refine ⟨_, _, md.sub hT h1 h2, ?_, ?_⟩
  · rw [map_mul]; rfl
  · rw [map_mul, map_mul, mul_pow, mul_pow, hD, one_mul]
    show vertVal hP (k • T) ^ E * vertVal hP T ^ E = 1
    rw [hv, hvT, one_mul]

/-- **Miller values of the same multiple agree after the power `E`** (`4 ∣ E`), whatever
    doubling / addition / subtraction chain produced them. -/
theorem MV.unique {T : (W b).Point} {k : ℕ} {f f' : F} (h : MV hP E T k f) (h' : MV hP E T k f')
    (h4 : 4 ∣ E) : f ^ E = f' ^ E := by
  obtain ⟨N, D, md, rfl, hD⟩ := h
  obtain ⟨N', D', md', rfl, hD'⟩ := h'
  obtain ⟨c, hc, e⟩ := md.unique md'
  have ev := congrArg (evalAt hP) e
  rw [map_mul, map_mul, map_mul, evalAt_const] at ev
  have := congrArg (· ^ E) ev
  simp only [mul_pow, hD, hD', mul_one] at this
  obtain ⟨m, rfl⟩ := h4
  rw [pow_mul c, hc, one_pow, mul_one] at this
  exact this

end eval

end PyEcc.MillerBnSem
