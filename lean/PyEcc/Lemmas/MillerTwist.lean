/-
  The optimized BLS12-381 `twist` commutes with `double` and `add` through the affine
  reading: `twist ∘ double = double ∘ twist`, `twist ∘ add = add ∘ twist`, where the right-hand `double`/`add`
  are the REFERENCE affine ones over `FQ12`.  The affine reading of a twisted triple is the affine twist
  `(x, y) ↦ (ι(x)/w², ι(y)/w³)` of the affine reading (`toAff_twK`), the optimized functions are the reference
  ones on the affine readings (`Props/C13_Bls.lean`), and the affine twist commutes with the chord–tangent
  formulas (`Lemmas/TwistPoint.lean`).
-/
import PyEcc.Lemmas.MillerField
import PyEcc.Props.C13_Bls
import PyEcc.Props.C07_Bls

set_option linter.unusedSectionVars false
set_option linter.unusedVariables false

namespace PyEcc.MillerSem
open Polynomial PyEcc PyEcc.Gen PyEcc.Gen.Consts PyEcc.Fqp PyEcc.FqpSem PyEcc.Transfer PyEcc.C13
  PyEcc.C13.Bls PyEcc.TwistSem

theorem twK_z_eq_zero (T : K2 × K2 × K2) : (twK T).2.2 = 0 ↔ T.2.2 = 0 := by
  simp [twK, wQ_bls_ne_zero]

theorem twK_y_eq_zero (T : K2 × K2 × K2) : (twK T).2.1 = 0 ↔ T.2.1 = 0 := by
  simp [twK]

variable [DecidableEq K2] [DecidableEq K12]

theorem toAff_twK (T : K2 × K2 × K2) : toAff (twK T) = twA (toAff T) := by
  rw [twA_eq, twK, iota_eq]
  exact toAff_twistVal T

theorem toAff_twK_double (T : K2 × K2 × K2) :
    toAff (twK (OptBls.double T)) = RefBls.double (toAff (twK T)) := by
  rw [toAff_twK, toAff_twK, opt_double_toAff curveF2.two, twA_eq, twA_eq, C07.Bls.gen_double_eq,
    C07.Bls.gen_double_eq, twO_sDouble psiBls cBls_ne_zero]

theorem ref_add_toAff_twK (T S : K2 × K2 × K2) :
    RefBls.add (toAff (twK T)) (toAff (twK S)) = .ok (toAff (twK (OptBls.add T S))) := by
  have e := opt_add_toAff curveF2.two T S
  rw [C07.Bls.gen_add_eq] at e
  rw [toAff_twK, toAff_twK, toAff_twK, twA_eq, twA_eq, twA_eq, C07.Bls.gen_add_eq,
    ← twO_sAdd psiBls cBls_ne_zero, Except.ok.inj e]

end PyEcc.MillerSem
