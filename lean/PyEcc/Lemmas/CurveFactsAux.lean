/-
  For `Props/C07_Facts*.lean`: the regenerated point constants (`Gen.Consts.*_G1 : List (List Int)`) read as typed
  points, and the cubic-residue criterion "`x³ + b = 0` has no root" in `ZMod p` with the power evaluated by
  `Pratt.powMod`.
-/
import PyEcc.Sem.Pratt
import PyEcc.Model.Fqp
import PyEcc.Lemmas.PowerResidue
import Mathlib.FieldTheory.Finite.Basic

namespace PyEcc.CurveSem

/-- a regenerated `FQ` point constant `[[x], [y]]` as a reference-representation point over `F` -/
def ptRef (F : Type) [IntCast F] (g : List (List Int)) : Option (F × F) :=
  some (((getI (g.getD 0 []) 0 : Int) : F), ((getI (g.getD 1 []) 0 : Int) : F))

/-- a regenerated `FQ` point constant `[[x], [y], [z]]` as an optimized-representation triple over `F` -/
def ptOpt (F : Type) [IntCast F] (g : List (List Int)) : F × F × F :=
  (((getI (g.getD 0 []) 0 : Int) : F), ((getI (g.getD 1 []) 0 : Int) : F), ((getI (g.getD 2 []) 0 : Int) : F))

/-- a regenerated `FQ2` point constant `[x, y]` (coefficient lists) as a reference-representation point
    over the executable model type `Fqp v p mc` -/
def ptRef2 (v : Variant) (p : Nat) (mc : List Int) (g : List (List Int)) : Option (Fqp v p mc × Fqp v p mc) :=
  some (⟨g.getD 0 []⟩, ⟨g.getD 1 []⟩)

/-- a regenerated `FQ2` point constant `[x, y, z]` as an optimized-representation triple over `Fqp v p mc` -/
def ptOpt2 (v : Variant) (p : Nat) (mc : List Int) (g : List (List Int)) : Fqp v p mc × Fqp v p mc × Fqp v p mc :=
  (⟨g.getD 0 []⟩, ⟨g.getD 1 []⟩, ⟨g.getD 2 []⟩)

theorem no_cube_root {p : ℕ} [hp : Fact p.Prime] (b : ℕ) (h3 : 3 ∣ p - 1) (hbp : b ≤ p)
    (hb : (b : ZMod p) ≠ 0)
    (hpow : Pratt.powMod (p - b) ((p - 1) / 3) p % p ≠ 1) : ∀ x : ZMod p, x ^ 3 + (b : ZMod p) ≠ 0 := by
  refine no_cube_root_of_pow_ne_one (fun x => ZMod.pow_card_sub_one_eq_one) h3 hb fun h1 => hpow ?_
  have hcast : (((p - b : ℕ)) : ZMod p) = -(b : ZMod p) := by
    rw [Nat.cast_sub hbp, ZMod.natCast_self, zero_sub]
  have := (ZMod.natCast_eq_natCast_iff' (Pratt.powMod (p - b) ((p - 1) / 3) p) 1 p).mp (by
    rw [Pratt.powMod_cast, hcast, h1, Nat.cast_one])
  rwa [Nat.mod_eq_of_lt hp.out.one_lt] at this

end PyEcc.CurveSem
