/-
  The generated curve modules use only `0 1 + - * neg / natCast ^` and `DecidableEq` of the coordinate type, so a map
  between coordinate types that preserves these and is injective commutes with every generated function. `OpHom ψ`: `ψ`
  preserves them unconditionally. `GoodHom Good φ`: only on a predicate `Good` closed under them, on which `φ` is
  injective (`toQ : Fqp v p mc → AdjoinRoot (modulus p mc)` with `Good = Canon`: `Fqp` contains non-canonical lists).
  A `GoodHom` is two `OpHom`s out of the subtype `GoodSub h = {a // Good a}` (`val` and `img = φ ∘ val`), so the
  commutation lemmas (`Lemmas/TransferOptBls.lean`, `TransferRefBls.lean`) are proved for `OpHom` and lifted.
  No field structure is assumed: `A`, `B`, `K` are types carrying the operation classes of the generated code.
-/
import Mathlib.Logic.Function.Basic

namespace PyEcc.Transfer

def mapT {A B : Type} (ψ : A → B) (T : A × A × A) : B × B × B := (ψ T.1, ψ T.2.1, ψ T.2.2)

def mapP {A B : Type} (ψ : A → B) (T : A × A) : B × B := (ψ T.1, ψ T.2)

@[simp] theorem mapT_fst {A B : Type} (ψ : A → B) (T : A × A × A) : (mapT ψ T).1 = ψ T.1 := rfl
@[simp] theorem mapT_snd_fst {A B : Type} (ψ : A → B) (T : A × A × A) : (mapT ψ T).2.1 = ψ T.2.1 := rfl
@[simp] theorem mapT_snd_snd {A B : Type} (ψ : A → B) (T : A × A × A) : (mapT ψ T).2.2 = ψ T.2.2 := rfl
@[simp] theorem mapT_mk {A B : Type} (ψ : A → B) (x y z : A) : mapT ψ (x, y, z) = (ψ x, ψ y, ψ z) := rfl
@[simp] theorem mapP_mk {A B : Type} (ψ : A → B) (x y : A) : mapP ψ (x, y) = (ψ x, ψ y) := rfl
theorem mapT_comp {A B C : Type} (ψ : A → B) (χ : B → C) (T : A × A × A) :
    mapT χ (mapT ψ T) = mapT (fun a => χ (ψ a)) T := rfl

def GoodT {A : Type} (Good : A → Prop) (T : A × A × A) : Prop := Good T.1 ∧ Good T.2.1 ∧ Good T.2.2

def GoodP {A : Type} (Good : A → Prop) (T : A × A) : Prop := Good T.1 ∧ Good T.2

section
variable {A B : Type}
  [Zero A] [One A] [Add A] [Sub A] [Mul A] [Neg A] [Div A] [NatCast A] [Pow A Nat]
  [Zero B] [One B] [Add B] [Sub B] [Mul B] [Neg B] [Div B] [NatCast B] [Pow B Nat]

structure OpHom (ψ : A → B) : Prop where
  map_zero : ψ 0 = 0
  map_one : ψ 1 = 1
  map_add : ∀ a b, ψ (a + b) = ψ a + ψ b
  map_sub : ∀ a b, ψ (a - b) = ψ a - ψ b
  map_mul : ∀ a b, ψ (a * b) = ψ a * ψ b
  map_neg : ∀ a, ψ (-a) = -ψ a
  map_div : ∀ a b, ψ (a / b) = ψ a / ψ b
  map_natCast : ∀ n : Nat, ψ (n : A) = (n : B)
  map_pow : ∀ a (n : Nat), ψ (a ^ n) = ψ a ^ n
  inj : Function.Injective ψ

theorem OpHom.mapT_inj {ψ : A → B} (h : OpHom ψ) {S T : A × A × A} (e : mapT ψ S = mapT ψ T) :
    S = T := by
  obtain ⟨a, b, c⟩ := S
  obtain ⟨a', b', c'⟩ := T
  simp only [mapT_mk, Prod.mk.injEq] at e
  rw [h.inj e.1, h.inj e.2.1, h.inj e.2.2]

structure GoodHom (Good : A → Prop) (φ : A → B) : Prop where
  good_zero : Good 0
  good_one : Good 1
  good_add : ∀ {a b}, Good a → Good b → Good (a + b)
  good_sub : ∀ {a b}, Good a → Good b → Good (a - b)
  good_mul : ∀ {a b}, Good a → Good b → Good (a * b)
  good_neg : ∀ {a}, Good a → Good (-a)
  good_div : ∀ {a b}, Good a → Good b → Good (a / b)
  good_natCast : ∀ n : Nat, Good (n : A)
  good_pow : ∀ {a} (n : Nat), Good a → Good (a ^ n)
  map_zero : φ 0 = 0
  map_one : φ 1 = 1
  map_add : ∀ {a b}, Good a → Good b → φ (a + b) = φ a + φ b
  map_sub : ∀ {a b}, Good a → Good b → φ (a - b) = φ a - φ b
  map_mul : ∀ {a b}, Good a → Good b → φ (a * b) = φ a * φ b
  map_neg : ∀ {a}, Good a → φ (-a) = -φ a
  map_div : ∀ {a b}, Good a → Good b → φ (a / b) = φ a / φ b
  map_natCast : ∀ n : Nat, φ (n : A) = (n : B)
  map_pow : ∀ {a} (n : Nat), Good a → φ (a ^ n) = φ a ^ n
  inj : ∀ {a b}, Good a → Good b → φ a = φ b → a = b

theorem OpHom.toGoodHom {ψ : A → B} (h : OpHom ψ) : GoodHom (fun _ => True) ψ where
  good_zero := trivial
  good_one := trivial
  good_add := fun _ _ => trivial
  good_sub := fun _ _ => trivial
  good_mul := fun _ _ => trivial
  good_neg := fun _ => trivial
  good_div := fun _ _ => trivial
  good_natCast := fun _ => trivial
  good_pow := fun _ _ => trivial
  map_zero := h.map_zero
  map_one := h.map_one
  map_add := fun _ _ => h.map_add _ _
  map_sub := fun _ _ => h.map_sub _ _
  map_mul := fun _ _ => h.map_mul _ _
  map_neg := fun _ => h.map_neg _
  map_div := fun _ _ => h.map_div _ _
  map_natCast := h.map_natCast
  map_pow := fun n _ => h.map_pow _ n
  inj := fun _ _ e => h.inj e

/-- the good elements, as a coordinate type of its own (the generated code can be run on it) -/
def GoodSub {Good : A → Prop} {φ : A → B} (_h : GoodHom Good φ) : Type := {a : A // Good a}

namespace GoodSub
variable {Good : A → Prop} {φ : A → B} (h : GoodHom Good φ)

def val (s : GoodSub h) : A := Subtype.val s

theorem good (s : GoodSub h) : Good (val h s) := Subtype.property s

end GoodSub

end

/- From here on the operations of `A` and `B` are those in the type of the hypothesis `OpHom ψ` or `GoodHom Good φ`
   that every lemma takes: implicit arguments, fixed by unification, not instance arguments synthesised again at
   every use. -/
variable {A B : Type}
  {_ : Zero A} {_ : One A} {_ : Add A} {_ : Sub A} {_ : Mul A} {_ : Neg A} {_ : Div A} {_ : NatCast A} {_ : Pow A Nat}
  {_ : Zero B} {_ : One B} {_ : Add B} {_ : Sub B} {_ : Mul B} {_ : Neg B} {_ : Div B} {_ : NatCast B} {_ : Pow B Nat}

theorem OpHom.eq_iff {ψ : A → B} (h : OpHom ψ) {a b : A} : ψ a = ψ b ↔ a = b := h.inj.eq_iff

theorem OpHom.eq_zero_iff {ψ : A → B} (h : OpHom ψ) {a : A} : ψ a = 0 ↔ a = 0 := by
  rw [← h.map_zero]; exact h.inj.eq_iff

theorem GoodHom.eq_iff {Good : A → Prop} {φ : A → B} (h : GoodHom Good φ) {a b : A}
    (ha : Good a) (hb : Good b) : φ a = φ b ↔ a = b := ⟨h.inj ha hb, fun e => e ▸ rfl⟩

theorem GoodHom.eq_zero_iff {Good : A → Prop} {φ : A → B} (h : GoodHom Good φ) {a : A}
    (ha : Good a) : φ a = 0 ↔ a = 0 := by
  rw [← h.map_zero]; exact h.eq_iff ha h.good_zero

namespace GoodSub
variable {Good : A → Prop} {φ : A → B} (h : GoodHom Good φ)

def img (s : GoodSub h) : B := φ (Subtype.val s)
def mk (a : A) (ha : Good a) : GoodSub h := ⟨a, ha⟩

instance : Zero (GoodSub h) := ⟨⟨0, h.good_zero⟩⟩
instance : One (GoodSub h) := ⟨⟨1, h.good_one⟩⟩
instance : Add (GoodSub h) := ⟨fun a b => ⟨a.1 + b.1, h.good_add a.2 b.2⟩⟩
instance : Sub (GoodSub h) := ⟨fun a b => ⟨a.1 - b.1, h.good_sub a.2 b.2⟩⟩
instance : Mul (GoodSub h) := ⟨fun a b => ⟨a.1 * b.1, h.good_mul a.2 b.2⟩⟩
instance : Neg (GoodSub h) := ⟨fun a => ⟨-a.1, h.good_neg a.2⟩⟩
instance : Div (GoodSub h) := ⟨fun a b => ⟨a.1 / b.1, h.good_div a.2 b.2⟩⟩
instance : NatCast (GoodSub h) := ⟨fun n => ⟨(n : A), h.good_natCast n⟩⟩
instance : Pow (GoodSub h) Nat := ⟨fun a n => ⟨a.1 ^ n, h.good_pow n a.2⟩⟩
instance [DecidableEq A] : DecidableEq (GoodSub h) := inferInstanceAs (DecidableEq {a : A // Good a})

theorem opHom_val : OpHom (val h) where
  map_zero := rfl
  map_one := rfl
  map_add := fun _ _ => rfl
  map_sub := fun _ _ => rfl
  map_mul := fun _ _ => rfl
  map_neg := fun _ => rfl
  map_div := fun _ _ => rfl
  map_natCast := fun _ => rfl
  map_pow := fun _ _ => rfl
  inj := fun _ _ e => Subtype.ext e

theorem opHom_img : OpHom (img h) where
  map_zero := h.map_zero
  map_one := h.map_one
  map_add := fun a b => h.map_add a.2 b.2
  map_sub := fun a b => h.map_sub a.2 b.2
  map_mul := fun a b => h.map_mul a.2 b.2
  map_neg := fun a => h.map_neg a.2
  map_div := fun a b => h.map_div a.2 b.2
  map_natCast := h.map_natCast
  map_pow := fun a n => h.map_pow n a.2
  inj := fun a b e => Subtype.ext (h.inj a.2 b.2 e)

/-- a good triple is the `val`-image of a triple over the subtype; there `φ ∘ val = img` definitionally -/
theorem exists_valT {T : A × A × A} (g : GoodT Good T) :
    ∃ X : GoodSub h × GoodSub h × GoodSub h, mapT (val h) X = T :=
  ⟨(mk h T.1 g.1, mk h T.2.1 g.2.1, mk h T.2.2 g.2.2), rfl⟩

theorem goodT_val (X : GoodSub h × GoodSub h × GoodSub h) : GoodT Good (mapT (val h) X) :=
  ⟨X.1.2, X.2.1.2, X.2.2.2⟩
theorem goodP_val (X : GoodSub h × GoodSub h) : GoodP Good (mapP (val h) X) := ⟨X.1.2, X.2.2⟩

end GoodSub

section
variable {A A' K : Type}
  [Zero A] [One A] [Add A] [Sub A] [Mul A] [Neg A] [Div A] [NatCast A] [Pow A Nat]
  [Zero A'] [One A'] [Add A'] [Sub A'] [Mul A'] [Neg A'] [Div A'] [NatCast A'] [Pow A' Nat]
  [Zero K] [One K] [Add K] [Sub K] [Mul K] [Neg K] [Div K] [NatCast K] [Pow K Nat]
  {Good : A → Prop} {Good' : A' → Prop} {φ : A → K} {ψ : A' → A}

/-- a map into the source of a `GoodHom` whose composite is a `GoodHom` is one itself: every equation
    between values of `ψ` holds after `φ`, which is injective on `Good` -/
theorem GoodHom.of_comp (h : GoodHom Good φ) (hψ : ∀ {x}, Good' x → Good (ψ x))
    (h' : GoodHom Good' fun x => φ (ψ x)) : GoodHom Good' ψ where
  good_zero := h'.good_zero
  good_one := h'.good_one
  good_add := h'.good_add
  good_sub := h'.good_sub
  good_mul := h'.good_mul
  good_neg := h'.good_neg
  good_div := h'.good_div
  good_natCast := h'.good_natCast
  good_pow := h'.good_pow
  map_zero := h.inj (hψ h'.good_zero) h.good_zero (h'.map_zero.trans h.map_zero.symm)
  map_one := h.inj (hψ h'.good_one) h.good_one (h'.map_one.trans h.map_one.symm)
  map_add := fun ha hb => h.inj (hψ (h'.good_add ha hb)) (h.good_add (hψ ha) (hψ hb))
    ((h'.map_add ha hb).trans (h.map_add (hψ ha) (hψ hb)).symm)
  map_sub := fun ha hb => h.inj (hψ (h'.good_sub ha hb)) (h.good_sub (hψ ha) (hψ hb))
    ((h'.map_sub ha hb).trans (h.map_sub (hψ ha) (hψ hb)).symm)
  map_mul := fun ha hb => h.inj (hψ (h'.good_mul ha hb)) (h.good_mul (hψ ha) (hψ hb))
    ((h'.map_mul ha hb).trans (h.map_mul (hψ ha) (hψ hb)).symm)
  map_neg := fun ha => h.inj (hψ (h'.good_neg ha)) (h.good_neg (hψ ha))
    ((h'.map_neg ha).trans (h.map_neg (hψ ha)).symm)
  map_div := fun ha hb => h.inj (hψ (h'.good_div ha hb)) (h.good_div (hψ ha) (hψ hb))
    ((h'.map_div ha hb).trans (h.map_div (hψ ha) (hψ hb)).symm)
  map_natCast := fun n => h.inj (hψ (h'.good_natCast n)) (h.good_natCast n)
    ((h'.map_natCast n).trans (h.map_natCast n).symm)
  map_pow := fun n ha => h.inj (hψ (h'.good_pow n ha)) (h.good_pow n (hψ ha))
    ((h'.map_pow n ha).trans (h.map_pow n (hψ ha)).symm)
  inj := fun ha hb e => h'.inj ha hb (congrArg φ e)

end

end PyEcc.Transfer
