/-
  The `Except` monad and list folds, the two shapes the translated Python takes (a `do` block, a `for` loop): what `>>=`
  and `map` do on a run whose outcome is known and what a run was when its sequel returned or raised, two blocks that
  agree up to a map of their results, induction over one fold (an invariant) or two folds of the same list (a relation;
  for a map between the states, core's `List.foldl_hom`), and a validation loop (`forM`) as the test it performs.
  Core Lean only, no imports: the Mathlib-free tie files use it as well as the semantic layer.
-/

namespace PyEcc

section
variable {ε α β : Type}

/- Stated as rewriting lemmas: unfolding `Except.bind` / `Except.map` themselves would unfold them at the real monadic
   calls too and make the elaborator and the kernel try to evaluate those. -/
theorem ok_bind (a : α) (f : α → Except ε β) : (Except.ok a >>= f) = f a := rfl

theorem error_bind (e : ε) (f : α → Except ε β) : (Except.error e >>= f) = .error e := rfl

theorem map_ok (f : α → β) (a : α) : (Except.ok a : Except ε α).map f = .ok (f a) := rfl

theorem map_error (f : α → β) (e : ε) : (Except.error e : Except ε α).map f = .error e := rfl

theorem bind_eq_ok {x : Except ε α} {f : α → Except ε β} {b : β} (h : (x >>= f) = .ok b) :
    ∃ a, x = .ok a ∧ f a = .ok b := by
  cases x with
  | error e => cases h
  | ok a => exact ⟨a, rfl, h⟩

theorem bind_eq_error {x : Except ε α} {f : α → Except ε β} {e : ε} (h : (x >>= f) = .error e) :
    x = .error e ∨ ∃ a, x = .ok a ∧ f a = .error e := by
  cases x with
  | error e' => exact .inl (congrArg _ (Except.error.inj h))
  | ok a => exact .inr ⟨a, rfl, h⟩

theorem map_eq_ok {f : α → β} {x : Except ε α} {b : β} (h : x.map f = .ok b) : ∃ a, x = .ok a ∧ f a = b := by
  cases x with
  | error e => cases h
  | ok a => exact ⟨a, rfl, Except.ok.inj h⟩

theorem map_eq_error {f : α → β} {x : Except ε α} {e : ε} (h : x.map f = .error e) : x = .error e := by
  cases x with
  | error e' => exact congrArg _ (Except.error.inj h)
  | ok a => cases h

/-- a block that begins with `if c: raise e` (as a lemma: `split` on a long block costs its length at every guard) -/
theorem guard_cases {c : Prop} [Decidable c] {e : ε} {x r : Except ε α} (h : (if c then .error e else x) = r) :
    c ∧ r = .error e ∨ ¬ c ∧ x = r := by
  split at h
  · next hc => exact .inl ⟨hc, h.symm⟩
  · next hc => exact .inr ⟨hc, h⟩

end

/-! ### two `do` blocks that agree up to a map

  Walked in step: a `map` in front of a sequel (`bind_map_eq`, core's `bind_map_left`), a `map` behind one
  (`map_bind_eq`, core's `map_bind`), a branch whose test may be spelt differently on the two sides (`map_ite_eq`),
  the `return` of a pair (`map_pure_eq`: about variables, so that checking it unfolds nothing in what is returned). -/

section
variable {ε α β γ σ ρ : Type}

theorem bind_map_eq {x : Except ε σ} {y : Except ε ρ} (out : σ → ρ) {K : σ → Except ε β} {K' : ρ → Except ε β}
    (hxy : x.map out = y) (hK : ∀ s, K s = K' (out s)) : x >>= K = y >>= K' := by
  subst hxy
  cases x with
  | error e => rfl
  | ok s => exact hK s

theorem map_bind_eq {g : α → β} {x : Except ε γ} {f : γ → Except ε β} {f' : γ → Except ε α}
    (h : ∀ a, f a = (f' a).map g) : x >>= f = (x >>= f').map g := by
  cases x with
  | error e => rfl
  | ok a => exact h a

theorem map_pure_eq {b : β} {t : γ} : (pure b : Except ε β) = (pure (b, t) : Except ε (β × γ)).map (·.1) := rfl

theorem map_ite_eq {g : α → β} {c c' : Prop} {_ : Decidable c} {_ : Decidable c'} {t e : Except ε β}
    {t' e' : Except ε α} (hc : c ↔ c') (ht : t = t'.map g) (he : e = e'.map g) :
    (if c then t else e) = (if c' then t' else e').map g := by
  by_cases h : c
  · rw [if_pos h, if_pos (hc.mp h), ht]
  · rw [if_neg h, if_neg (mt hc.mpr h), he]

end

section
variable {α α₁ α₂ β ε : Type}

theorem foldl_inv (P : α → Prop) {g : α → β → α} {l : List β} {i : α} (hi : P i) (H : ∀ x y, P x → P (g x y)) :
    P (List.foldl g i l) :=
  List.foldlRecOn l g hi fun x hx y _ => H x y hx

theorem foldl_rel (r : α₂ → α₁ → Prop) {g₁ : α₁ → β → α₁} {g₂ : α₂ → β → α₂} {l : List β} {i₁ : α₁} {i₂ : α₂}
    (hi : r i₂ i₁) (H : ∀ x₂ x₁ y, r x₂ x₁ → r (g₂ x₂ y) (g₁ x₁ y)) : r (List.foldl g₂ i₂ l) (List.foldl g₁ i₁ l) :=
  List.foldl_rel hi fun y _ x₂ x₁ => H x₂ x₁ y

/-- `List.foldl_hom` for loops whose bodies may raise: two folds of the same list whose states correspond under `φ`
    (in a `rw`, the step function `g₂` may be left to unification) -/
theorem foldlM_map (φ : α₁ → α₂) {g₁ : α₁ → β → Except ε α₁} {g₂ : α₂ → β → Except ε α₂}
    (H : ∀ x y, g₂ (φ x) y = (g₁ x y).map φ) (l : List β) (i : α₁) :
    List.foldlM g₂ (φ i) l = (List.foldlM g₁ i l).map φ := by
  induction l generalizing i with
  | nil => rfl
  | cons a l ih =>
    rw [List.foldlM_cons, List.foldlM_cons, H]
    cases g₁ i a with
    | error e => rfl
    | ok x => exact ih x

theorem foldlM_inv (P : α → Prop) {g : α → β → Except ε α} {l : List β} {i s : α} (hi : P i)
    (H : ∀ x y z, P x → g x y = .ok z → P z) (h : List.foldlM g i l = .ok s) : P s := by
  induction l generalizing i with
  | nil => exact Except.ok.inj h ▸ hi
  | cons y l ih =>
    rw [List.foldlM_cons] at h
    obtain ⟨z, hz, h⟩ := bind_eq_ok h
    exact ih (H i y z hi hz) h

theorem foldlM_ok_rel (r : α₂ → α₁ → Prop) {g₁ : α₁ → β → α₁} {g₂ : α₂ → β → Except ε α₂} {l : List β} {i₁ : α₁}
    {i₂ : α₂} (hi : r i₂ i₁) (H : ∀ y ∈ l, ∀ x₂ x₁, r x₂ x₁ → ∃ z, g₂ x₂ y = .ok z ∧ r z (g₁ x₁ y)) :
    ∃ z, List.foldlM g₂ i₂ l = .ok z ∧ r z (List.foldl g₁ i₁ l) := by
  induction l generalizing i₁ i₂ with
  | nil => exact ⟨i₂, rfl, hi⟩
  | cons y l ih =>
    obtain ⟨z, hz, hr⟩ := H y (List.mem_cons_self ..) i₂ i₁ hi
    rw [List.foldlM_cons, hz]
    exact ih hr fun y' hy' => H y' (List.mem_cons_of_mem _ hy')

end

section
variable {ε α β : Type}

/-- a validation loop `for x in l: if not f(x): raise e` behaves like the test `all(f(x) for x in l)` -/
theorem forM_guard (g : α → Except ε PUnit) (f : α → Bool) (e : ε)
    (hg : ∀ x, g x = if f x = true then pure PUnit.unit else throw e) (l : List α) :
    List.forM l g = if l.all f = true then pure PUnit.unit else throw e := by
  induction l with
  | nil => rfl
  | cons a t ih =>
    rw [List.forM, ih, hg a, List.all_cons]
    cases f a <;> cases t.all f <;> rfl

/-- a validation loop followed by the rest `k` of a `do` block, as an `if c: raise` step -/
theorem forM_guard_bind (g : α → Except ε PUnit) (f : α → Bool) (e : ε)
    (hg : ∀ x, g x = if f x = true then pure PUnit.unit else throw e) (l : List α) (k : PUnit → Except ε β) :
    List.forM l g >>= k = if (!l.all f) = true then (throw e : Except ε PUnit) >>= k else k ⟨⟩ := by
  rw [forM_guard g f e hg]
  cases l.all f <;> rfl

theorem forM_skip (g : α → Except ε PUnit) (hg : ∀ x, g x = pure PUnit.unit) (l : List α) :
    List.forM l g = pure PUnit.unit := by
  induction l with
  | nil => rfl
  | cons a t ih => rw [List.forM, ih, hg a]; rfl

end

end PyEcc
