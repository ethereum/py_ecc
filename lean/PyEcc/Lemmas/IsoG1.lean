/-
  The 11-isogeny `iso_map_G1` of `optimized_swu.py` maps the curve
  `E1' : y² = x³ + A'x + B'` into `E1 : y² = x³ + 4` (projectively, every input with `z ≠ 0`).

  Proof by reflection: the polynomial identity
      `(x³ + A'x + B')·yn(x)²·xd(x)³ = (xn(x)³ + b·xd(x)³)·yd(x)²   (mod p)`
  between the four coefficient lists of `ISO_11_MAP_COEFFICIENTS` (regenerated from the Python
  source into `Gen.Consts`) is checked by the kernel on integer coefficient lists
  (`check11_true`), transported to `Fp` by `IsoSem.ev`, and combined with the Horner lemma
  `IsoSem.isoHorner_eq`.  What `iso_map_G1` and `iso_map_G2` return has one shape (`IsoShape`), from which
  the projective curve equation and the reading as a rational map follow over any field.
-/
import PyEcc.Lemmas.PolyList
import PyEcc.Sem.FqZMod
import PyEcc.Sem.Primes
import Mathlib.Tactic.LinearCombination
import Mathlib.Tactic.FieldSimp

namespace PyEcc.IsoSem
open PyEcc Gen.Consts

/-- The output shape of `iso_map_G*`: with `xn, xd, yn, yd` the values of the four polynomials of the table at
    `w = x/z` and `k ≠ 0` a power of `z`, the result is `(k·z·xn·yd, k·y·xd·yn, k·z·xd·yd)`. -/
structure IsoShape {K : Type} [Field K] (y z k xn xd yn yd : K) (T : K × K × K) : Prop where
  X : T.1 = k * z * (xn * yd)
  Y : T.2.1 = k * y * (xd * yn)
  Z : T.2.2 = k * z * (xd * yd)

namespace IsoShape
variable {K : Type} [Field K] {y z k xn xd yn yd g b : K} {T : K × K × K}
  (s : IsoShape y z k xn xd yn yd T)
include s

/-- For `(x : y : z)` on `E' : y² = g(x)` and the isogeny identity `g·yn²·xd³ = (xn³ + b·xd³)·yd²` at `w = x/z`,
    the output satisfies the projective equation `Y²Z − X³ = b·Z³` of the target curve. -/
theorem on_curve (hz : z ≠ 0) (hid : g * yn ^ 2 * xd ^ 3 = (xn ^ 3 + b * xd ^ 3) * yd ^ 2)
    (hy : (y / z) ^ 2 = g) : T.2.1 ^ 2 * T.2.2 - T.1 ^ 3 = b * T.2.2 ^ 3 := by
  have hy : y ^ 2 = z ^ 2 * g := by rw [← hy]; field_simp
  rw [s.X, s.Y, s.Z]
  linear_combination (k ^ 3 * z * xd ^ 3 * yd * yn ^ 2) * hy + (k ^ 3 * z ^ 3 * yd) * hid

/-- It is the rational map `(x, y) ↦ (xn/xd, y·yn/yd)` wherever `Z₃ ≠ 0`. -/
theorem rational (hz : z ≠ 0) (hk : k ≠ 0) :
    (T.2.2 = 0 ↔ xd * yd = 0) ∧
    (T.2.2 ≠ 0 → T.1 / T.2.2 = xn / xd ∧ T.2.1 / T.2.2 = (y / z) * yn / yd) := by
  have hkz := mul_ne_zero hk hz
  refine ⟨by rw [s.Z, mul_eq_zero, or_iff_right hkz], fun hne => ?_⟩
  rw [s.Z] at hne
  have h1 := left_ne_zero_of_mul (right_ne_zero_of_mul hne)
  have h3 := right_ne_zero_of_mul (right_ne_zero_of_mul hne)
  rw [s.X, s.Y, s.Z]
  constructor <;> field_simp

end IsoShape

/-- **reflection step**: if every coefficient of `g·yn²·xd³ − (xn³ + b·xd³)·yd²`, multiplied out on
    coefficient lists, passes a test `z` that implies vanishing under `f`, the identity holds for the
    values at every `w` -/
theorem iso_identity_of_check {S R : Type} [CommRing S] [CommRing R] (f : S →+* R) (z : S → Bool)
    (hz : ∀ c, z c = true → f c = 0) (g xn xd yn yd : List S) (b : S)
    (h : (pSub (pMul g (pMul (pPow yn 2) (pPow xd 3)))
      (pMul (pAdd (pPow xn 3) (pSmul b (pPow xd 3))) (pPow yd 2))).all z = true) (w : R) :
    ev f g w * ev f yn w ^ 2 * ev f xd w ^ 3 = (ev f xn w ^ 3 + f b * ev f xd w ^ 3) * ev f yd w ^ 2 := by
  have h' := ev_eq_of_sub f _ _ (fun c hc => hz c (List.all_eq_true.mp h c hc)) w
  simpa only [ev_pMul, ev_pAdd, ev_pPow, ev_pSmul, mul_assoc] using h'

/-- the `i`-th coefficient list of `ISO_11_MAP_COEFFICIENTS` (`0`: x-numerator, `1`: x-denominator,
    `2`: y-numerator, `3`: y-denominator), constant term first, as integers -/
def iso11 (i : ℕ) : List ℤ := (h2c_ISO_11_MAP_COEFFICIENTS.getD i []).map fun c => getI c 0

theorem coeffs11_eq : h2c_ISO_11_MAP_COEFFICIENTS =
    [h2c_ISO_11_MAP_COEFFICIENTS.getD 0 [], h2c_ISO_11_MAP_COEFFICIENTS.getD 1 [],
     h2c_ISO_11_MAP_COEFFICIENTS.getD 2 [], h2c_ISO_11_MAP_COEFFICIENTS.getD 3 []] := by
  decide +kernel

/-- x-numerator of degree 11, x-denominator of degree 10, y-numerator and y-denominator of degree 15 -/
theorem iso11_length : (iso11 0).length = 12 ∧ (iso11 1).length = 11 ∧ (iso11 2).length = 16 ∧
    (iso11 3).length = 16 := by decide +kernel

/-- the coefficients of the curve polynomial `x³ + A'x + B'` of `E1'` -/
def g11 : List ℤ := [(h2c_ISO_11_B : ℤ), (h2c_ISO_11_A : ℤ), 0, 1]

/-- the kernel-checked polynomial identity: every coefficient of
    `g·yn²·xd³ − (xn³ + b·xd³)·yd²` (computed over `ℤ`, degree 63) is divisible by `p` -/
def check11 : Bool :=
  (pSub (pMul g11 (pMul (pPow (iso11 2) 2) (pPow (iso11 1) 3)))
        (pMul (pAdd (pPow (iso11 0) 3) (pSmul (optimized_bls12_381_b : ℤ) (pPow (iso11 1) 3)))
          (pPow (iso11 3) 2))).all fun c => c % (blsP : ℤ) == 0

theorem check11_true : check11 = true := by decide +kernel

/-- `ℤ → Fp`; on the model type this is `FQ(n)` (`f1c`) -/
def fZ : ℤ →+* F1 := Int.castRingHom F1

theorem fZ_apply (c : ℤ) : fZ c = f1c c := rfl

theorem fZ_eq_zero {c : ℤ} (h : c % (blsP : ℤ) = 0) : fZ c = 0 := by
  apply Fq.toZMod_injective
  show Fq.toZMod ((c : ℤ) : F1) = _
  rw [Fq.toZMod_intCast, Fq.toZMod_zero, ZMod.intCast_zmod_eq_zero_iff_dvd]
  exact Int.dvd_of_emod_eq_zero h

theorem ev_g11 (w : F1) : ev fZ g11 w = w ^ 3 + ISO_11_A * w + ISO_11_B := by
  have hA : fZ (h2c_ISO_11_A : ℤ) = ISO_11_A := rfl
  have hB : fZ (h2c_ISO_11_B : ℤ) = ISO_11_B := rfl
  simp only [g11, ev_cons, ev_nil, hA, hB, map_zero, map_one]
  ring

theorem iso11_identity (w : F1) :
    (w ^ 3 + ISO_11_A * w + ISO_11_B) * ev fZ (iso11 2) w ^ 2 * ev fZ (iso11 1) w ^ 3 =
      (ev fZ (iso11 0) w ^ 3 + blsB * ev fZ (iso11 1) w ^ 3) * ev fZ (iso11 3) w ^ 2 := by
  rw [← ev_g11]
  exact iso_identity_of_check fZ _ (fun c h => fZ_eq_zero (by simpa using h)) g11 _ _ _ _ _ check11_true w

/-- the four Horner values of `iso_map_G1(x, y, z)` -/
def h11 (i : ℕ) (x z : F1) : F1 := isoHorner ((iso11 i).map f1c) x (zPowersOf z 15)

theorem isoMapG1_eq (x y z : F1) :
    isoMapG1 x y z =
      (h11 0 x z * (h11 3 x z * z), (h11 1 x z * z) * (h11 2 x z * y),
        (h11 1 x z * z) * (h11 3 x z * z)) := by
  unfold isoMapG1 h11 iso11
  rw [coeffs11_eq]
  simp only [List.map_cons, List.map_nil, List.getD_cons_zero, List.getD_cons_succ, List.map_map]
  rfl

theorem h11_eq {i d : ℕ} (hl : (iso11 i).length = d + 1) (hd : d ≤ 15) {x z w : F1} (hx : x = w * z) :
    h11 i x z = z ^ d * ev fZ (iso11 i) w := by
  rw [h11, hx, ← ev_map]
  exact isoHorner_eq (by rw [List.length_map, hl]) w z hd

/-- `iso_map_G1(x, y, z)` for `z ≠ 0`, with `w = x/z`:
    `X₃ = z^27·xn(w)·yd(w)`, `Y₃ = z^26·y·xd(w)·yn(w)`, `Z₃ = z^27·xd(w)·yd(w)`. -/
theorem isoMapG1_shape (x y z : F1) (hz : z ≠ 0) :
    IsoShape y z (z ^ 26) (ev fZ (iso11 0) (x / z)) (ev fZ (iso11 1) (x / z)) (ev fZ (iso11 2) (x / z))
      (ev fZ (iso11 3) (x / z)) (isoMapG1 x y z) := by
  have hx : x = (x / z) * z := (div_mul_cancel₀ x hz).symm
  obtain ⟨l0, l1, l2, l3⟩ := iso11_length
  rw [isoMapG1_eq, h11_eq l0 (by decide) hx, h11_eq l1 (by decide) hx, h11_eq l2 (by decide) hx,
    h11_eq l3 (by decide) hx]
  exact ⟨by ring, by ring, by ring⟩

/-- **projective curve equation of the image**: for `z ≠ 0` and `(x : y : z)` on `E1'`, the output
    `(X₃, Y₃, Z₃)` of `iso_map_G1` satisfies `Y₃²·Z₃ − X₃³ = 4·Z₃³` -/
theorem isoMapG1_proj (x y z : F1) (hz : z ≠ 0)
    (h : (y / z) ^ 2 = (x / z) ^ 3 + ISO_11_A * (x / z) + ISO_11_B) :
    (isoMapG1 x y z).2.1 ^ 2 * (isoMapG1 x y z).2.2 - (isoMapG1 x y z).1 ^ 3
      = blsB * (isoMapG1 x y z).2.2 ^ 3 :=
  (isoMapG1_shape x y z hz).on_curve hz (iso11_identity (x / z)) h

end PyEcc.IsoSem
