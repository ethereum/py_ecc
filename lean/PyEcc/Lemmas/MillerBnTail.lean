/-
  The part of the two bn128 `miller_loop`s after the main loop, over a field: the two
  Frobenius line steps (`Q1 = π(Q)`, `nQ2 = −π²(Q)`), the division `f_num·n1·n2 / (f_den·d1·d2)` of the optimized
  module, and the final power.  Both modules perform the same affine computation (optimized: projective
  representatives, numerator/denominator pairs); so if the accumulated Miller values agree after the power `E`
  and the running points represent the same point, the reference tail returns the value of the optimized one.
  Needs: the running point `R` finite with `y ≠ 0`, `Q` finite with `y ≠ 0`, and `R + π(Q)` finite (`fin`).
-/
import PyEcc.Lemmas.MillerBnNaturality
import PyEcc.Lemmas.RefMillerLoop
import PyEcc.Props.C13_Bls

namespace PyEcc.MillerBnSem
open PyEcc PyEcc.Gen PyEcc.MillerSem PyEcc.NegBnSem PyEcc.C13 PyEcc.C13.Bls

variable {K : Type} [Field K] [DecidableEq K]

theorem frobG_toAff (p : ℕ) {Q : K × K × K} (zQ : Q.2.2 ≠ 0) :
    ((frobG p Q).1.2.2 ≠ 0 ∧ toAff (frobG p Q).1 = some ((Q.1 / Q.2.2) ^ p, (Q.2.1 / Q.2.2) ^ p))
      ∧ (frobG p Q).2.2.2 ≠ 0
      ∧ toAff (frobG p Q).2 = some (((Q.1 / Q.2.2) ^ p) ^ p, -(((Q.2.1 / Q.2.2) ^ p) ^ p)) := by
  have z1 : (frobG p Q).1.2.2 ≠ 0 := pow_ne_zero _ zQ
  have z2 : (frobG p Q).2.2.2 ≠ 0 := pow_ne_zero _ z1
  refine ⟨⟨z1, ?_⟩, z2, ?_⟩
  · rw [toAff_of_z_ne_zero z1, div_pow, div_pow]
    rfl
  · rw [toAff_of_z_ne_zero z2, div_pow, div_pow, div_pow, div_pow, ← neg_div]
    rfl

/-- **The tails agree.**  States related by "same running point, Miller values equal after the power `E`":
    the reference tail returns the value of the optimized tail, provided `R` and `Q` are finite with `y ≠ 0` and
    `R + π(Q)` is finite. -/
theorem tail_agree (h2 : (2 : K) ≠ 0) (p : ℕ) {N D f : K} {R Q cP : K × K × K} (zR : R.2.2 ≠ 0) (zQ : Q.2.2 ≠ 0) (zP : cP.2.2 ≠ 0) (yR : R.2.1 ≠ 0) (yQ : Q.2.1 ≠ 0)
    (fin : (OptBls.add R (frobG p Q).1).2.2 ≠ 0) (E : ℕ) (hE : (N / D) ^ E = f ^ E) :
    tailG true p E (Q.1 / Q.2.2) (Q.2.1 / Q.2.2) (toAff cP) (f, toAff R)
      = .ok (((optBnTailPair (frobG p Q) cP ((N, D), R)).1
          / (optBnTailPair (frobG p Q) cP ((N, D), R)).2) ^ E) := by
  obtain ⟨⟨zQ1, aQ1⟩, zQ2, aQ2⟩ := frobG_toAff p zQ
  -- first line, the addition, second line
  have d1 : (OptBls.linefunc R (frobG p Q).1 cP).2 ≠ 0 := fun h =>
    yR ((opt_linefunc_den_eq_zero_iff h2 _ _ _ zR zQ1 zP).mp h).2
  have l1 := opt_linefunc_toAff _ _ _ zR zQ1 zP d1
  have hA := opt_add_toAff h2 R (frobG p Q).1
  have d2 : (OptBls.linefunc (OptBls.add R (frobG p Q).1) (frobG p Q).2 cP).2 ≠ 0 := by
    intro h
    obtain ⟨e, hy⟩ := (opt_linefunc_den_eq_zero_iff h2 _ _ _ fin zQ2 zP).mp h
    rw [aQ2, toAff_of_z_ne_zero fin, hy, zero_div] at e
    have := congrArg Prod.snd (Option.some.inj e)
    exact pow_ne_zero p (pow_ne_zero p (div_ne_zero yQ zQ)) (neg_eq_zero.mp this.symm)
  have l2 := opt_linefunc_toAff _ _ _ fin zQ2 zP d2
  rw [aQ1] at l1 hA
  rw [aQ2] at l2
  rw [tailG_eq_ok.mpr ⟨_, _, _, l1, hA, l2, rfl⟩, optBnTailPair, optBnTailPairG_eq]
  congr 1
  rw [mul_pow, mul_pow, ← hE, ← mul_pow, ← mul_pow]
  congr 1
  rw [OptBn.linefunc_eq, OptBn.add_eq, mul_div_mul_comm, mul_div_mul_comm]

end PyEcc.MillerBnSem
