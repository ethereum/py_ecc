/-
  The per-call form of `PairingFacts` (`Lemmas/BlsProto.lean`).  Its field `miller` speaks of the final exponentiation
  of a PRODUCT of Miller values.  By C12 (`final_exponentiate(x) = x ** ((p¹²−1)/r)` in the executable model,
  `Props/C12_Final.lean`) and the ring laws of the `FQ12` model (`Lemmas/ExpByP.lean`) the final exponentiation is
  multiplicative, so `miller` follows (`miller_of_value`) from a statement on ONE pairing call at a time:

    `value` — for a pairing call on canonical, on-curve, `r`-torsion arguments representing `(q, p)`, the
              final exponentiation of the Miller value is (the value in `F_{p¹²} = F_p[X]/(X¹²−2X⁶+2)` of)
              `e q p` — whatever the projective representatives.

  `PairingValueFacts e` is `PairingFacts e` with `value` in the place of `miller` (`PairingValueFacts.toPairingFacts`).
-/
import PyEcc.Lemmas.BlsProto
import PyEcc.Props.C12_Final

set_option linter.unusedSectionVars false

namespace PyEcc.BlsProto
open PyEcc PyEcc.Gen PyEcc.Gen.Consts PyEcc.Fqp PyEcc.FqpSem PyEcc.Transfer PyEcc.BlsSem

/-- the ring `F_p[X]/(X¹² − 2X⁶ + 2)` in which the values of the model's `FQ12` objects live (a field:
    `C08F12.irreducible_bls12`; only its commutative-ring structure is used here) -/
abbrev K12 : Type := AdjoinRoot (modulus blsP blsMc12)

/-- **`PairingValueFacts e`** for a map `e : E2 → E1 → K12ˣ` ("the reduced pairing, with values in the
    units of `F_{p¹²}`"):
    * `add_left`, `add_right` — HB1: `e` is additive in each argument on `r`-torsion points;
    * `nondeg` — ND: an `r`-torsion point `q` of the twist curve with `e q g1 = 1` is `0`;
    * `value` — HB1′: for every pairing call the verification code can make (canonical on-curve triples
      representing `r`-torsion points `q`, `p`; `pairing(Q, P, final_exponentiate=False) = m`), the value
      of `final_exponentiate(m)` in `F_{p¹²}` is `e q p` — independent of the representatives;
    * `hash_good` — HT6: `hash_to_G2` returns canonical triples on the twist curve passing
      `subgroup_check`. -/
structure PairingValueFacts [DecidableEq K2] (e : E2 → E1 → K12ˣ) : Prop where
  add_left : ∀ {q q' : E2} {p : E1}, blsR • q = 0 → blsR • q' = 0 → blsR • p = 0 →
    e (q + q') p = e q p * e q' p
  add_right : ∀ {q : E2} {p p' : E1}, blsR • q = 0 → blsR • p = 0 → blsR • p' = 0 →
    e q (p + p') = e q p * e q p'
  nondeg : ∀ {g : E1}, Represents blsG1 g → ∀ {q : E2}, blsR • q = 0 → e q g = 1 → q = 0
  value : ∀ a : Arg, a.Good → (toQ (finalExponentiateOptBls a.m) : K12) = ((e a.q a.p : K12ˣ) : K12)
  hash_good : ∀ (H : HashFn) (msg dst : Bytes) (mp : G2Pt), hashToG2 H msg dst = .ok mp →
    CanonT mp ∧ OptBls.is_on_curve mp blsB2 = true ∧ subgroupCheck mp = true

theorem hd12 : 1 ≤ blsMc12.length := by decide

/-- the exponent of the final exponentiation -/
abbrev finalExp : ℕ := (Spec.BLS12381.p ^ 12 - 1) / Spec.BLS12381.r

/-- value of `final_exponentiate(x)` for any 12-coefficient `x`: the `finalExp`-th power of the value -/
theorem toQ_finalExponentiate (x : OBls12) (hx : WF x) :
    (toQ (finalExponentiateOptBls x) : K12) = (toQ x) ^ finalExp := by
  rw [C12.finalExponentiateOptBls_eq_pow x hx]
  exact toQ_pow hd12 hx _

theorem canon_finalExponentiate (x : OBls12) (hx : WF x) : Canon (finalExponentiateOptBls x) := by
  rw [C12.finalExponentiateOptBls_eq_pow x hx]
  exact pow_canon CodecSem.blsP_pos hd12 _ _

theorem mprod_spec : ∀ (ms : List OBls12), ms ≠ [] → (∀ m ∈ ms, WF m) →
    WF (mprod ms) ∧ (toQ (mprod ms) : K12) = (ms.map toQ).prod := by
  intro ms hne hwf
  cases ms with
  | nil => exact (hne rfl).elim
  | cons m rest =>
    obtain ⟨w, q⟩ := PairingSem.foldl_mul_spec rest (fun f hf => hwf f (List.mem_cons_of_mem _ hf)) m
      (hwf m (List.mem_cons_self ..))
    exact ⟨w, by rw [List.map_cons, List.prod_cons]; exact q⟩

section
variable [DecidableEq K2] {e : E2 → E1 → K12ˣ}

/-- The per-call statement `value` implies the product form `miller` of `PairingFacts`: the final exponentiation is
    multiplicative. -/
theorem miller_of_value
    (value : ∀ a : Arg, a.Good → (toQ (finalExponentiateOptBls a.m) : K12) = ((e a.q a.p : K12ˣ) : K12))
    (l : List Arg) (hne : l ≠ []) (hgood : ∀ a ∈ l, a.Good) :
    finalExponentiateOptBls (mprod (l.map Arg.m)) = (1 : OBls12) ↔
      (l.map fun a => e a.q a.p).prod = 1 := by
  have hwf : ∀ m ∈ l.map Arg.m, WF m := by
    intro m hm
    obtain ⟨a, ha, rfl⟩ := List.mem_map.mp hm
    exact C12.pairingOptBls_wf a.Q a.P false a.m (hgood a ha).2.2.2.2
  obtain ⟨w, q⟩ := mprod_spec (l.map Arg.m) (by simpa using hne) hwf
  have hval : (toQ (finalExponentiateOptBls (mprod (l.map Arg.m))) : K12)
      = (((l.map fun a => e a.q a.p).prod : K12ˣ) : K12) := by
    rw [toQ_finalExponentiate _ w, q, C12.two_step_final_exp, List.map_map, List.map_map]
    have : ((l.map fun a => e a.q a.p).prod : K12ˣ).val
        = (l.map fun a => ((e a.q a.p : K12ˣ) : K12)).prod := by
      rw [← Units.coeHom_apply, map_list_prod, List.map_map]
      rfl
    rw [this]
    apply congrArg List.prod
    apply List.map_congr_left
    intro a ha
    show (toQ a.m : K12) ^ finalExp = _
    rw [← toQ_finalExponentiate a.m (hwf _ (List.mem_map_of_mem ha)), value a (hgood a ha)]
  constructor
  · intro h
    rw [h, show (toQ (1 : OBls12) : K12) = 1 from toQ_one] at hval
    exact Units.ext hval.symm
  · intro h
    rw [h, Units.val_one, ← show (toQ (1 : OBls12) : K12) = 1 from toQ_one] at hval
    exact toQ_inj (canon_finalExponentiate _ w) (canon_one CodecSem.blsP_pos hd12) hval

theorem PairingValueFacts.miller (pv : PairingValueFacts e) (l : List Arg) (hne : l ≠ [])
    (hgood : ∀ a ∈ l, a.Good) :
    finalExponentiateOptBls (mprod (l.map Arg.m)) = (1 : OBls12) ↔
      (l.map fun a => e a.q a.p).prod = 1 := miller_of_value pv.value l hne hgood

theorem PairingValueFacts.toPairingFacts (pv : PairingValueFacts e) : PairingFacts e where
  add_left := pv.add_left
  add_right := pv.add_right
  nondeg := pv.nondeg
  miller := pv.miller
  hash_good := pv.hash_good

end

end PyEcc.BlsProto
