/-
  The BLS12-381 `twist` functions of the model (`twistOptBls`, `twistRefBls`,
  `Model/Curve.lean`) read in the fields `K2`, `K12`:

      value of `twist(pt)`  =  `twO ψ w⁻¹` (value of `pt`),      `(x, y) ↦ (ψ(x)/w², ψ(y)/w³)`

  (`ψ = psiBls`, `Lemmas/TwistField.lean`; `twO`, `twistHom`: `Lemmas/TwistPoint.lean`), for the optimized
  module through the affine reading `toAff` of a projective triple — the optimized `twist` is
  `(x : y : z) ↦ (ψ(x)·w : ψ(y) : ψ(z)·w³)` — and for the reference module literally.
  `ψ(b2)·w⁻⁶ = b12` (`4(1+i) ↦ 4w⁶`), so the target curve is `y² = x³ + b12`.
-/
import PyEcc.Lemmas.TwistField
import PyEcc.Lemmas.TwistLaws

set_option linter.unusedSectionVars false

namespace PyEcc.TwistSem
open PyEcc PyEcc.Gen PyEcc.Gen.Consts PyEcc.Fqp PyEcc.FqpSem PyEcc.Transfer PyEcc.CurveSem
  WeierstrassCurve

/-- the scaling constant of the BLS12-381 twist: `c = w⁻¹` -/
noncomputable abbrev cBls : K12 := (wQ blsP blsMc12)⁻¹

theorem cBls_ne_zero : cBls ≠ 0 := inv_ne_zero wQ_bls_ne_zero

/-- `ψ(b2)·c⁶ = b12`: `4(1+i) ↦ 4w⁶`, divided by `w⁶` -/
theorem bls_b_twist (v : Variant) : psiBls (toQ (blsB2v v)) * cBls ^ 6 = toQ (blsB12 v) := by
  have e : (toQ (blsB2v v) : K2) = AdjoinRoot.of _ ((4 : ℤ) : ZMod blsP)
      + AdjoinRoot.of _ ((4 : ℤ) : ZMod blsP) * AdjoinRoot.root _ := by
    cases v <;> exact evQ_pair _ 4 4
  rw [e, psiBls_apply, toQ_blsB12, sub_self, map_zero, zero_add, inv_pow, mul_assoc,
    mul_inv_cancel₀ (pow_ne_zero _ wQ_bls_ne_zero), mul_one, Int.cast_ofNat, map_ofNat]

section coord
variable {v : Variant} (x : Fqp v blsP blsMc2) (k : ℕ)

theorem canon_embed_div_w : Canon (embed12 1 0 6 x / wElem ^ k : F12 v) :=
  goodHom_F12.good_div (canon_embed_bls _ _ _ _) (goodHom_F12.good_pow k wElem_bls.1)

variable {x} in
/-- the coordinates of the reference `twist`: `embed12 1 0 6 x / w^k` has the value `ψ(x)·w⁻ᵏ` -/
theorem toQ_embed_div_w (hx : WF x) :
    toQ (embed12 1 0 6 x / wElem ^ k : F12 v) = psiBls (toQ x) * cBls ^ k := by
  have g := goodHom_F12 (v := v)
  rw [g.map_div (canon_embed_bls _ _ _ _) (g.good_pow k wElem_bls.1), g.map_pow k wElem_bls.1, wElem_bls.2,
    toQ_embed_bls hx, div_eq_mul_inv, inv_pow]

end coord

section pts
variable [DecidableEq K2] [DecidableEq K12]

/-- the BLS12-381 twist as a homomorphism of Mathlib point groups
    `E'(Fp²) : y² = x³ + 4(1+i)  →  E(Fp¹²) : y² = x³ + 4`, `(x, y) ↦ (ψ(x)/w², ψ(y)/w³)` -/
noncomputable def blsTwist (v : Variant) :
    CurvePt (toQ (blsB2v v) : K2) →+ CurvePt (toQ (blsB12 v) : K12) :=
  twistHom psiBls cBls_ne_zero (k12_field_ok v).1 (k12_field_ok v).2.1 (k12_field_ok v).2.2.2
    (bls_b_twist v)

theorem blsTwist_injective (v : Variant) : Function.Injective (blsTwist v) :=
  twistHom_injective _ _ _ _ _ _

theorem reprRef_blsTwist (v : Variant) (P : CurvePt (toQ (blsB2v v) : K2)) :
    reprRef (blsTwist v P) = twO psiBls cBls (reprRef P) := reprRef_twistHom _ _ _ _ _ _ P

/-- `blsTwist` for the optimized module (`b2 = blsB2`, the constant of `Model/Curve.lean`) -/
noncomputable def blsTwistOpt : CurvePt (toQ blsB2 : K2) →+ CurvePt (toQ (blsB12 .opt) : K12) :=
  blsTwist .opt

theorem canonT_twistOptBls (T : G2Pt) : CanonT (twistOptBls (mc12 := blsMc12) T) :=
  ⟨canon_embed_bls _ _ _ _, canon_embed_bls _ _ _ _, canon_embed_bls _ _ _ _⟩

theorem mapT_twistOptBls {T : G2Pt} (c : CanonT T) :
    mapT (toQ : F12 .opt → K12) (twistOptBls T)
      = (psiBls (toQ T.1) * wQ blsP blsMc12, psiBls (toQ T.2.1),
          psiBls (toQ T.2.2) * wQ blsP blsMc12 ^ 3) := by
  obtain ⟨x, y, z⟩ := T
  obtain ⟨cx, cy, cz⟩ := c
  simp only [twistOptBls, mapT_mk]
  rw [toQ_embed_bls_w cx.wf, toQ_embed_bls cy.wf, toQ_embed_bls_w3 cz.wf]

/-- `toAff_twist` with `t = w³`: `w⁻²·w³ = w`, `w⁻³·w³ = 1` -/
theorem toAff_twistVal (T : K2 × K2 × K2) :
    toAff (psiBls T.1 * wQ blsP blsMc12, psiBls T.2.1, psiBls T.2.2 * wQ blsP blsMc12 ^ 3)
      = twO psiBls cBls (toAff T) := by
  have hw := wQ_bls_ne_zero
  have e2 : cBls ^ 2 * wQ blsP blsMc12 ^ 3 = wQ blsP blsMc12 := by
    rw [inv_pow, pow_succ _ 2, ← mul_assoc, inv_mul_cancel₀ (pow_ne_zero 2 hw), one_mul]
  have e3 : cBls ^ 3 * wQ blsP blsMc12 ^ 3 = 1 := by rw [← mul_pow, inv_mul_cancel₀ hw, one_pow]
  rw [← toAff_twist psiBls (pow_ne_zero 3 hw), e2, e3, mul_one]

theorem rep_twistOptBls {T : G2Pt} {P : CurvePt (toQ blsB2 : K2)} (r : Rep curveF2 T P) :
    Rep (curveF12 .opt) (twistOptBls T) (blsTwistOpt P) :=
  rep_twist psiBls cBls_ne_zero (bls_b_twist .opt) (canonT_twistOptBls T)
    ((congrArg toAff (mapT_twistOptBls r.good)).trans (toAff_twistVal (mapT toQ T))) r

theorem canonO_twistRefBls {p : Option (Fqp .ref blsP blsMc2 × Fqp .ref blsP blsMc2)} :
    CanonO (twistRefBls (mc12 := blsMc12) p) := by
  rcases p with _ | ⟨x, y⟩
  · trivial
  · exact ⟨canon_embed_div_w x 2, canon_embed_div_w y 3⟩

theorem mapO_twistRefBls {p : Option (Fqp .ref blsP blsMc2 × Fqp .ref blsP blsMc2)} (c : CanonO p) :
    mapO (toQ : F12 .ref → K12) (twistRefBls p) = twO psiBls cBls (mapO (toQ : _ → K2) p) := by
  rcases p with _ | ⟨x, y⟩
  · rfl
  · simp only [twistRefBls, mapO_some, twO_some]
    rw [toQ_embed_div_w 2 c.1.wf, toQ_embed_div_w 3 c.2.wf]

theorem rep_twistRefBls {p : Option (Fqp .ref blsP blsMc2 × Fqp .ref blsP blsMc2)}
    {P : CurvePt (toQ (blsB2v .ref) : K2)} (r : RepO (curveF2v .ref) p P) :
    RepO (curveF12 .ref) (twistRefBls p) (blsTwist .ref P) :=
  repO_twist psiBls cBls_ne_zero (bls_b_twist .ref) canonO_twistRefBls (mapO_twistRefBls r.good) r

end pts

end PyEcc.TwistSem
