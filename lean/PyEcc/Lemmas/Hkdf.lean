/-
  For C16 (core Lean only): the loop invariant of `hkdf_expand`, the loop
  of `KeyGen` (HMAC itself: `C16.hmac_eq_spec_aux`, `Lemmas/HashBytes.lean`).
-/
import PyEcc.Lemmas.HashBytes
import PyEcc.Model.Bls

namespace PyEcc.C16
open PyEcc.C15

/-- `T(1) ‖ … ‖ T(n)` -/
def flatT (H : HashFn) (prk info : Bytes) (n : Nat) : Bytes :=
  ((List.range n).map fun i => Spec.hkdfT H prk info (i + 1)).flatten

theorem flatT_succ (H : HashFn) (prk info : Bytes) (n : Nat) :
    flatT H prk info (n + 1) = flatT H prk info n ++ Spec.hkdfT H prk info (n + 1) := by
  simp [flatT, List.range_succ]

/-- Loop invariant of `for i in range(0, n)`: entering iteration `i`, `previous = T(i)` and
    `okm = T(1) ‖ … ‖ T(i)`; `k` more iterations, none reaching `bytes([256])`, give
    `T(1) ‖ … ‖ T(i+k)`. -/
theorem hkdfExpandLoop_ok (H : HashFn) (prk info : Bytes) (hk : HmacKeyOk H prk) : ∀ k i, i + k ≤ 255 →
    hkdfExpandLoop H prk info k i (Spec.hkdfT H prk info i) (flatT H prk info i)
      = .ok (flatT H prk info (i + k)) := by
  intro k
  induction k with
  | zero => intro i _; rfl
  | succ k ih =>
    intro i hi
    unfold hkdfExpandLoop
    rw [if_neg (by omega)]
    simp only
    have hT : hmac H prk (Spec.hkdfT H prk info i ++ info ++ [UInt8.ofNat (i + 1)])
        = Spec.hkdfT H prk info (i + 1) := by
      rw [hmac_eq_spec_aux H prk _ hk, Spec.hkdfT, I2OSP_one]
    rw [hT, ← flatT_succ, ih (i + 1) (by omega)]
    congr 2
    omega

/-- while no iteration reaches `i = 256` the loop cannot fail, whatever the hash function and key -/
theorem hkdfExpandLoop_isOk (H : HashFn) (prk info : Bytes) : ∀ k i prev okm, i + k ≤ 255 →
    ∃ r, hkdfExpandLoop H prk info k i prev okm = .ok r := by
  intro k
  induction k with
  | zero => intro i prev okm _; exact ⟨okm, rfl⟩
  | succ k ih =>
    intro i prev okm hi
    unfold hkdfExpandLoop
    rw [if_neg (by omega)]
    exact ih (i + 1) _ _ (by omega)

/-- If the loop is to run past `i = 255` it raises `ValueError` (`bytes([256])`). -/
theorem hkdfExpandLoop_error (H : HashFn) (prk info : Bytes) : ∀ k i, i ≤ 255 → 255 < i + k →
    ∀ prev okm, hkdfExpandLoop H prk info k i prev okm = .error .value := by
  intro k
  induction k with
  | zero => intro i h1 h2; omega
  | succ k ih =>
    intro i h1 h2 prev okm
    unfold hkdfExpandLoop
    by_cases h : i + 1 > 255
    · rw [if_pos h]
    · rw [if_neg h]
      exact ih (i + 1) (by omega) (by omega) _ _

theorem hkdfT_length (H : HashFn) (hw : H.WF) (prk info : Bytes) (i : Nat) :
    (Spec.hkdfT H prk info (i + 1)).length = H.digestSize := by
  unfold Spec.hkdfT Spec.hmac
  exact hw.run_length _

theorem hkdfOkm_length (H : HashFn) (hw : H.WF) (prk info : Bytes) (L : Nat) :
    (Spec.hkdfOkm H prk info L).length = L :=
  take_blocks_length hw.digest_pos (hkdfT_length H hw prk info) L

theorem hkdfExpand_eq_aux (H : HashFn) (prk info : Bytes) (hk : HmacKeyOk H prk)
    (h32 : H.digestSize = 32) (L : Nat) :
    hkdfExpand H prk info L =
      if L ≤ 255 * 32 then .ok (Spec.hkdfOkm H prk info L) else .error .value := by
  unfold hkdfExpand
  rw [ceilDiv_eq_spec L (by decide : 0 < 32)]
  have hc := spec_ceilDiv_le_iff L 255 (b := 32) (by decide)
  by_cases h : L ≤ 255 * 32
  · rw [if_pos h]
    have := hkdfExpandLoop_ok H prk info hk (Spec.ceilDiv L 32) 0 (by omega)
    rw [Nat.zero_add] at this
    change hkdfExpandLoop H prk info (Spec.ceilDiv L 32) 0 [] [] = _ at this
    simp only [this, bind, Except.bind, pure, Except.pure]
    unfold Spec.hkdfOkm flatT
    rw [h32]
  · rw [if_neg h]
    dsimp only
    rw [hkdfExpandLoop_error H prk info (Spec.ceilDiv L 32) 0 (by omega) (by omega)]
    rfl

/-- the value of `salt` on entry to pass `n` of the loop (before `salt = H(salt)`) -/
def saltBefore (H : HashFn) : Nat → Bytes
  | 0 => Spec.keyGenSalt
  | n + 1 => Spec.keyGenSaltAt H n

theorem run_saltBefore (H : HashFn) (n : Nat) : H.run (saltBefore H n) = Spec.keyGenSaltAt H n := by
  cases n <;> rfl

theorem keyGenSalt_eq : "BLS-SIG-KEYGEN-SALT-".toUTF8.toList = Spec.keyGenSalt := by
  decide +kernel

theorem spec_keyGenFrom_some_iff (H : HashFn) (r : Nat) (ikm info : Bytes) (sk : Nat) :
    ∀ fuel n, Spec.keyGenFrom H r ikm info fuel n = some sk ↔
      ∃ k, k < fuel ∧ Spec.keyGenCandidate H r ikm info (n + k) = sk ∧ sk ≠ 0 ∧
        ∀ m, m < k → Spec.keyGenCandidate H r ikm info (n + m) = 0 := by
  intro fuel
  induction fuel with
  | zero => intro n; simp [Spec.keyGenFrom]
  | succ fuel ih =>
    intro n
    unfold Spec.keyGenFrom
    dsimp only
    split
    · rename_i h0
      rw [ih (n + 1)]
      constructor
      · rintro ⟨k, hk, hc, hne, hz⟩
        rw [Nat.add_right_comm] at hc
        refine ⟨k + 1, Nat.succ_lt_succ hk, hc, hne, fun m hm => ?_⟩
        cases m with
        | zero => exact h0
        | succ m =>
          have := hz m (Nat.lt_of_succ_lt_succ hm)
          rwa [Nat.add_right_comm] at this
      · rintro ⟨k, hk, hc, hne, hz⟩
        cases k with
        | zero => exact absurd (hc.symm.trans h0) hne
        | succ k =>
          refine ⟨k, Nat.lt_of_succ_lt_succ hk, by rwa [Nat.add_right_comm], hne, fun m hm => ?_⟩
          rw [Nat.add_right_comm]
          exact hz (m + 1) (Nat.succ_lt_succ hm)
    · rename_i h0
      constructor
      · intro h
        injection h with h
        exact ⟨0, Nat.succ_pos _, h, h ▸ h0, fun m hm => absurd hm (Nat.not_lt_zero m)⟩
      · rintro ⟨k, hk, hc, hne, hz⟩
        cases k with
        | zero => rw [← hc]; rfl
        | succ k => exact absurd (hz 0 (Nat.succ_pos k)) h0

theorem spec_keyGenFrom_none_iff (H : HashFn) (r : Nat) (ikm info : Bytes) :
    ∀ fuel n, Spec.keyGenFrom H r ikm info fuel n = none ↔
      ∀ k, k < fuel → Spec.keyGenCandidate H r ikm info (n + k) = 0 := by
  intro fuel n
  constructor
  · intro h k
    -- the first non-zero candidate below `fuel` would be returned
    induction k using Nat.strongRecOn with
    | _ k ih =>
      intro hk
      apply Decidable.byContradiction
      intro hne
      have hs := (spec_keyGenFrom_some_iff H r ikm info _ fuel n).mpr
        ⟨k, hk, rfl, hne, fun m hm => ih m hm (Nat.lt_trans hm hk)⟩
      rw [h] at hs
      cases hs
  · intro h
    cases hs : Spec.keyGenFrom H r ikm info fuel n with
    | none => rfl
    | some sk =>
      obtain ⟨k, hk, hc, hne, -⟩ := (spec_keyGenFrom_some_iff H r ikm info sk fuel n).mp hs
      exact absurd (hc.symm.trans (h k hk)) hne

theorem keygenL_eq : Gen.Consts.suites_keygen_L = Spec.keyGenL := by decide

theorem keyGenLoop_eq_spec_aux (H : HashFn) (hw : H.WF) (h32 : H.digestSize = 32) (ikm info : Bytes) :
    ∀ fuel n, keyGenLoop H ikm info fuel (saltBefore H n) =
      match Spec.keyGenFrom H curveOrder ikm info fuel n with
      | some sk => .ok sk
      | none => .error .other := by
  intro fuel
  induction fuel with
  | zero => intro n; rfl
  | succ fuel ih =>
    intro n
    unfold keyGenLoop Spec.keyGenFrom
    have hl : i2osp Gen.Consts.suites_keygen_L 2 = .ok (Spec.I2OSP Spec.keyGenL 2) :=
      i2osp_eq_ok (by decide)
    have hprk : hkdfExtract H (H.run (saltBefore H n)) (ikm ++ [0])
        = Spec.hkdfExtract H (Spec.keyGenSaltAt H n) (ikm ++ Spec.I2OSP 0 1) := by
      unfold hkdfExtract Spec.hkdfExtract
      rw [hmac_eq_spec_aux H _ _ (hmacKeyOk_of_WF hw _), run_saltBefore]
      rfl
    have hL : Gen.Consts.suites_keygen_L ≤ 255 * 32 := by decide
    simp only [hl, hprk, bind, Except.bind, pure, Except.pure,
      hkdfExpand_eq_aux H _ _ (hmacKeyOk_of_WF hw _) h32, if_pos hL]
    have hc : os2ip (Spec.hkdfOkm H (Spec.hkdfExtract H (Spec.keyGenSaltAt H n) (ikm ++ Spec.I2OSP 0 1))
        (info ++ Spec.I2OSP Spec.keyGenL 2) Gen.Consts.suites_keygen_L) % curveOrder
        = Spec.keyGenCandidate H curveOrder ikm info n := by
      unfold Spec.keyGenCandidate
      dsimp only
      rw [OS2IP_eq_os2ip, keygenL_eq]
    rw [hc]
    by_cases h0 : Spec.keyGenCandidate H curveOrder ikm info n = 0
    · rw [if_pos h0, if_pos h0, run_saltBefore]
      exact ih (n + 1)
    · rw [if_neg h0, if_neg h0]

end PyEcc.C16
