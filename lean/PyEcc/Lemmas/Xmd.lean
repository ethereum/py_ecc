/-
  For C15 (core Lean only): the loop invariant of
  `expand_message_xmd`, and facts about the specification `Spec.expandMessageXmd`
  (when it aborts; length of its output).
-/
import PyEcc.Lemmas.HashBytes

namespace PyEcc.C15

/-- the list `[b_1, …, b_n]` of the specification -/
def specBs (H : HashFn) (b0 dp : Bytes) (n : Nat) : List Bytes :=
  (List.range n).map fun i => Spec.xmdB H b0 dp (i + 1)

theorem specBs_succ (H : HashFn) (b0 dp : Bytes) (n : Nat) :
    specBs H b0 dp (n + 1) = specBs H b0 dp n ++ [Spec.xmdB H b0 dp (n + 1)] := by
  simp [specBs, List.range_succ]

theorem specBs_getElem? (H : HashFn) (b0 dp : Bytes) (m : Nat) :
    (specBs H b0 dp (m + 1))[m]? = some (Spec.xmdB H b0 dp (m + 1)) := by
  simp [specBs]

/-- Loop invariant of `for i in range(2, ell + 1)`: entering iteration `i = m + 2` the list `b`
    is `[b_1, …, b_(m+1)]`; after `k` more iterations (none of which can raise, as `i ≤ 255`) it is
    `[b_1, …, b_(m+1+k)]`. -/
theorem xmdLoop_spec (H : HashFn) (b0 dp : Bytes) : ∀ k m, m + 2 + k ≤ 256 →
    xmdLoop H b0 dp k (m + 2) (specBs H b0 dp (m + 1)) = .ok (specBs H b0 dp (m + 1 + k)) := by
  intro k
  induction k with
  | zero => intro m _; rfl
  | succ k ih =>
    intro m hm
    unfold xmdLoop
    have h1 : i2osp (m + 2) 1 = .ok (Spec.I2OSP (m + 2) 1) := i2osp_eq_ok (by omega)
    simp only [Nat.add_sub_cancel, specBs_getElem?, Option.getD_some, h1]
    show xmdLoop H b0 dp k (m + 1 + 2)
      (specBs H b0 dp (m + 1) ++ [Spec.xmdB H b0 dp (m + 1 + 1)]) = _
    rw [← specBs_succ, ih (m + 1) (by omega)]
    congr 2
    omega

/-- The specification aborts exactly under the RFC's three conditions (by definition). -/
theorem spec_xmd_none_iff (H : HashFn) (msg dst : Bytes) (len : Nat) :
    Spec.expandMessageXmd H msg dst len = none ↔
      dst.length > 255 ∨ Spec.ceilDiv len H.digestSize > 255 ∨ len ≥ 65536 := by
  unfold Spec.expandMessageXmd
  by_cases h : Spec.ceilDiv len H.digestSize > 255 ∨ len > 65535 ∨ dst.length > 255
  · simp only [h, if_true, true_iff]; omega
  · simp only [h, if_false]
    constructor
    · intro h'; cases h'
    · intro h'; exact absurd (by omega) h

theorem xmdB_length (H : HashFn) (hw : ∀ x, (H.run x).length = H.digestSize) (b0 dp : Bytes) (i : Nat) :
    (Spec.xmdB H b0 dp (i + 1)).length = H.digestSize := by
  cases i with
  | zero => exact hw _
  | succ i => exact hw _

theorem spec_xmd_length (H : HashFn) (hw : H.WF) (msg dst : Bytes) (len : Nat) (out : Bytes)
    (h : Spec.expandMessageXmd H msg dst len = some out) : out.length = len := by
  unfold Spec.expandMessageXmd at h
  dsimp only at h
  split at h
  · cases h
  · injection h with h
    subst h
    exact take_blocks_length hw.digest_pos (xmdB_length H hw.run_length _ _) len

end PyEcc.C15
