/-
  The optimized bn128 `miller_loop` as a function of the coordinate type (`optBnStepG`, `optBnPairG`, `optBnMillerG` of
  `Lemmas/MillerModel.lean` at the generated curve operations, as abbreviations, so that the tie and the lemmas here
  speak of the same terms), and its transport: an `OpHom` commutes with it, and so does a `GoodHom` on good inputs
  (through the subtype of good elements, as for the single curve functions in `Lemmas/TransferOptBls.lean`).
  Instances: `toQ` into the field `K12bn` (`Lemmas/MillerBnPairing.lean`, where the comparison with the reference loop
  is made over the field) and `toL` from the fast arithmetic (`Lemmas/NondegLoopBn.lean`).
-/
import PyEcc.Lemmas.MillerModel
import PyEcc.Lemmas.TransferOptBls
import PyEcc.Lemmas.TwinModules

set_option linter.unusedSectionVars false

namespace PyEcc.MillerBnSem
open PyEcc PyEcc.Gen PyEcc.Transfer

/-- the signed digits `pseudo_binary_encoding[63::-1]` scanned by the optimized loop -/
abbrev bnDigits : List Int := digitsFrom Gen.Consts.optimized_bn128_pseudo_binary_encoding 63

section defs
variable {F : Type} [Zero F] [One F] [Add F] [Sub F] [Mul F] [Neg F] [Div F] [NatCast F] [Pow F Nat]
  [DecidableEq F]

/-- body of `for v in pseudo_binary_encoding[63::-1]` (the local `step` of `optBnMillerLoop`): `optBnStepG`
    at the generated curve operations, over any coordinate type (as those are) -/
abbrev optBnStep (Q P : F × F × F) (st : (F × F) × (F × F × F)) (v : Int) : (F × F) × (F × F × F) :=
  optBnStepG Gen.OptBn.linefunc Gen.OptBn.double Gen.OptBn.neg Gen.OptBn.add Q P st v

abbrev optBnTailPair (QQ : (F × F × F) × (F × F × F)) (P : F × F × F) (st : (F × F) × (F × F × F)) : F × F :=
  optBnTailPairG Gen.OptBn.linefunc Gen.OptBn.add QQ P st

abbrev optBnPair (p : Nat) (digits : List Int) (Q P : F × F × F) : F × F :=
  optBnPairG p Gen.OptBn.linefunc Gen.OptBn.double Gen.OptBn.neg Gen.OptBn.add digits Q P

/-- the optimized bn128 `miller_loop(Q, P, final_exponentiate)` over any coordinate type -/
abbrev optBnMiller (p : Nat) (digits : List Int) (fe : Option Nat) (Q P : F × F × F) : F :=
  Tie.optBnMillerG p Gen.OptBn.linefunc Gen.OptBn.double Gen.OptBn.neg Gen.OptBn.add digits fe Q P

end defs

theorem optBnMillerLoop_eq {p : Nat} {mc12 : List Int} (digits : List Int) (fe : Option Nat)
    (Q P : Fqp .opt p mc12 × Fqp .opt p mc12 × Fqp .opt p mc12) :
    optBnMillerLoop digits fe Q P = optBnMiller p digits fe Q P := optBnMillerLoop_eq_G digits fe Q P

variable {A B : Type}
  [Zero A] [One A] [Add A] [Sub A] [Mul A] [Neg A] [Div A] [NatCast A] [Pow A Nat] [DecidableEq A]
  [Zero B] [One B] [Add B] [Sub B] [Mul B] [Neg B] [Div B] [NatCast B] [Pow B Nat] [DecidableEq B]

/-- apply a coordinate map to a loop state `((f_num, f_den), R)` -/
def mapS (ψ : A → B) (s : (A × A) × (A × A × A)) : (B × B) × (B × B × B) := (mapP ψ s.1, mapT ψ s.2)

section ophom
variable {ψ : A → B} (h : OpHom ψ)
include h

theorem optBnStep_map (Q P : A × A × A) (s : (A × A) × (A × A × A)) (v : Int) :
    optBnStep (mapT ψ Q) (mapT ψ P) (mapS ψ s) v = mapS ψ (optBnStep Q P s v) := by
  obtain ⟨⟨fN, fD⟩, R⟩ := s
  rw [optBnStep, optBnStep, optBnStepG_eq, show mapS ψ ((fN, fD), R) = ((ψ fN, ψ fD), mapT ψ R) from rfl,
    optBnStepG_eq, apply_ite (mapS ψ), apply_ite (mapS ψ)]
  simp only [mapS, OptBn.linefunc_eq, OptBn.double_eq, OptBn.neg_eq, OptBn.add_eq, ← Bls.double_map h,
    ← Bls.neg_map h, ← Bls.add_map h, ← Bls.linefunc_map h, mapP, h.map_mul]

theorem frobG_map (p : Nat) (Q : A × A × A) :
    frobG p (mapT ψ Q) = (mapT ψ (frobG p Q).1, mapT ψ (frobG p Q).2) := by
  simp only [frobG, mapT, h.map_pow, h.map_neg]

theorem optBnTailPair_map (QQ : (A × A × A) × (A × A × A)) (P : A × A × A) (s : (A × A) × (A × A × A)) :
    optBnTailPair (mapT ψ QQ.1, mapT ψ QQ.2) (mapT ψ P) (mapS ψ s) = mapP ψ (optBnTailPair QQ P s) := by
  obtain ⟨⟨fN, fD⟩, R⟩ := s
  rw [optBnTailPair, optBnTailPair, optBnTailPairG_eq,
    show mapS ψ ((fN, fD), R) = ((ψ fN, ψ fD), mapT ψ R) from rfl, optBnTailPairG_eq]
  simp only [OptBn.linefunc_eq, OptBn.add_eq, ← Bls.add_map h, ← Bls.linefunc_map h, mapP, h.map_mul]

theorem optBnPair_map (p : Nat) (digits : List Int) (Q P : A × A × A) :
    mapP ψ (optBnPair p digits Q P) = optBnPair p digits (mapT ψ Q) (mapT ψ P) := by
  have e : mapS ψ (((1 : A), (1 : A)), Q) = (((1 : B), (1 : B)), mapT ψ Q) := by
    simp only [mapS, mapP_mk, h.map_one]
  rw [optBnPair, optBnPair, optBnPairG, optBnPairG, ← e, List.foldl_hom (mapS ψ) (optBnStep_map h Q P), frobG_map h]
  exact (optBnTailPair_map h ..).symm

end ophom

section goodhom
variable {Good : A → Prop} {φ : A → B} (h : GoodHom Good φ)
include h
open GoodSub

theorem optBnPair_good (p : Nat) (digits : List Int) {Q P : A × A × A} (gQ : GoodT Good Q)
    (gP : GoodT Good P) :
    GoodP Good (optBnPair p digits Q P)
      ∧ mapP φ (optBnPair p digits Q P) = optBnPair p digits (mapT φ Q) (mapT φ P) := by
  obtain ⟨X, rfl⟩ := exists_valT h gQ
  obtain ⟨Y, rfl⟩ := exists_valT h gP
  rw [← optBnPair_map (opHom_val h)]
  exact ⟨goodP_val h _, optBnPair_map (opHom_img h) p digits X Y⟩

theorem optBnMiller_good (p : Nat) (digits : List Int) (fe : Option Nat) {Q P : A × A × A}
    (gQ : GoodT Good Q) (gP : GoodT Good P) :
    Good (optBnMiller p digits fe Q P)
      ∧ φ (optBnMiller p digits fe Q P) = optBnMiller p digits fe (mapT φ Q) (mapT φ P) := by
  obtain ⟨⟨gn, gd⟩, e⟩ := optBnPair_good h p digits gQ gP
  have ed := (h.map_div gn gd).trans (congrArg₂ (· / ·) (congrArg Prod.fst e) (congrArg Prod.snd e))
  cases fe with
  | none => exact ⟨h.good_div gn gd, ed⟩
  | some E => exact ⟨h.good_pow E (h.good_div gn gd), (h.map_pow E (h.good_div gn gd)).trans (congrArg (· ^ E) ed)⟩

end goodhom

end PyEcc.MillerBnSem
