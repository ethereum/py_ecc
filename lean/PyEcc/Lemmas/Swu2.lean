/-
  `optimized_swu_G2` (model: `optimizedSwuG2`) never takes its
  "unreachable" `raise`, and computes RFC 9380's simplified SWU map for the 3-isogenous curve of
  BLS12-381 G2.  The model values are read in the field `K2 = Fp[X]/(X²+1)` through `q`
  (`Sem/Fq2K2.lean`); the intermediate values are named in `Lemmas/Swu2Shape.lean`; the
  projective computation itself is `SwuSem.proj_isSswu` (`Lemmas/SwuAux.lean`), shared with G1.

  Mathematics (`e = (p²−9)/16`, `p² ≡ 9 mod 16`): `γ = (u v¹⁵)^e · u v⁷` satisfies
  `γ² v = u·χ` with `χ = (u v¹⁵)^((p²−1)/8)`, an 8th root of unity when `u v ≠ 0`.
  * `χ⁴ = 1`: `χ ∈ {1, −1, i, −i}` and one of the four table roots `ρ` has `ρ²χ = 1`: success.
  * `χ⁴ = −1`: `χ ∈ {±r₂, ±r₃}` and one of the four `η ∈ ETAS` has `η²χ = Z³`: success_2.
-/
import PyEcc.Lemmas.Swu2Sgn
import PyEcc.Lemmas.SwuAux

namespace PyEcc.Swu2
open PyEcc PyEcc.Fqp PyEcc.FqpSem PyEcc.Spec PyEcc.SwuSem Gen.Consts

section generic
variable {F : Type*} [Field F]

theorem gamma_sq (u v : F) (e : ℕ) :
    ((u * v ^ 7 * v ^ 8) ^ e * (u * v ^ 7)) ^ 2 * v = u * (u * v ^ 7 * v ^ 8) ^ (2 * e + 1) := by
  ring

theorem chi_cases (χ : F) (h8 : χ ^ 8 = 1) : χ ^ 4 = 1 ∨ χ ^ 4 = -1 := by
  have : (χ ^ 4 - 1) * (χ ^ 4 + 1) = 0 := by linear_combination h8
  rcases mul_eq_zero.mp this with h | h
  · left; linear_combination h
  · right; linear_combination h

theorem fourth_root (I χ : F) (hI : I ^ 2 = -1) (h : χ ^ 4 = 1) :
    χ = 1 ∨ χ = -1 ∨ χ = I ∨ χ = -I := by
  have : (χ - 1) * ((χ - -1) * ((χ - I) * (χ - -I))) = 0 := by
    linear_combination h - (χ ^ 2 - 1) * hI
  simpa only [mul_eq_zero, sub_eq_zero] using this

theorem prim_eighth (I r2 r3 χ : F) (hI : I ^ 2 = -1) (h2 : r2 ^ 2 = -I) (h3 : r3 ^ 2 = I)
    (h : χ ^ 4 = -1) : χ = r2 ∨ χ = -r2 ∨ χ = r3 ∨ χ = -r3 := by
  have : (χ - r2) * ((χ - -r2) * ((χ - r3) * (χ - -r3))) = 0 := by
    linear_combination h - hI - (χ ^ 2 - r3 ^ 2) * h2 - (χ ^ 2 + I) * h3
  simpa only [mul_eq_zero, sub_eq_zero] using this

end generic

theorem rq_rt : Rq (rt 0) (q (rt 0)) ∧ Rq (rt 1) (q (rt 1)) ∧ Rq (rt 2) (q (rt 2)) ∧
    Rq (rt 3) (q (rt 3)) := ⟨.of cn_rt.1, .of cn_rt.2.1, .of cn_rt.2.2.1, .of cn_rt.2.2.2⟩
theorem rq_Z : Rq ISO_3_Z kZ := ⟨cn_Z, q_consts.2.2⟩
theorem rq_A : Rq ISO_3_A kA := ⟨cn_A, q_consts.1⟩
theorem rq_B : Rq ISO_3_B kB := ⟨cn_B, q_consts.2.1⟩

theorem q_rt0 : q (rt 0) = 1 := by rw [roots_facts.1, goodHom_q.map_one]
theorem qI_sq : q (rt 1) ^ 2 = -1 := by
  rw [← (rq_rt.2.1.pow 2).2, roots_facts.2.1, q_neg, goodHom_q.map_one]
theorem qR2_sq : q (rt 2) ^ 2 = -q (rt 1) := by
  rw [← (rq_rt.2.2.1.pow 2).2, roots_facts.2.2.1, q_neg]
theorem qR3_sq : q (rt 3) ^ 2 = q (rt 1) := by
  rw [← (rq_rt.2.2.2.pow 2).2, roots_facts.2.2.2]

theorem qE0 : q (et 0) ^ 2 * -q (rt 3) = kZ ^ 3 :=
  ((((Rq.of cn_et.1).pow 2).mul rq_rt.2.2.2.neg).sub_eq_zero (rq_Z.pow 3)).mp etas_facts.1
theorem qE1 : q (et 1) ^ 2 * q (rt 3) = kZ ^ 3 :=
  ((((Rq.of cn_et.2.1).pow 2).mul rq_rt.2.2.2).sub_eq_zero (rq_Z.pow 3)).mp etas_facts.2.1
theorem qE2 : q (et 2) ^ 2 * q (rt 2) = kZ ^ 3 :=
  ((((Rq.of cn_et.2.2.1).pow 2).mul rq_rt.2.2.1).sub_eq_zero (rq_Z.pow 3)).mp etas_facts.2.2.1
theorem qE3 : q (et 3) ^ 2 * -q (rt 2) = kZ ^ 3 :=
  ((((Rq.of cn_et.2.2.2).pow 2).mul rq_rt.2.2.1.neg).sub_eq_zero (rq_Z.pow 3)).mp etas_facts.2.2.2

theorem kA_ne : kA ≠ 0 := rq_A.2 ▸ mt (q_eq_zero cn_A).mp consts_ne.1
theorem qB_ne : q ISO_3_B ≠ 0 := mt (q_eq_zero cn_B).mp consts_ne.2.1
theorem qZ_ne : q ISO_3_Z ≠ 0 := mt (q_eq_zero cn_Z).mp consts_ne.2.2.1

theorem rq_gamma {u v : F2} (hu : Canon u) (hv : Canon v) :
    Rq (gammaOf u v) ((q u * q v ^ 7 * q v ^ 8) ^ h2c_P_MINUS_9_DIV_16 * (q u * q v ^ 7)) :=
  ((((Rq.of hu).mul ((Rq.of hv).pow 7)).mul ((Rq.of hv).pow 8)).pow _).mul
    ((Rq.of hu).mul ((Rq.of hv).pow 7))

/-- the 8th-root-of-unity class `χ = (u v¹⁵)^((p²−1)/8)` of `u/v` -/
noncomputable def chi (u v : F2) : K2 := (q u * q v ^ 7 * q v ^ 8) ^ (2 * h2c_P_MINUS_9_DIV_16 + 1)

theorem q_gamma_sq {u v : F2} (hu : Canon u) (hv : Canon v) :
    q (gammaOf u v) ^ 2 * q v = q u * chi u v := by
  rw [(rq_gamma hu hv).2]; exact gamma_sq _ _ _

theorem chi_pow8 {u v : F2} (hu : q u ≠ 0) (hv : q v ≠ 0) : chi u v ^ 8 = 1 := by
  unfold chi
  rw [← pow_mul, ← exp_eq]
  exact fermat_K2 _ (mul_ne_zero (mul_ne_zero hu (pow_ne_zero 7 hv)) (pow_ne_zero 8 hv))

theorem chi_pow4_of_isSquare {u v : F2} (hv : q v ≠ 0) (h : IsSquare (q u / q v)) :
    q u = 0 ∨ chi u v ^ 4 = 1 := by
  obtain ⟨s, hs⟩ := h
  have hU : q u = s * s * q v := by rw [← hs]; field_simp
  by_cases hs0 : s = 0
  · left; rw [hU, hs0]; ring
  · right
    unfold chi
    rw [show q u * q v ^ 7 * q v ^ 8 = (s * q v ^ 8) ^ 2 by rw [hU]; ring, ← pow_mul, ← pow_mul,
      show 2 * ((2 * h2c_P_MINUS_9_DIV_16 + 1) * 4) = (2 * h2c_P_MINUS_9_DIV_16 + 1) * 8 by ring, ← exp_eq]
    exact fermat_K2 _ (mul_ne_zero hs0 (pow_ne_zero 8 hv))

/-- the loop test in `sqrt_division_FQ2`, read in `K2` -/
theorem rootTest_iff {u v root : F2} (hu : Canon u) (hv : Canon v) (hr : Canon root) :
    (root * gammaOf u v) ^ 2 * v - u = (0 : F2) ↔ q root ^ 2 * (q u * chi u v) = q u := by
  rw [((((Rq.of hr).mul (Rq.of (rq_gamma hu hv).1)).pow 2).mul (Rq.of hv)).sub_eq_zero (Rq.of hu),
    mul_pow, mul_assoc, q_gamma_sq hu hv]

theorem root_passes {u v : F2} (h : q u = 0 ∨ chi u v ^ 4 = 1) :
    ∃ root ∈ POSITIVE_EIGHTH_ROOTS_OF_UNITY, q root ^ 2 * (q u * chi u v) = q u := by
  have key : ∀ root ∈ POSITIVE_EIGHTH_ROOTS_OF_UNITY, q root ^ 2 * chi u v = 1 →
      ∃ root ∈ POSITIVE_EIGHTH_ROOTS_OF_UNITY, q root ^ 2 * (q u * chi u v) = q u :=
    fun root hm he => ⟨root, hm, by linear_combination (q u) * he⟩
  rcases h with h | h
  · exact ⟨rt 0, rt_mem.1, by rw [h]; ring⟩
  rcases fourth_root (q (rt 1)) (chi u v) qI_sq h with hc | hc | hc | hc
  · exact key _ rt_mem.1 (by rw [q_rt0, hc]; ring)
  · exact key _ rt_mem.2.1 (by rw [qI_sq, hc]; ring)
  · exact key _ rt_mem.2.2.1 (by rw [qR2_sq, hc]; linear_combination (-1 : K2) * qI_sq)
  · exact key _ rt_mem.2.2.2 (by rw [qR3_sq, hc]; linear_combination (-1 : K2) * qI_sq)

theorem eta_passes {u v : F2} (h : chi u v ^ 4 = -1) :
    ∃ eta ∈ ETAS, q eta ^ 2 * chi u v = kZ ^ 3 := by
  rcases prim_eighth (q (rt 1)) (q (rt 2)) (q (rt 3)) _ qI_sq qR2_sq qR3_sq h with hc | hc | hc | hc
  · exact ⟨_, et_mem.2.2.1, by rw [hc]; exact qE2⟩
  · exact ⟨_, et_mem.2.2.2, by rw [hc]; exact qE3⟩
  · exact ⟨_, et_mem.2.1, by rw [hc]; exact qE1⟩
  · exact ⟨_, et_mem.1, by rw [hc]; exact qE0⟩

/-- **`sqrt_division_FQ2(u, v)`** for reduced `u`, `v`, `v ≠ 0`: it reports success exactly when `u/v`
    is a square, and then the result `r` satisfies `r² v = u`; when it reports failure it returns `γ`,
    and `χ⁴ = −1`. -/
theorem sqrt_spec {u v : F2} (hu : Canon u) (hv : Canon v) (hv0 : q v ≠ 0) :
    Canon (sqrtDivisionFq2 u v).2 ∧
    ((sqrtDivisionFq2 u v).1 = true ↔ IsSquare (q u / q v)) ∧
    ((sqrtDivisionFq2 u v).1 = true → q (sqrtDivisionFq2 u v).2 ^ 2 * q v = q u) ∧
    ((sqrtDivisionFq2 u v).1 = false →
      (sqrtDivisionFq2 u v).2 = gammaOf u v ∧ chi u v ^ 4 = -1) := by
  rcases sqrtDivisionFq2_cases u v with ⟨root, hm, ht, e⟩ | ⟨hall, e⟩
  · have hr := cn_roots root hm
    have hval : q (root * gammaOf u v) ^ 2 * q v = q u := by
      rw [((Rq.of hr).mul (Rq.of (rq_gamma hu hv).1)).2, mul_pow, mul_assoc, q_gamma_sq hu hv]
      exact (rootTest_iff hu hv hr).mp ht
    rw [e]
    exact ⟨goodHom_q.good_mul hr (rq_gamma hu hv).1,
      iff_of_true rfl ⟨q (root * gammaOf u v), by rw [← hval]; field_simp⟩, fun _ => hval,
      fun h => nomatch h⟩
  · have hno : ¬ (q u = 0 ∨ chi u v ^ 4 = 1) := fun h => by
      obtain ⟨root, hm, he⟩ := root_passes h
      exact hall root hm ((rootTest_iff hu hv (cn_roots root hm)).mpr he)
    rw [e]
    refine ⟨(rq_gamma hu hv).1, iff_of_false Bool.false_ne_true
      (fun h => hno (chi_pow4_of_isSquare hv0 h)), fun h => absurd h Bool.false_ne_true,
      fun _ => ⟨rfl, ?_⟩⟩
    exact (chi_cases _ (chi_pow8 (fun h => hno (Or.inl h)) hv0)).resolve_left
      (fun h => hno (Or.inr h))

section values
variable {t : F2} (ht : Canon t)
include ht

theorem rq_Zt2 : Rq (ISO_3_Z * t ^ 2) (kZ * q t ^ 2) := rq_Z.mul ((Rq.of ht).pow 2)
theorem rq_T : Rq (sT t) (kZ * q t ^ 2 + (kZ * q t ^ 2) ^ 2) :=
  (rq_Zt2 ht).add ((rq_Zt2 ht).pow 2)
theorem rq_N : Rq (sN t) (kB * (q (sT t) + 1)) := rq_B.mul ((Rq.of (rq_T ht).1).add .one)

theorem negAT_eq_zero_iff : -(ISO_3_A * sT t) = (0 : F2) ↔ q (sT t) = 0 := by
  rw [← q_eq_zero (rq_A.mul (Rq.of (rq_T ht).1)).neg.1, (rq_A.mul (Rq.of (rq_T ht).1)).neg.2,
    neg_eq_zero, mul_eq_zero]
  exact ⟨fun h => h.resolve_left kA_ne, Or.inr⟩

theorem rq_D_of_T_ne (h : q (sT t) ≠ 0) : Rq (sD t) (-(kA * q (sT t))) := by
  rw [sD, if_neg (mt (negAT_eq_zero_iff ht).mp h)]
  exact (rq_A.mul (Rq.of (rq_T ht).1)).neg

theorem rq_D_of_T_eq (h : q (sT t) = 0) : Rq (sD t) (kZ * kA) := by
  rw [sD, if_pos ((negAT_eq_zero_iff ht).mpr h)]
  exact rq_Z.mul rq_A

theorem cn_D : Canon (sD t) := by
  by_cases h : q (sT t) = 0
  · exact (rq_D_of_T_eq ht h).1
  · exact (rq_D_of_T_ne ht h).1

omit ht in
theorem sD_ne : sD t ≠ 0 := by
  unfold sD; split
  · exact consts_ne.2.2.2
  · assumption

theorem q_D_ne : q (sD t) ≠ 0 := mt (q_eq_zero (cn_D ht)).mp sD_ne

theorem rq_V : Rq (sV t) (q (sD t) ^ 3) := (Rq.of (cn_D ht)).pow 3

theorem rq_U : Rq (sU t) (q (sN t) ^ 3 + kA * q (sN t) * q (sD t) ^ 2 + kB * q (sD t) ^ 3) :=
  (((Rq.of (rq_N ht).1).pow 3).add ((rq_A.mul (Rq.of (rq_N ht).1)).mul ((Rq.of (cn_D ht)).pow 2))).add
    (rq_B.mul (rq_V ht))

/-- `sqrt_division_FQ2` inside `optimized_swu_G2` -/
theorem sR_spec : Canon (sR t) ∧ (sOk t = true ↔ IsSquare (q (sU t) / q (sD t) ^ 3)) ∧
    (sOk t = true → q (sR t) ^ 2 * q (sD t) ^ 3 = q (sU t)) ∧
    (sOk t = false → sR t = gammaOf (sU t) (sV t) ∧ chi (sU t) (sV t) ^ 4 = -1) := by
  have h := sqrt_spec (rq_U ht).1 (rq_V ht).1 (by rw [(rq_V ht).2]; exact pow_ne_zero 3 (q_D_ne ht))
  rw [(rq_V ht).2] at h
  rw [sOk, sR]
  exact h

theorem swu_of_T_eq (h : q (sT t) = 0) : q (sD t) = kZ * kA ∧ sOk t = true := by
  refine ⟨(rq_D_of_T_eq ht h).2, (sR_spec ht).2.1.mpr ⟨q excRoot, ?_⟩⟩
  have hD : sD t = ISO_3_Z * ISO_3_A := if_pos ((negAT_eq_zero_iff ht).mpr h)
  have e : excRoot ^ 2 * sV t - sU t = 0 := by
    rw [sU, sV, sN, hD, (q_eq_zero (rq_T ht).1).mp h]; exact exc_sq.2
  rw [← ((((Rq.of exc_sq.1).pow 2).mul (rq_V ht)).sub_eq_zero (Rq.of (rq_U ht).1)).mp e, sq]
  exact mul_div_cancel_right₀ _ (pow_ne_zero 3 (q_D_ne ht))

/-- the loop test of the `ETAS` loop, read in `K2` -/
theorem etaTest_iff {eta : F2} (he : Canon eta) :
    (eta * sC t) ^ 2 * sV t - sU' t = (0 : F2) ↔
      (q eta * (q (sR t) * q t ^ 3)) ^ 2 * q (sD t) ^ 3 = (kZ * q t ^ 2) ^ 3 * q (sU t) :=
  ((((Rq.of he).mul ((Rq.of (sR_spec ht).1).mul ((Rq.of ht).pow 3))).pow 2).mul (rq_V ht)).sub_eq_zero
    (((rq_Zt2 ht).pow 3).mul (Rq.of (rq_U ht).1))

/-- **the `ETAS` loop succeeds whenever `sqrt_division_FQ2` fails**, and the `y` after the loop is
    reduced, with `y²·v = u` in the first branch and `y²·v = (Z t²)³·u` in the second -/
theorem sLoop_spec : ((sLoop t).1 = true ∨ sOk t = true) ∧ Canon (sLoop t).2 ∧
    q (sLoop t).2 ^ 2 * q (sD t) ^ 3 = if sOk t then q (sU t) else (kZ * q t ^ 2) ^ 3 * q (sU t) := by
  obtain ⟨hcR, _, hR1, hR0⟩ := sR_spec ht
  cases h : sOk t
  · obtain ⟨hR, h4⟩ := hR0 h
    obtain ⟨eta0, hm0, he0⟩ := eta_passes h4
    have hG := q_gamma_sq (rq_U ht).1 (rq_V ht).1
    rw [← hR, (rq_V ht).2] at hG
    have h0 := (etaTest_iff ht (cn_etas _ hm0)).mpr (by
      linear_combination (q eta0 ^ 2 * q t ^ 6) * hG + (q t ^ 6 * q (sU t)) * he0)
    rcases sLoop_cases h with ⟨eta, hm, hp, e⟩ | ⟨hall, _⟩
    · have he := cn_etas _ hm
      have hy := (Rq.of he).mul ((Rq.of hcR).mul ((Rq.of ht).pow 3))
      rw [e, sC, if_neg Bool.false_ne_true]
      dsimp only
      exact ⟨Or.inl rfl, hy.1, by rw [hy.2]; exact (etaTest_iff ht he).mp hp⟩
    · exact absurd h0 (hall eta0 hm0)
  · rw [sLoop_of_ok h, if_pos rfl]
    dsimp only
    exact ⟨Or.inr rfl, hcR, hR1 h⟩

/-- **totality**: `success ∨ success_2` -/
theorem swu_total : optimizedSwuG2 t = .ok (sN' t, sY t * sD t, sD t) := by
  rw [optimizedSwuG2_eq, if_neg]
  rintro ⟨h1, h2⟩
  rcases (sLoop_spec ht).1 with h | h
  · rw [h] at h2; cases h2
  · rw [h] at h1; cases h1

theorem rq_N' : Rq (sN' t) (if sOk t then q (sN t) else q (sN t) * (kZ * q t ^ 2)) := by
  unfold sN'
  cases sOk t
  · exact (Rq.of (rq_N ht).1).mul (rq_Zt2 ht)
  · exact Rq.of (rq_N ht).1

/-- the model's sign fix, read in `K2` with RFC 9380's `sgn0` -/
theorem rq_Y : Rq (sY t) (if sgn0K2 (q t) ≠ sgn0K2 (q (sLoop t).2) then -q (sLoop t).2
    else q (sLoop t).2) := by
  have hc := (sLoop_spec ht).2.1
  rw [sY, sgn0_eq_spec ht, sgn0_eq_spec hc]
  split
  · exact (Rq.of hc).neg
  · exact Rq.of hc

/-- **`optimized_swu_G2` is the simplified SWU map** (in `K2`): the flag `success` is the RFC's test
    `is_square(g(x1))`, and with `(N, y·D, D)` the returned triple, `(N/D, y)` is related to `t` by
    RFC 9380 §6.6.2. -/
theorem swu_isSswu :
    (sOk t = true ↔ IsSquare (sswuG kA kB (sswuX1 kA kB kZ (q t)))) ∧
    IsSswu sgn0K2 kA kB kZ (q t) (q (sN' t) / q (sD t)) (q (sY t)) := by
  rw [(rq_N' ht).2, (rq_Y ht).2]
  exact proj_isSswu sgn0K2_neg_ne sgn0K2_lt_two kA_ne (q_D_ne ht) (rq_T ht).2 (rq_N ht).2
    (fun h => swu_of_T_eq ht h) (fun h => (rq_D_of_T_ne ht h).2) (rq_U ht).2 (sR_spec ht).2.1
    (sLoop_spec ht).2.2

/-- the same about a returned triple `(N, Y, D)`: reduced elements, `D ≠ 0`, and `(N/D, Y/D)` is
    related to `t` -/
theorem swu_core {N Y D : F2} (h : optimizedSwuG2 t = .ok (N, Y, D)) :
    Canon N ∧ Canon Y ∧ Canon D ∧ D ≠ 0 ∧ q D ≠ 0 ∧
    IsSswu sgn0K2 kA kB kZ (q t) (q N / q D) (q Y / q D) := by
  rw [swu_total ht] at h
  obtain ⟨rfl, rfl, rfl⟩ : sN' t = N ∧ sY t * sD t = Y ∧ sD t = D := by
    simpa only [Except.ok.injEq, Prod.mk.injEq] using h
  have hY := (Rq.of (rq_Y ht).1).mul (Rq.of (cn_D ht))
  refine ⟨(rq_N' ht).1, hY.1, cn_D ht, sD_ne, q_D_ne ht, ?_⟩
  rw [hY.2, mul_div_cancel_right₀ _ (q_D_ne ht)]
  exact (swu_isSswu ht).2

end values

end PyEcc.Swu2
