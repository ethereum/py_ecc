/-
  The reference Miller loop (`loopG`, `Lemmas/RefMillerLoop.lean`) over a field `K` with
  a ring endomorphism `σ` (`Lemmas/NegLine.lean`), for a twisted-type first argument `A` (`x` even, `y` odd)
  and an evaluation point `T = (x_T, y_T)` with even coordinates:
   * `loop_negT`    : the loop at `(x_T, −y_T)` returns `± σ` of the value at `(x_T, y_T)`, same running point;
   * `loop_ne_zero` : the value is non-zero when `y_T ≠ 0` (a vertical chord makes the running point `∞`,
                      after which the reference loop cannot return normally — unless it is the last
                      iteration, which never adds: `NoTrail`; so "accumulator non-zero or running point `∞`" is
                      an invariant);
   * `loop_sigma`   : the loop at `(σ A, σ T)` returns `σ` of the value at `(A, T)`; and `σ A = −A`.
  Hence `(f_A(T) · f_A(−T))^E = 1` and `(f_A(T) · f_{−A}(T))^E = 1` for an even exponent `E` that kills the
  non-zero even elements, when `σ ∘ σ = id` (`SgnRel.pow_eq_one`, `norm_pow_eq_one`); `Lemmas/NegTail.lean` draws both
  conclusions for the whole `miller_loop`, the second from `millerG_map`, which is `loop_sigma` with the tail.
-/
import PyEcc.Lemmas.NegLine

namespace PyEcc.ConjSem
open PyEcc PyEcc.Gen PyEcc.NegSem
open PyEcc.Transfer (mapO)

variable {K : Type} [Field K] [DecidableEq K] {σ : K →+* K}

theorem step_negT {A : Option (K × K)} {xt yt : K} (hA : TwT σ A) (hxt : Ev σ xt) (hyt : Ev σ yt)
    (ate i : Nat) {f f' : K} {R : Option (K × K)} {s : K × Option (K × K)}
    (hR : TwT σ R) (hf : SgnRel σ f f') (h : stepG ate A (some (xt, yt)) (f, R) i = .ok s) :
    ∃ g', stepG ate A (some (xt, -yt)) (f', R) i = .ok (g', s.2) ∧ SgnRel σ s.1 g' ∧ TwT σ s.2 := by
  obtain ⟨l, h1, hs⟩ := stepG_eq_ok.mp h
  obtain ⟨l', e1, s1⟩ := line_negT hR hR hxt hyt h1
  have hD := twT_double hR
  rcases hs with ⟨hb, rfl⟩ | ⟨hb, l2, R2, h2, h3, rfl⟩
  · exact ⟨_, stepG_eq_ok.mpr ⟨l', e1, .inl ⟨hb, rfl⟩⟩, (hf.mul hf).mul s1, hD⟩
  · obtain ⟨l2', e2, s2⟩ := line_negT hD hA hxt hyt h2
    exact ⟨_, stepG_eq_ok.mpr ⟨l', e1, .inr ⟨hb, l2', R2, e2, h3, rfl⟩⟩, ((hf.mul hf).mul s1).mul s2,
      twT_add hD hA h3⟩

theorem loop_negT {A : Option (K × K)} {xt yt : K} (hA : TwT σ A) (hxt : Ev σ xt) (hyt : Ev σ yt)
    (ate : Nat) : ∀ (is : List Nat) (f f' : K) (R : Option (K × K))
      (r : K × Option (K × K)), TwT σ R → SgnRel σ f f' →
      loopG ate is A (some (xt, yt)) (f, R) = .ok r →
      ∃ g', loopG ate is A (some (xt, -yt)) (f', R) = .ok (g', r.2) ∧ SgnRel σ r.1 g' ∧ TwT σ r.2
  | [], f, f', R, r, hR, hf, h => by
    rw [loopG_nil] at h; cases h
    exact ⟨f', rfl, hf, hR⟩
  | i :: is, f, f', R, r, hR, hf, h => by
    rw [loopG_cons] at h ⊢
    rcases hs : stepG ate A (some (xt, yt)) (f, R) i with e | s
    · rw [hs] at h; cases h
    rw [hs, ok_bind] at h
    obtain ⟨g1, e1, s1, t1⟩ := step_negT hA hxt hyt ate i hR hf hs
    rw [e1, ok_bind]
    obtain ⟨f1, R1⟩ := s
    exact loop_negT hA hxt hyt ate is f1 g1 R1 r t1 s1 h

/-- the last iteration does not add -/
def NoTrail (ate : Nat) (is : List Nat) : Prop := ∃ is' j, is = is' ++ [j] ∧ bitSet ate j = false

/-- the loop over `range(hi, -1, -1)` ends with the index `0` -/
theorem noTrail_downTo {ate : Nat} (h : bitSet ate 0 = false) (hi : Nat) : NoTrail ate (downTo hi) :=
  ⟨_, 0, by rw [downTo, List.range_succ_eq_map, List.reverse_cons], h⟩

/-- one iteration keeps "the accumulator is non-zero or the running point is `∞`" (a vertical chord), and leaves the
    accumulator non-zero if it does not add -/
theorem step_ne_zero (h2 : (2 : K) ≠ 0) {A : Option (K × K)} {xt yt : K} (hA : TwT σ A) (hxt : Ev σ xt)
    (hyt : Ev σ yt) (hy0 : yt ≠ 0) {ate i : Nat} {f : K} {R : Option (K × K)} {s : K × Option (K × K)}
    (hR : TwT σ R) (hf : f ≠ 0 ∨ R = none) (h : stepG ate A (some (xt, yt)) (f, R) i = .ok s) :
    (TwT σ s.2 ∧ (s.1 ≠ 0 ∨ s.2 = none)) ∧ (bitSet ate i = false → s.1 ≠ 0) := by
  obtain ⟨l, h1, hs⟩ := stepG_eq_ok.mp h
  -- the tangent line was computed: `R` is finite
  have hf : f ≠ 0 := hf.resolve_right fun e => by rw [e, linefunc_none_left] at h1; cases h1
  have hl : l ≠ 0 := (line_ne_zero h2 hR hR hxt hyt hy0 h1).resolve_right fun ⟨_, _, _, eA, eB, hne, _⟩ =>
    hne (Prod.mk.inj (Option.some.inj (eA.symm.trans eB))).2
  have hD := twT_double hR
  rcases hs with ⟨_, rfl⟩ | ⟨hb, l2, R2, h2', h3, rfl⟩
  · exact ⟨⟨hD, .inl (mul_ne_zero (mul_ne_zero hf hf) hl)⟩, fun _ => mul_ne_zero (mul_ne_zero hf hf) hl⟩
  · refine ⟨⟨twT_add hD hA h3, ?_⟩, fun hb' => absurd (hb'.symm.trans hb) Bool.false_ne_true⟩
    exact (line_ne_zero h2 hD hA hxt hyt hy0 h2').imp (mul_ne_zero (mul_ne_zero (mul_ne_zero hf hf) hl))
      fun ⟨_, _, _, eA, eB, hne, _⟩ => by
        rw [eA, eB, add_vertical hne] at h3
        exact (Except.ok.inj h3).symm

theorem loop_ne_zero (h2 : (2 : K) ≠ 0) {A : Option (K × K)} {xt yt : K} (hA : TwT σ A) (hxt : Ev σ xt)
    (hyt : Ev σ yt) (hy0 : yt ≠ 0) {ate : Nat} {is : List Nat} (hn : NoTrail ate is) {f : K}
    {R : Option (K × K)} {r : K × Option (K × K)} (hR : TwT σ R) (hf : f ≠ 0)
    (h : loopG ate is A (some (xt, yt)) (f, R) = .ok r) : r.1 ≠ 0 := by
  obtain ⟨is', j, rfl, hj⟩ := hn
  rw [loopG, List.foldlM_append] at h
  obtain ⟨⟨f1, R1⟩, h1, h⟩ := bind_eq_ok h
  obtain ⟨s, hs, h⟩ := bind_eq_ok h
  cases h
  have inv := foldlM_inv (fun s : K × Option (K × K) => TwT σ s.2 ∧ (s.1 ≠ 0 ∨ s.2 = none)) ⟨hR, .inl hf⟩
    (fun _ _ _ hs h => (step_ne_zero h2 hA hxt hyt hy0 hs.1 hs.2 h).1) h1
  exact (step_ne_zero h2 hA hxt hyt hy0 inv.1 inv.2 hs).2 hj

theorem loop_sigma (σ : K →+* K) (ate : Nat) (is : List Nat) (A T : Option (K × K))
    (st r : K × Option (K × K)) (h : loopG ate is A T st = .ok r) :
    loopG ate is (mapO σ A) (mapO σ T) (mapSt σ st) = .ok (mapSt σ r) := by
  rw [← loopG_map (opHom σ), h]; rfl

end PyEcc.ConjSem
