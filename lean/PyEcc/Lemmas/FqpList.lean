/-
  PyEcc.Lemmas.FqpList — what is known of the coefficient-list model `Model/Fqp.lean` without any algebra: reading a list
  after an in-place update, `deg`, the lengths that `convLoop` and the two reductions keep, hence `WF` (exactly `d`
  coefficients) of every result, and one round of the `FQP.inv` loop written as two independent truncated product loops.
  No Mathlib: the tie theorems (`Props/TieFields*.lean`: the constructor's length check passes) and the semantic layer
  (`Sem/FqpQuot.lean`, `Sem/FqpInvAux.lean`, `Sem/FqpInv.lean`: the polynomials read off the lists) both rest on it.
-/
import PyEcc.Model.Fqp
import PyEcc.Lemmas.Control

namespace PyEcc.FqpSem
open PyEcc.Fqp

theorem length_foldl {α : Type} (g : List Int → α → List Int)
    (hg : ∀ acc x, (g acc x).length = acc.length) (l : List α) (acc : List Int) :
    (l.foldl g acc).length = acc.length :=
  foldl_inv (P := fun b => b.length = acc.length) rfl fun x y h => (hg x y).trans h

theorem length_foldl_sub {α : Type} (g : List Int → α → List Int)
    (hg : ∀ acc x, (g acc x).length = acc.length - 1) (l : List α) (acc : List Int) :
    (l.foldl g acc).length = acc.length - l.length := by
  induction l generalizing acc with
  | nil => rfl
  | cons x xs ih => rw [List.foldl_cons, ih, hg, List.length_cons, Nat.sub_sub, Nat.add_comm]

theorem foldl_pair {α β γ : Type} (U : α → γ → α) (W : β → γ → β) (js : List γ) (s : α × β) :
    js.foldl (fun (st : α × β) j => (U st.1 j, W st.2 j)) s = (js.foldl U s.1, js.foldl W s.2) := by
  induction js generalizing s with
  | nil => rfl
  | cons j js ih => simp [ih]

theorem foldl_pair2 {α β : Type} (U : Nat → Nat → α → α) (W : Nat → Nat → β → β) (n : Nat)
    (k : Nat → Nat) (s : α × β) :
    (List.range n).foldl (fun (st : α × β) i =>
      (List.range (k i)).foldl (fun (st : α × β) j => (U i j st.1, W i j st.2)) st) s =
    ((List.range n).foldl (fun a i => (List.range (k i)).foldl (fun a j => U i j a) a) s.1,
     (List.range n).foldl (fun a i => (List.range (k i)).foldl (fun a j => W i j a) a) s.2) := by
  have inner : ∀ i (st : α × β),
      (List.range (k i)).foldl (fun (st : α × β) j => (U i j st.1, W i j st.2)) st =
      ((List.range (k i)).foldl (fun a j => U i j a) st.1,
       (List.range (k i)).foldl (fun a j => W i j a) st.2) :=
    fun i st => foldl_pair (fun a j => U i j a) (fun a j => W i j a) _ st
  simp only [inner]
  exact foldl_pair (fun a i => (List.range (k i)).foldl (fun a j => U i j a) a)
    (fun a i => (List.range (k i)).foldl (fun a j => W i j a) a) _ s

theorem getI_nil (i : Nat) : getI [] i = 0 := by simp [getI]
@[simp] theorem getI_cons_zero (x : Int) (xs : List Int) : getI (x :: xs) 0 = x := by simp [getI]
@[simp] theorem getI_cons_succ (x : Int) (xs : List Int) (i : Nat) :
    getI (x :: xs) (i + 1) = getI xs i := by simp [getI]

theorem getI_of_le (l : List Int) (i : Nat) (h : l.length ≤ i) : getI l i = 0 := by
  simp [getI, List.getElem?_eq_none h]

/-- reading a list after an in-place update, for any updater with the three equations of `updAt` (the generated code for
    lists of int-or-FQ values has its own, `updN`) -/
theorem getD_upd {α : Type} (upd : List α → Nat → (α → α) → List α) (h0 : ∀ i f, upd [] i f = [])
    (h1 : ∀ x xs f, upd (x :: xs) 0 f = f x :: xs) (h2 : ∀ x xs i f, upd (x :: xs) (i + 1) f = x :: upd xs i f)
    (d : α) (l : List α) (i : Nat) (f : α → α) (j : Nat) :
    (upd l i f).getD j d = if j = i ∧ i < l.length then f (l.getD i d) else l.getD j d := by
  induction l generalizing i j with
  | nil => rw [h0, if_neg (fun h => Nat.not_lt_zero _ h.2)]
  | cons x xs ih =>
    cases i with
    | zero =>
      rw [h1]
      cases j with
      | zero => exact (if_pos ⟨rfl, Nat.succ_pos _⟩).symm
      | succ j => exact (if_neg (fun h => Nat.succ_ne_zero _ h.1)).symm
    | succ i =>
      rw [h2]
      cases j with
      | zero => exact (if_neg (fun h => Nat.succ_ne_zero _ h.1.symm)).symm
      | succ j =>
        rw [List.getD_cons_succ, List.getD_cons_succ, List.getD_cons_succ, ih, List.length_cons]
        simp only [Nat.add_right_cancel_iff, Nat.add_lt_add_iff_right]

theorem getI_updAt (l : List Int) (i : Nat) (f : Int → Int) (j : Nat) :
    getI (updAt l i f) j = if j = i ∧ i < l.length then f (getI l i) else getI l j :=
  getD_upd updAt (fun _ _ => rfl) (fun _ _ _ => rfl) (fun _ _ _ _ => rfl) _ l i f j

theorem getI_updAt_ne (l : List Int) (i : Nat) (f : Int → Int) (j : Nat) (h : j ≠ i) :
    getI (updAt l i f) j = getI l j := by
  rw [getI_updAt, if_neg fun hc => h hc.1]

theorem getI_updAt_self (l : List Int) (i : Nat) (f : Int → Int) (h : i < l.length) :
    getI (updAt l i f) i = f (getI l i) := by
  rw [getI_updAt, if_pos ⟨rfl, h⟩]

/-- `enumerate(l)` is `[(i, l[i]) for i in range(len(l))]` -/
theorem zip_range_eq_map (l : List Int) :
    List.zip (List.range l.length) l = (List.range l.length).map (fun i => (i, getI l i)) := by
  apply List.ext_getElem
  · simp
  · intro i h1 h2
    simp at h1
    simp [getI, h1]

theorem degAux_spec (l : List Int) : ∀ n, degAux l n ≤ n ∧
    (∀ j, degAux l n < j → j ≤ n → getI l j = 0) ∧ (degAux l n ≠ 0 → getI l (degAux l n) ≠ 0) := by
  intro n
  induction n with
  | zero => simp [degAux]; omega
  | succ n ih =>
    unfold degAux
    by_cases h : getI l (n + 1) = 0
    · rw [if_pos h]
      refine ⟨by omega, ?_, ih.2.2⟩
      intro j h1 h2
      by_cases hj : j = n + 1
      · rw [hj]; exact h
      · exact ih.2.1 j h1 (by omega)
    · rw [if_neg h]
      exact ⟨Nat.le_refl _, fun j h1 h2 => by omega, fun _ => h⟩

theorem deg_le (l : List Int) : deg l ≤ l.length - 1 := (degAux_spec l _).1

theorem getI_of_deg_lt (l : List Int) (j : Nat) (h : deg l < j) : getI l j = 0 := by
  by_cases hj : j ≤ l.length - 1
  · exact (degAux_spec l _).2.1 j h hj
  · exact getI_of_le l j (by omega)

theorem getI_deg_ne_zero (l : List Int) (h : deg l ≠ 0) : getI l (deg l) ≠ 0 :=
  (degAux_spec l _).2.2 h

theorem deg_unique (l : List Int) (k : Nat) (h2 : ∀ j, k < j → getI l j = 0)
    (h3 : k ≠ 0 → getI l k ≠ 0) : deg l = k := by
  rcases Nat.lt_trichotomy (deg l) k with h | h | h
  · exact absurd (getI_of_deg_lt l k h) (h3 (by omega))
  · exact h
  · exact absurd (h2 _ h) (getI_deg_ne_zero l (by omega))

/-! ### the product: `2d - 1` entries after the double loop, `d` after either reduction -/

theorem length_convLoop (red : Int → Int) (a b : List Int) (d : Nat) :
    (convLoop red a b d).length = d * 2 - 1 := by
  rw [convLoop, length_foldl _ fun acc i => length_foldl _ (fun acc j => length_updAt ..) ..,
    List.length_replicate]

theorem length_refReduce {p : Nat} (mc : List Int) (d : Nat) : ∀ (f : Nat) (b : List Int),
    d ≤ b.length → b.length ≤ d + f → (refReduce p mc d f b).length = d := by
  intro f
  induction f with
  | zero => intro b h1 h2; exact Nat.le_antisymm h2 h1
  | succ f ih =>
    intro b h1 h2
    unfold refReduce
    split
    · have hl := length_foldl (fun acc i => updAt acc (b.length - d - 1 + i) (fun x =>
          (x - (b.getLast?.getD 0 * (getI mc i % (p : Int))) % (p : Int)) % (p : Int)))
        (fun _ _ => length_updAt ..) (List.range d) b.dropLast
      rw [List.length_dropLast] at hl
      exact ih _ (by omega) (by omega)
    · omega

/-- each of the `d - 1` rounds of the optimized reduction pops one entry -/
theorem length_optReduce (mc : List Int) (d : Nat) (b : List Int) (hb : b.length = d * 2 - 1) :
    (optReduce mc d b).length = d := by
  unfold optReduce
  rw [length_foldl_sub _ (fun acc exp => by
    rw [length_foldl _ (fun _ _ => length_updAt ..), List.length_dropLast]), hb]
  split
  · rw [List.length_nil]; omega
  · rw [downTo, List.length_reverse, List.length_range]; omega

variable {p : Nat} {v : Variant} {mc : List Int}

def WF (x : Fqp v p mc) : Prop := x.coeffs.length = mc.length

instance (x : Fqp v p mc) : Decidable (WF x) := by unfold WF; infer_instance

theorem wf_ofInts {cs : List Int} (h : cs.length = mc.length) : WF (ofInts cs : Fqp v p mc) :=
  (List.length_map _).trans h

/-- `[k] + [0] * (d - 1)` has `d` entries when `d ≥ 1` -/
theorem length_scalar {d : Nat} (hd : 1 ≤ d) (k : Int) : (k :: List.replicate (d - 1) 0).length = d := by
  rw [List.length_cons, List.length_replicate]; omega

/-- `a * b` is `FQP(cs)` for a list `cs` of `d` coefficients, whatever the operands look like -/
theorem mul_eq_ofInts (a b : Fqp v p mc) :
    ∃ cs : List Int, cs.length = mc.length ∧ mul a b = ofInts cs := by
  cases v
  · exact ⟨_, length_refReduce mc _ _ _ (by rw [length_convLoop]; omega)
      (by rw [length_convLoop]; omega), rfl⟩
  · exact ⟨_, length_optReduce mc _ _ (length_convLoop ..), rfl⟩

theorem mul_wf (a b : Fqp v p mc) : WF (mul a b) := by
  obtain ⟨cs, h, e⟩ := mul_eq_ofInts a b
  rw [e]; exact wf_ofInts h

theorem wf_zero : WF (zero : Fqp v p mc) := wf_ofInts (List.length_replicate ..)
theorem wf_one (hd : 1 ≤ mc.length) : WF (one : Fqp v p mc) := wf_ofInts (length_scalar hd 1)
theorem wf_ofIntScalar (hd : 1 ≤ mc.length) (k : Int) : WF (ofIntScalar k : Fqp v p mc) :=
  wf_ofInts (length_scalar hd k)
theorem length_zipWith_wf (g : Int → Int → Int) {a b : Fqp v p mc} (ha : WF a) (hb : WF b) :
    (List.zipWith g a.coeffs b.coeffs).length = mc.length := by
  rw [List.length_zipWith, ha, hb, Nat.min_self]
theorem wf_add {a b : Fqp v p mc} (ha : WF a) (hb : WF b) : WF (add a b) :=
  wf_ofInts (length_zipWith_wf _ ha hb)
theorem wf_sub {a b : Fqp v p mc} (ha : WF a) (hb : WF b) : WF (sub a b) :=
  wf_ofInts (length_zipWith_wf _ ha hb)
theorem wf_neg {a : Fqp v p mc} (ha : WF a) : WF (neg a) := wf_ofInts ((List.length_map _).trans ha)
theorem wf_mulInt {a : Fqp v p mc} (ha : WF a) (k : Int) : WF (mulInt a k) :=
  wf_ofInts ((List.length_map _).trans ha)

/-! ### one round of the `FQP.inv` loop, restated as two independent truncated product loops -/

def truncLoop (n : Nat) (f : Nat → Nat → Int → Int) (acc : List Int) : List Int :=
  (List.range n).foldl (fun acc i =>
    (List.range (n - i)).foldl (fun acc j => updAt acc (i + j) (f i j)) acc) acc

abbrev padR (v : Variant) (p d : Nat) (high low : List Int) : List Int :=
  polyRoundedDiv v p high low ++ List.replicate (d + 1 - (polyRoundedDiv v p high low).length) 0

abbrev nmF (lm r : List Int) : Nat → Nat → Int → Int := fun i j x => x - getI lm i * getI r j
abbrev newFref (p : Nat) (low r : List Int) : Nat → Nat → Int → Int :=
  fun i j x => (x - (getI low i * getI r j) % (p : Int)) % (p : Int)

def invRound (v : Variant) (p d : Nat) (lm low hm high : List Int) : List Int × List Int :=
  match v with
  | .ref =>
    (truncLoop (d + 1) (nmF lm (padR .ref p d high low)) hm,
     truncLoop (d + 1) (newFref p low (padR .ref p d high low)) high)
  | .opt =>
    ((truncLoop (d + 1) (nmF lm (padR .opt p d high low)) hm).map (fun x => x % (p : Int)),
     (truncLoop (d + 1) (nmF low (padR .opt p d high low)) high).map (fun x => x % (p : Int)))

theorem invLoopP_succ (v : Variant) (d f : Nat) (lm low hm high : List Int) :
    invLoopP v p d (f + 1) lm low hm high =
      if deg low ≠ 0 then
        invLoopP v p d f (invRound v p d lm low hm high).1 (invRound v p d lm low hm high).2 lm low
      else (lm, low) := by
  rw [invLoopP]
  split
  · cases v
    · have h := foldl_pair2 (fun i j a => updAt a (i + j) (nmF lm (padR .ref p d high low) i j))
        (fun i j a => updAt a (i + j) (newFref p low (padR .ref p d high low) i j)) (d + 1)
        (fun i => d + 1 - i) (hm, high)
      simp only [invRound, truncLoop]
      rw [h]
    · have h := foldl_pair2 (fun i j a => updAt a (i + j) (nmF lm (padR .opt p d high low) i j))
        (fun i j a => updAt a (i + j) (nmF low (padR .opt p d high low) i j)) (d + 1)
        (fun i => d + 1 - i) (hm, high)
      simp only [invRound, truncLoop]
      rw [h]
  · rfl

theorem length_truncLoop (n : Nat) (f : Nat → Nat → Int → Int) (acc : List Int) :
    (truncLoop n f acc).length = acc.length :=
  length_foldl _ (fun _ _ => length_foldl _ (fun _ _ => length_updAt ..) ..) ..

/-- every round swaps `lm` and `hm` and updates entries in place: their common length stays -/
theorem length_invLoopP (d n : Nat) : ∀ (f : Nat) (lm low hm high : List Int),
    lm.length = n → hm.length = n → (invLoopP v p d f lm low hm high).1.length = n := by
  intro f
  induction f with
  | zero => intro lm low hm high h _; exact h
  | succ f ih =>
    intro lm low hm high h h'
    rw [invLoopP_succ]
    split
    · refine ih _ _ _ _ ?_ h
      cases v
      · exact (length_truncLoop ..).trans h'
      · exact (List.length_map _).trans ((length_truncLoop ..).trans h')
    · exact h

/-! ### `FQP.inv`: `lm` keeps its `d + 1` entries, so `inv a` has `d` coefficients -/

theorem inv_eq (a : Fqp v p mc) :
    Fqp.inv a = divInt (ofInts ((invLoopP v p mc.length (4 * mc.length + 4)
        (1 :: List.replicate mc.length 0) (a.coeffs ++ [0]) (List.replicate (mc.length + 1) 0)
        (mc ++ [1])).1.take mc.length))
      (getI (invLoopP v p mc.length (4 * mc.length + 4)
        (1 :: List.replicate mc.length 0) (a.coeffs ++ [0]) (List.replicate (mc.length + 1) 0)
        (mc ++ [1])).2 0) := rfl

/-- `inv a` is an int multiple of an element with `d` coefficients, whatever `a` looks like -/
theorem inv_eq_mulInt (a : Fqp v p mc) :
    ∃ (x : Fqp v p mc) (k : Int), WF x ∧ Fqp.inv a = mulInt x k := by
  refine ⟨_, _, wf_ofInts ?_, inv_eq a⟩
  rw [List.length_take, length_invLoopP _ (mc.length + 1) _ _ _ _ _ (by simp) (by simp)]
  omega

theorem inv_wf (a : Fqp v p mc) : WF (Fqp.inv a) := by
  obtain ⟨x, k, hx, e⟩ := inv_eq_mulInt a
  rw [e]; exact wf_mulInt hx k

end PyEcc.FqpSem
