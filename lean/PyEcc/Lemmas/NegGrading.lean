/-
  PyEcc.Lemmas.NegGrading — the grading that a ring endomorphism `σ` of a field `K` defines: `Ev σ x : σ x = x`
  ("even", the fixed field: closed under the field operations), `Od σ x : σ x = −x` ("odd"); products and
  quotients follow the signs, the sum of the two parts is direct when `2 ≠ 0`, and `x · σ x` is even when
  `σ ∘ σ = id`.  (For the two pairing fields `σ` is the conjugation `x ↦ x^(p⁶)` of `Fp¹²` over `Fp⁶`.)
-/
import Mathlib.Algebra.Field.Basic
import Mathlib.Tactic.Ring
import Mathlib.Tactic.LinearCombination

namespace PyEcc.ConjSem

variable {K : Type} [Field K] (σ : K →+* K)

def Ev (x : K) : Prop := σ x = x
def Od (x : K) : Prop := σ x = -x

section grading
variable {σ} {x y : K}

theorem Ev.natCast (n : ℕ) : Ev σ (n : K) := map_natCast σ n

theorem Ev.add (hx : Ev σ x) (hy : Ev σ y) : Ev σ (x + y) := by
  unfold Ev at *; rw [map_add, hx, hy]
theorem Ev.sub (hx : Ev σ x) (hy : Ev σ y) : Ev σ (x - y) := by
  unfold Ev at *; rw [map_sub, hx, hy]
theorem Ev.neg (hx : Ev σ x) : Ev σ (-x) := by
  unfold Ev at *; rw [map_neg, hx]
theorem Ev.mul (hx : Ev σ x) (hy : Ev σ y) : Ev σ (x * y) := by
  unfold Ev at *; rw [map_mul, hx, hy]
theorem Ev.inv (hx : Ev σ x) : Ev σ x⁻¹ := by
  unfold Ev at *; rw [map_inv₀, hx]
theorem Ev.div (hx : Ev σ x) (hy : Ev σ y) : Ev σ (x / y) := by
  unfold Ev at *; rw [map_div₀, hx, hy]
theorem Ev.pow (hx : Ev σ x) (n : ℕ) : Ev σ (x ^ n) := by
  unfold Ev at *; rw [map_pow, hx]
theorem Od.add (hx : Od σ x) (hy : Od σ y) : Od σ (x + y) := by
  unfold Od at *; rw [map_add, hx, hy]; ring
theorem Od.sub (hx : Od σ x) (hy : Od σ y) : Od σ (x - y) := by
  unfold Od at *; rw [map_sub, hx, hy]; ring
theorem Od.neg (hx : Od σ x) : Od σ (-x) := by
  unfold Od at *; rw [map_neg, hx]
theorem Od.mul (hx : Od σ x) (hy : Od σ y) : Ev σ (x * y) := by
  unfold Od Ev at *; rw [map_mul, hx, hy]; ring
theorem Od.sq (hx : Od σ x) : Ev σ (x ^ 2) := by rw [pow_two]; exact hx.mul hx
theorem Ev.mul_odd (hx : Ev σ x) (hy : Od σ y) : Od σ (x * y) := by
  unfold Od Ev at *; rw [map_mul, hx, hy]; ring
theorem Od.mul_even (hx : Od σ x) (hy : Ev σ y) : Od σ (x * y) := by
  unfold Od Ev at *; rw [map_mul, hx, hy]; ring
theorem Ev.div_odd (hx : Ev σ x) (hy : Od σ y) : Od σ (x / y) := by
  unfold Od Ev at *; rw [map_div₀, hx, hy]; ring
theorem Od.div_even (hx : Od σ x) (hy : Ev σ y) : Od σ (x / y) := by
  unfold Od Ev at *; rw [map_div₀, hx, hy]; ring
theorem Od.div (hx : Od σ x) (hy : Od σ y) : Ev σ (x / y) := by
  unfold Od Ev at *; rw [map_div₀, hx, hy]; ring
/-- odd powers of an odd element are odd (used for the Frobenius `y ↦ y^p`) -/
theorem Od.pow_odd (hx : Od σ x) {n : ℕ} (hn : n % 2 = 1) : Od σ (x ^ n) := by
  unfold Od at *
  rw [map_pow, hx, ← Nat.div_add_mod n 2, hn, pow_succ, pow_succ, pow_mul, pow_mul, neg_sq, mul_neg]

theorem even_add_odd_eq_zero (h2 : (2 : K) ≠ 0) {e o : K} (he : Ev σ e) (ho : Od σ o) (h : e + o = 0) :
    e = 0 ∧ o = 0 := by
  have h' : e - o = 0 := by
    have := congrArg σ h
    rwa [map_add, he, ho, map_zero, ← sub_eq_add_neg] at this
  have e0 : e = 0 := (mul_eq_zero.mp (by linear_combination h + h' : (2 : K) * e = 0)).resolve_left h2
  exact ⟨e0, by rwa [e0, zero_add] at h⟩

theorem eq_zero_of_even_of_odd (h2 : (2 : K) ≠ 0) (he : Ev σ x) (ho : Od σ x) : x = 0 :=
  (even_add_odd_eq_zero h2 he ho.neg (add_neg_cancel x)).1

theorem even_mul_sigma (hσσ : ∀ x, σ (σ x) = x) (x : K) : Ev σ (x * σ x) := by
  unfold Ev; rw [map_mul, hσσ, mul_comm]

end grading

end PyEcc.ConjSem
