/-
  The commutation lemmas of `Lemmas/TransferOptBls.lean` for those functions of `Gen.OptBn` that other modules use at
  that name, through `Gen.OptBn.f = Gen.OptBls.f` (`Lemmas/TwinModules.lean`).
-/
import PyEcc.Lemmas.TransferOptBls
import PyEcc.Lemmas.TwinModules

set_option linter.unusedSectionVars false
set_option linter.unusedVariables false

namespace PyEcc.Transfer.Bn
open PyEcc PyEcc.Gen PyEcc.Transfer

variable {A B : Type}
  [Zero A] [One A] [Add A] [Sub A] [Mul A] [Neg A] [Div A] [NatCast A] [Pow A Nat] [DecidableEq A]
  [Zero B] [One B] [Add B] [Sub B] [Mul B] [Neg B] [Div B] [NatCast B] [Pow B Nat] [DecidableEq B]

section ophom
variable {ψ : A → B} (h : OpHom ψ)
include h

theorem multiply_map (T : A × A × A) (n : Nat) :
    mapT ψ (OptBn.multiply T n) = OptBn.multiply (mapT ψ T) n := by
  rw [OptBn.multiply_eq]; exact Bls.multiply_map h T n

end ophom

section goodhom
variable {Good : A → Prop} {φ : A → B} (h : GoodHom Good φ)
include h

theorem good_normalize1 {T : A × A × A} (g : GoodT Good T) :
    GoodT Good (OptBn.normalize1 T)
      ∧ mapT φ (OptBn.normalize1 T) = OptBn.normalize1 (mapT φ T) :=
  Bls.good_normalize1 h g

end goodhom

end PyEcc.Transfer.Bn
