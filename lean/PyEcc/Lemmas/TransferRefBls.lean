/-
  `is_inf`, `is_on_curve`, `double`, `neg`, `add`, `multiply` of the REFERENCE module `Gen.RefBls` (affine points
  `Option (F × F)`, `none` = ∞; `add`/`multiply` in the exception monad) commute with an `OpHom` (`mapO ψ (f x) =
  f (mapO ψ x)`, `mapE ψ (add p q) = add (mapO ψ p) (mapO ψ q)`; Boolean-valued functions return the same Boolean) and,
  on `Good` inputs, with a `GoodHom`, with `Good` outputs: a good point is `mapO (val h) X` for a point `X` over the
  subtype of good elements (`exists_valO`), its image is `mapO (img h) X` (`imgO_eq`), and the `OpHom` lemma applies to
  both `val h` and `img h`. (`linefunc`: `MillerSem.linefunc_map` in `Lemmas/MillerRefTransfer.lean`. `Gen.RefBn` is
  the same module under another name, `Lemmas/TwinModules.lean`: `Transfer.BnRef.*`.)
-/
import PyEcc.Lemmas.TransferRefBase
import PyEcc.Gen.RefBls
import PyEcc.Lemmas.TwinModules

set_option linter.unusedSectionVars false
set_option linter.unusedVariables false

namespace PyEcc.Transfer.BlsRef
open PyEcc PyEcc.Transfer

/- The operations of `A` and `B` are those in the type of the hypothesis `h` that every lemma takes: implicit
   arguments, fixed by unification with `h`, not instance arguments synthesised again at every use. -/
section
variable {A B : Type}
  {_ : Zero A} {_ : One A} {_ : Add A} {_ : Sub A} {_ : Mul A} {_ : Neg A} {_ : Div A} {_ : NatCast A} {_ : Pow A Nat}
  {_ : Zero B} {_ : One B} {_ : Add B} {_ : Sub B} {_ : Mul B} {_ : Neg B} {_ : Div B} {_ : NatCast B} {_ : Pow B Nat}
  [DecidableEq A] [DecidableEq B]

section ophom
variable {ψ : A → B} (h : OpHom ψ)
include h

theorem is_on_curve_map (p : Option (A × A)) (b : A) :
    Gen.RefBls.is_on_curve (mapO ψ p) (ψ b) = Gen.RefBls.is_on_curve p b := by
  rcases p with _ | ⟨x, y⟩
  · rfl
  · simp only [Gen.RefBls.is_on_curve, Gen.RefBls.is_inf, mapO_some, ← h.map_pow, ← h.map_sub, h.eq_iff,
      reduceCtorEq, decide_false, Bool.false_eq_true, or_self, if_false]

/- where a function branches, `ψ` is pushed through the `if`s (`apply_ite`), the conditions are pulled back
   along `ψ` (`eq_iff`), then the leaves are equal by `map_*`.  (Splitting the `if`s instead checks several
   times slower.) -/
theorem double_map (p : Option (A × A)) :
    mapO ψ (Gen.RefBls.double p) = Gen.RefBls.double (mapO ψ p) := by
  rcases p with _ | ⟨x, y⟩
  · rfl
  · simp only [Gen.RefBls.double, Gen.RefBls.is_inf, apply_ite (mapO ψ), mapO_some, mapO_none, reduceCtorEq,
      decide_false, Bool.false_eq_true, or_self, if_false, h.eq_zero_iff, h.map_sub, h.map_add, h.map_mul,
      h.map_neg, h.map_pow, h.map_div, h.map_natCast]

theorem neg_map (p : Option (A × A)) : mapO ψ (Gen.RefBls.neg p) = Gen.RefBls.neg (mapO ψ p) := by
  rcases p with _ | ⟨x, y⟩
  · rfl
  · simp only [Gen.RefBls.neg, mapO_some, reduceCtorEq, if_false, h.map_neg]

theorem add_map (p q : Option (A × A)) :
    mapE ψ (Gen.RefBls.add p q) = Gen.RefBls.add (mapO ψ p) (mapO ψ q) := by
  rcases p with _ | ⟨x1, y1⟩ <;> rcases q with _ | ⟨x2, y2⟩
  · rfl
  · rfl
  · rfl
  · simp only [Gen.RefBls.add, apply_ite (mapE ψ), mapE_ok, mapE_error, double_map h, mapO_some, mapO_none,
      reduceCtorEq, or_self, if_false, h.eq_iff]
    simp only [← h.map_sub, ← h.map_div, ← h.map_pow, ← h.map_neg, ← h.map_mul, ← h.map_add, h.eq_iff]

theorem multiplyAux_map (fuel : Nat) (p : Option (A × A)) (n : Nat) :
    mapE ψ (Gen.RefBls.multiplyAux fuel p n) = Gen.RefBls.multiplyAux fuel (mapO ψ p) n := by
  induction fuel generalizing p n with
  | zero => rfl
  | succ f ih =>
    simp only [Gen.RefBls.multiplyAux, apply_ite (mapE ψ), mapE_ok, mapO_none, ← double_map h, ← ih]
    rcases Gen.RefBls.multiplyAux f (Gen.RefBls.double p) (n / 2) with e | r
    · rfl
    · simp only [mapE_ok, ← add_map h]
      rcases Gen.RefBls.add r p with e | s <;> rfl

theorem multiply_map (p : Option (A × A)) (n : Nat) :
    mapE ψ (Gen.RefBls.multiply p n) = Gen.RefBls.multiply (mapO ψ p) n := multiplyAux_map h _ p n

end ophom

section goodhom
variable {Good : A → Prop} {φ : A → B} (h : GoodHom Good φ)
include h

open GoodSub

theorem good_is_on_curve {p : Option (A × A)} {b : A} (g : GoodO Good p) (gb : Good b) :
    Gen.RefBls.is_on_curve (mapO φ p) (φ b) = Gen.RefBls.is_on_curve p b := by
  obtain ⟨X, rfl⟩ := exists_valO h g
  rw [← imgO_eq]
  exact (is_on_curve_map (opHom_img h) X (mk h b gb)).trans
    (is_on_curve_map (opHom_val h) X (mk h b gb)).symm

theorem good_double {p : Option (A × A)} (g : GoodO Good p) :
    GoodO Good (Gen.RefBls.double p)
      ∧ mapO φ (Gen.RefBls.double p) = Gen.RefBls.double (mapO φ p) := by
  obtain ⟨X, rfl⟩ := exists_valO h g
  rw [← double_map (opHom_val h), ← imgO_eq, ← imgO_eq]
  exact ⟨goodO_val h _, double_map (opHom_img h) X⟩

theorem good_neg {p : Option (A × A)} (g : GoodO Good p) :
    GoodO Good (Gen.RefBls.neg p) ∧ mapO φ (Gen.RefBls.neg p) = Gen.RefBls.neg (mapO φ p) := by
  obtain ⟨X, rfl⟩ := exists_valO h g
  rw [← neg_map (opHom_val h), ← imgO_eq, ← imgO_eq]
  exact ⟨goodO_val h _, neg_map (opHom_img h) X⟩

theorem good_add {p q : Option (A × A)} (gp : GoodO Good p) (gq : GoodO Good q) :
    GoodE Good (Gen.RefBls.add p q)
      ∧ mapE φ (Gen.RefBls.add p q) = Gen.RefBls.add (mapO φ p) (mapO φ q) := by
  obtain ⟨X, rfl⟩ := exists_valO h gp
  obtain ⟨Y, rfl⟩ := exists_valO h gq
  rw [← add_map (opHom_val h), ← imgE_eq, ← imgO_eq, ← imgO_eq]
  exact ⟨goodE_val h _, add_map (opHom_img h) X Y⟩

theorem good_multiply {p : Option (A × A)} (g : GoodO Good p) (n : Nat) :
    GoodE Good (Gen.RefBls.multiply p n)
      ∧ mapE φ (Gen.RefBls.multiply p n) = Gen.RefBls.multiply (mapO φ p) n := by
  obtain ⟨X, rfl⟩ := exists_valO h g
  rw [← multiply_map (opHom_val h), ← imgE_eq, ← imgO_eq]
  exact ⟨goodE_val h _, multiply_map (opHom_img h) X n⟩

end goodhom

end

/- `is_inf_map` and `good_mapE_inj` take the operations as instance arguments. -/
section
variable {A B : Type}
  [Zero A] [One A] [Add A] [Sub A] [Mul A] [Neg A] [Div A] [NatCast A] [Pow A Nat] [DecidableEq A]
  [Zero B] [One B] [Add B] [Sub B] [Mul B] [Neg B] [Div B] [NatCast B] [Pow B Nat] [DecidableEq B]

section ophom
variable {ψ : A → B} (h : OpHom ψ)
include h

theorem is_inf_map (p : Option (A × A)) : Gen.RefBls.is_inf (mapO ψ p) = Gen.RefBls.is_inf p := by
  simp only [Gen.RefBls.is_inf, mapO_eq_none]

end ophom

section goodhom
variable {Good : A → Prop} {φ : A → B} (h : GoodHom Good φ)
include h

theorem good_mapE_inj {r s : Except PyErr (Option (A × A))} (gr : GoodE Good r) (gs : GoodE Good s)
    (e : mapE φ r = mapE φ s) : r = s := by
  rcases r with e₁ | p <;> rcases s with e₂ | q
  · simpa using e
  · simp at e
  · simp at e
  · simp only [mapE_ok, Except.ok.injEq] at e
    rw [h.mapO_inj gr gs e]

end goodhom

end

end PyEcc.Transfer.BlsRef

namespace PyEcc.Transfer.BnRef
open PyEcc PyEcc.Transfer

variable {A B : Type}
  [Zero A] [One A] [Add A] [Sub A] [Mul A] [Neg A] [Div A] [NatCast A] [Pow A Nat] [DecidableEq A]
  [Zero B] [One B] [Add B] [Sub B] [Mul B] [Neg B] [Div B] [NatCast B] [Pow B Nat] [DecidableEq B]

section ophom
variable {ψ : A → B} (h : OpHom ψ)
include h

theorem is_inf_map (p : Option (A × A)) : Gen.RefBn.is_inf (mapO ψ p) = Gen.RefBn.is_inf p :=
  BlsRef.is_inf_map h p

end ophom

section goodhom
variable {Good : A → Prop} {φ : A → B} (h : GoodHom Good φ)

include h

theorem good_mapE_inj {r s : Except PyErr (Option (A × A))} (gr : GoodE Good r) (gs : GoodE Good s)
    (e : mapE φ r = mapE φ s) : r = s := BlsRef.good_mapE_inj h gr gs e

end goodhom

end PyEcc.Transfer.BnRef
