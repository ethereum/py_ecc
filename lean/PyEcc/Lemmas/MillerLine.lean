/-
  The optimized `linefunc` (projective operands, result `(num, den)`) against the reference `linefunc` (affine
  operands, one value), for ANY pair of coordinate types read in one field `K` through `GoodHom`s `φ` (optimized
  side) and `ρ` (reference side): when the three operands are finite and `den ≠ 0`, the reference function returns
  normally on the points the operands represent, and its value is `num / den` in `K`.  `den = 0` only on the tangent
  at a point with `y = 0`.  (The line comparison is used at `K12`, `Lemmas/MillerStep.lean`; the bn128 comparison runs
  over a field with `MillerBnSem.opt_line`.  `section repr` serves both curves at `K2`, `K2bn`.)
-/
import PyEcc.Lemmas.TransferOptBls
import PyEcc.Lemmas.MillerRefTransfer
import PyEcc.Props.C13_Bls

set_option linter.unusedSectionVars false

namespace PyEcc.MillerSem
open PyEcc PyEcc.Gen PyEcc.Transfer PyEcc.C13 PyEcc.C13.Bls

variable {A R K : Type}
  [Zero A] [One A] [Add A] [Sub A] [Mul A] [Neg A] [Div A] [NatCast A] [Pow A Nat] [DecidableEq A]
  [Zero R] [One R] [Add R] [Sub R] [Mul R] [Neg R] [Div R] [NatCast R] [Pow R Nat] [DecidableEq R]
  [Field K] [DecidableEq K]
  {GA : A → Prop} {φ : A → K} (hO : GoodHom GA φ) {GR : R → Prop} {ρ : R → K} (hR : GoodHom GR ρ)

include hO in
theorem acc_mul {fN fD n d : A} {lv : K} (cN : GA fN) (cD : GA fD) (cn : GA n) (cd : GA d)
    (den : φ fD ≠ 0) (dne : φ d ≠ 0) (hv : φ n / φ d = lv) :
    GA (fN * n) ∧ GA (fD * d) ∧ φ (fD * d) ≠ 0 ∧ φ (fN * n) / φ (fD * d) = φ fN / φ fD * lv := by
  refine ⟨hO.good_mul cN cn, hO.good_mul cD cd, ?_, ?_⟩
  · rw [hO.map_mul cD cd]; exact mul_ne_zero den dne
  · rw [hO.map_mul cN cn, hO.map_mul cD cd, ← hv]; field_simp

section repr
variable {Q : A × A × A} {q : Option (R × R)}

include hO hR in
theorem on_curve_agree (cQ : GoodT GA Q) (cq : Transfer.GoodO GR q)
    (hQ : toAff (mapT φ Q) = Transfer.mapO ρ q) {bo : A} {br : R} (cbo : GA bo) (cbr : GR br)
    (hb : φ bo = ρ br) : OptBls.is_on_curve Q bo = RefBls.is_on_curve q br := by
  rw [← Transfer.Bls.good_is_on_curve hO cQ cbo, ← BlsRef.good_is_on_curve hR cq cbr,
    Bool.eq_iff_iff, opt_is_on_curve_iff, hQ, hb]

theorem on_curve_agree_field {F : Type} [Field F] [DecidableEq F] {P : F × F × F} {p : Option (F × F)}
    (hP : toAff P = p) (b : F) : OptBls.is_on_curve P b = RefBls.is_on_curve p b := by
  rw [Bool.eq_iff_iff, opt_is_on_curve_iff, hP]

include hO in
theorem none_of_z (hQ : toAff (mapT φ Q) = Transfer.mapO ρ q) (hz : Q.2.2 = 0) : q = none := by
  rw [toAff_of_z_eq_zero (T := mapT φ Q) (by rw [mapT_snd_snd, hz]; exact hO.map_zero)] at hQ
  exact (Transfer.mapO_eq_none _ _).mp hQ.symm

include hO in
theorem some_of_z (cQ : GoodT GA Q) (hQ : toAff (mapT φ Q) = Transfer.mapO ρ q) (hz : Q.2.2 ≠ 0) :
    ∃ xy, q = some xy := by
  have : (mapT φ Q).2.2 ≠ 0 := fun e => hz ((hO.eq_zero_iff cQ.2.2).mp e)
  rw [toAff_of_z_ne_zero this] at hQ
  rcases q with _ | xy
  · cases hQ
  · exact ⟨xy, rfl⟩

include hO in
theorem normalize_repr (cQ : GoodT GA Q) :
    GoodP GA (OptBls.normalize Q) ∧
      (Q.2.2 ≠ 0 → toAff (mapT φ Q) = some (mapP φ (OptBls.normalize Q))) := by
  obtain ⟨c, e⟩ := Transfer.Bls.good_normalize hO cQ
  refine ⟨c, fun hz => ?_⟩
  rw [e]
  exact opt_normalize _ fun h => hz ((hO.eq_zero_iff cQ.2.2).mp h)

end repr

variable {T1 T2 cP : A × A × A} (c1 : GoodT GA T1) (c2 : GoodT GA T2) (cP' : GoodT GA cP)
  (hz1 : φ T1.2.2 ≠ 0) (hz2 : φ T2.2.2 ≠ 0) (hzt : φ cP.2.2 ≠ 0)
include hO c1 c2 cP' hz1 hz2 hzt

theorem line_den_ne_zero (h2 : (2 : K) ≠ 0)
    (hy : toAff (mapT φ T1) = toAff (mapT φ T2) → φ T1.2.1 ≠ 0) :
    φ (OptBls.linefunc T1 T2 cP).2 ≠ 0 := by
  have e := congrArg Prod.snd (Transfer.Bls.good_linefunc hO c1 c2 cP').2
  rw [show φ (OptBls.linefunc T1 T2 cP).2 = _ from e, ne_eq,
    opt_linefunc_den_eq_zero_iff h2 _ _ _ hz1 hz2 hzt]
  exact fun h => hy h.1 h.2

theorem line_val (hd : φ (OptBls.linefunc T1 T2 cP).2 ≠ 0) :
    GA (OptBls.linefunc T1 T2 cP).1 ∧ GA (OptBls.linefunc T1 T2 cP).2
      ∧ RefBls.linefunc (toAff (mapT φ T1)) (toAff (mapT φ T2)) (toAff (mapT φ cP))
        = .ok (φ (OptBls.linefunc T1 T2 cP).1 / φ (OptBls.linefunc T1 T2 cP).2) := by
  obtain ⟨⟨cn, cd⟩, e⟩ := Transfer.Bls.good_linefunc hO c1 c2 cP'
  refine ⟨cn, cd, ?_⟩
  have e2 : φ (OptBls.linefunc T1 T2 cP).2 = _ := congrArg Prod.snd e
  rw [e2] at hd
  rw [show φ (OptBls.linefunc T1 T2 cP).1 = _ from congrArg Prod.fst e, e2]
  exact opt_linefunc_toAff _ _ _ hz1 hz2 hzt hd

include hR in
theorem line_agree {R1 R2 Pr : Option (R × R)} (g1 : Transfer.GoodO GR R1) (g2 : Transfer.GoodO GR R2)
    (gP : Transfer.GoodO GR Pr) (a1 : toAff (mapT φ T1) = Transfer.mapO ρ R1)
    (a2 : toAff (mapT φ T2) = Transfer.mapO ρ R2) (aP : toAff (mapT φ cP) = Transfer.mapO ρ Pr)
    (hd : φ (OptBls.linefunc T1 T2 cP).2 ≠ 0) :
    ∃ l, RefBls.linefunc R1 R2 Pr = .ok l ∧ GR l
      ∧ GA (OptBls.linefunc T1 T2 cP).1 ∧ GA (OptBls.linefunc T1 T2 cP).2
      ∧ ρ l = φ (OptBls.linefunc T1 T2 cP).1 / φ (OptBls.linefunc T1 T2 cP).2 := by
  obtain ⟨cn, cd, hl⟩ := line_val hO c1 c2 cP' hz1 hz2 hzt hd
  obtain ⟨gl, el⟩ := good_linefunc hR g1 g2 gP
  rw [← a1, ← a2, ← aP, hl] at el
  rcases hr : RefBls.linefunc R1 R2 Pr with err | l
  · rw [hr] at el; cases el
  · rw [hr] at el
    exact ⟨l, rfl, gl l hr, cn, cd, Except.ok.inj el⟩

end PyEcc.MillerSem
