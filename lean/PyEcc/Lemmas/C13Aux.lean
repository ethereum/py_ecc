/-
  For property C13 (projective formulas = affine law), over any field: the affine reading `toAff` of a projective
  triple, the scaling action on triples, and the chord slope in cross-multiplied form.
-/
import Mathlib.Tactic.FieldSimp
import Mathlib.Tactic.Ring
import PyEcc.Sem.Affine

namespace PyEcc.C13
variable {F : Type} [Field F] [DecidableEq F]

def scale (l : F) (T : F × F × F) : F × F × F := (l * T.1, l * T.2.1, l * T.2.2)

omit [DecidableEq F] in
@[simp] theorem scale_mk (l x y z : F) : scale l (x, y, z) = (l * x, l * y, l * z) := rfl

theorem toAff_of_z_eq_zero {T : F × F × F} (h : T.2.2 = 0) : toAff T = none := by
  simp [toAff, h]

theorem toAff_of_z_ne_zero {T : F × F × F} (h : T.2.2 ≠ 0) :
    toAff T = some (T.1 / T.2.2, T.2.1 / T.2.2) := by
  simp [toAff, h]

theorem toAff_eq_none_iff {T : F × F × F} : toAff T = none ↔ T.2.2 = 0 := by
  by_cases h : T.2.2 = 0 <;> simp [toAff, h]

@[simp] theorem toAff_mk_zero (x y : F) : toAff (x, y, (0 : F)) = none := by
  simp [toAff]

theorem toAff_scale {l : F} (hl : l ≠ 0) (T : F × F × F) : toAff (scale l T) = toAff T := by
  obtain ⟨x, y, z⟩ := T
  by_cases hz : z = 0
  · subst hz; simp [toAff]
  · have hlz : l * z ≠ 0 := mul_ne_zero hl hz
    simp only [toAff, scale_mk, hlz, hz, ↓reduceIte, mul_div_mul_left _ _ hl]

theorem toAff_eq_iff_of_ne_zero {T₁ T₂ : F × F × F} (h₁ : T₁.2.2 ≠ 0) (h₂ : T₂.2.2 ≠ 0) :
    toAff T₁ = toAff T₂ ↔
      T₁.1 * T₂.2.2 = T₂.1 * T₁.2.2 ∧ T₁.2.1 * T₂.2.2 = T₂.2.1 * T₁.2.2 := by
  rw [toAff_of_z_ne_zero h₁, toAff_of_z_ne_zero h₂, Option.some.injEq, Prod.mk.injEq,
    div_eq_div_iff h₁ h₂, div_eq_div_iff h₁ h₂]

omit [DecidableEq F] in
theorem slope_norm {x1 y1 z1 x2 y2 z2 : F} (hz1 : z1 ≠ 0) (hz2 : z2 ≠ 0) :
    (y2 / z2 - y1 / z1) / (x2 / z2 - x1 / z1) = (y2 * z1 - y1 * z2) / (x2 * z1 - x1 * z2) := by
  rw [div_sub_div _ _ hz2 hz1, div_sub_div _ _ hz2 hz1,
    div_div_div_cancel_right₀ (mul_ne_zero hz2 hz1)]
  ring_nf

end PyEcc.C13
