/-
  PyEcc.Lemmas.MillerRegular — discharging the regularity hypothesis of the Miller-loop comparison for
  points of the order-`r` subgroup: along the loop `R = k • Q` with `0 < k ≤ ate_loop_count < r`, so `R`
  is never ∞, and a finite point of the twist curve never has `y = 0` (no 2-torsion).
-/
import PyEcc.Lemmas.MillerPairing
import PyEcc.Props.C17_Sub
import PyEcc.Props.C11_G2Full
import PyEcc.Lemmas.BlsAbstract

set_option linter.unusedSectionVars false
set_option linter.unusedVariables false
set_option maxRecDepth 100000

namespace PyEcc.MillerSem
open Polynomial PyEcc PyEcc.Gen PyEcc.Gen.Consts PyEcc.Fqp PyEcc.FqpSem PyEcc.Transfer

/-- scalar reached by double-and-add from `k` along a digit list (a digit counts iff it is `1`,
    as in the loop's `if v == 1`) -/
def scalarFrom (k : ℕ) : List Int → ℕ
  | [] => k
  | v :: ds => scalarFrom (2 * k + (if v = 1 then 1 else 0)) ds

theorem le_scalarFrom : ∀ (ds : List Int) (k : ℕ), k ≤ scalarFrom k ds
  | [], k => le_rfl
  | v :: ds, k => by
    unfold scalarFrom
    exact le_trans (by omega) (le_scalarFrom ds _)

/-- the digits of the optimized loop evaluate to `ate_loop_count` (`bls_scalar_eq`), which is below the group order -/
theorem bls_scalar_lt :
    scalarFrom 1 (digitsFrom optimized_bls12_381_pseudo_binary_encoding 62) < blsR := by
  decide +kernel

theorem bls_scalar_eq :
    scalarFrom 1 (digitsFrom optimized_bls12_381_pseudo_binary_encoding 62)
      = optimized_bls12_381_ate_loop_count := by
  decide +kernel

section
variable [DecidableEq K2] {Q : G2Pt} {Pt : CurvePt (toQ blsB2 : K2)}

theorem fin2_of_repr {R : G2Pt} {S : CurvePt (toQ blsB2 : K2)} (r : Rep curveF2 R S) (hS : S ≠ 0) :
    Fin2 R := by
  have hz : R.2.2 ≠ 0 := by
    intro hz
    apply hS
    apply r.is_inf_iff.mp
    simp [OptBls.is_inf, hz]
  exact ⟨hz, C11.no_y0_point_G2 R r.good r.on_curve hz⟩

/-- along the optimized Miller loop started at `R = k • Q`, every running point is regular as long as
    the scalar stays below the (prime) order of `Q` -/
theorem regularFrom_of_scalar (rQ : Rep curveF2 Q Pt) (hPt : Pt ≠ 0) (hr : blsR • Pt = 0) :
    ∀ (ds : List Int) (R : G2Pt) (k : ℕ), Rep curveF2 R (k • Pt) → 0 < k →
      scalarFrom k ds < blsR → RegularFrom Q ds R
  | [], _, _, _, _, _ => trivial
  | v :: ds, R, k, rR, h0, hlt => by
    rw [regularFrom_cons]
    have hk' : 2 * k + (if v = 1 then 1 else 0) ≤ scalarFrom k (v :: ds) := by
      rw [scalarFrom]; exact le_scalarFrom ds _
    have rD : Rep curveF2 (OptBls.double R) ((2 * k) • Pt) := by
      have := rR.double
      rwa [← add_nsmul, ← two_mul] at this
    refine ⟨fin2_of_repr rR (BlsAbs.nsmul_ne_zero_of_lt (r := blsR) prime_blsR h0 (by omega) hr hPt), ?_, ?_⟩
    · intro _
      exact fin2_of_repr rD (BlsAbs.nsmul_ne_zero_of_lt (r := blsR) prime_blsR (by omega) (by omega) hr hPt)
    · by_cases hv : v = 1
      · simp only [hv, if_true] at hlt hk' ⊢
        have rA : Rep curveF2 (OptBls.add (OptBls.double R) Q) ((2 * k + 1) • Pt) := by
          have := rD.add rQ
          rwa [← succ_nsmul] at this
        apply regularFrom_of_scalar rQ hPt hr ds _ (2 * k + 1) rA (by omega)
        rw [scalarFrom] at hlt; simpa using hlt
      · simp only [hv, if_false] at hlt hk' ⊢
        apply regularFrom_of_scalar rQ hPt hr ds _ (2 * k) rD (by omega)
        rw [scalarFrom] at hlt; simpa [hv] using hlt

end

end PyEcc.MillerSem
