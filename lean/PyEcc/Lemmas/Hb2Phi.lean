/-
  The order-3 automorphism `φ(x, y) = (c²·x, y)` of `E : y² = x³ + b` (`c³ = 1`),
  field-generically, obtained from `TwistSem.twistHom` with `ψ = id`; and the resulting
  "`q² ∣ #E` from one point of order `q`" criterion used for the BLS12-381 / bn128 group orders (HB2), in
  the form used there: from evaluations of the generated curve code on a triple over any coordinate type with
  a `GoodHom` into the field (`sq_subgroup_of_facts`, `dvd_card_of_facts`).
  HB2 is DESIGN.md's name for the group orders `#E(Fp) = h₁r`, `#E'(Fp²) = h₂r` (BLS12-381) and `(2p − r)r`
  (bn128 twist).
-/
import PyEcc.Lemmas.TwistPoint
import PyEcc.Lemmas.FastFq2
import PyEcc.Sem.GroupOrderK

set_option linter.unusedSectionVars false

namespace PyEcc.Hb2
open PyEcc PyEcc.Gen PyEcc.CurveSem PyEcc.TwistSem PyEcc.Transfer WeierstrassCurve

section phi
variable {L : Type} [Field L] [DecidableEq L] {b c : L}
  (h2 : (2 : L) ≠ 0) (h3 : (3 : L) ≠ 0) (hb : b ≠ 0) (hc : c ^ 3 = 1)

include hc in
theorem c_ne_zero : c ≠ 0 := by
  rintro rfl
  simp at hc

include hc in
theorem phi_b : (RingHom.id L) b * c ^ 6 = b := by
  have : c ^ 6 = 1 := by
    have : c ^ 6 = (c ^ 3) ^ 2 := by ring
    rw [this, hc, one_pow]
  rw [this, mul_one]; rfl

/-- `φ : (x, y) ↦ (c²·x, y)`, an endomorphism of the Mathlib point group of `y² = x³ + b` -/
noncomputable def phi : (W b).Point →+ (W b).Point :=
  twistHom (RingHom.id L) (c_ne_zero hc) h2 h3 hb (phi_b hc)

theorem reprRef_phi (P : (W b).Point) :
    reprRef (phi h2 h3 hb hc P) = (reprRef P).map fun q => (q.1 * c ^ 2, q.2) := by
  rw [phi, reprRef_twistHom]
  rcases reprRef P with _ | ⟨x, y⟩
  · rfl
  · simp [twO, hc]

theorem phi_cube (P : (W b).Point) :
    phi h2 h3 hb hc (phi h2 h3 hb hc (phi h2 h3 hb hc P)) = P := by
  apply CurveSem.reprRef_injective
  rw [reprRef_phi, reprRef_phi, reprRef_phi]
  rcases reprRef P with _ | ⟨x, y⟩
  · rfl
  · simp only [Option.map_some]
    congr 2
    have : x * c ^ 2 * c ^ 2 * c ^ 2 = x * (c ^ 3) ^ 2 := by ring
    rw [this, hc, one_pow, mul_one]

theorem represents_phi {T : L × L × L} {P : (W b).Point} {w : L} (hw : w = c ^ 2)
    (r : Represents T P) : Represents (T.1 * w, T.2.1, T.2.2) (phi h2 h3 hb hc P) := by
  unfold Represents at r ⊢
  rw [reprRef_phi, ← r, hw]
  unfold toAff
  by_cases hz : T.2.2 = 0
  · simp [hz]
  · simp only [hz, if_false, Option.map_some]
    congr 2
    field_simp

end phi

theorem exists_sq_subgroup_of_phi {G : Type*} [AddCommGroup G] {q : ℕ} [hq : Fact q.Prime]
    (φ : G →+ G) (P : G) (hP0 : P ≠ 0) (hPq : q • P = 0) (h3 : φ (φ (φ P)) = P) (l₁ l₂ : ℕ)
    (hroots : ∀ k : ZMod q, k ^ 3 = 1 → k = 1 ∨ k = (l₁ : ZMod q) ∨ k = (l₂ : ZMod q))
    (c0 : φ P ≠ P) (c1 : φ P ≠ l₁ • P) (c2 : φ P ≠ l₂ • P) :
    ∃ H : AddSubgroup G, Nat.card H = q ^ 2 ∧ ∀ x ∈ H, q • x = 0 := by
  have hP : addOrderOf P = q := addOrderOf_eq_prime hPq hP0
  refine exists_sq_subgroup hq.out P (φ P) hP ?_ (not_mem_of_cube φ P hP h3 l₁ l₂ hroots c0 c1 c2)
  rw [← map_nsmul, hPq, map_zero]

section facts
variable {A K : Type}
  [Zero A] [One A] [Add A] [Sub A] [Mul A] [Neg A] [Div A] [NatCast A] [Pow A Nat] [DecidableEq A]
  [Field K] [DecidableEq K] {Good : A → Prop} {φ : A → K} {b : A} {bK : K}

theorem sq_subgroup_of_facts (c : CurveHom Good φ b bK) {w : A} (gw : Good w) {c₃ : K} (hc : c₃ ^ 3 = 1)
    (hw : φ w = c₃ ^ 2) {T : A × A × A} (g : GoodT Good T) {q l₁ l₂ : ℕ} [Fact q.Prime]
    (f : SqFacts T b w q l₁ l₂)
    (hroots : ∀ k : ZMod q, k ^ 3 = 1 → k = 1 ∨ k = (l₁ : ZMod q) ∨ k = (l₂ : ZMod q)) :
    ∃ H : AddSubgroup (CurvePt bK), Nat.card H = q ^ 2 ∧ ∀ x ∈ H, q • x = 0 := by
  obtain ⟨⟨hon, hinf, hq⟩, e0, e1, e2⟩ := f
  obtain ⟨P, r, hP0, hPq⟩ := c.point_of_facts g hon hinf hq
  have rφ : Rep c (phiT w T) (phi c.two c.three c.b_ne hc P) := by
    refine ⟨⟨c.hom.good_mul g.1 gw, g.2.1, g.2.2⟩, ?_⟩
    have := represents_phi c.two c.three c.b_ne hc hw r.rep
    rwa [mapT_fst, ← c.hom.map_mul g.1 gw] at this
  have ne_of : ∀ {T' : A × A × A} {Q : CurvePt bK}, Rep c T' Q →
      OptBls.eq (phiT w T) T' = false → phi c.two c.three c.b_ne hc P ≠ Q := fun r' he e =>
    Bool.false_ne_true (he.symm.trans ((rφ.eq_iff r').mpr e))
  exact exists_sq_subgroup_of_phi (phi c.two c.three c.b_ne hc) P hP0 hPq (phi_cube c.two c.three c.b_ne hc P)
    l₁ l₂ hroots (ne_of r e0) (ne_of (r.multiply l₁) e1) (ne_of (r.multiply l₂) e2)

theorem dvd_card_of_facts (c : CurveHom Good φ b bK) {T : A × A × A} (g : GoodT Good T) {q : ℕ}
    [Fact q.Prime] [Finite K] (f : CycFacts T b q) : q ∣ Nat.card (CurvePt bK) := by
  obtain ⟨P, _, hP0, hPq⟩ := c.point_of_facts g f.1 f.2.1 f.2.2
  exact dvd_card_of_order P (addOrderOf_eq_prime hPq hP0)

end facts

/-- `#E(K) ≤ 2·#K + 1`, the number of elements of `K` given by an equation -/
theorem card_point_le_of_card {K : Type} [Field K] [Finite K] [DecidableEq K] (b : K) {n : ℕ}
    (h : Nat.card K = n) : Nat.card (CurvePt b) ≤ 2 * n + 1 := by
  have := Fintype.ofFinite K
  rw [← h, Nat.card_eq_fintype_card (α := K)]
  exact card_point_le b

theorem prod_dvd_of_pairwise_coprime {l : List ℕ} {n : ℕ} (hp : l.Pairwise Nat.Coprime)
    (hd : ∀ d ∈ l, d ∣ n) : l.prod ∣ n := by
  induction l with
  | nil => simp
  | cons a l ih =>
    obtain ⟨ha, hl⟩ := List.pairwise_cons.mp hp
    rw [List.prod_cons]
    exact Nat.Coprime.mul_dvd_of_dvd_of_dvd (Nat.coprime_list_prod_right_iff.mpr ha)
      (hd a List.mem_cons_self) (ih hl fun d h => hd d (List.mem_cons_of_mem a h))

end PyEcc.Hb2
