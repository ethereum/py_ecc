/-
  For C14: the state of the model's `FQP.sgn0` loop (`ℕ × Bool`)
  tracks the state of the RFC 9380 §4.1 loop (`Bool × Bool`) on non-negative coefficients.
-/
import PyEcc.Model.Fqp
import PyEcc.Spec.Rfc9380Sgn0
import Mathlib.Data.Int.Basic
import Mathlib.Tactic.Common

namespace PyEcc.FqSem

theorem sgn0_foldl (xs : List ℤ) (hxs : ∀ x ∈ xs, 0 ≤ x) (sb z : Bool) :
    (xs.foldl (fun (st : ℕ × Bool) (x : ℤ) =>
        (if st.1 ≠ 0 then st.1 else if st.2 then (x % 2).toNat else 0, st.2 && x == 0))
      (if sb then 1 else 0, z)).1
    = if ((xs.map Int.toNat).foldl Spec.Sgn0.step (sb, z)).1 then 1 else 0 := by
  induction xs generalizing sb z with
  | nil => simp
  | cons x xs ih =>
    have hx : 0 ≤ x := hxs x (List.mem_cons_self)
    have hxs' : ∀ y ∈ xs, 0 ≤ y := fun y hy => hxs y (List.mem_cons_of_mem _ hy)
    obtain ⟨k, rfl⟩ := Int.eq_ofNat_of_zero_le hx
    simp only [List.map_cons, List.foldl_cons, Spec.Sgn0.step, Int.toNat_natCast]
    rw [← ih hxs']
    congr 2
    have hk : ((k : ℤ) % 2).toNat = k % 2 := by omega
    rcases Nat.mod_two_eq_zero_or_one k with h | h <;> cases sb <;> cases z <;>
      simp [hk, h, beq_eq_decide, Int.natCast_eq_zero]

end PyEcc.FqSem
