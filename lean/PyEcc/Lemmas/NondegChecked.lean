/-
  Two values that the evaluations CHECK by one product instead of computing them:
  a quotient `a / b` of the model's `FQP` (`z * b = a` gives `a / b = z`), and the power `x^((q−1)·e)` when `x^q` is
  known (`y · x = x^q` gives `y^e`; for `q = p⁶` on `FQ12`, `x^q` is the conjugate `conjF x`).  The quotient is stated for
  the model, the power over any field (`pow_pred_mul`), and both then over the fast arithmetic of `Lemmas/NondegFast.lean`
  (`toL_div_of_mul`, `toL_pow_of_conj`).
-/
import PyEcc.Lemmas.NondegFast
import PyEcc.Props.C08_FqpInv

set_option linter.unusedSectionVars false

namespace PyEcc.NondegSem
open Polynomial PyEcc PyEcc.Fqp PyEcc.FqpSem PyEcc.PairingSem PyEcc.Transfer
open X12 hiding toL ofL
open F12

section
variable {p : ℕ} [Fact p.Prime] {mc : List Int} [Fact (Irreducible (modulus p mc))] {v : Variant}

theorem div_eq_of_mul_eq (hd : 1 ≤ mc.length) (hmc : Sane p mc) {a b z : Fqp v p mc} (ha : Canon a)
    (hb : Canon b) (hz : Canon z) (hne : b ≠ 0) (h : z * b = a) : a / b = z := by
  have hp : 0 < p := (Fact.out : p.Prime).pos
  have hc := C08P.div_mul_cancel hd Fact.out hmc ha hb hne
  have hq : Canon (a / b) := mul_canon hp _ _
  apply toQ_inj hq hz
  have e : toQ (a / b * b) = toQ (z * b) := by rw [hc, h]
  rw [show a / b * b = Fqp.mul (a / b) b from rfl, show z * b = Fqp.mul z b from rfl,
    toQ_mul hq.wf hb.wf, toQ_mul hz.wf hb.wf] at e
  exact mul_right_cancel₀ (C08P.toQ_ne_zero hp hb hne) e

end

theorem pow_pred_mul {K : Type*} [Field K] {x y : K} {q : ℕ} (hq : 0 < q) (hx : x ≠ 0)
    (h : y * x = x ^ q) (e : ℕ) : x ^ ((q - 1) * e) = y ^ e := by
  rw [pow_mul]
  congr 1
  apply mul_right_cancel₀ hx
  rw [h, ← pow_succ, Nat.sub_add_cancel hq]

section
variable {p : ℕ} [Fact p.Prime] {mc : List Int} {k6 k0 : ℕ}

variable [hr : Reduces p mc k6 k0]
include hr

theorem toL_div_of_mul [Fact (Irreducible (modulus p mc))] (hmc : Sane p mc) {a b z : F12 p mc k6 k0}
    (ga : Good p a) (gb : Good p b) (gz : Good p z) (hb : toL b ≠ 0) (h : z * b = a) :
    toL a / toL b = toL z :=
  div_eq_of_mul_eq hr.one_le hmc (canon_toL ga) (canon_toL gb) (canon_toL gz) hb (by rw [← toL_mul, h])

/-- **the plain power `x ** ((q − 1)·e)` through its easy part**: if `σ` is the `q`-power map with
    `σ w = −w` and `y·x = x̄` over the fast type, then the model's `toL x ** ((q − 1)·e)` is the
    coefficient list of `y ^ e` -/
theorem toL_pow_of_conj [Fact (Irreducible (modulus p mc))]
    {σ : AdjoinRoot (modulus p mc) →+* AdjoinRoot (modulus p mc)} {q : ℕ} (hq : 0 < q) (hσ : ∀ z, σ z = z ^ q)
    (hσw : σ (AdjoinRoot.root (modulus p mc)) = -AdjoinRoot.root (modulus p mc)) {x y : F12 p mc k6 k0}
    (gx : Good p x) (hx : toL x ≠ 0)
    (h : y * x = conjF p x) (e : ℕ) : toL x ^ ((q - 1) * e) = toL (y ^ e) := by
  have hd : 1 ≤ mc.length := hr.one_le
  have hx0 : toK p mc x ≠ 0 := by
    rw [← toQ_toL]; exact C08P.toQ_ne_zero p_pos (canon_toL gx) hx
  apply toQ_inj (pow_canon p_pos hd _ _) (canon_toL (good_powF y e))
  rw [toL_pow, show toL y ^ e = Fqp.pow (toL y) e from rfl,
    toQ_pow hd (wf_toL x), toQ_pow hd (wf_toL y), toQ_toL, toQ_toL]
  exact pow_pred_mul hq hx0 (by rw [← toK_mul, h, toK_conjF hσw gx, hσ]) e

end

end PyEcc.NondegSem
