/-
  For the BLS ciphersuite properties (C01–C04), core Lean only.  Which exception kinds each primitive under
  `Model/Bls.lean` can raise is read off the text of its `do` block with `Post P Q x` ("errors satisfy `P`, results `Q`").
  Each verification body is unfolded once (`coreVerifyBody_cases`, `coreAggregateVerifyBody_cases`) behind the gate on the
  signature that both share (`sigGate_cases`; `Early` names the three ways of stopping before it is passed); the exact
  accept conditions of the `try/except` wrappers are `coreVerify_true_iff`, `coreAggregateVerify_true_iff`.
-/
import PyEcc.Model.Bls
import PyEcc.Sem.CodecCtl
import PyEcc.Lemmas.Control
import PyEcc.Lemmas.Bytes
import PyEcc.Lemmas.Swu2Shape
import PyEcc.Props.C09_Consts

namespace PyEcc.BlsSem
open PyEcc Gen.Consts BytesLem

theorem of_not_bnot {b : Bool} (h : ¬ (!b) = true) : b = true := by cases b <;> simp_all

/-- Postcondition of a run: a raised exception satisfies `P`, a returned value satisfies `Q`.
    `pure`, `throw`, `bind`, `ite`, `guard` follow the shape of a `do` block, so the exception kinds of a
    function are read off its text. -/
def Post {α : Type} (P : PyErr → Prop) (Q : α → Prop) (x : Except PyErr α) : Prop :=
  (∀ e, x = .error e → P e) ∧ ∀ a, x = .ok a → Q a

namespace Post
variable {α β : Type} {P : PyErr → Prop} {Q : α → Prop}

theorem pure {a : α} (h : Q a) : Post P Q (pure a) :=
  ⟨fun _ he => (nomatch he), fun _ ha => Except.ok.inj ha ▸ h⟩

theorem throw {e : PyErr} (h : P e) : Post P Q (throw e) :=
  ⟨fun _ he => Except.error.inj he ▸ h, fun _ ha => (nomatch ha)⟩

theorem error {x : Except PyErr α} (h : Post P Q x) {e : PyErr} (he : x = .error e) : P e := h.1 e he

theorem ok {x : Except PyErr α} (h : Post P Q x) {a : α} (ha : x = .ok a) : Q a := h.2 a ha

theorem mono {P' : PyErr → Prop} {Q' : α → Prop} {x : Except PyErr α} (h : Post P Q x)
    (hP : ∀ e, P e → P' e) (hQ : ∀ a, Q a → Q' a) : Post P' Q' x :=
  ⟨fun e he => hP e (h.1 e he), fun a ha => hQ a (h.2 a ha)⟩

/-- a run whose exceptions satisfy `P`, remembering its result -/
theorem of_error {x : Except PyErr α} (h : ∀ e, x = .error e → P e) : Post P (fun a => x = .ok a) x :=
  ⟨h, fun _ ha => ha⟩

theorem bind {R : β → Prop} {x : Except PyErr α} {f : α → Except PyErr β} (hx : Post P Q x)
    (hf : ∀ a, Q a → Post P R (f a)) : Post P R (x >>= f) := by
  cases x with
  | error e => exact throw (hx.1 e rfl)
  | ok a => exact hf a (hx.2 a rfl)

theorem ite {c : Prop} {_ : Decidable c} {t e : Except PyErr α} (ht : c → Post P Q t)
    (he : ¬ c → Post P Q e) : Post P Q (if c then t else e) := by
  split
  · next h => exact ht h
  · next h => exact he h

/-- the `do`-block step `if c then throw e` followed by the rest `f` of the block -/
theorem guard {c : Prop} {_ : Decidable c} {e : PyErr} {R : β → Prop} {f : PUnit → Except PyErr β}
    (hf : ¬ c → Post P R (f ⟨⟩)) (h : c → P e) :
    Post P R (if c then (MonadExcept.throw e : Except PyErr PUnit) >>= f else f ⟨⟩) :=
  ite (fun hc => bind (Q := fun _ => False) (throw (h hc)) fun _ h => h.elim) hf

end Post

theorem i2osp_error {x n : Nat} {e : PyErr} (h : i2osp x n = .error e) :
    e = .overflow ∧ ¬ x < 256 ^ n := by
  unfold i2osp at h
  split at h
  · cases h
  · next hx => cases h; exact ⟨rfl, hx⟩

theorem pubkeyToG1_error {pk : Bytes} {e : PyErr} (h : pubkeyToG1 pk = .error e) : e = .value :=
  CodecSem.decompressG1_error_kind h

theorem signatureToG2_error {sig : Bytes} {e : PyErr} (h : signatureToG2 sig = .error e) :
    e = .value :=
  CodecSem.decompressG2_error_kind h

theorem signatureToG2_on_curve {sig : Bytes} {S : G2Pt} (h : signatureToG2 sig = .ok S) :
    Gen.OptBls.is_on_curve S blsB2 = true :=
  CodecSem.decompressG2_on_curve h

/-- `pairing` raises only `ValueError`, and only when one of its two arguments is off its curve -/
theorem pairingOptBls_post (Q : G2Pt) (P : G1Pt) (fe : Bool) :
    Post (fun e => e = .value ∧
        ¬ (Gen.OptBls.is_on_curve Q (⟨optimized_bls12_381_b2⟩ : OBls2) = true ∧
          Gen.OptBls.is_on_curve P (Fq.ofInt optimized_bls12_381_b : Fq blsP) = true))
      (fun _ => True) (pairingOptBls Q P fe) := by
  unfold pairingOptBls
  refine .guard (fun _ => .guard (fun _ => .ite (fun _ => .pure True.intro) fun _ => .pure True.intro) ?_) ?_
  · exact fun h => ⟨rfl, fun hh => by simp [hh.2] at h⟩
  · exact fun h => ⟨rfl, fun hh => by simp [hh.1] at h⟩

theorem pairingOptBls_error {Q : G2Pt} {P : G1Pt} {fe : Bool} {e : PyErr}
    (h : pairingOptBls Q P fe = .error e) : e = .value :=
  ((pairingOptBls_post Q P fe).error h).1

theorem pairingOptBls_ok_of_on_curve {Q : G2Pt} {P : G1Pt} {fe : Bool}
    (hQ : Gen.OptBls.is_on_curve Q (⟨optimized_bls12_381_b2⟩ : OBls2) = true)
    (hP : Gen.OptBls.is_on_curve P (Fq.ofInt optimized_bls12_381_b : Fq blsP) = true) :
    ∃ v, pairingOptBls Q P fe = .ok v := by
  cases h : pairingOptBls Q P fe with
  | ok v => exact ⟨v, rfl⟩
  | error e => exact (((pairingOptBls_post Q P fe).error h).2 ⟨hQ, hP⟩).elim

/-- the `for i in range(2, ell+1)` loop never raises as long as the counter stays below 256
    (`i2osp(i, 1)`); this is what the guard `ell > 255 → ValueError` ensures. -/
theorem xmdLoop_ne_error (H : HashFn) (b0 dstPrime : Bytes) {e : PyErr} :
    ∀ (k i : Nat) (bs : List Bytes), i + k ≤ 256 → xmdLoop H b0 dstPrime k i bs ≠ .error e := by
  intro k
  induction k with
  | zero => intro i bs _ h; cases h
  | succ k ih =>
    intro i bs hik
    unfold xmdLoop
    rw [i2osp_ok (show i < 256 ^ 1 by omega)]
    exact ih (i + 1) _ (by omega)

theorem expandMessageXmd_cases (H : HashFn) (msg dst : Bytes) {len : Nat} (hlen : len < 65536) :
    (∃ r, expandMessageXmd H msg dst len = .ok r) ∨
    ((255 < dst.length ∨ 255 < ceilDiv len H.digestSize) ∧
      expandMessageXmd H msg dst len = .error .value) := by
  unfold expandMessageXmd
  by_cases h0 : dst.length > 255
  · exact .inr ⟨.inl h0, by simp only [h0, ↓reduceIte]; rfl⟩
  by_cases h1 : ceilDiv len H.digestSize > 255
  · exact .inr ⟨.inr h1, by simp only [h0, h1, ↓reduceIte]; rfl⟩
  left
  simp only [h0, h1, ↓reduceIte, i2osp_ok (show dst.length < 256 ^ 1 by omega),
    i2osp_ok (show len < 256 ^ 2 by omega), bind, Except.bind]
  split
  · next he => exact (xmdLoop_ne_error H _ _ _ _ _ (by omega) he).elim
  · exact ⟨_, rfl⟩

/-- `hash_to_field_FQ2(msg, 2, DST)` raises what `expand_message_xmd` raises, and otherwise returns two
    pairs of reduced coordinates -/
theorem hashToFieldFq2_cases (H : HashFn) (msg dst : Bytes) :
    (∃ e, expandMessageXmd H msg dst (2 * 2 * 64) = .error e ∧
      hashToFieldFq2 H blsP msg 2 dst = .error e) ∨
    ∃ (prb : Bytes) (u0 u1 : Nat × Nat), expandMessageXmd H msg dst (2 * 2 * 64) = .ok prb ∧
      hashToFieldFq2 H blsP msg 2 dst = .ok [u0, u1] ∧
      (u0.1 < blsP ∧ u0.2 < blsP) ∧ u1.1 < blsP ∧ u1.2 < blsP := by
  unfold hashToFieldFq2
  dsimp only
  cases expandMessageXmd H msg dst (2 * 2 * 64) with
  | error e => exact .inl ⟨e, rfl, rfl⟩
  | ok prb =>
    have hp : 0 < blsP := by decide
    exact .inr ⟨prb, _, _, rfl, rfl, ⟨Nat.mod_lt _ hp, Nat.mod_lt _ hp⟩, Nat.mod_lt _ hp, Nat.mod_lt _ hp⟩

theorem hashToFieldFq2_ok_range {H : HashFn} {msg dst : Bytes} {us : List (Nat × Nat)}
    (h : hashToFieldFq2 H blsP msg 2 dst = .ok us) : ∀ u ∈ us, u.1 < blsP ∧ u.2 < blsP := by
  rcases hashToFieldFq2_cases H msg dst with ⟨e, _, he⟩ | ⟨_, u0, u1, _, hu, h0, h1⟩
  · rw [he] at h; cases h
  · rw [hu] at h; cases h
    intro u hu
    simp only [List.mem_cons, List.not_mem_nil, or_false] at hu
    rcases hu with rfl | rfl
    · exact h0
    · exact h1

/-- `optimized_swu_G2` takes its "unreachable" `raise Exception(...)` on some element `a + b·i` of `Fp²`
    (`0 ≤ a, b < p` — the only kind of input `hash_to_G2` passes to it).  It is false: `C10G2.not_swuFails`, which
    `Props/C04_Total.lean` applies. -/
def SwuFails : Prop :=
  ∃ a b : Nat, a < blsP ∧ b < blsP ∧ optimizedSwuG2 (f2c [(a : Int), (b : Int)]) = .error .other

theorem optimizedSwuG2_error {t : F2} {e : PyErr} (h : optimizedSwuG2 t = .error e) : e = .other := by
  rw [Swu2.optimizedSwuG2_eq] at h
  split at h
  · exact (Except.error.inj h).symm
  · cases h

theorem mapToCurveG2_error {t : F2} {e : PyErr} (h : mapToCurveG2 t = .error e) :
    e = .other ∧ optimizedSwuG2 t = .error .other := by
  unfold mapToCurveG2 at h
  rcases bind_eq_error h with h1 | ⟨a, _, h2⟩
  · have := optimizedSwuG2_error h1; subst this; exact ⟨rfl, h1⟩
  · cases h2

/-- `hash_to_G2` raises what `hash_to_field` raises, or the bare `Exception` of `optimized_swu_G2` failing
    on one of the two field elements that `hash_to_field_FQ2` produced -/
theorem hashToG2_error_split {H : HashFn} {msg dst : Bytes} {e : PyErr}
    (h : hashToG2 H msg dst = .error e) :
    expandMessageXmd H msg dst (2 * 2 * 64) = .error e ∨
    (e = .other ∧ ∃ u0 u1 : Nat × Nat, hashToFieldFq2 H blsP msg 2 dst = .ok [u0, u1] ∧
      ((u0.1 < blsP ∧ u0.2 < blsP) ∧ optimizedSwuG2 (f2c [(u0.1 : Int), (u0.2 : Int)]) = .error .other ∨
       (u1.1 < blsP ∧ u1.2 < blsP) ∧ optimizedSwuG2 (f2c [(u1.1 : Int), (u1.2 : Int)]) = .error .other)) := by
  unfold hashToG2 at h
  rcases bind_eq_error h with hf | ⟨us, hus, h2⟩ <;>
    rcases hashToFieldFq2_cases H msg dst with ⟨e', hx, he⟩ | ⟨_, u0, u1, _, hu, h0, h1⟩
  · rw [he] at hf; cases hf; exact .inl hx
  · rw [hu] at hf; cases hf
  · rw [he] at hus; cases hus
  · rw [hu] at hus; cases hus
    right
    rcases bind_eq_error h2 with h3 | ⟨q0, _, h4⟩
    · exact ⟨(mapToCurveG2_error h3).1, u0, u1, hu, .inl ⟨h0, (mapToCurveG2_error h3).2⟩⟩
    · rcases bind_eq_error h4 with h5 | ⟨q1, _, h6⟩
      · exact ⟨(mapToCurveG2_error h5).1, u0, u1, hu, .inr ⟨h1, (mapToCurveG2_error h5).2⟩⟩
      · cases h6

theorem hashToG2_error_cases {H : HashFn} {msg dst : Bytes} {e : PyErr}
    (h : hashToG2 H msg dst = .error e) :
    expandMessageXmd H msg dst (2 * 2 * 64) = .error e ∨ (e = .other ∧ SwuFails) := by
  rcases hashToG2_error_split h with hx | ⟨he, _, _, _, ⟨hr, hs⟩ | ⟨hr, hs⟩⟩
  · exact .inl hx
  · exact .inr ⟨he, _, _, hr.1, hr.2, hs⟩
  · exact .inr ⟨he, _, _, hr.1, hr.2, hs⟩

/-- **Exception kinds of `hash_to_G2`.**  It raises `ValueError` (DST longer than 255 bytes, or a digest
    so short that `ell > 255`), or the bare `Exception("Hash to Curve - Optimized SWU failure")` — and the
    latter only if `optimized_swu_G2` itself fails on some field element. -/
theorem hashToG2_error {H : HashFn} {msg dst : Bytes} {e : PyErr}
    (h : hashToG2 H msg dst = .error e) :
    e = .value ∨ (e = .other ∧ SwuFails) := by
  rcases hashToG2_error_cases h with hx | hs
  · rcases expandMessageXmd_cases H msg dst (len := 2 * 2 * 64) (by decide) with ⟨r, hr⟩ | ⟨_, hv⟩
    · rw [hr] at hx; cases hx
    · rw [hv] at hx; cases hx; exact .inl rfl
  · exact .inr hs

theorem ceilDiv_256_le {d : Nat} (hd : 2 ≤ d) : ceilDiv 256 d ≤ 255 := by
  unfold ceilDiv
  have h1 : (256 + d - 1) / d ≤ (256 + d - 1) / 2 := Nat.div_le_div_left hd (by omega)
  by_cases hbig : d ≤ 254
  · omega
  · have : (256 + d - 1) / d < 3 := (Nat.div_lt_iff_lt_mul (by omega)).mpr (by omega)
    omega

/-- With a DST of at most 255 bytes and a digest of at least 2 bytes, the only way `hash_to_G2` can raise
    is the SWU "unreachable" bare `Exception`. -/
theorem hashToG2_error_of_dst {H : HashFn} {msg dst : Bytes} {e : PyErr}
    (hd : 2 ≤ H.digestSize) (hdst : dst.length ≤ 255) (h : hashToG2 H msg dst = .error e) :
    e = .other ∧ SwuFails := by
  rcases hashToG2_error_cases h with hx | hs
  · rcases expandMessageXmd_cases H msg dst (len := 2 * 2 * 64) (by decide) with ⟨r, hr⟩ | ⟨hg, _⟩
    · rw [hr] at hx; cases hx
    · have := ceilDiv_256_le hd
      rcases hg with hg | hg
      · omega
      · exact absurd hg (by show ¬ 255 < ceilDiv 256 H.digestSize; omega)
  · exact hs

/-- `optimized_swu_G2` never takes its "unreachable" `raise` on an element `a + b·i` of `Fp²`,
    `0 ≤ a, b < p`; proved as `C10G2.swuTotal` (`Props/C10_G2.lean`) -/
def SwuTotal : Prop :=
  ∀ a b : Nat, a < blsP → b < blsP → ∃ r, optimizedSwuG2 (f2c [(a : Int), (b : Int)]) = .ok r

theorem not_swuFails_iff : ¬ SwuFails ↔ SwuTotal := by
  constructor
  · intro h a b ha hb
    cases ht : optimizedSwuG2 (f2c [(a : Int), (b : Int)]) with
    | ok r => exact ⟨r, rfl⟩
    | error e =>
      have := optimizedSwuG2_error ht
      subst this
      exact (h ⟨a, b, ha, hb, ht⟩).elim
  · rintro h ⟨a, b, ha, hb, ht⟩
    obtain ⟨r, hr⟩ := h a b ha hb
    rw [hr] at ht
    cases ht

/-- the tags are the draft's 43-character strings (`C09.Consts.tags_eq_spec`) -/
theorem suite_dst_length (s : Suite) : (Suite.dst s).length = 43 := by
  obtain ⟨h1, h2, h3, _⟩ := C09.Consts.tags_eq_spec
  cases s
  · rw [h1]; decide +kernel
  · rw [h2]; decide +kernel
  · rw [h3]; decide +kernel

theorem popTag_length : popTag.length = 43 := by
  rw [C09.Consts.tags_eq_spec.2.2.2.1]; decide +kernel

theorem suite_dst_le (s : Suite) : s.dst.length ≤ 255 := by rw [suite_dst_length]; decide

theorem popTag_le : popTag.length ≤ 255 := by rw [popTag_length]; decide

theorem keyValidate_true_iff (pk : Bytes) :
    keyValidate pk = true ↔
      pk.length = 48 ∧ ∃ P, pubkeyToG1 pk = .ok P ∧ Gen.OptBls.is_inf P = false ∧
        subgroupCheck P = true := by
  unfold keyValidate
  by_cases hl : pk.length = 48
  · cases hP : pubkeyToG1 pk with
    | error e => simp [hl]
    | ok P => cases Gen.OptBls.is_inf P <;> cases subgroupCheck P <;> simp [hl]
  · simp [hl]

theorem isValidPubkey_pop_iff (pk : Bytes) :
    isValidPubkey .pop pk = true ↔ pk.length = 48 ∧ keyValidate pk = true := by
  unfold isValidPubkey
  by_cases h : pk.length = 48 <;> simp [h]

theorem g1ToPubkey_ok (pt : G1Pt) : g1ToPubkey pt = .ok (toBytesBE 48 (compressG1 pt)) :=
  i2osp_ok (CodecSem.compressG1_lt_bytes pt)

theorem g1ToPubkey_length {pt : G1Pt} {pk : Bytes} (h : g1ToPubkey pt = .ok pk) : pk.length = 48 := by
  rw [g1ToPubkey_ok] at h
  have := Except.ok.inj h
  subst this
  exact toBytesBE_length _ _

/-- the loop of `_AggregatePKs` never raises on keys that decode; a relation `r` to a state of the reader's choice that
    every `add` of a decoded key maintains (against a pure step `g`) holds between what is encoded and the pure fold -/
theorem aggregatePKs_rel {α : Type} (r : G1Pt → α → Prop) {g : α → Bytes → α} {a : α} {pks : List Bytes}
    (hne : 1 ≤ pks.length) (h0 : r Z1 a)
    (hs : ∀ pk ∈ pks, ∀ A a, r A a → ∃ P, pubkeyToG1 pk = .ok P ∧ r (Gen.OptBls.add A P) (g a pk)) :
    ∃ A, aggregatePKs pks = g1ToPubkey A ∧ r A (pks.foldl g a) := by
  obtain ⟨A, hA, rA⟩ := foldlM_ok_rel r (g₂ := fun acc pk => do
      let pt ← pubkeyToG1 pk
      pure (Gen.OptBls.add acc pt)) h0 fun pk hpk A a hr =>
    let ⟨P, hP, hr'⟩ := hs pk hpk A a hr
    ⟨_, by rw [hP]; rfl, hr'⟩
  refine ⟨A, ?_, rA⟩
  unfold aggregatePKs
  rw [if_neg (by omega), hA]
  rfl

theorem aggregatePKs_ok (pks : List Bytes) (hne : 1 ≤ pks.length)
    (h : ∀ pk ∈ pks, keyValidate pk = true) : ∃ apk, aggregatePKs pks = .ok apk ∧ apk.length = 48 := by
  obtain ⟨A, hA, -⟩ := aggregatePKs_rel (fun _ (_ : Unit) => True) (g := fun u _ => u) (a := ()) hne trivial
    fun pk hpk _ _ _ => let ⟨_, P, hP, _⟩ := (keyValidate_true_iff pk).mp (h pk hpk); ⟨P, hP, trivial⟩
  exact ⟨_, hA.trans (g1ToPubkey_ok A), toBytesBE_length _ _⟩

/-- `pk` is a canonical public key: exactly 48 bytes, decodes to `P`, `P` is not the identity and passes
    the subgroup check -/
def CanonPk (pk : Bytes) (P : G1Pt) : Prop :=
  pk.length = 48 ∧ pubkeyToG1 pk = .ok P ∧ Gen.OptBls.is_inf P = false ∧ subgroupCheck P = true

/-- `sig` is a canonical signature: exactly 96 bytes, decodes to `S`, `S` passes the subgroup check -/
def CanonSig (sig : Bytes) (S : G2Pt) : Prop :=
  sig.length = 96 ∧ signatureToG2 sig = .ok S ∧ subgroupCheck S = true

theorem keyValidate_iff_canon (pk : Bytes) : keyValidate pk = true ↔ ∃ P, CanonPk pk P := by
  rw [keyValidate_true_iff]
  exact ⟨fun ⟨hl, P, h⟩ => ⟨P, hl, h⟩, fun ⟨P, hl, h⟩ => ⟨hl, P, h⟩⟩

theorem CanonPk.unique {pk : Bytes} {P P' : G1Pt} (h : CanonPk pk P) (h' : CanonPk pk P') : P = P' :=
  Except.ok.inj (h.2.1.symm.trans h'.2.1)

theorem isValidPubkey_of_canon {s : Suite} {pk : Bytes} {P : G1Pt} (h : CanonPk pk P) :
    isValidPubkey s pk = true := by
  have hk := (keyValidate_iff_canon pk).mpr ⟨P, h⟩
  cases s <;> simp [isValidPubkey, h.1, hk]

/-- what the bodies of `_CoreVerify` / `_CoreAggregateVerify` can raise -/
def BodyErr (e : PyErr) : Prop := e = .validation ∨ e = .value ∨ (e = .other ∧ SwuFails)

theorem BodyErr.of_hash {H : HashFn} {msg dst : Bytes} {e : PyErr}
    (h : hashToG2 H msg dst = .error e) : BodyErr e :=
  .inr (hashToG2_error h)

/-- the part of `_CoreVerify` after input validation and decoding: two pairings on the decoded signature
    `S` and key `P`, and the comparison; with the pairing arguments actually used -/
def pairingCheck (H : HashFn) (S : G2Pt) (P : G1Pt) (msg dst : Bytes) :
    Except PyErr (Bool × List (G2Pt × G1Pt)) := do
  let e1 ← pairingOptBls S blsG1 false
  let mp ← hashToG2 H msg dst
  let e2 ← pairingOptBls mp (Gen.OptBls.neg P) false
  pure (decide (finalExponentiateOptBls (e1 * e2) = (1 : OBls12)),
    [(S, blsG1), (mp, Gen.OptBls.neg P)])

theorem pairingCheck_ok_iff {H : HashFn} {S : G2Pt} {P : G1Pt} {msg dst : Bytes} {b : Bool}
    {tr : List (G2Pt × G1Pt)} :
    pairingCheck H S P msg dst = .ok (b, tr) ↔
      ∃ mp e1 e2, hashToG2 H msg dst = .ok mp ∧ pairingOptBls S blsG1 false = .ok e1 ∧
        pairingOptBls mp (Gen.OptBls.neg P) false = .ok e2 ∧
        b = decide (finalExponentiateOptBls (e1 * e2) = (1 : OBls12)) ∧
        tr = [(S, blsG1), (mp, Gen.OptBls.neg P)] := by
  unfold pairingCheck
  constructor
  · intro h
    obtain ⟨e1, he1, h⟩ := bind_eq_ok h
    obtain ⟨mp, hmp, h⟩ := bind_eq_ok h
    obtain ⟨e2, he2, h⟩ := bind_eq_ok h
    obtain ⟨hb, ht⟩ := Prod.mk.inj (Except.ok.inj h)
    exact ⟨mp, e1, e2, hmp, he1, he2, hb.symm, ht.symm⟩
  · rintro ⟨mp, e1, e2, hmp, he1, he2, hb, ht⟩
    simp only [he1, hmp, he2, hb, ht, bind, Except.bind, pure, Except.pure]

theorem pairingCheck_error {H : HashFn} {S : G2Pt} {P : G1Pt} {msg dst : Bytes} {e : PyErr}
    (h : pairingCheck H S P msg dst = .error e) : e = .value ∨ hashToG2 H msg dst = .error e := by
  unfold pairingCheck at h
  rcases bind_eq_error h with h | ⟨e1, _, h⟩
  · exact .inl (pairingOptBls_error h)
  rcases bind_eq_error h with h | ⟨mp, _, h⟩
  · exact .inr h
  rcases bind_eq_error h with h | ⟨e2, _, h⟩
  · exact .inl (pairingOptBls_error h)
  · cases h

theorem CanonSig.unique {sig : Bytes} {S S' : G2Pt} (h : CanonSig sig S) (h' : CanonSig sig S') :
    S = S' :=
  Except.ok.inj (h.2.1.symm.trans h'.2.1)

section
variable {α : Type} {sig : Bytes} {r : Except PyErr (Bool × List α)}

/-- how both bodies stop before hashing or pairing: `ValidationError`, `ValueError`, or `return False` for a decoded
    signature outside the subgroup -/
def Early (sig : Bytes) (r : Except PyErr (Bool × List α)) : Prop :=
  r = .error .validation ∨ r = .error .value ∨
    (r = .ok (false, []) ∧ ∃ S, signatureToG2 sig = .ok S ∧ subgroupCheck S = false)

theorem Early.error (h : Early sig r) {e : PyErr} (he : r = .error e) : e = .validation ∨ e = .value := by
  subst he
  rcases h with h | h | ⟨h, _⟩
  · exact .inl (Except.error.inj h)
  · exact .inr (Except.error.inj h)
  · cases h

theorem Early.ok (h : Early sig r) {b : Bool} {tr : List α} (hr : r = .ok (b, tr)) :
    b = false ∧ tr = [] ∧ ∃ S, signatureToG2 sig = .ok S ∧ subgroupCheck S = false := by
  subst hr
  rcases h with h | h | ⟨h, hS⟩
  · cases h
  · cases h
  · cases h
    exact ⟨rfl, rfl, hS⟩

/-- all three end in `return False` -/
theorem Early.returned (h : Early sig r) : catching caught3 (r.map (·.1)) = .returned false := by
  rcases h with h | h | ⟨h, _⟩ <;> rw [h] <;> rfl

/-- **The gate on the signature that both bodies pass after their input checks**: `signature_to_G2` (`ValueError`),
    then `return False` for a decoded point outside the subgroup; a canonical signature goes on to `k`. -/
theorem sigGate_cases (hl : sig.length = 96) {k : G2Pt → Except PyErr (Bool × List α)}
    (hr : (signatureToG2 sig >>= fun S => if (!subgroupCheck S) = true then pure (false, []) else k S) = r) :
    ((¬ ∃ S, CanonSig sig S) ∧ Early sig r) ∨ ∃ S, CanonSig sig S ∧ r = k S := by
  subst hr
  cases hS : signatureToG2 sig with
  | error e =>
    rw [signatureToG2_error hS]
    exact .inl ⟨fun ⟨_, h⟩ => (nomatch hS.symm.trans h.2.1), .inr (.inl rfl)⟩
  | ok S =>
    rw [ok_bind]
    cases hsub : subgroupCheck S with
    | false =>
      refine .inl ⟨fun ⟨S', h⟩ => ?_, .inr (.inr ⟨rfl, S, hS, hsub⟩)⟩
      cases hS.symm.trans h.2.1
      exact nomatch hsub.symm.trans h.2.2
    | true => exact .inr ⟨S, ⟨hl, hS, hsub⟩, rfl⟩

end

/-- **The body of `_CoreVerify`, case by case.**  On anything but a canonical key together with a
    canonical signature it stops before hashing or pairing (`ValidationError`, `ValueError`, or
    `return False` for a decoded signature outside the subgroup); on canonical input it is
    `pairingCheck` on the decoded points. -/
theorem coreVerifyBody_cases (H : HashFn) (s : Suite) (pk msg sig dst : Bytes) :
    ((¬ ∃ P S, CanonPk pk P ∧ CanonSig sig S) ∧ Early sig (coreVerifyBody H s pk msg sig dst)) ∨
    ∃ P S, CanonPk pk P ∧ CanonSig sig S ∧
      coreVerifyBody H s pk msg sig dst = pairingCheck H S P msg dst := by
  generalize hr : coreVerifyBody H s pk msg sig dst = r
  unfold coreVerifyBody at hr
  simp only [throw, throwThe, MonadExceptOf.throw, error_bind] at hr
  rcases guard_cases hr with ⟨h, hr⟩ | ⟨_, hr⟩
  · exact .inl ⟨fun ⟨P, _, hP, _⟩ => (by simp [isValidPubkey_of_canon hP] at h), .inl hr⟩
  rcases guard_cases hr with ⟨h, hr⟩ | ⟨hsl, hr⟩
  · exact .inl ⟨fun ⟨_, _, _, hS⟩ => h hS.1, .inl hr⟩
  rcases guard_cases hr with ⟨h, hr⟩ | ⟨hkv, hr⟩
  · exact .inl ⟨fun ⟨P, _, hP, _⟩ => (by simp [(keyValidate_iff_canon pk).mpr ⟨P, hP⟩] at h), .inl hr⟩
  obtain ⟨P, hP⟩ := (keyValidate_iff_canon pk).mp (by simpa using hkv)
  rcases sigGate_cases (by simpa using hsl) hr with ⟨hn, h⟩ | ⟨S, hS, h⟩
  · exact .inl ⟨fun ⟨_, S, _, hS⟩ => hn ⟨S, hS⟩, h⟩
  · refine .inr ⟨P, S, hP, hS, ?_⟩
    rw [h, hP.2.1]
    rfl

theorem coreVerifyBody_canon {H : HashFn} {s : Suite} {pk msg sig dst : Bytes} {P : G1Pt} {S : G2Pt}
    (hP : CanonPk pk P) (hS : CanonSig sig S) :
    coreVerifyBody H s pk msg sig dst = pairingCheck H S P msg dst := by
  rcases coreVerifyBody_cases H s pk msg sig dst with ⟨hn, _⟩ | ⟨P', S', hP', hS', h⟩
  · exact (hn ⟨P, S, hP, hS⟩).elim
  · rw [h, hP.unique hP', hS.unique hS']

theorem coreVerifyBody_error {H : HashFn} {s : Suite} {pk msg sig dst : Bytes} {e : PyErr}
    (h : coreVerifyBody H s pk msg sig dst = .error e) : BodyErr e := by
  rcases coreVerifyBody_cases H s pk msg sig dst with ⟨_, hv⟩ | ⟨P, S, _, _, hc⟩
  · exact (hv.error h).imp_right .inl
  · rw [hc] at h
    rcases pairingCheck_error h with hv | hh
    · exact .inr (.inl hv)
    · exact .of_hash hh

/-- Everything a successful run of the `try` body of `_CoreVerify` went through. -/
theorem coreVerifyBody_ok {H : HashFn} {s : Suite} {pk msg sig dst : Bytes} {b : Bool}
    {tr : List (G2Pt × G1Pt)} (h : coreVerifyBody H s pk msg sig dst = .ok (b, tr)) :
    (b = false ∧ tr = [] ∧ ∃ S, signatureToG2 sig = .ok S ∧ subgroupCheck S = false) ∨
    ∃ P S mp e1 e2, CanonPk pk P ∧ CanonSig sig S ∧ hashToG2 H msg dst = .ok mp ∧
      pairingOptBls S blsG1 false = .ok e1 ∧
      pairingOptBls mp (Gen.OptBls.neg P) false = .ok e2 ∧
      b = decide (finalExponentiateOptBls (e1 * e2) = (1 : OBls12)) ∧
      tr = [(S, blsG1), (mp, Gen.OptBls.neg P)] := by
  rcases coreVerifyBody_cases H s pk msg sig dst with ⟨_, hv⟩ | ⟨P, S, hP, hS, hc⟩
  · exact .inl (hv.ok h)
  · rw [hc] at h
    obtain ⟨mp, e1, e2, hh⟩ := pairingCheck_ok_iff.mp h
    exact .inr ⟨P, S, mp, e1, e2, hP, hS, hh⟩

/-- the pairing argument pair `(Q, P)` that the loop of `_CoreAggregateVerify` derives from the
    list entry `(pk, msg)`: `pk` passed `KeyValidate`, `P = pubkey_to_G1(pk)`, `Q = hash_to_G2(msg, DST)` -/
def ArgOf (H : HashFn) (dst : Bytes) (pm : Bytes × Bytes) (qp : G2Pt × G1Pt) : Prop :=
  keyValidate pm.1 = true ∧ pubkeyToG1 pm.1 = .ok qp.2 ∧ hashToG2 H pm.2 dst = .ok qp.1

/-- position-wise `ArgOf` between the zipped `(pk, msg)` list and the recorded pairing arguments -/
inductive AllArgs (H : HashFn) (dst : Bytes) : List (Bytes × Bytes) → List (G2Pt × G1Pt) → Prop
  | nil : AllArgs H dst [] []
  | cons {pm qp l ext} : ArgOf H dst pm qp → AllArgs H dst l ext → AllArgs H dst (pm :: l) (qp :: ext)

theorem AllArgs.length_eq {H : HashFn} {dst : Bytes} {l ext} (h : AllArgs H dst l ext) :
    ext.length = l.length := by
  induction h with
  | nil => rfl
  | cons _ _ ih => simp [ih]

theorem AllArgs.mem {H : HashFn} {dst : Bytes} {l ext} (h : AllArgs H dst l ext) :
    ∀ qp ∈ ext, ∃ pm ∈ l, ArgOf H dst pm qp := by
  induction h with
  | nil => intro qp hqp; cases hqp
  | cons h0 _ ih =>
    intro qp hqp
    rcases List.mem_cons.mp hqp with rfl | hqp
    · exact ⟨_, by simp, h0⟩
    · obtain ⟨pm, hpm, ha⟩ := ih qp hqp
      exact ⟨pm, by simp [hpm], ha⟩

theorem AllArgs.mem_left {H : HashFn} {dst : Bytes} {l ext} (h : AllArgs H dst l ext) :
    ∀ pm ∈ l, ∃ qp ∈ ext, ArgOf H dst pm qp := by
  induction h with
  | nil => intro pm hpm; cases hpm
  | cons h0 _ ih =>
    intro pm hpm
    rcases List.mem_cons.mp hpm with rfl | hpm
    · exact ⟨_, by simp, h0⟩
    · obtain ⟨qp, hqp, ha⟩ := ih pm hpm
      exact ⟨qp, by simp [hqp], ha⟩

theorem ArgOf.canonPk {H : HashFn} {dst : Bytes} {pm : Bytes × Bytes} {qp : G2Pt × G1Pt}
    (h : ArgOf H dst pm qp) : CanonPk pm.1 qp.2 := by
  obtain ⟨P, hP⟩ := (keyValidate_iff_canon _).mp h.1
  rwa [← Except.ok.inj (hP.2.1.symm.trans h.2.1)]

/-- one round of the loop of `_CoreAggregateVerify`, as nested binds -/
theorem aggLoop_step (H : HashFn) (dst pk msg : Bytes) (rest : List (Bytes × Bytes)) (acc : OBls12)
    (tr : List (G2Pt × G1Pt)) :
    aggLoop H dst ((pk, msg) :: rest) acc tr =
      if (!keyValidate pk) = true then .error .validation
      else pubkeyToG1 pk >>= fun P => hashToG2 H msg dst >>= fun mp => pairingOptBls mp P false >>= fun e =>
        aggLoop H dst rest (acc * e) (tr ++ [(mp, P)]) := rfl

/-- **Loop invariant of `_CoreAggregateVerify`**: the trace grows by exactly one pairing-argument
    pair per list entry, each derived from a `KeyValidate`d key and `hash_to_G2` of its message; and the
    loop raises only `BodyErr` kinds. -/
theorem aggLoop_post {H : HashFn} {dst : Bytes} :
    ∀ (l : List (Bytes × Bytes)) (acc : OBls12) (tr : List (G2Pt × G1Pt)),
      Post BodyErr (fun r => ∃ ext, r.2 = tr ++ ext ∧ AllArgs H dst l ext) (aggLoop H dst l acc tr) := by
  intro l
  induction l with
  | nil => intro acc tr; exact .pure ⟨[], by simp, .nil⟩
  | cons pm rest ih =>
    intro acc tr
    obtain ⟨pk, msg⟩ := pm
    rw [aggLoop_step]
    refine .ite (fun _ => .throw (.inl rfl)) fun hkv => ?_
    refine .bind (.of_error fun e he => .inr (.inl (pubkeyToG1_error he))) fun P hP => ?_
    refine .bind (.of_error fun e he => .of_hash he) fun mp hmp => ?_
    refine .bind (.of_error fun e he => .inr (.inl (pairingOptBls_error he))) fun e _ => ?_
    refine Post.mono (ih _ _) (fun _ h => h) ?_
    rintro r ⟨ext, hext, hall⟩
    exact ⟨(mp, P) :: ext, by simp [hext], .cons ⟨of_not_bnot hkv, hP, hmp⟩ hall⟩

/-- the part of `_CoreAggregateVerify` after input validation and decoding: the loop over the zipped
    `(pk, message)` list `l`, the pairing on the decoded signature `S`, and the comparison -/
def aggCheck (H : HashFn) (S : G2Pt) (l : List (Bytes × Bytes)) (dst : Bytes) :
    Except PyErr (Bool × List (G2Pt × G1Pt)) := do
  let (agg, tr) ← aggLoop H dst l (1 : OBls12) []
  let e ← pairingOptBls S (Gen.OptBls.neg blsG1) false
  pure (decide (finalExponentiateOptBls (agg * e) = (1 : OBls12)), tr ++ [(S, Gen.OptBls.neg blsG1)])

theorem aggLoop_allArgs {H : HashFn} {dst : Bytes} {l : List (Bytes × Bytes)} {acc agg : OBls12}
    {ext : List (G2Pt × G1Pt)} (h : aggLoop H dst l acc [] = .ok (agg, ext)) : AllArgs H dst l ext := by
  obtain ⟨ext', hext, hall⟩ := (aggLoop_post l _ _).ok h
  rw [List.nil_append] at hext
  subst hext
  exact hall

theorem aggCheck_ok_iff {H : HashFn} {S : G2Pt} {l : List (Bytes × Bytes)} {dst : Bytes} {b : Bool}
    {tr : List (G2Pt × G1Pt)} :
    aggCheck H S l dst = .ok (b, tr) ↔
      ∃ ext agg e, aggLoop H dst l (1 : OBls12) [] = .ok (agg, ext) ∧
        pairingOptBls S (Gen.OptBls.neg blsG1) false = .ok e ∧
        b = decide (finalExponentiateOptBls (agg * e) = (1 : OBls12)) ∧
        tr = ext ++ [(S, Gen.OptBls.neg blsG1)] := by
  unfold aggCheck
  constructor
  · intro h
    obtain ⟨⟨agg, ext⟩, hr, h⟩ := bind_eq_ok h
    obtain ⟨e, he, h⟩ := bind_eq_ok h
    obtain ⟨hb, ht⟩ := Prod.mk.inj (Except.ok.inj h)
    exact ⟨ext, agg, e, hr, he, hb.symm, ht.symm⟩
  · rintro ⟨ext, agg, e, hr, he, hb, ht⟩
    simp only [hr, he, hb, ht, bind, Except.bind, pure, Except.pure]

theorem aggCheck_error {H : HashFn} {S : G2Pt} {l : List (Bytes × Bytes)} {dst : Bytes} {e : PyErr}
    (h : aggCheck H S l dst = .error e) : BodyErr e := by
  unfold aggCheck at h
  rcases bind_eq_error h with h | ⟨r, _, h⟩
  · exact (aggLoop_post l _ _).error h
  rcases bind_eq_error h with h | ⟨_, _, h⟩
  · exact .inr (.inl (pairingOptBls_error h))
  · cases h

/-- the input checks of `_CoreAggregateVerify` pass and the signature is canonical -/
def AggInputOk (s : Suite) (pks msgs : List Bytes) (sig : Bytes) (S : G2Pt) : Prop :=
  pks.all (isValidPubkey s) = true ∧ pks.length = msgs.length ∧ 1 ≤ pks.length ∧ CanonSig sig S

/-- **The body of `_CoreAggregateVerify`, case by case**: unless the four input checks pass and the
    signature is canonical it stops before the loop (`ValidationError`, `ValueError`, or `return False`
    for a decoded signature outside the subgroup); otherwise it is `aggCheck` on the zipped list. -/
theorem coreAggregateVerifyBody_cases (H : HashFn) (s : Suite) (pks msgs : List Bytes)
    (sig dst : Bytes) :
    ((¬ ∃ S, AggInputOk s pks msgs sig S) ∧ Early sig (coreAggregateVerifyBody H s pks msgs sig dst)) ∨
    ∃ S, AggInputOk s pks msgs sig S ∧
      coreAggregateVerifyBody H s pks msgs sig dst = aggCheck H S (List.zip pks msgs) dst := by
  generalize hr : coreAggregateVerifyBody H s pks msgs sig dst = r
  unfold coreAggregateVerifyBody at hr
  simp only [throw, throwThe, MonadExceptOf.throw, error_bind] at hr
  rcases guard_cases hr with ⟨h, hr⟩ | ⟨h1, hr⟩
  · exact .inl ⟨fun ⟨_, h1, _⟩ => (by simp [h1] at h), .inl hr⟩
  rcases guard_cases hr with ⟨h, hr⟩ | ⟨h2, hr⟩
  · exact .inl ⟨fun ⟨_, _, h2, _⟩ => h h2, .inl hr⟩
  rcases guard_cases hr with ⟨h, hr⟩ | ⟨h3, hr⟩
  · exact .inl ⟨fun ⟨_, _, _, _, hS⟩ => h hS.1, .inl hr⟩
  rcases guard_cases hr with ⟨h, hr⟩ | ⟨h4, hr⟩
  · exact .inl ⟨fun ⟨_, _, _, h4, _⟩ => (by omega), .inl hr⟩
  rcases sigGate_cases (by simpa using h3) hr with ⟨hn, h⟩ | ⟨S, hS, h⟩
  · exact .inl ⟨fun ⟨S, _, _, _, hS⟩ => hn ⟨S, hS⟩, h⟩
  · exact .inr ⟨S, ⟨by simpa using h1, by simpa using h2, by omega, hS⟩, h⟩

theorem coreAggregateVerifyBody_valid {H : HashFn} {s : Suite} {pks msgs : List Bytes}
    {sig dst : Bytes} {S : G2Pt} (h : AggInputOk s pks msgs sig S) :
    coreAggregateVerifyBody H s pks msgs sig dst = aggCheck H S (List.zip pks msgs) dst := by
  rcases coreAggregateVerifyBody_cases H s pks msgs sig dst with ⟨hn, _⟩ | ⟨S', h', hc⟩
  · exact (hn ⟨S, h⟩).elim
  · rw [hc, h.2.2.2.unique h'.2.2.2]

theorem coreAggregateVerifyBody_error {H : HashFn} {s : Suite} {pks msgs : List Bytes}
    {sig dst : Bytes} {e : PyErr}
    (h : coreAggregateVerifyBody H s pks msgs sig dst = .error e) : BodyErr e := by
  rcases coreAggregateVerifyBody_cases H s pks msgs sig dst with ⟨_, hv⟩ | ⟨S, _, hc⟩
  · exact (hv.error h).imp_right .inl
  · rw [hc] at h; exact aggCheck_error h

/-- Everything a successful run of the `try` body of `_CoreAggregateVerify` went through. -/
theorem coreAggregateVerifyBody_ok {H : HashFn} {s : Suite} {pks msgs : List Bytes}
    {sig dst : Bytes} {b : Bool} {tr : List (G2Pt × G1Pt)}
    (h : coreAggregateVerifyBody H s pks msgs sig dst = .ok (b, tr)) :
    (b = false ∧ tr = [] ∧ ∃ S, signatureToG2 sig = .ok S ∧ subgroupCheck S = false) ∨
    ∃ S ext agg e, AggInputOk s pks msgs sig S ∧
      aggLoop H dst (List.zip pks msgs) (1 : OBls12) [] = .ok (agg, ext) ∧
      AllArgs H dst (List.zip pks msgs) ext ∧
      pairingOptBls S (Gen.OptBls.neg blsG1) false = .ok e ∧
      b = decide (finalExponentiateOptBls (agg * e) = (1 : OBls12)) ∧
      tr = ext ++ [(S, Gen.OptBls.neg blsG1)] := by
  rcases coreAggregateVerifyBody_cases H s pks msgs sig dst with ⟨_, hv⟩ | ⟨S, hin, hc⟩
  · exact .inl (hv.ok h)
  · rw [hc] at h
    obtain ⟨ext, agg, e, hr, hh⟩ := aggCheck_ok_iff.mp h
    exact .inr ⟨S, ext, agg, e, hin, hr, aggLoop_allArgs hr, hh⟩

theorem catching_true_iff {α : Type} {c : PyErr → Bool} {r : Except PyErr (Bool × α)} :
    catching c (r.map (·.1)) = .returned true ↔ ∃ tr, r = .ok (true, tr) := by
  cases r with
  | ok v =>
    obtain ⟨b, tr⟩ := v
    exact ⟨fun h => ⟨tr, by cases h; rfl⟩, fun ⟨_, h⟩ => by cases h; rfl⟩
  | error e =>
    refine ⟨fun h => ?_, fun ⟨_, h⟩ => by cases h⟩
    unfold catching at h
    simp only [Except.map] at h
    split at h <;> cases h

/-- A `try: body except (ValidationError, ValueError, AssertionError): return False` whose body raises
    only `BodyErr` kinds returns a bool, unless SWU fails (bare `Exception`, not caught). -/
theorem catching3_cases {α : Type} {r : Except PyErr (Bool × α)}
    (hr : ∀ e, r = .error e → BodyErr e) :
    (∃ b, catching caught3 (r.map (·.1)) = .returned b) ∨
    (catching caught3 (r.map (·.1)) = .raised .other ∧ SwuFails) := by
  cases r with
  | ok v => exact .inl ⟨v.1, rfl⟩
  | error e =>
    rcases hr e rfl with h | h | ⟨h, hs⟩
    · subst h; exact .inl ⟨false, rfl⟩
    · subst h; exact .inl ⟨false, rfl⟩
    · subst h; exact .inr ⟨rfl, hs⟩

theorem coreVerify_cases (H : HashFn) (s : Suite) (pk msg sig dst : Bytes) :
    (∃ b, coreVerify H s pk msg sig dst = .returned b) ∨
    (coreVerify H s pk msg sig dst = .raised .other ∧ SwuFails) :=
  catching3_cases fun _ h => coreVerifyBody_error h

theorem coreAggregateVerify_cases (H : HashFn) (s : Suite) (pks msgs : List Bytes) (sig dst : Bytes) :
    (∃ b, coreAggregateVerify H s pks msgs sig dst = .returned b) ∨
    (coreAggregateVerify H s pks msgs sig dst = .raised .other ∧ SwuFails) :=
  catching3_cases fun _ h => coreAggregateVerifyBody_error h

theorem coreVerify_malformed {H : HashFn} {s : Suite} {pk msg sig dst : Bytes}
    (h : ¬ ∃ P S, CanonPk pk P ∧ CanonSig sig S) :
    coreVerify H s pk msg sig dst = .returned false := by
  rcases coreVerifyBody_cases H s pk msg sig dst with ⟨_, hv⟩ | ⟨P, S, hP, hS, _⟩
  · exact hv.returned
  · exact (h ⟨P, S, hP, hS⟩).elim

theorem coreAggregateVerify_malformed {H : HashFn} {s : Suite} {pks msgs : List Bytes}
    {sig dst : Bytes} (h : ¬ ∃ S, AggInputOk s pks msgs sig S) :
    coreAggregateVerify H s pks msgs sig dst = .returned false := by
  rcases coreAggregateVerifyBody_cases H s pks msgs sig dst with ⟨_, hv⟩ | ⟨S, hS, _⟩
  · exact hv.returned
  · exact (h ⟨S, hS⟩).elim

/-- exact accept condition of `_CoreVerify` (body and `try/except` wrapper) -/
theorem coreVerify_true_iff {H : HashFn} {s : Suite} {pk msg sig dst : Bytes} :
    coreVerify H s pk msg sig dst = .returned true ↔
      ∃ P S mp e1 e2, CanonPk pk P ∧ CanonSig sig S ∧ hashToG2 H msg dst = .ok mp ∧
        pairingOptBls S blsG1 false = .ok e1 ∧
        pairingOptBls mp (Gen.OptBls.neg P) false = .ok e2 ∧
        finalExponentiateOptBls (e1 * e2) = (1 : OBls12) := by
  refine catching_true_iff.trans ⟨fun ⟨tr, h⟩ => ?_, fun ⟨P, S, mp, e1, e2, hP, hS, hmp, he1, he2, hfe⟩ => ?_⟩
  · rcases coreVerifyBody_ok h with ⟨hf, _⟩ | ⟨P, S, mp, e1, e2, hP, hS, hmp, he1, he2, hb, _⟩
    · cases hf
    · exact ⟨P, S, mp, e1, e2, hP, hS, hmp, he1, he2, of_decide_eq_true hb.symm⟩
  · exact ⟨_, (coreVerifyBody_canon hP hS).trans
      (pairingCheck_ok_iff.mpr ⟨mp, e1, e2, hmp, he1, he2, (decide_eq_true hfe).symm, rfl⟩)⟩

/-- exact accept condition of `_CoreAggregateVerify` (body and `try/except` wrapper) -/
theorem coreAggregateVerify_true_iff {H : HashFn} {s : Suite} {pks msgs : List Bytes} {sig dst : Bytes} :
    coreAggregateVerify H s pks msgs sig dst = .returned true ↔
      ∃ S agg ext e, AggInputOk s pks msgs sig S ∧
        aggLoop H dst (List.zip pks msgs) (1 : OBls12) [] = .ok (agg, ext) ∧
        pairingOptBls S (Gen.OptBls.neg blsG1) false = .ok e ∧
        finalExponentiateOptBls (agg * e) = (1 : OBls12) := by
  refine catching_true_iff.trans ⟨fun ⟨tr, h⟩ => ?_, fun ⟨S, agg, ext, e, hin, hr, he, hfe⟩ => ?_⟩
  · rcases coreAggregateVerifyBody_ok h with ⟨hf, _⟩ | ⟨S, ext, agg, e, hin, hr, _, he, hb, _⟩
    · cases hf
    · exact ⟨S, agg, ext, e, hin, hr, he, of_decide_eq_true hb.symm⟩
  · exact ⟨_, (coreAggregateVerifyBody_valid hin).trans
      (aggCheck_ok_iff.mpr ⟨ext, agg, e, hr, he, (decide_eq_true hfe).symm, rfl⟩)⟩

/-- the message actually hashed by `Verify` (the AUG suite prepends the public key) -/
def vmsg (s : Suite) (pk msg : Bytes) : Bytes :=
  match s with
  | .aug => pk ++ msg
  | _ => msg

theorem verify_eq (H : HashFn) (s : Suite) (pk msg sig : Bytes) :
    verify H s pk msg sig = coreVerify H s pk (vmsg s pk msg) sig s.dst := by
  cases s <;> rfl

theorem mem_zip_left {α β : Type} : ∀ (l₁ : List α) (l₂ : List β), l₁.length = l₂.length →
    ∀ a ∈ l₁, ∃ b, (a, b) ∈ List.zip l₁ l₂
  | [], _, _, a, h => by cases h
  | x :: xs, [], h, _, _ => by simp at h
  | x :: xs, y :: ys, h, a, ha => by
    rcases List.mem_cons.mp ha with rfl | ha
    · exact ⟨y, by simp⟩
    · obtain ⟨b, hb⟩ := mem_zip_left xs ys (by simpa using h) a ha
      exact ⟨b, by simp [hb]⟩

theorem blsG1_on_curve :
    Gen.OptBls.is_on_curve blsG1 (Fq.ofInt optimized_bls12_381_b : Fq blsP) = true ∧
    Gen.OptBls.is_on_curve (Gen.OptBls.neg blsG1) (Fq.ofInt optimized_bls12_381_b : Fq blsP) = true := by
  decide +kernel

/-- `pairing(S, G1)` and `pairing(S, −G1)` with `S` any decoded signature return (no `ValueError`) -/
theorem pairing_sig_ok {sig : Bytes} {S : G2Pt} (h : signatureToG2 sig = .ok S) :
    (∃ e, pairingOptBls S blsG1 false = .ok e) ∧
    (∃ e, pairingOptBls S (Gen.OptBls.neg blsG1) false = .ok e) :=
  ⟨pairingOptBls_ok_of_on_curve (signatureToG2_on_curve h) blsG1_on_curve.1,
   pairingOptBls_ok_of_on_curve (signatureToG2_on_curve h) blsG1_on_curve.2⟩

end PyEcc.BlsSem

namespace PyEcc.BlsProto
open PyEcc

/-- the message list `_CoreAggregateVerify` is called with (the AUG suite prepends each key) -/
def vmsgs (s : Suite) (pks msgs : List Bytes) : List Bytes :=
  match s with
  | .aug => List.zipWith (· ++ ·) pks msgs
  | _ => msgs

/-- `AggregateVerify` is `_CoreAggregateVerify` on the suite's message list, behind the suite's own
    precondition (basic: distinct messages; AUG: as many messages as keys) -/
theorem aggregateVerify_eq (H : HashFn) (s : Suite) (pks msgs : List Bytes) (sig : Bytes) :
    aggregateVerify H s pks msgs sig =
      if (s = .basic ∧ hasDup msgs = true) ∨ (s = .aug ∧ pks.length ≠ msgs.length) then .returned false
      else coreAggregateVerify H s pks (vmsgs s pks msgs) sig s.dst := by
  cases s <;> simp [aggregateVerify, vmsgs]

end PyEcc.BlsProto
