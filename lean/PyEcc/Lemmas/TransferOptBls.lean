/-
  Every function of `Gen.OptBls` commutes with an `OpHom` (`mapT ψ (f x) = f (mapT ψ x)`; Boolean-valued functions
  return the same Boolean) and, on `Good` inputs, with a `GoodHom`, with `Good` outputs: a good triple is
  `mapT (val h) X` for a triple `X` over the subtype of good elements (`exists_valT`), its image is `mapT (img h) X`,
  and the `OpHom` lemma applies to both `val h` and `img h`. (`Gen.OptBn` is the same module under another name:
  `Lemmas/TwinModules.lean`, `Lemmas/TransferOptBn.lean`.) `CycFacts`, `SqFacts`: what is evaluated of a concrete triple
  to obtain a point of prime order `q` or a subgroup `(Z/q)²`, as decidable propositions; `CycFacts.map` along a `GoodHom`.
-/
import PyEcc.Lemmas.TransferBase
import PyEcc.Gen.OptBls

set_option linter.unusedSectionVars false
set_option linter.unusedVariables false

namespace PyEcc.Transfer.Bls
open PyEcc PyEcc.Gen PyEcc.Transfer

/- The operations of `A` and `B` are those in the type of the hypothesis `h` that every lemma takes: implicit
   arguments, fixed by unification with `h`, not instance arguments synthesised again at every use. -/
section
variable {A B : Type}
  {_ : Zero A} {_ : One A} {_ : Add A} {_ : Sub A} {_ : Mul A} {_ : Neg A} {_ : Div A} {_ : NatCast A} {_ : Pow A Nat}
  {_ : Zero B} {_ : One B} {_ : Add B} {_ : Sub B} {_ : Mul B} {_ : Neg B} {_ : Div B} {_ : NatCast B} {_ : Pow B Nat}
  [DecidableEq A] [DecidableEq B]

section ophom
variable {ψ : A → B} (h : OpHom ψ)
include h

theorem is_inf_map (T : A × A × A) : OptBls.is_inf (mapT ψ T) = OptBls.is_inf T := by
  simp only [OptBls.is_inf, mapT, h.eq_zero_iff]

theorem is_on_curve_map (T : A × A × A) (b : A) :
    OptBls.is_on_curve (mapT ψ T) (ψ b) = OptBls.is_on_curve T b := by
  simp only [OptBls.is_on_curve, is_inf_map h, mapT_fst, mapT_snd_fst, mapT_snd_snd, ← h.map_pow,
    ← h.map_mul, ← h.map_sub, h.eq_iff]

theorem double_map (T : A × A × A) : mapT ψ (OptBls.double T) = OptBls.double (mapT ψ T) := by
  simp only [OptBls.double, mapT, h.map_mul, h.map_sub, h.map_natCast]

theorem neg_map (T : A × A × A) : mapT ψ (OptBls.neg T) = OptBls.neg (mapT ψ T) := by
  simp only [OptBls.neg, mapT, h.map_neg]

theorem normalize_map (T : A × A × A) : mapP ψ (OptBls.normalize T) = OptBls.normalize (mapT ψ T) := by
  simp only [OptBls.normalize, mapT, mapP, h.map_div]

theorem normalize1_map (T : A × A × A) :
    mapT ψ (OptBls.normalize1 T) = OptBls.normalize1 (mapT ψ T) := by
  simp only [OptBls.normalize1, OptBls.normalize, mapT, h.map_div, h.map_one]

/- `add`, `multiplyAux`, `linefunc` branch: `ψ` is pushed through the `if`s (`apply_ite`), the conditions are
   pulled back along `ψ` (`eq_iff`), then the leaves are equal by `map_*`.  (Splitting the `if`s instead
   checks several times slower.) -/
theorem add_map (T₁ T₂ : A × A × A) :
    mapT ψ (OptBls.add T₁ T₂) = OptBls.add (mapT ψ T₁) (mapT ψ T₂) := by
  simp only [OptBls.add, apply_ite (mapT ψ), double_map h, mapT_fst, mapT_snd_fst, mapT_snd_snd,
    ← h.map_mul, h.eq_iff, h.eq_zero_iff]
  simp only [mapT, h.map_mul, h.map_sub, h.map_natCast, h.map_one, h.map_zero]

theorem multiplyAux_map (fuel : Nat) (T : A × A × A) (n : Nat) :
    mapT ψ (OptBls.multiplyAux fuel T n) = OptBls.multiplyAux fuel (mapT ψ T) n := by
  induction fuel generalizing T n with
  | zero => rfl
  | succ f ih =>
    simp only [OptBls.multiplyAux, apply_ite (mapT ψ), add_map h, ih, double_map h, mapT_mk, h.map_one,
      h.map_zero]

theorem eq_map (T₁ T₂ : A × A × A) :
    OptBls.eq (mapT ψ T₁) (mapT ψ T₂) = OptBls.eq T₁ T₂ := by
  simp only [OptBls.eq, is_inf_map h, mapT_fst, mapT_snd_fst, mapT_snd_snd, ← h.map_mul, h.eq_iff]

theorem linefunc_map (P1 P2 T : A × A × A) :
    mapP ψ (OptBls.linefunc P1 P2 T) = OptBls.linefunc (mapT ψ P1) (mapT ψ P2) (mapT ψ T) := by
  simp only [OptBls.linefunc, apply_ite (mapP ψ), mapT_fst, mapT_snd_fst, mapT_snd_snd, ← h.map_mul,
    ← h.map_sub, ne_eq, h.eq_zero_iff]
  simp only [mapP, h.map_mul, h.map_sub, h.map_natCast]

end ophom

section goodhom
variable {Good : A → Prop} {φ : A → B} (h : GoodHom Good φ)
include h

open GoodSub

theorem good_is_inf {T : A × A × A} (g : GoodT Good T) :
    OptBls.is_inf (mapT φ T) = OptBls.is_inf T := by
  obtain ⟨X, rfl⟩ := exists_valT h g
  exact (is_inf_map (opHom_img h) X).trans (is_inf_map (opHom_val h) X).symm

theorem good_is_on_curve {T : A × A × A} {b : A} (g : GoodT Good T) (gb : Good b) :
    OptBls.is_on_curve (mapT φ T) (φ b) = OptBls.is_on_curve T b := by
  obtain ⟨X, rfl⟩ := exists_valT h g
  exact (is_on_curve_map (opHom_img h) X (mk h b gb)).trans
    (is_on_curve_map (opHom_val h) X (mk h b gb)).symm

theorem good_eq {T₁ T₂ : A × A × A} (g₁ : GoodT Good T₁) (g₂ : GoodT Good T₂) :
    OptBls.eq (mapT φ T₁) (mapT φ T₂) = OptBls.eq T₁ T₂ := by
  obtain ⟨X₁, rfl⟩ := exists_valT h g₁
  obtain ⟨X₂, rfl⟩ := exists_valT h g₂
  exact (eq_map (opHom_img h) X₁ X₂).trans (eq_map (opHom_val h) X₁ X₂).symm

theorem good_double {T : A × A × A} (g : GoodT Good T) :
    GoodT Good (OptBls.double T) ∧ mapT φ (OptBls.double T) = OptBls.double (mapT φ T) := by
  obtain ⟨X, rfl⟩ := exists_valT h g
  rw [← double_map (opHom_val h)]
  exact ⟨goodT_val h _, double_map (opHom_img h) X⟩

theorem good_neg {T : A × A × A} (g : GoodT Good T) :
    GoodT Good (OptBls.neg T) ∧ mapT φ (OptBls.neg T) = OptBls.neg (mapT φ T) := by
  obtain ⟨X, rfl⟩ := exists_valT h g
  rw [← neg_map (opHom_val h)]
  exact ⟨goodT_val h _, neg_map (opHom_img h) X⟩

theorem good_add {T₁ T₂ : A × A × A} (g₁ : GoodT Good T₁) (g₂ : GoodT Good T₂) :
    GoodT Good (OptBls.add T₁ T₂)
      ∧ mapT φ (OptBls.add T₁ T₂) = OptBls.add (mapT φ T₁) (mapT φ T₂) := by
  obtain ⟨X₁, rfl⟩ := exists_valT h g₁
  obtain ⟨X₂, rfl⟩ := exists_valT h g₂
  rw [← add_map (opHom_val h)]
  exact ⟨goodT_val h _, add_map (opHom_img h) X₁ X₂⟩

theorem good_multiply {T : A × A × A} (g : GoodT Good T) (n : Nat) :
    GoodT Good (OptBls.multiply T n)
      ∧ mapT φ (OptBls.multiply T n) = OptBls.multiply (mapT φ T) n := by
  obtain ⟨X, rfl⟩ := exists_valT h g
  unfold OptBls.multiply
  rw [← multiplyAux_map (opHom_val h)]
  exact ⟨goodT_val h _, multiplyAux_map (opHom_img h) _ X n⟩

theorem good_normalize {T : A × A × A} (g : GoodT Good T) :
    GoodP Good (OptBls.normalize T)
      ∧ mapP φ (OptBls.normalize T) = OptBls.normalize (mapT φ T) := by
  obtain ⟨X, rfl⟩ := exists_valT h g
  rw [← normalize_map (opHom_val h)]
  exact ⟨goodP_val h _, normalize_map (opHom_img h) X⟩

theorem good_linefunc {P1 P2 T : A × A × A} (g₁ : GoodT Good P1) (g₂ : GoodT Good P2)
    (g : GoodT Good T) :
    GoodP Good (OptBls.linefunc P1 P2 T)
      ∧ mapP φ (OptBls.linefunc P1 P2 T)
          = OptBls.linefunc (mapT φ P1) (mapT φ P2) (mapT φ T) := by
  obtain ⟨X₁, rfl⟩ := exists_valT h g₁
  obtain ⟨X₂, rfl⟩ := exists_valT h g₂
  obtain ⟨X, rfl⟩ := exists_valT h g
  rw [← linefunc_map (opHom_val h)]
  exact ⟨goodP_val h _, linefunc_map (opHom_img h) X₁ X₂ X⟩

/-- `(1, 1, 0)`: the library's point at infinity -/
theorem good_Z : GoodT Good ((1 : A), (1 : A), (0 : A))
    ∧ mapT φ ((1 : A), (1 : A), (0 : A)) = ((1 : B), (1 : B), (0 : B)) :=
  ⟨⟨h.good_one, h.good_one, h.good_zero⟩, by simp only [mapT, h.map_one, h.map_zero]⟩

end goodhom

end

/- `multiply_map` and `good_normalize1` take the operations as instance arguments. -/
section
variable {A B : Type}
  [Zero A] [One A] [Add A] [Sub A] [Mul A] [Neg A] [Div A] [NatCast A] [Pow A Nat] [DecidableEq A]
  [Zero B] [One B] [Add B] [Sub B] [Mul B] [Neg B] [Div B] [NatCast B] [Pow B Nat] [DecidableEq B]

section ophom
variable {ψ : A → B} (h : OpHom ψ)
include h

theorem multiply_map (T : A × A × A) (n : Nat) :
    mapT ψ (OptBls.multiply T n) = OptBls.multiply (mapT ψ T) n := multiplyAux_map h _ T n

end ophom

section goodhom
variable {Good : A → Prop} {φ : A → B} (h : GoodHom Good φ)
include h

open GoodSub

theorem good_normalize1 {T : A × A × A} (g : GoodT Good T) :
    GoodT Good (OptBls.normalize1 T)
      ∧ mapT φ (OptBls.normalize1 T) = OptBls.normalize1 (mapT φ T) := by
  obtain ⟨X, rfl⟩ := exists_valT h g
  rw [← normalize1_map (opHom_val h)]
  exact ⟨goodT_val h _, normalize1_map (opHom_img h) X⟩

end goodhom

end

end PyEcc.Transfer.Bls

namespace PyEcc.Transfer
open PyEcc.Gen

section
variable {A : Type} [Zero A] [One A] [Add A] [Sub A] [Mul A] [Neg A] [Div A] [NatCast A] [Pow A Nat]
  [DecidableEq A]

instance {Good : A → Prop} [DecidablePred Good] (T : A × A × A) : Decidable (GoodT Good T) := by
  unfold GoodT; infer_instance

def CycFacts (T : A × A × A) (b : A) (q : Nat) : Prop :=
  OptBls.is_on_curve T b = true ∧ OptBls.is_inf T = false ∧ OptBls.is_inf (OptBls.multiply T q) = true

instance (T : A × A × A) (b : A) (q : Nat) : Decidable (CycFacts T b q) := by
  unfold CycFacts; infer_instance

/-- `φ` on projective triples, `(X, Y, Z) ↦ (w·X, Y, Z)`; `φ` is `Hb2.phi` of `Lemmas/Hb2Phi.lean`, the
    automorphism `(x, y) ↦ (w·x, y)` of `E : y² = x³ + b` for a primitive cube root of unity `w` -/
def phiT (w : A) (T : A × A × A) : A × A × A := (T.1 * w, T.2.1, T.2.2)

/-- what is checked for a triple `T` and a prime `q` with `(Z/q)² ⊆ E`: order `q`, and `φ T` (that is
    `phiT w T`, `φ` as at `phiT`) is none of `T`, `l₁·T`, `l₂·T` -/
def SqFacts (T : A × A × A) (b w : A) (q l₁ l₂ : Nat) : Prop :=
  CycFacts T b q ∧ OptBls.eq (phiT w T) T = false ∧ OptBls.eq (phiT w T) (OptBls.multiply T l₁) = false
    ∧ OptBls.eq (phiT w T) (OptBls.multiply T l₂) = false

instance (T : A × A × A) (b w : A) (q l₁ l₂ : Nat) : Decidable (SqFacts T b w q l₁ l₂) := by
  unfold SqFacts; infer_instance

end

section
variable {A B : Type}
  [Zero A] [One A] [Add A] [Sub A] [Mul A] [Neg A] [Div A] [NatCast A] [Pow A Nat] [DecidableEq A]
  [Zero B] [One B] [Add B] [Sub B] [Mul B] [Neg B] [Div B] [NatCast B] [Pow B Nat] [DecidableEq B]
  {Good : A → Prop} {ψ : A → B}

theorem CycFacts.map (h : GoodHom Good ψ) {T : A × A × A} {b : A} {q : Nat} (g : GoodT Good T)
    (gb : Good b) (f : CycFacts T b q) : CycFacts (mapT ψ T) (ψ b) q := by
  refine ⟨?_, ?_, ?_⟩
  · rw [Bls.good_is_on_curve h g gb]; exact f.1
  · rw [Bls.good_is_inf h g]; exact f.2.1
  · rw [← (Bls.good_multiply h g q).2, Bls.good_is_inf h (Bls.good_multiply h g q).1]; exact f.2.2

end

end PyEcc.Transfer
