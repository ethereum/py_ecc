/-
  For C18: secp256k1 as a Mathlib Weierstrass curve `E` over
  `ZMod P`, the representation map `reprSecp`, the Jacobian representation invariant `JRep`, and the
  refinement lemmas of `to_jacobian` / `jacobian_double` / `jacobian_add` / `from_jacobian` /
  `jacobian_multiplyAux` (built on the coordinate theorems of `Props/C13_Secp.lean`).
-/
import PyEcc.Props.C13_Secp
import PyEcc.Sem.GroupOrder
import PyEcc.Lemmas.CurveFactsAux

namespace PyEcc.SecpSem
open WeierstrassCurve PyEcc.Gen.Consts PyEcc.C13.Secp
open PyEcc.Gen.Secp (jacobian_double jacobian_add from_jacobian to_jacobian jacobian_multiplyAux
  jacobian_multiply A B P N Gx Gy)

/-- secp256k1 as a Mathlib curve over `ZMod P`: `y² = x³ + B`, `B` being the GENERATED constant.
(`a₄ = 0`: the generated `A` is proved to be `0` in `A_cast`.) -/
abbrev E : WeierstrassCurve.Affine Fp := W ((B : ℤ) : Fp)

theorem A_cast : ((A : ℤ) : Fp) = 0 := by simp [Gen.Secp.A]
theorem B_cast : ((B : ℤ) : Fp) = 7 := by simp [Gen.Secp.B]

/-! ### `−7` is not a cube mod `P`: no point with `y = 0`, no 2-torsion -/

/-- kernel-evaluated: `(−7)^((P−1)/3) ≠ 1 (mod P)` -/
theorem neg7_pow_ne_one :
    Pratt.powMod (secp256k1_P - 7) ((secp256k1_P - 1) / 3) secp256k1_P % secp256k1_P ≠ 1 := by
  decide +kernel

/-- `x³ + B` has no root in `ZMod P` (`−7` is not a cube): no curve point has `y = 0`. -/
theorem no_root (x : Fp) : x ^ 3 + ((B : ℤ) : Fp) ≠ 0 := by
  simpa [B_cast] using
    CurveSem.no_cube_root 7 (by decide) (by decide) (natCast_ne_zero (by decide)) neg7_pow_ne_one x

theorem y_ne_zero_of_eq {x y : Fp} (h : y ^ 2 = x ^ 3 + ((B : ℤ) : Fp)) : y ≠ 0 := by
  rintro rfl
  exact no_root x (by linear_combination -h)

theorem y_ne_zero {x y : Fp} (h : E.Nonsingular x y) : y ≠ 0 :=
  y_ne_zero_of_eq ((CurveSem.equation_W _ x y).mp h.1)

theorem nonsingular_of_eq {x y : Fp} (h : y ^ 2 = x ^ 3 + ((B : ℤ) : Fp)) : E.Nonsingular x y :=
  CurveSem.nonsingular_W_of_equation fp_two_ne_zero fp_three_ne_zero (fun hB => no_root 0 (by simp [hB]))
    (sub_eq_iff_eq_add'.mpr h)

def mkPt (x y : Fp) (h : y ^ 2 = x ^ 3 + ((B : ℤ) : Fp)) : E.Point := .some x y (nonsingular_of_eq h)

theorem neg_some {x y : Fp} (h : E.Nonsingular x y) :
    ∃ h' : E.Nonsingular x (-y), -(Affine.Point.some x y h : E.Point) = Affine.Point.some x (-y) h' :=
  ⟨CurveSem.negY_W _ x y ▸ (Affine.nonsingular_neg ..).mpr h,
    by rw [Affine.Point.neg_some]; simp only [CurveSem.negY_W]⟩

theorem some_congr {x y x' y' : Fp} {h : E.Nonsingular x y} {h' : E.Nonsingular x' y'}
    (hx : x = x') (hy : y = y') : Affine.Point.some x y h = Affine.Point.some x' y' h' := by
  subst hx hy; rfl

/-- the secp256k1 module's representation of a curve point: `(0, 0)` for the identity, else the canonical
residues `(x, y)` as Python ints in `[0, P)` -/
def reprSecp : E.Point → ℤ × ℤ
  | .zero => (0, 0)
  | .some x y _ => ((x.val : ℤ), (y.val : ℤ))

@[simp] theorem reprSecp_zero : reprSecp 0 = (0, 0) := rfl
@[simp] theorem reprSecp_some {x y : Fp} (h : E.Nonsingular x y) :
    reprSecp (.some x y h) = ((x.val : ℤ), (y.val : ℤ)) := rfl

theorem val_cast_cast (x : Fp) : (((x.val : ℕ) : ℤ) : Fp) = x := by
  rw [Int.cast_natCast, ZMod.natCast_zmod_val]

theorem val_int_eq_zero {x : Fp} (h : ((x.val : ℕ) : ℤ) = 0) : x = 0 := by
  have : x.val = 0 := by exact_mod_cast h
  exact (ZMod.val_eq_zero x).mp this

/-- `(0, 0)` is not on the curve, so the identity marker is unambiguous and `reprSecp` is injective -/
theorem reprSecp_injective : Function.Injective reprSecp := by
  intro Q1 Q2 h
  rcases Q1 with _ | ⟨x1, y1, h1⟩ <;> rcases Q2 with _ | ⟨x2, y2, h2⟩
  · rfl
  · exfalso
    simp only [reprSecp, Prod.mk.injEq] at h
    exact y_ne_zero h2 (val_int_eq_zero h.2.symm)
  · exfalso
    simp only [reprSecp, Prod.mk.injEq] at h
    exact y_ne_zero h1 (val_int_eq_zero h.2)
  · simp only [reprSecp, Prod.mk.injEq, Nat.cast_inj] at h
    exact some_congr (ZMod.val_injective _ h.1) (ZMod.val_injective _ h.2)

/-- `T` (a Jacobian triple of Python ints) represents the Mathlib point `Q`: the identity is represented by
any triple with int `y = 0` and `x ≡ 0`; `(X, Y)` by any `(x, y, z)` with `z ≢ 0`, `x/z² = X`, `y/z³ = Y`. -/
def JRep (T : ℤ × ℤ × ℤ) : E.Point → Prop
  | .zero => T.2.1 = 0 ∧ (T.1 : Fp) = 0
  | .some X Y _ => (T.2.2 : Fp) ≠ 0 ∧ affX T = X ∧ affY T = Y

theorem JRep.y_ne_zero {T : ℤ × ℤ × ℤ} {X Y : Fp} {h : E.Nonsingular X Y} (r : JRep T (.some X Y h)) :
    (T.2.1 : Fp) ≠ 0 := by
  obtain ⟨hz, _, hY⟩ := r
  intro h0
  apply SecpSem.y_ne_zero h
  rw [← hY, affY, h0, zero_div]

theorem JRep.y_int_ne_zero {T : ℤ × ℤ × ℤ} {X Y : Fp} {h : E.Nonsingular X Y} (r : JRep T (.some X Y h)) :
    T.2.1 ≠ 0 := by
  intro h0
  exact r.y_ne_zero (by rw [h0]; simp)

theorem JRep.eq_zero {T : ℤ × ℤ × ℤ} {Q : E.Point} (r : JRep T Q) (hy : T.2.1 = 0) : Q = 0 := by
  rcases Q with _ | ⟨X, Y, h⟩
  · rfl
  · exact absurd hy r.y_int_ne_zero

theorem jrep_identity : JRep (0, 0, 1) 0 := ⟨rfl, by simp⟩

theorem jrep_to_jacobian (Q : E.Point) : JRep (to_jacobian (reprSecp Q)) Q := by
  rcases Q with _ | ⟨x, y, h⟩
  · exact jrep_identity
  · refine ⟨by simp [to_jacobian], ?_, ?_⟩
    · simp only [affX, to_jacobian, reprSecp_some]
      rw [val_cast_cast]; simp
    · simp only [affY, to_jacobian, reprSecp_some]
      rw [val_cast_cast]; simp

theorem jrep_from_jacobian {T : ℤ × ℤ × ℤ} {Q : E.Point} (r : JRep T Q) : from_jacobian T = reprSecp Q := by
  obtain ⟨x, y, z⟩ := T
  rcases Q with _ | ⟨X, Y, h⟩
  · obtain ⟨hy, hx⟩ := r
    simp only at hy hx
    subst hy
    simp only [from_jacobian, zero_mul, Int.zero_emod]
    have : (x * Gen.Secp.inv z P ^ 2) % P = 0 := by
      rw [← cast_eq_zero_iff]; push_cast; rw [hx, zero_mul]
    rw [this]; rfl
  · obtain ⟨hz, hX, hY⟩ := r
    rw [from_jacobian_coord x y z (Or.inr hz), hX, hY]; rfl

/-- `JRep` read through the reference representation `reprRef` of the point (`Sem/Curve.lean`), so that the
    chord–tangent formulas need to be compared with Mathlib's addition only once (`CurveSem.sAdd_refines`) -/
theorem jrep_iff {T : ℤ × ℤ × ℤ} {Q : E.Point} : JRep T Q ↔
    match reprRef Q with
    | none => T.2.1 = 0 ∧ (T.1 : Fp) = 0
    | some (X, Y) => (T.2.2 : Fp) ≠ 0 ∧ affX T = X ∧ affY T = Y := by
  rcases Q with _ | ⟨X, Y, h⟩ <;> rfl

/-- doubling refines `Q + Q` (uses: no point with `y = 0`, `A = 0`) -/
theorem jrep_double {T : ℤ × ℤ × ℤ} {Q : E.Point} (r : JRep T Q) : JRep (jacobian_double T) (Q + Q) := by
  rw [jrep_iff, ← CurveSem.sDouble_refines fp_two_ne_zero]
  rcases Q with _ | ⟨X, Y, h⟩
  · rw [jacobian_double_identity _ r.1]
    exact ⟨rfl, by simp⟩
  · obtain ⟨hz', hX', hY'⟩ := jacobian_double_coord T.1 T.2.1 T.2.2 r.y_ne_zero r.1
    rw [r.2.1, r.2.2, A_cast, add_zero] at hX' hY'
    simp only [reprRef_some, CurveSem.sDouble, if_neg (SecpSem.y_ne_zero h)]
    exact ⟨hz', hX', hY'.trans (by ring)⟩

theorem jrep_add {T1 T2 : ℤ × ℤ × ℤ} {Q1 Q2 : E.Point} (r1 : JRep T1 Q1) (r2 : JRep T2 Q2) :
    JRep (jacobian_add T1 T2) (Q1 + Q2) := by
  rcases Q1 with _ | ⟨X1, Y1, h1⟩
  · rw [jacobian_add_left_identity _ _ r1.1]
    change JRep T2 (0 + Q2)
    rwa [zero_add]
  rcases Q2 with _ | ⟨X2, Y2, h2⟩
  · rw [jacobian_add_right_identity _ _ r1.y_int_ne_zero r2.1]
    change JRep T1 (_ + 0)
    rwa [add_zero]
  have hy1 := r1.y_int_ne_zero
  have hy2 := r2.y_int_ne_zero
  obtain ⟨-, -, hchord, hinv, hdbl⟩ := jacobian_add_coord r1.1 r2.1
  rw [r1.2.1, r1.2.2, r2.2.1, r2.2.2] at hchord hinv hdbl
  by_cases hx : X1 = X2
  · subst hx
    by_cases hy : Y1 = Y2
    · subst hy
      rw [hdbl hy1 hy2 rfl rfl]
      exact jrep_double r1
    · rw [hinv hy1 hy2 rfl hy, Affine.Point.add_of_Y_eq rfl ((Affine.Y_eq_of_X_eq h1.1 h2.1 rfl).resolve_left hy)]
      exact jrep_identity
  · obtain ⟨hz', hX', hY'⟩ := hchord hy1 hy2 hx
    rw [jrep_iff, ← CurveSem.sAdd_refines fp_two_ne_zero]
    simp only [reprRef_some, CurveSem.sAdd, Ne.symm hx, false_and, if_false]
    exact ⟨hz', hX', hY'.trans (by ring)⟩

theorem N_pos : 0 < N := by decide

/-- Double-and-add on a reduced scalar: any fuel above `n` suffices (the scalar halves at each step), and the
result represents `n • Q` whenever the operand represents `Q`. No group-order fact is used. -/
theorem jacobian_multiplyAux_reduced : ∀ (fuel : ℕ) (T : ℤ × ℤ × ℤ) (n : ℤ), 0 ≤ n → n < N → n.toNat < fuel →
    ∃ T', jacobian_multiplyAux fuel T n = .ok T' ∧ ∀ Q, JRep T Q → JRep T' (n • Q) := by
  intro fuel
  induction fuel with
  | zero => intro T n _ _ hf; omega
  | succ k ih =>
    intro T n h0 hN hf
    unfold jacobian_multiplyAux
    by_cases hc1 : T.2.1 = 0 ∨ n = 0
    · rw [if_pos hc1]
      refine ⟨_, rfl, fun Q r => ?_⟩
      rcases hc1 with hy | rfl
      · rw [r.eq_zero hy, zsmul_zero]; exact jrep_identity
      · rw [zero_zsmul]; exact jrep_identity
    rw [if_neg hc1]
    by_cases hc2 : n = 1
    · rw [if_pos hc2, hc2]
      exact ⟨_, rfl, fun Q r => by rwa [one_zsmul]⟩
    have hn0 : n ≠ 0 := fun h => hc1 (Or.inr h)
    obtain ⟨T', hT', rT'⟩ := ih T (n / 2) (by omega) (by omega) (by omega)
    have hsplit : n = 2 * (n / 2) + n % 2 := (Int.mul_ediv_add_emod n 2).symm
    rw [if_neg hc2, if_neg (by omega), hT']
    by_cases hev : n % 2 = 0
    · rw [if_pos hev]
      refine ⟨_, rfl, fun Q r => ?_⟩
      rw [hsplit, hev, add_zero, two_mul, add_zsmul]
      exact jrep_double (rT' Q r)
    · have hodd : n % 2 = 1 := by omega
      rw [if_neg hev, if_pos hodd]
      refine ⟨_, rfl, fun Q r => ?_⟩
      rw [hsplit, hodd, two_mul, add_zsmul, add_zsmul, one_zsmul]
      exact jrep_add (jrep_double (rT' Q r)) r

/-- **`jacobian_multiply` on ANY int scalar** (negative and `≥ N` included) never raises — the fuel `|n| + |N| + 2`
of the generated recursion is never exhausted and the "unexpected case" `ValueError` branch is unreachable — and
its result represents `(n mod N) • Q` whenever the operand represents `Q`. No group-order fact is used. -/
theorem jacobian_multiply_spec (T : ℤ × ℤ × ℤ) (n : ℤ) :
    ∃ T', jacobian_multiply T n = .ok T' ∧ ∀ Q, JRep T Q → JRep T' ((n % N) • Q) := by
  have hNpos := N_pos
  have hmod0 : 0 ≤ n % N := Int.emod_nonneg _ (by omega)
  have hmodN : n % N < N := Int.emod_lt_of_pos _ hNpos
  unfold jacobian_multiply
  by_cases hred : 0 ≤ n ∧ n < N
  · rw [Int.emod_eq_of_lt hred.1 hred.2]
    exact jacobian_multiplyAux_reduced _ T n hred.1 hred.2 (by omega)
  · -- one reduction step `n ↦ n % N`, unless the operand carries the identity marker
    generalize hF : n.natAbs + N.natAbs + 2 = F
    obtain ⟨F, rfl⟩ : ∃ F', F = F' + 1 := ⟨F - 1, by omega⟩
    unfold jacobian_multiplyAux
    by_cases hy : T.2.1 = 0
    · rw [if_pos (Or.inl hy)]
      exact ⟨_, rfl, fun Q r => by rw [r.eq_zero hy, zsmul_zero]; exact jrep_identity⟩
    have h1N : 1 < N := by decide
    obtain ⟨T', hT', rT'⟩ := jacobian_multiplyAux_reduced F T (n % N) hmod0 hmodN (by omega)
    rw [if_neg (by omega), if_neg (by omega), if_pos (by omega), hT']
    exact ⟨_, rfl, rT'⟩

/-! ### `multiply` = `from_jacobian ∘ jacobian_multiply ∘ to_jacobian`

Kernel note. The generated fuel of `jacobian_multiply` is `n.natAbs + N.natAbs + 2`. The Lean kernel cannot put
`x + <256-bit literal>` with symbolic `x` into weak head normal form (its `Nat.succ`-literal folding recurses
once per unit), so any definitional unfolding that makes it evaluate `jacobian_multiply T n` for a symbolic `n`
— e.g. the auto-generated unfolding lemma of `multiply`, whose body is a `match` on that call — fails with
"deep recursion". We therefore relate `multiply` to a copy `multiplyG` with the Jacobian multiplication
abstracted, by `rfl` at FUNCTION level (both bodies are then compared syntactically), and reason about
`multiplyG` with an opaque function variable. -/

/-- `multiply` with the Jacobian scalar multiplication abstracted as a parameter -/
def multiplyG (jm : ℤ × ℤ × ℤ → ℤ → Except PyErr (ℤ × ℤ × ℤ)) (a : ℤ × ℤ) (n : ℤ) : Except PyErr (ℤ × ℤ) :=
  match jm (to_jacobian a) n with
  | .error e => .error e
  | .ok r0_1 => .ok (from_jacobian r0_1)

theorem multiplyG_of_ok {jm : ℤ × ℤ × ℤ → ℤ → Except PyErr (ℤ × ℤ × ℤ)} {a : ℤ × ℤ} {n : ℤ} {T' : ℤ × ℤ × ℤ}
    (h : jm (to_jacobian a) n = .ok T') : multiplyG jm a n = .ok (from_jacobian T') := by
  unfold multiplyG; rw [h]

theorem multiplyG_of_error {jm : ℤ × ℤ × ℤ → ℤ → Except PyErr (ℤ × ℤ × ℤ)} {a : ℤ × ℤ} {n : ℤ} {e : PyErr}
    (h : jm (to_jacobian a) n = .error e) : multiplyG jm a n = .error e := by
  unfold multiplyG; rw [h]

theorem multiply_of_ok {a : ℤ × ℤ} {n : ℤ} {T' : ℤ × ℤ × ℤ}
    (h : jacobian_multiply (to_jacobian a) n = .ok T') : Gen.Secp.multiply a n = .ok (from_jacobian T') := by
  rw [show Gen.Secp.multiply = multiplyG jacobian_multiply from rfl]; exact multiplyG_of_ok h

theorem G_equation_int : (Gy ^ 2) % P = (Gx ^ 3 + B) % P := by decide +kernel

theorem G_on_curve : ((Gy : ℤ) : Fp) ^ 2 = ((Gx : ℤ) : Fp) ^ 3 + ((B : ℤ) : Fp) := by
  have := (cast_eq_iff (Gy ^ 2) (Gx ^ 3 + B)).mpr G_equation_int
  push_cast at this; exact this

/-- the generator `G` of the Python module as a Mathlib point -/
def Gpt : E.Point := mkPt ((Gx : ℤ) : Fp) ((Gy : ℤ) : Fp) G_on_curve

theorem reprSecp_Gpt : reprSecp Gpt = Gen.Secp.G := by
  simp only [Gpt, mkPt, reprSecp_some, val_cast, Gen.Secp.G]
  decide

/-- Boolean test "`r` is `ok v`" (so that kernel evaluation can decide it) -/
def okEq (r : Except PyErr (ℤ × ℤ)) (v : ℤ × ℤ) : Bool :=
  match r with
  | .ok w => decide (w = v)
  | .error _ => false

theorem okEq_sound {r : Except PyErr (ℤ × ℤ)} {v : ℤ × ℤ} (h : okEq r v = true) : r = .ok v := by
  cases r with
  | error e => simp [okEq] at h
  | ok w => simp only [okEq, decide_eq_true_eq] at h; rw [h]

/-- kernel evaluation of the GENERATED code: `multiply(G, N − 1) = (Gx, P − Gy)`, i.e. `(N−1)·G = −G` -/
theorem multiply_G_N_pred : Gen.Secp.multiply Gen.Secp.G (N - 1) = .ok (Gx, P - Gy) :=
  okEq_sound (by decide +kernel)

/-- kernel-evaluated: the reduced coordinates of `−G` -/
theorem neg_G_reduced : (Gx % P, (-Gy) % P) = (Gx, P - Gy) := by decide +kernel

end PyEcc.SecpSem
