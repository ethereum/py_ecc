/-
  Maps `e : G2 → G1 → GT` that are additive in each argument on the points killed by a
  number `r` (`IsBilinear r e`), and what follows: unit on `0`, inverse on negation, scalars come out as powers,
  values are `r`-th roots of unity.  Every point is killed by `0`, so `IsBilinear 0 e` is additivity everywhere
  (the hypothesis HB1 of `Props/C05.lean`); the protocol layer uses `r` = the curve order.  The right-hand laws are
  the left-hand ones of the flipped map.
-/
import Mathlib.Algebra.Group.Basic

namespace PyEcc.NdSem

variable {G1 G2 GT : Type*} [AddCommGroup G1] [AddCommGroup G2] [CommGroup GT]

/-- **Bilinearity on the `r`-torsion** (HB1, abstract form): `e` is additive in each argument as soon as
    all points involved are killed by `r`.  This is `BlsAbs.IsPairing` WITHOUT its field `nondeg`. -/
structure IsBilinear (r : ℕ) (e : G2 → G1 → GT) : Prop where
  add_left : ∀ {Q Q' : G2} {P : G1}, r • Q = 0 → r • Q' = 0 → r • P = 0 →
    e (Q + Q') P = e Q P * e Q' P
  add_right : ∀ {Q : G2} {P P' : G1}, r • Q = 0 → r • P = 0 → r • P' = 0 →
    e Q (P + P') = e Q P * e Q P'

theorem IsBilinear.flip {r : ℕ} {e : G2 → G1 → GT} (he : IsBilinear r e) : IsBilinear r (fun P Q => e Q P) :=
  ⟨fun hP hP' hQ => he.add_right hQ hP hP', fun hP hQ hQ' => he.add_left hQ hQ' hP⟩

section
variable {r : ℕ} {e : G2 → G1 → GT} (he : IsBilinear r e)
include he

theorem IsBilinear.zero_left {P : G1} (hP : r • P = 0) : e 0 P = 1 := by
  have h := he.add_left (Q := 0) (Q' := 0) (P := P) (nsmul_zero r) (nsmul_zero r) hP
  rw [add_zero] at h
  exact (mul_eq_left (a := e 0 P)).mp h.symm

theorem IsBilinear.neg_left {Q : G2} {P : G1} (hQ : r • Q = 0) (hP : r • P = 0) :
    e (-Q) P = (e Q P)⁻¹ := by
  have h := he.add_left (Q := Q) (Q' := -Q) (P := P) hQ (by rw [neg_nsmul, hQ, neg_zero]) hP
  rw [add_neg_cancel, he.zero_left hP] at h
  exact eq_inv_of_mul_eq_one_right h.symm

theorem IsBilinear.nsmul_left {Q : G2} {P : G1} (hQ : r • Q = 0) (hP : r • P = 0) (n : ℕ) :
    e (n • Q) P = e Q P ^ n := by
  induction n with
  | zero => rw [zero_nsmul, pow_zero]; exact he.zero_left hP
  | succ n ih =>
    rw [succ_nsmul, he.add_left (by rw [nsmul_left_comm, hQ, nsmul_zero]) hQ hP, ih, pow_succ]

theorem IsBilinear.zsmul_left {Q : G2} {P : G1} (hQ : r • Q = 0) (hP : r • P = 0) (n : ℤ) :
    e (n • Q) P = e Q P ^ n := by
  cases n with
  | ofNat n => rw [Int.ofNat_eq_natCast, natCast_zsmul, zpow_natCast, he.nsmul_left hQ hP]
  | negSucc n =>
    rw [negSucc_zsmul, zpow_negSucc, he.neg_left (by rw [nsmul_left_comm, hQ, nsmul_zero]) hP,
      he.nsmul_left hQ hP]

theorem IsBilinear.pow_r {Q : G2} {P : G1} (hQ : r • Q = 0) (hP : r • P = 0) : e Q P ^ r = 1 := by
  rw [← he.nsmul_left hQ hP, hQ, he.zero_left hP]

theorem IsBilinear.zero_right {Q : G2} (hQ : r • Q = 0) : e Q 0 = 1 := he.flip.zero_left hQ

theorem IsBilinear.neg_right {Q : G2} {P : G1} (hQ : r • Q = 0) (hP : r • P = 0) :
    e Q (-P) = (e Q P)⁻¹ := he.flip.neg_left hP hQ

theorem IsBilinear.nsmul_right {Q : G2} {P : G1} (hQ : r • Q = 0) (hP : r • P = 0) (n : ℕ) :
    e Q (n • P) = e Q P ^ n := he.flip.nsmul_left hP hQ n

theorem IsBilinear.zsmul_right {Q : G2} {P : G1} (hQ : r • Q = 0) (hP : r • P = 0) (n : ℤ) :
    e Q (n • P) = e Q P ^ n := he.flip.zsmul_left hP hQ n

theorem IsBilinear.nsmul_swap {Q : G2} {P : G1} (hQ : r • Q = 0) (hP : r • P = 0) (n : ℕ) :
    e Q (n • P) = e (n • Q) P := by
  rw [he.nsmul_left hQ hP, he.nsmul_right hQ hP]

end

end PyEcc.NdSem
