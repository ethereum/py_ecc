/-
  A coordinate-level map between two curves that refines a homomorphism of the Mathlib point groups commutes with
  the generated curve functions.

  Source curve: the generated code run on a coordinate type `A`, read in a field `K` through
  `c : CurveHom Good φ b bK`; target: the same with `A'`, `K'`, `c'`, `b'`, `bK'`.
  `τ : (W bK).Point →+ (W bK').Point`, and `tw` maps representatives of `P` to representatives of
  `τ P` (`Rep` for the optimized module, `RepO` for the reference module).  Then `tw` maps
  `is_on_curve(·, b)` into `is_on_curve(·, b')` and commutes with `add`, `double`, `neg`, `multiply`
  (optimized module: up to `eq`; reference module: as equalities in the exception monad); if `τ` is
  injective, `tw` reflects `eq`.  Both sides compute the group law of their curve
  (`Rep.add`, …, `RepO.add`, …), `τ` is additive, and representations are unique.

  For `τ = twistHom ψ w` (`Lemmas/TwistPoint.lean`) the hypothesis on `tw` is one about values: the value of the
  image is the twist `twO ψ w` of the value of the argument (`rep_twist`, `repO_twist`); for the reference module that
  alone makes `tw` injective on good points (`tw_ref_injective`); for the optimized module `tw` is injective on good
  triples when its value scales each coordinate by a non-zero constant (`tw_opt_injective`).
-/
import PyEcc.Sem.TransferRefineBls
import PyEcc.Lemmas.TransferRefLawsBls
import PyEcc.Lemmas.TwistPoint

namespace PyEcc.TwistSem
open PyEcc PyEcc.Gen PyEcc.Transfer WeierstrassCurve

-- the operations are implicit, fixed by the types of `c`, `c'` (as in `Sem/TransferRefineBls.lean`)
variable {A A' K K' : Type}
  {_ : Zero A} {_ : One A} {_ : Add A} {_ : Sub A} {_ : Mul A} {_ : Neg A} {_ : Div A} {_ : NatCast A}
  {_ : Pow A Nat} {_ : Zero A'} {_ : One A'} {_ : Add A'} {_ : Sub A'} {_ : Mul A'} {_ : Neg A'} {_ : Div A'}
  {_ : NatCast A'} {_ : Pow A' Nat} {_ : Field K} {_ : Field K'}
  [DecidableEq K] [DecidableEq K']
  {Good : A → Prop} {φ : A → K} {Good' : A' → Prop} {φ' : A' → K'} {b : A} {b' : A'} {bK : K} {bK' : K'}
  (c : CurveHom Good φ b bK) (c' : CurveHom Good' φ' b' bK')

section twist
variable {c c'} (ψ : K →+* K') {w : K'} (hw : w ≠ 0) (hb : ψ bK * w ^ 6 = bK') {P : (W bK).Point}

theorem rep_twist {T : A × A × A} {T' : A' × A' × A'} (g : GoodT Good' T')
    (h : toAff (mapT φ' T') = twO ψ w (toAff (mapT φ T))) (r : Rep c T P) :
    Rep c' T' (twistHom ψ hw c'.two c'.three c'.b_ne hb P) :=
  ⟨g, h.trans ((congrArg (twO ψ w) r.rep).trans (reprRef_twistHom ψ hw _ _ _ hb P).symm)⟩

theorem repO_twist {p : Option (A × A)} {p' : Option (A' × A')} (g : GoodO Good' p')
    (h : mapO φ' p' = twO ψ w (mapO φ p)) (r : RepO c p P) :
    RepO c' p' (twistHom ψ hw c'.two c'.three c'.b_ne hb P) :=
  ⟨g, (reprRef_twistHom ψ hw _ _ _ hb P).trans ((congrArg (twO ψ w) r.rep).trans h.symm)⟩

include hw in
theorem tw_ref_injective (g : GoodHom Good φ) {tw : Option (A × A) → Option (A' × A')}
    (hv : ∀ {p : Option (A × A)}, GoodO Good p → mapO φ' (tw p) = twO ψ w (mapO φ p)) {p q : Option (A × A)}
    (gp : GoodO Good p) (gq : GoodO Good q) (e : tw p = tw q) : p = q :=
  g.mapO_inj gp gq (twO_injective ψ hw (by rw [← hv gp, ← hv gq, e]))

omit [DecidableEq K] [DecidableEq K'] in
theorem tw_opt_injective (g : GoodHom Good φ) {tw : A × A × A → A' × A' × A'} {k₁ k₂ k₃ : K'}
    (h₁ : k₁ ≠ 0) (h₂ : k₂ ≠ 0) (h₃ : k₃ ≠ 0)
    (hv : ∀ {T : A × A × A}, GoodT Good T →
      mapT φ' (tw T) = (ψ (φ T.1) * k₁, ψ (φ T.2.1) * k₂, ψ (φ T.2.2) * k₃))
    {S T : A × A × A} (gS : GoodT Good S) (gT : GoodT Good T) (e : tw S = tw T) : S = T := by
  have h : mapT φ' (tw S) = mapT φ' (tw T) := congrArg _ e
  rw [hv gS, hv gT, Prod.mk.injEq, Prod.mk.injEq] at h
  exact Prod.ext (g.inj gS.1 gT.1 (ψ.injective (mul_right_cancel₀ h₁ h.1)))
    (Prod.ext (g.inj gS.2.1 gT.2.1 (ψ.injective (mul_right_cancel₀ h₂ h.2.1)))
      (g.inj gS.2.2 gT.2.2 (ψ.injective (mul_right_cancel₀ h₃ h.2.2))))

end twist

variable [DecidableEq A] [DecidableEq A'] {τ : (W bK).Point →+ (W bK').Point}

section opt
variable {tw : A × A × A → A' × A' × A'}
  (htw : ∀ {T : A × A × A} {P : (W bK).Point}, Rep c T P → Rep c' (tw T) (τ P))
  {S T T₁ T₂ : A × A × A}
include htw

theorem tw_opt_on_curve (g : GoodT Good T) (hT : OptBls.is_on_curve T b = true) :
    OptBls.is_on_curve (tw T) b' = true := by
  obtain ⟨P, r⟩ := c.exists_rep g hT
  exact (htw r).on_curve

theorem tw_opt_add (g₁ : GoodT Good T₁) (g₂ : GoodT Good T₂) (h₁ : OptBls.is_on_curve T₁ b = true)
    (h₂ : OptBls.is_on_curve T₂ b = true) :
    OptBls.eq (tw (OptBls.add T₁ T₂)) (OptBls.add (tw T₁) (tw T₂)) = true := by
  obtain ⟨P, r₁⟩ := c.exists_rep g₁ h₁
  obtain ⟨Q, r₂⟩ := c.exists_rep g₂ h₂
  exact ((htw (r₁.add r₂)).eq_iff ((htw r₁).add (htw r₂))).mpr (map_add τ P Q)

theorem tw_opt_double (g : GoodT Good T) (hT : OptBls.is_on_curve T b = true) :
    OptBls.eq (tw (OptBls.double T)) (OptBls.double (tw T)) = true := by
  obtain ⟨P, r⟩ := c.exists_rep g hT
  exact ((htw r.double).eq_iff (htw r).double).mpr (map_add τ P P)

theorem tw_opt_neg (g : GoodT Good T) (hT : OptBls.is_on_curve T b = true) :
    OptBls.eq (tw (OptBls.neg T)) (OptBls.neg (tw T)) = true := by
  obtain ⟨P, r⟩ := c.exists_rep g hT
  exact ((htw r.neg).eq_iff (htw r).neg).mpr (map_neg τ P)

theorem tw_opt_multiply (g : GoodT Good T) (hT : OptBls.is_on_curve T b = true) (n : ℕ) :
    OptBls.eq (tw (OptBls.multiply T n)) (OptBls.multiply (tw T) n) = true := by
  obtain ⟨P, r⟩ := c.exists_rep g hT
  exact ((htw (r.multiply n)).eq_iff ((htw r).multiply n)).mpr (map_nsmul τ n P)

theorem tw_opt_eq_iff (hτ : Function.Injective τ) (gS : GoodT Good S) (gT : GoodT Good T)
    (hS : OptBls.is_on_curve S b = true) (hT : OptBls.is_on_curve T b = true) :
    OptBls.eq (tw S) (tw T) = true ↔ OptBls.eq S T = true := by
  obtain ⟨P, r₁⟩ := c.exists_rep gS hS
  obtain ⟨Q, r₂⟩ := c.exists_rep gT hT
  rw [(htw r₁).eq_iff (htw r₂), r₁.eq_iff r₂]
  exact hτ.eq_iff

end opt

section ref
variable {tw : Option (A × A) → Option (A' × A')}
  (htw : ∀ {p : Option (A × A)} {P : (W bK).Point}, RepO c p P → RepO c' (tw p) (τ P))
  {p q : Option (A × A)}
include htw

theorem tw_ref_on_curve (g : GoodO Good p) (hp : RefBls.is_on_curve p b = true) :
    RefBls.is_on_curve (tw p) b' = true := by
  obtain ⟨P, r⟩ := c.exists_repO g hp
  exact (htw r).on_curve

theorem tw_ref_add (gp : GoodO Good p) (gq : GoodO Good q) (hp : RefBls.is_on_curve p b = true)
    (hq : RefBls.is_on_curve q b = true) : RefBls.add (tw p) (tw q) = (RefBls.add p q).map tw := by
  obtain ⟨P, rp⟩ := c.exists_repO gp hp
  obtain ⟨Q, rq⟩ := c.exists_repO gq hq
  obtain ⟨s, e1, r1⟩ := rp.add rq
  obtain ⟨t, e2, rt⟩ := (htw rp).add (htw rq)
  rw [e1, e2, rt.inj (map_add τ P Q ▸ htw r1)]
  rfl

theorem tw_ref_double (gp : GoodO Good p) (hp : RefBls.is_on_curve p b = true) :
    RefBls.double (tw p) = tw (RefBls.double p) := by
  obtain ⟨P, rp⟩ := c.exists_repO gp hp
  exact (htw rp).double.inj (map_add τ P P ▸ htw rp.double)

theorem tw_ref_neg (gp : GoodO Good p) (hp : RefBls.is_on_curve p b = true) :
    RefBls.neg (tw p) = tw (RefBls.neg p) := by
  obtain ⟨P, rp⟩ := c.exists_repO gp hp
  exact (htw rp).neg.inj (map_neg τ P ▸ htw rp.neg)

theorem tw_ref_multiply (gp : GoodO Good p) (hp : RefBls.is_on_curve p b = true) (n : ℕ) :
    RefBls.multiply (tw p) n = (RefBls.multiply p n).map tw := by
  obtain ⟨P, rp⟩ := c.exists_repO gp hp
  obtain ⟨s, e1, r1⟩ := rp.multiply n
  obtain ⟨t, e2, rt⟩ := (htw rp).multiply n
  rw [e1, e2, rt.inj (map_nsmul τ n P ▸ htw r1)]
  rfl

end ref

end PyEcc.TwistSem
