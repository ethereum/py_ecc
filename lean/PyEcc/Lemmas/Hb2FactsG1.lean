/-
  PyEcc.Lemmas.Hb2FactsG1 — GENERATED data: concrete points of `E(Fp)`, BLS12-381 (`y² = x³ + 4` over `Fq blsP`),
  used to determine `#E(Fp)` (HB2): a primitive cube root of unity `ω` of `Fp`, for each prime `q ∣ (x−1)/3`
  (`x` the BLS12-381 curve parameter, `Spec.BLS12381.x`) a point of order `q`, and the point `(0, 2)` of order 3.
  Found by tools (Python, `tools/leangen`); what is claimed of them is checked in `Lemmas/Hb2G1.lean`.
-/
import PyEcc.Model.Codec

namespace PyEcc.Hb2

/-- a primitive cube root of unity `ω` of `Fp` -/
def w1 : F1 := Fq.ofInt 793479390729215512621379701633421447060886740281060493010456487427281649075476305620758731620350
/-- `c = ω²`, so `c² = ω`, `c³ = 1` -/
def c1 : F1 := Fq.ofInt 4002409555221667392624310435006688643935503118305586438271171395842971157480381377015405980053539358417135540939436

/-- a point of order 11 of `E(Fp)` -/
def pt1_11 : G1Pt := (Fq.ofInt 1880092613078254901554314637071807298501192510548101685248408026758621339445389592447672036000887926226179839848765, Fq.ofInt 3199385561845243906588830362398429408332191203077241614977140793933236640941599752120082602515734886574695101003123, Fq.ofInt 1)

/-- a point of order 10177 of `E(Fp)` -/
def pt1_10177 : G1Pt := (Fq.ofInt 1770745533214886165640744438057185521936160528278553111528799680695897592153511759187432629868083531207425005977343, Fq.ofInt 2508813107709975910808262854054760173958187120185002561500718477061230941986598541909876815888759449135506022623347, Fq.ofInt 1)

/-- a point of order 859267 of `E(Fp)` -/
def pt1_859267 : G1Pt := (Fq.ofInt 1470991693666260937710049718535252104088060286115220365075090045816977257671154965529300717210485936434946839533997, Fq.ofInt 2367169187199292647820359714733537291792712667455597017927114056938109931027033707975630787218438055672319279809041, Fq.ofInt 1)

/-- a point of order 52437899 of `E(Fp)` -/
def pt1_52437899 : G1Pt := (Fq.ofInt 3947042490920602143471520462354080206970258278759706934844037497905960548566167558019334335880988589802668294292295, Fq.ofInt 3167879832527281042508603053085619668352119816637397761169382748679537552329232690643814598590367296081911840179199, Fq.ofInt 1)

/-- the point `(0, 2)` of order 3 -/
def pt1_3 : G1Pt := (Fq.ofInt 0, Fq.ofInt 2, Fq.ofInt 1)

end PyEcc.Hb2
