/-
  In the semantic field `K12 = Fp[w]/(w¹² − 2w⁶ + 2)` of BLS12-381 `FQ12`
  coordinates (`K12`, `w12` of `Lemmas/BlsFrobW.lean`; both class variants map into it by `toQ`,
  `TwistSem.goodHom_F12`): the embedding `ι : K2 → K12`, `i ↦ w⁶ − 1`, which is the `psiBls` of
  `Lemmas/TwistField.lean` (`iota_eq`), and the values of the model's `twistOptBls`, `twistRefBls` in `K12`
  (from `Lemmas/TwistBls.lean`) as the maps `twK`, `twA` on values in which the Miller-loop comparison is stated.
-/
import PyEcc.Sem.TransferFq
import PyEcc.Lemmas.TwistBls
import PyEcc.Lemmas.BlsFrobW
import PyEcc.Lemmas.MillerRefTransfer
import PyEcc.Model.Pairing

set_option linter.unusedSectionVars false

namespace PyEcc.MillerSem
open Polynomial PyEcc PyEcc.Gen PyEcc.Gen.Consts PyEcc.Fqp PyEcc.FqpSem PyEcc.Transfer PyEcc.PairingSem
  PyEcc.TwistSem

theorem k12_two_ne_zero : (2 : K12) ≠ 0 := (k12_field_ok .opt).1

theorem modulus_bls2 : modulus blsP blsMc2 = X ^ 2 + 1 := modulus_fq2

/-- `ι : K2 → K12`, `i ↦ w⁶ − 1` (the "field isomorphism" of `twist`) -/
noncomputable def iota : K2 →+* K12 :=
  AdjoinRoot.lift (AdjoinRoot.of (modulus blsP blsMc12)) (w12 ^ 6 - 1) (by
    rw [modulus_bls2]
    simp only [eval₂_add, eval₂_pow, eval₂_X, eval₂_one]
    linear_combination y_sq)

theorem iota_eq : iota = psiBls := by
  unfold iota psiBls psi
  simp only [Nat.cast_one]
  rfl

theorem iota_i2 : iota Swu2.i2 = w12 ^ 6 - 1 := AdjoinRoot.lift_root _

noncomputable def ofZ : ZMod blsP →+* K12 := AdjoinRoot.of (modulus blsP blsMc12)

/-- the optimized twist on values: `(x, y, z) ↦ (ι x · w, ι y, ι z · w³)` -/
noncomputable def twK (T : K2 × K2 × K2) : K12 × K12 × K12 :=
  (iota T.1 * w12, iota T.2.1, iota T.2.2 * w12 ^ 3)

theorem toQ_twistOptBls {R : OBls2 × OBls2 × OBls2} (c : CanonT R) :
    mapT toQ (twistOptBls R : OBls12 × OBls12 × OBls12) = twK (mapT toQ R) := by
  rw [mapT_twistOptBls c, twK, iota_eq]
  rfl

/-- the reference twist on values: `(x, y) ↦ (ι x / w², ι y / w³)` -/
noncomputable def twA (q : Option (K2 × K2)) : Option (K12 × K12) :=
  q.map fun xy => (iota xy.1 / w12 ^ 2, iota xy.2 / w12 ^ 3)

theorem twA_eq (q : Option (K2 × K2)) : twA q = twO psiBls cBls q := by
  rcases q with _ | ⟨x, y⟩
  · rfl
  · simp only [twA, twO_some, Option.map_some, iota_eq, cBls, div_eq_mul_inv, inv_pow]

end PyEcc.MillerSem
