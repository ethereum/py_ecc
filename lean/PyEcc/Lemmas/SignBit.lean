/-
  A sign bit that negation flips.  RFC 9380's `sgn0` and the ZCash "lexicographically largest" flag are both functions `s` on a
  representation `φ : A → K` of a field (`K` itself, residues in `[0, p)`, reduced `FQ2` objects) with
  `s (−y) ≠ s y` for `y ≠ 0`.  That alone makes `s` pick one of the two square roots of a square:
  negating when the sign is not the wanted one keeps the square and gives the wanted sign (`pick`), and
  equal squares with equal signs are equal (`unique`).  `neg` is a parameter because on residues it is
  `p − ·`.
-/
import Mathlib.Algebra.Field.Basic

namespace PyEcc

structure SignBit {A K B : Type*} [Field K] (Good : A → Prop) (φ : A → K) (neg : A → A) (s : A → B) :
    Prop where
  good_neg : ∀ {y}, Good y → φ y ≠ 0 → Good (neg y)
  map_neg : ∀ {y}, Good y → φ (neg y) = -φ y
  inj : ∀ {x y}, Good x → Good y → φ x = φ y → x = y
  flip : ∀ {y}, Good y → φ y ≠ 0 → s (neg y) ≠ s y

namespace SignBit
variable {A K B : Type*} [Field K] {Good : A → Prop} {φ : A → K} {neg : A → A}
  {s : A → B} (h : SignBit Good φ neg s)
include h

/-- the sign fix: `two` says that `s` has no third value besides `a` and `s y` -/
theorem pick [DecidableEq B] {y : A} (hy : Good y) (h0 : φ y ≠ 0) {a : B}
    (two : s y ≠ a → s (neg y) ≠ s y → s (neg y) = a) :
    Good (if s y ≠ a then neg y else y) ∧ φ (if s y ≠ a then neg y else y) ^ 2 = φ y ^ 2 ∧
      s (if s y ≠ a then neg y else y) = a := by
  split
  · next hs => exact ⟨h.good_neg hy h0, by rw [h.map_neg hy, neg_sq], two hs (h.flip hy h0)⟩
  · next hs => exact ⟨hy, rfl, not_not.mp hs⟩

theorem unique {x y : A} (hx : Good x) (hy : Good y) (hsq : φ x ^ 2 = φ y ^ 2) (hs : s x = s y) : x = y := by
  rcases sq_eq_sq_iff_eq_or_eq_neg.mp hsq with e | e
  · exact h.inj hx hy e
  · by_cases h0 : φ y = 0
    · exact h.inj hx hy (by rw [e, h0, neg_zero])
    · rw [← h.map_neg hy] at e
      rw [h.inj hx (h.good_neg hy h0) e] at hs
      exact absurd hs (h.flip hy h0)

end SignBit

theorem SignBit.self {K B : Type*} [Field K] {s : K → B} (hs : ∀ y, y ≠ 0 → s (-y) ≠ s y) :
    SignBit (fun _ => True) id Neg.neg s :=
  ⟨fun _ _ => trivial, fun _ => rfl, fun _ _ e => e, fun _ => hs _⟩

end PyEcc
