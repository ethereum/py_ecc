/-
  `optimized_swu_G1` (model: `optimizedSwuG1`) computes RFC 9380's
  simplified SWU map for the 11-isogenous curve of BLS12-381 G1, carried out inside the field
  `F1 = Fq blsP` (the executable model of `FQ`, which is a `Field` by `Sem/FqZMod.lean`).
  `Props/C10.lean` restates the results through `Fq.toZMod`.
-/
import PyEcc.Lemmas.SwuAux
import PyEcc.Lemmas.SwuShape

namespace PyEcc.SwuSem
open PyEcc.Spec Gen.Consts

theorem ISO_11_A_ne : ISO_11_A ≠ 0 := by decide +kernel
theorem ISO_11_B_ne : ISO_11_B ≠ 0 := by decide +kernel
theorem ISO_11_Z_ne : ISO_11_Z ≠ 0 := by decide +kernel
theorem ISO_11_ZA_ne : ISO_11_Z * ISO_11_A ≠ 0 := by decide +kernel

/-- in the exceptional case (`N = B`, `D = Z·A`) `sqrt_division_FQ` succeeds, i.e.
    `g(B/(Z·A))` is a square — RFC 9380 §6.6.2 requires this of `Z` (criterion 4 of Appendix H.2). -/
theorem exc_isRoot :
    (sqrtDivisionFq ((ISO_11_B * (0 + 1)) ^ 3 + ISO_11_A * (ISO_11_B * (0 + 1)) * (ISO_11_Z * ISO_11_A) ^ 2
      + ISO_11_B * (ISO_11_Z * ISO_11_A) ^ 3) ((ISO_11_Z * ISO_11_A) ^ 3)).1 = true := by
  decide +kernel

theorem swuD_ne (t : F1) : swuD t ≠ 0 := by
  unfold swuD
  split
  · exact ISO_11_ZA_ne
  · assumption

theorem swuD_of_T_ne (t : F1) (h : swuT t ≠ 0) : swuD t = -(ISO_11_A * swuT t) :=
  if_neg (neg_ne_zero.mpr (mul_ne_zero ISO_11_A_ne h))

theorem swu_of_T_eq (t : F1) (h : swuT t = 0) : swuD t = ISO_11_Z * ISO_11_A ∧ swuOk t = true := by
  have hD : swuD t = ISO_11_Z * ISO_11_A := if_pos (by rw [h, mul_zero, neg_zero])
  refine ⟨hD, ?_⟩
  unfold swuOk swuU swuV swuN
  rw [hD, h]
  exact exc_isRoot

/-- `y₀²·v = u` in the first branch; in the second the rejected candidate `r` has `r²·v = −u`, so
    `(r·t³·SQRT_MINUS_11_CUBED)²·v = Z³t⁶·u` -/
theorem swuY0_sq (t : F1) :
    swuY0 t ^ 2 * swuD t ^ 3 = if swuOk t then swuU t else (ISO_11_Z * t ^ 2) ^ 3 * swuU t := by
  have h2 : swuR t ^ 2 * swuD t ^ 3 = if swuOk t then swuU t else -swuU t :=
    (sqrtDiv_spec (swuU t) (swuV t) (pow_ne_zero 3 (swuD_ne t))).2
  rw [swuY0]
  generalize swuOk t = ok at h2 ⊢
  cases ok
  · simp only [Bool.false_eq_true, if_false] at h2 ⊢
    linear_combination (t ^ 6 * SQRT_MINUS_11_CUBED ^ 2) * h2 -
      (t ^ 6 * swuU t) * C10.SQRT_MINUS_11_CUBED_spec.2
  · simpa only [if_true] using h2

/-- **`optimized_swu_G1` is the simplified SWU map** (in `F1`): the flag `is_root` is the RFC's test
    `is_square(g(x1))`, and with `(N, y·D, D)` the returned triple, `(N/D, y)` is related to `t` by
    RFC 9380 §6.6.2. -/
theorem swu_isSswu (t : F1) :
    (swuOk t = true ↔ IsSquare (sswuG ISO_11_A ISO_11_B (sswuX1 ISO_11_A ISO_11_B ISO_11_Z t))) ∧
    IsSswu Fq.sgn0 ISO_11_A ISO_11_B ISO_11_Z t (swuN' t / swuD t) (swuY t) :=
  proj_isSswu sgn0_neg_ne sgn0_lt_two ISO_11_A_ne (swuD_ne t) rfl rfl (swu_of_T_eq t)
    (swuD_of_T_ne t) rfl (sqrtDiv_spec _ _ (pow_ne_zero 3 (swuD_ne t))).1 (swuY0_sq t)

theorem optimizedSwuG1_y (t : F1) :
    (optimizedSwuG1 t).2.1 / (optimizedSwuG1 t).2.2 = swuY t := by
  rw [optimizedSwuG1_eq]
  dsimp only
  rw [mul_div_cancel_right₀ _ (swuD_ne t)]

/-- the same about the returned triple `(N, Y, D)`: `D ≠ 0` and `(N/D, Y/D)` is related to `t` -/
theorem optimizedSwuG1_isSswu (t : F1) :
    (optimizedSwuG1 t).2.2 ≠ 0 ∧
    IsSswu Fq.sgn0 ISO_11_A ISO_11_B ISO_11_Z t ((optimizedSwuG1 t).1 / (optimizedSwuG1 t).2.2)
      ((optimizedSwuG1 t).2.1 / (optimizedSwuG1 t).2.2) := by
  rw [optimizedSwuG1_y, optimizedSwuG1_eq]
  dsimp only
  exact ⟨swuD_ne t, (swu_isSswu t).2⟩

end PyEcc.SwuSem
