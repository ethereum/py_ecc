/-
  The first Frobenius line step of the bn128 `miller_loop`s never meets ∞:
  for a point `T ≠ ∞` of prime order `r` on `E(K12bn)`,  `n·T + π(T) ≠ ∞`  (`n = ate_loop_count`,
  `π(x, y) = (x^p, y^p)`).

  `π` is an endomorphism of the group `E(K12bn)` (`sigmaPt`: any field endomorphism fixing `b` acts on
  Mathlib's point group of `y² = x³ + b`), and `π¹² = id` because `K12bn` has `p¹²` elements.  If
  `π(T) = −n·T` then `T = π¹²(T) = n¹²·T`, so `r ∣ n¹² − 1` — false for the module constants.
-/
import PyEcc.Lemmas.MillerBnSub
import PyEcc.Lemmas.CurveAux

set_option linter.unusedSectionVars false
set_option linter.unusedVariables false

namespace PyEcc.MillerBnSem
open Polynomial PyEcc PyEcc.Gen PyEcc.Gen.Consts PyEcc.Fqp PyEcc.FqpSem PyEcc.Transfer PyEcc.TwistSem
  WeierstrassCurve WeierstrassCurve.Affine

section sigma
variable {F : Type} [Field F] [DecidableEq F] {b : F} (σ : F →+* F) (hb : σ b = b)
include hb

theorem W_map : WeierstrassCurve.map (W b) σ = W b := by
  ext <;> simp [WeierstrassCurve.map, W, hb]

theorem ns_map {x y : F} (h : (W b).Nonsingular x y) : (W b).Nonsingular (σ x) (σ y) := by
  have := (WeierstrassCurve.Affine.map_nonsingular (W b) σ.injective x y).mpr h
  exact (W_map σ hb) ▸ this

theorem negY_map (x y : F) : (W b).negY (σ x) (σ y) = σ ((W b).negY x y) := by
  rw [CurveSem.negY_W, CurveSem.negY_W, map_neg]

theorem slope_map (x₁ x₂ y₁ y₂ : F) :
    (W b).slope (σ x₁) (σ x₂) (σ y₁) (σ y₂) = σ ((W b).slope x₁ x₂ y₁ y₂) := by
  have := WeierstrassCurve.Affine.map_slope (W := W b) σ x₁ x₂ y₁ y₂
  rw [show (W b).map σ = W b from W_map σ hb] at this
  exact this

theorem addX_map (x₁ x₂ l : F) : (W b).addX (σ x₁) (σ x₂) (σ l) = σ ((W b).addX x₁ x₂ l) := by
  have := WeierstrassCurve.Affine.map_addX (W' := W b) σ x₁ x₂ l
  rw [show (W b).map σ = W b from W_map σ hb] at this
  exact this

theorem addY_map (x₁ x₂ y₁ l : F) :
    (W b).addY (σ x₁) (σ x₂) (σ y₁) (σ l) = σ ((W b).addY x₁ x₂ y₁ l) := by
  have := WeierstrassCurve.Affine.map_addY (W' := W b) σ x₁ y₁ x₂ l
  rw [show (W b).map σ = W b from W_map σ hb] at this
  exact this

/-- the action of `σ` on points, `(x, y) ↦ (σ x, σ y)`, as a group homomorphism -/
noncomputable def sigmaPt : (W b).Point →+ (W b).Point where
  toFun P := match P with
    | .zero => .zero
    | .some x y h => .some (σ x) (σ y) (ns_map σ hb h)
  map_zero' := rfl
  map_add' := by
    rintro (_ | ⟨x₁, y₁, h₁⟩) (_ | ⟨x₂, y₂, h₂⟩)
    any_goals rfl
    by_cases hxy : x₁ = x₂ ∧ y₁ = (W b).negY x₂ y₂
    · rw [Point.add_of_Y_eq hxy.1 hxy.2]
      exact (Point.add_of_Y_eq (congrArg σ hxy.1) (by rw [hxy.2, negY_map σ hb])).symm
    · have hxy' : ¬(σ x₁ = σ x₂ ∧ σ y₁ = (W b).negY (σ x₂) (σ y₂)) := fun h =>
        hxy ⟨σ.injective h.1, σ.injective (by rw [← negY_map σ hb]; exact h.2)⟩
      rw [Point.add_some hxy]
      refine Eq.trans ?_ (Point.add_some hxy').symm
      simp only [← slope_map σ hb, ← addX_map σ hb, ← addY_map σ hb]

theorem sigmaPt_some {x y : F} (h : (W b).Nonsingular x y) :
    sigmaPt σ hb (.some x y h) = .some (σ x) (σ y) (ns_map σ hb h) := rfl

theorem reprRef_sigmaPt (P : (W b).Point) :
    reprRef (sigmaPt σ hb P) = (reprRef P).map fun xy => (σ xy.1, σ xy.2) := by
  rcases P with _ | ⟨x, y, h⟩ <;> rfl

end sigma

section frob
variable [DecidableEq K12bn]

theorem frob_B12 : frobenius K12bn bnP B12 = B12 := by
  show frobenius K12bn bnP (toQ (bnB12 .opt)) = toQ (bnB12 .opt)
  rw [toQ_bnB12]
  exact map_ofNat (frobenius K12bn bnP) 3

/-- `π : E(K12bn) → E(K12bn)`, `(x, y) ↦ (x^p, y^p)` -/
noncomputable def piE : E12 →+ E12 := sigmaPt (frobenius K12bn bnP) frob_B12

theorem reprRef_piE (A : E12) :
    reprRef (piE A) = (reprRef A).map fun xy => (xy.1 ^ bnP, xy.2 ^ bnP) := by
  rw [piE, reprRef_sigmaPt]
  rfl

theorem reprRef_piE_iter (j : ℕ) (A : E12) :
    reprRef (piE^[j] A) = (reprRef A).map fun xy => (xy.1 ^ bnP ^ j, xy.2 ^ bnP ^ j) := by
  induction j with
  | zero =>
    rw [Function.iterate_zero, id]
    rcases reprRef A with _ | ⟨x, y⟩
    · rw [Option.map_none]
    · rw [Option.map_some, pow_zero, pow_one, pow_one]
  | succ j ih =>
    rw [Function.iterate_succ_apply', reprRef_piE, ih]
    rcases reprRef A with _ | ⟨x, y⟩
    · rw [Option.map_none, Option.map_none, Option.map_none]
    · rw [Option.map_some, Option.map_some, Option.map_some, pow_succ bnP j, pow_mul, pow_mul]

theorem piE_iter_twelve (A : E12) : piE^[12] A = A := by
  apply CurveSem.reprRef_injective
  rw [reprRef_piE_iter]
  rcases reprRef A with _ | ⟨x, y⟩
  · rw [Option.map_none]
  · rw [Option.map_some, pow_card_K12bn, pow_card_K12bn]

theorem piE_iter_zsmul (c : ℤ) {A : E12} (h : piE A = c • A) (j : ℕ) : piE^[j] A = (c ^ j) • A := by
  induction j with
  | zero => simp
  | succ j ih =>
    rw [Function.iterate_succ_apply', ih, map_zsmul, h, smul_smul, pow_succ]

theorem bn_n12 : ¬ ((bnR : ℤ) ∣ (-(bn128_ate_loop_count : ℤ)) ^ 12 - 1) := by decide +kernel

theorem nsmul_add_piE_ne_zero {A : E12} (h0 : A ≠ 0) (hr : bnR • A = 0) :
    bn128_ate_loop_count • A + piE A ≠ 0 := by
  intro h
  have hpi : piE A = (-(bn128_ate_loop_count : ℤ)) • A := by
    rw [neg_smul, natCast_zsmul]
    exact (neg_eq_of_add_eq_zero_right h).symm
  have h12 := piE_iter_zsmul _ hpi 12
  rw [piE_iter_twelve] at h12
  have hz : ((-(bn128_ate_loop_count : ℤ)) ^ 12 - 1) • A = 0 := by
    rw [sub_smul, one_smul, ← h12, sub_self]
  have : Fact (Nat.Prime bnR) := ⟨prime_bnR⟩
  have ho : addOrderOf A = bnR := addOrderOf_eq_prime hr h0
  have := (addOrderOf_dvd_iff_zsmul_eq_zero (x := A)).mpr hz
  rw [ho] at this
  exact bn_n12 this

end frob

end PyEcc.MillerBnSem
