/-
  Assembling the bn128 comparison.  Over a field (`miller_core`): the optimized
  loop and the reference loop compute Miller values for the same multiple (`Lemmas/MillerBnOpt.lean`,
  `MillerBnLoop.lean`), which agree after the power `E` (`MV.unique`), and the tails agree
  (`Lemmas/MillerBnTail.lean`); so the reference `miller_loop` returns the value of the optimized one.  At the
  module constants (digit tables, scalar bounds, exponents) and for actual inputs (`miller_core_bnK`): the context
  (`Lemmas/MillerBnVert.lean`), the first Frobenius step never meets ∞ (`Lemmas/MillerBnFrob.lean`), and both
  `miller_loop`s of the model are carried to `K12bn` by `optBnMiller_good`, `millerG_good`.
-/
import PyEcc.Lemmas.MillerBnVert
import PyEcc.Lemmas.MillerBnFrob
import PyEcc.Lemmas.MillerBnOpt
import PyEcc.Lemmas.MillerBnTail
import PyEcc.Lemmas.MillerLine
import PyEcc.Lemmas.ExpByP
import PyEcc.Props.C13_Bn

set_option linter.unusedSectionVars false
set_option linter.unusedVariables false

namespace PyEcc.MillerBnSem
open Polynomial PyEcc PyEcc.Gen PyEcc.Gen.Consts PyEcc.Fqp PyEcc.FqpSem PyEcc.Transfer PyEcc.TwistSem
  PyEcc.C13 PyEcc.C13.Bn PyEcc.PairingSem PyEcc.NegSem PyEcc.NegBnSem
  WeierstrassCurve WeierstrassCurve.Affine
open PyEcc.MillerSem (digitAt)

section field
variable {K : Type} [Field K] [DecidableEq K] {b : K} {r E : ℕ} {T : CurvePt b} {xP yP : K}

/-- **The reference `miller_loop` returns the value of the optimized one.**  `Qo`, `cP` are projective
    representatives of `T` and `P`; the two digit tables keep the running scalar in `(0, (r−1)/2)` and evaluate to
    the same `n`; `4 ∣ E`; and `n·T + π(T) ≠ ∞` (`fin`). -/
theorem miller_core (c : Ctx r E T xP yP) (h4 : 4 ∣ E) {Qo cP : K × K × K} (rQ : Represents Qo T)
    (rP : toAff cP = some (xP, yP)) (p : ℕ) {digits : List Int} {ate : ℕ} {is : List ℕ}
    (hbo : OptBound r 1 digits) (hbr : OptBound r 1 (is.map (digitAt ate))) {n : ℕ}
    (so : optScalar 1 digits = n) (sr : optScalar 1 (is.map (digitAt ate)) = n) (n0 : 0 < n) (nlt : n < r)
    (fin : ∀ R, Represents R (n • T) → (OptBls.add R (frobG p Qo).1).2.2 ≠ 0) :
    millerG true p ate is E (Qo.1 / Qo.2.2) (Qo.2.1 / Qo.2.2) (some (xP, yP))
      = .ok (optBnMiller p digits (some E) Qo cP) := by
  have oinv := opt_loop c rQ rP digits 1 (((1 : K), (1 : K)), Qo)
    ⟨one_ne_zero, by rw [one_nsmul]; exact rQ, by rw [div_one]; exact MV.one _ _ _⟩ hbo
  obtain ⟨⟨f, Rr⟩, eloop, rRr, mvr⟩ := ref_loop c ate is 1 ((1 : K), reprRef T)
    ⟨by rw [one_nsmul], MV.one _ _ _⟩ hbr
  rw [so] at oinv
  rw [sr] at rRr mvr
  unfold optBnMiller Tie.optBnMillerG optBnPairG
  generalize digits.foldl (optBnStep Qo cP) (((1 : K), (1 : K)), Qo) = st at oinv ⊢
  obtain ⟨⟨N, D⟩, R⟩ := st
  obtain ⟨den, rR, mvo⟩ := oinv
  simp only at den rR mvo rRr mvr
  have hn : n • T ≠ 0 := c.ne_zero n0 nlt
  have hTT : T + T ≠ 0 := by
    have := c.no2 (j := 1) (by rw [one_nsmul]; exact c.T0)
    rwa [one_nsmul] at this
  have zQ := z_ne_of_represents rQ c.T0
  have aQ : reprRef T = some (Qo.1 / Qo.2.2, Qo.2.1 / Qo.2.2) := by
    rw [← show toAff Qo = reprRef T from rQ, toAff_of_z_ne_zero zQ]
  rw [aQ] at eloop
  rw [millerG, eloop, ok_bind, rRr, ← show toAff R = reprRef (n • T) from rR, ← rP]
  exact tail_agree c.two p (z_ne_of_represents rR hn) zQ
    (fun h => by rw [toAff_of_z_eq_zero h] at rP; cases rP) (y_ne_of_represents rR hn (c.no2 hn))
    (y_ne_of_represents rQ c.T0 hTT) (fin R rR) E (mvo.unique c.hP E mvr h4)

end field

/-- the binary digits scanned by the reference loop -/
abbrev bnBits : List Int := (downTo bn128_log_ate_loop_count).map (digitAt bn128_ate_loop_count)

theorem bn_ref_bound : OptBound bnR 1 bnBits := by decide +kernel

theorem bn_opt_bound : OptBound bnR 1 bnDigits := by decide +kernel

theorem bn_scalar_eq :
    optScalar 1 bnDigits = bn128_ate_loop_count ∧
    optScalar 1 bnBits = bn128_ate_loop_count ∧
    0 < bn128_ate_loop_count ∧ bn128_ate_loop_count < bnR := by decide +kernel

section inputs
variable [DecidableEq K2bn] [DecidableEq K12bn]

theorem emb_b : embQ bnMc12 (Fq.ofInt optimized_bn128_b : Fq bnP) = B12 := by
  rw [embQ_apply, Fq.toZMod_ofInt]
  show _ = (toQ (bnB12 .opt) : K12bn)
  rw [toQ_bnB12]
  simp only [optimized_bn128_b, Nat.cast_ofNat, Int.cast_ofNat]
  exact map_ofNat _ 3

theorem p_equation {P : BnG1Pt} (hon : OptBn.is_on_curve P (Fq.ofInt optimized_bn128_b : Fq bnP) = true)
    (hz : P.2.2 ≠ 0) : (W B12).Equation (embQ bnMc12 (P.1 / P.2.2)) (embQ bnMc12 (P.2.1 / P.2.2)) := by
  rw [CurveSem.equation_W]
  have h := (opt_is_on_curve_iff P _).mp hon
  rw [toAff_of_z_ne_zero hz] at h
  simp only [RefBn.is_on_curve, RefBn.is_inf, reduceCtorEq, decide_false, Bool.false_eq_true, or_self,
    if_false, decide_eq_true_eq] at h
  have e := congrArg (embQ bnMc12) h
  rw [map_sub, map_pow, map_pow, emb_b] at e
  linear_combination e

theorem castRef_aff {P : BnG1Pt} {p : Option (Fq bnP × Fq bnP)} (hP : toAff P = p) (hz : P.2.2 ≠ 0) :
    GoodO Canon (castRefBn p) ∧
      mapO (toQ : RBn12 → K12bn) (castRefBn p)
        = some (embQ bnMc12 (P.1 / P.2.2), embQ bnMc12 (P.2.1 / P.2.2)) := by
  rw [toAff_of_z_ne_zero hz] at hP
  subst hP
  refine ⟨⟨PairingSem.canon_castFq12 rfl _, PairingSem.canon_castFq12 rfl _⟩, ?_⟩
  simp only [castRefBn_some, mapO_some, toQ_castFq12]

theorem represents_frob {X : K12bn × K12bn × K12bn} {A : E12} (rX : Represents X A) (hA : A ≠ 0) :
    Represents (frobG bnP X).1 (piE A) := by
  have hz := z_ne_of_represents rX hA
  show toAff _ = reprRef (piE A)
  rw [reprRef_piE, ← show toAff X = reprRef A from rX, toAff_of_z_ne_zero hz, (frobG_toAff bnP hz).1.2]
  rfl

/-- the coordinate-wise Frobenius of an optimized triple: `Q1` of `miller_loop` -/
def frobT (X : OT12) : OT12 := (X.1 ^ bnP, X.2.1 ^ bnP, X.2.2 ^ bnP)

/-- `n·Q + π(Q) ≠ ∞` on the twisted point (`n = ate_loop_count`), as a test on the model's triples: the running
    point stays finite in the first Frobenius step.  No theorem speaks of this test: `miller_core_bnK` uses the same
    fact about points of order `r`, `nsmul_add_piE_ne_zero`. -/
def FrobFinite (Q : BnG2Pt) : Prop :=
  OptBn.is_inf (OptBn.add (OptBn.multiply (twistOptBn Q : OT12) optimized_bn128_ate_loop_count)
    (frobT (twistOptBn Q))) = false

instance (Q : BnG2Pt) : Decidable (FrobFinite Q) := by unfold FrobFinite; infer_instance

/-- the optimized Miller value with final exponentiation -/
abbrev optV (Q : BnG2Pt) (P : BnG1Pt) : OBn12 :=
  optBnMillerLoop bnDigits (some bnFinalExp) (twistOptBn Q) (castFq12 P.1, castFq12 P.2.1, castFq12 P.2.2)

/-- **The optimized bn128 Miller value is the value of the reference loop over `K12bn`**: for a finite on-curve
    `Q` killed by `r`, representing the point `Pt` of the twist curve, and a finite on-curve `P`. -/
theorem miller_core_bnK {Q : BnG2Pt} {P : BnG1Pt} (cQ : CanonT Q) (hon : OptBn.is_on_curve Q bnB2 = true)
    (honP : OptBn.is_on_curve P (Fq.ofInt optimized_bn128_b : Fq bnP) = true)
    (hQz : Q.2.2 ≠ 0) (hPz : P.2.2 ≠ 0) (hsub : OptBn.is_inf (OptBn.multiply Q bnR) = true) :
    ∃ (Pt : CurvePt (toQ bnB2 : K2bn)) (qx qy : K12bn), Represents (mapT toQ Q) Pt
      ∧ reprRef (bnTwistOpt Pt) = some (qx, qy) ∧ Canon (optV Q P)
      ∧ millerG true bnP bn128_ate_loop_count (downTo bn128_log_ate_loop_count) bnFinalExp qx qy
          (some (embQ bnMc12 (P.1 / P.2.2), embQ bnMc12 (P.2.1 / P.2.2))) = .ok (toQ (optV Q P)) := by
  obtain ⟨Pt, rQ, Pt0, hr⟩ :=
    curveF2bn.point_of_facts cQ hon (by simp [OptBls.is_inf, hQz]) (OptBn.multiply_eq ▸ hsub)
  have hPeq := p_equation honP hPz
  have ctx : Ctx bnR bnFinalExp (bnTwistOpt Pt) (embQ bnMc12 (P.1 / P.2.2)) (embQ bnMc12 (P.2.1 / P.2.2)) :=
    { two := k12bn_two, prime := prime_bnR, odd := by decide +kernel, hP := hPeq
      T0 := fun h => Pt0 (bnTwistOpt_injective (by rw [h, map_zero]))
      ord := by rw [← map_nsmul, hr, map_zero]
      vert := vert_killed hr hPeq }
  have rQo := (rep_twistOptBn rQ).rep
  obtain ⟨so, sr, n0, nlt⟩ := bn_scalar_eq
  have core := miller_core ctx finalExp_bn.four_dvd rQo (toAff_castFq12 (v := .opt) hPz) bnP bn_opt_bound bn_ref_bound so sr
    n0 nlt fun R rR => z_ne_of_represents
      (C07Opt.Bls.opt_add_refines k12bn_two rR (represents_frob rQo ctx.T0))
      (nsmul_add_piE_ne_zero ctx.T0 ctx.ord)
  obtain ⟨co, eo⟩ := optBnMiller_good goodHom_F12bn bnP bnDigits (some bnFinalExp) (canonT_twistOptBn Q)
    (show CanonT ((castFq12 P.1, castFq12 P.2.1, castFq12 P.2.2) : OBn12 × OBn12 × OBn12) from
      ⟨canon_castFq12 rfl _, canon_castFq12 rfl _, canon_castFq12 rfl _⟩)
  rw [← optBnMillerLoop_eq] at co eo
  rw [← eo] at core
  refine ⟨Pt, _, _, rQ.rep, ?_, co, core⟩
  rw [← show toAff _ = reprRef (bnTwistOpt Pt) from rQo,
    toAff_of_z_ne_zero (z_ne_of_represents rQo ctx.T0)]

/-- **Miller values agree after the final exponentiation** (bn128): for finite on-curve `Q` killed by
    `r` and finite on-curve `P`, representing the reference points `q`, `p`,
    the reference `miller_loop(twist(q), cast(p))` returns normally and its result has the same value in
    `K12bn` as the optimized `miller_loop(twist(Q), cast(P))`. -/
theorem miller_core_bn {Q : BnG2Pt} {q : Option (RBn2 × RBn2)} {P : BnG1Pt}
    {p : Option (Fq bnP × Fq bnP)} (cQ : CanonT Q) (cq : GoodO Canon q)
    (hQ : toAff (mapT toQ Q) = mapO (toQ : RBn2 → K2bn) q) (hP : toAff P = p)
    (hon : OptBn.is_on_curve Q bnB2 = true)
    (honP : OptBn.is_on_curve P (Fq.ofInt optimized_bn128_b : Fq bnP) = true)
    (hQz : Q.2.2 ≠ 0) (hPz : P.2.2 ≠ 0) (hsub : OptBn.is_inf (OptBn.multiply Q bnR) = true) :
    ∃ fr, refMillerLoop refBnOps bn128_ate_loop_count bn128_log_ate_loop_count true bnFinalExp
        (twistRefBn q) (castRefBn p) = .ok fr ∧ Canon fr ∧ Canon (optV Q P)
      ∧ (toQ (optV Q P) : K12bn) = toQ fr := by
  obtain ⟨Pt, qx, qy, rQ, rT, co, core⟩ := miller_core_bnK cQ hon honP hQz hPz hsub
  -- the reference inputs are finite, their values are those of the optimized ones
  have vq := mapO_twistRefBn cq
  rw [← hQ, show toAff (mapT toQ Q) = reprRef Pt from rQ, ← reprRef_bnTwistOpt, rT] at vq
  obtain ⟨cPr, aPr⟩ := castRef_aff hP hPz
  rcases hq12 : (twistRefBn q : RA12) with _ | ⟨qx', qy'⟩
  · rw [hq12] at vq; cases vq
  rcases hp : castRefBn p with _ | pp
  · rw [hp] at aPr; cases aPr
  rw [hq12] at vq
  rw [hp] at cPr aPr
  have cq12 : Canon qx' ∧ Canon qy' := by
    have := canonO_twistRefBn (p := q)
    rwa [hq12] at this
  obtain ⟨g, e⟩ := millerG_good (goodHom_F12bn (v := .ref)) true bnP bn128_ate_loop_count
    (downTo bn128_log_ate_loop_count) bnFinalExp cq12.1 cq12.2 cPr
  rw [aPr, (Prod.mk.inj (Option.some.inj vq)).1,
    (Prod.mk.inj (Option.some.inj vq)).2, core] at e
  obtain ⟨fr, efr, vfr⟩ := map_eq_ok e
  rw [refMillerLoop_eq_millerG (ops := refBnOps) rfl]
  exact ⟨fr, efr, g fr efr, co, vfr.symm⟩

end inputs

theorem one_coeffs_bn : (1 : OBn12).coeffs = (1 : RBn12).coeffs := rfl

theorem coeffs_eq_of_toQ {fo : OBn12} {fr : RBn12} (co : Canon fo) (cf : Canon fr)
    (v : (toQ fo : K12bn) = toQ fr) : fo.coeffs = fr.coeffs := evQ_inj co cf v

section guards
variable [DecidableEq K2bn]

theorem on_curve_Q_agree_bn {Q : BnG2Pt} {q : Option (RBn2 × RBn2)} (cQ : CanonT Q)
    (cq : GoodO Canon q) (hQ : toAff (mapT toQ Q) = mapO (toQ : RBn2 → K2bn) q) :
    Gen.OptBn.is_on_curve Q (⟨optimized_bn128_b2⟩ : OBn2)
      = Gen.RefBn.is_on_curve q (⟨bn128_b2⟩ : RBn2) :=
  MillerSem.on_curve_agree (K := K2bn) (goodHom_F2bn (v := .opt)) (goodHom_F2bn (v := .ref)) cQ cq hQ
    (by decide) (by decide) rfl

theorem on_curve_P_agree_bn {P : BnG1Pt} {p : Option (Fq bnP × Fq bnP)} (hP : toAff P = p) :
    Gen.OptBn.is_on_curve P (Fq.ofInt optimized_bn128_b : Fq bnP)
      = Gen.RefBn.is_on_curve p (Fq.ofInt bn128_b : Fq bnP) :=
  MillerSem.on_curve_agree_field hP _

end guards

end PyEcc.MillerBnSem
