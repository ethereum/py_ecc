/-
  PyEcc.Lemmas.TwinModules — the generated bn128 curve modules are the generated BLS12-381 curve modules.

  `py_ecc/optimized_bn128/optimized_curve.py`, `optimized_pairing.py` and `py_ecc/bn128/bn128_curve.py`,
  `bn128_pairing.py` define, function for function, the same code as their `bls12_381` counterparts, so the
  translations `Gen.OptBn`, `Gen.RefBn` are the terms of `Gen.OptBls`, `Gen.RefBls` under other names.  Each
  equation below is checked against the files generated on this run (by `rfl`; by induction on the fuel for the
  recursive `multiplyAux`): if the two Python sources ever diverge, the equation for that function fails, and
  with it every bn128 statement derived through it.  Everything about the curve code is proved once, for the
  `Bls` names; the `Bn` statements are read off through these equations.
-/
import PyEcc.Gen.OptBls
import PyEcc.Gen.OptBn
import PyEcc.Gen.RefBls
import PyEcc.Gen.RefBn

namespace PyEcc.Gen

theorem OptBn.is_inf_eq : @OptBn.is_inf = @OptBls.is_inf := rfl
theorem OptBn.is_on_curve_eq : @OptBn.is_on_curve = @OptBls.is_on_curve := rfl
theorem OptBn.double_eq : @OptBn.double = @OptBls.double := rfl
theorem OptBn.add_eq : @OptBn.add = @OptBls.add := rfl
theorem OptBn.eq_eq : @OptBn.eq = @OptBls.eq := rfl
theorem OptBn.normalize_eq : @OptBn.normalize = @OptBls.normalize := rfl
theorem OptBn.neg_eq : @OptBn.neg = @OptBls.neg := rfl
theorem OptBn.normalize1_eq : @OptBn.normalize1 = @OptBls.normalize1 := rfl
theorem OptBn.linefunc_eq : @OptBn.linefunc = @OptBls.linefunc := rfl

theorem OptBn.multiplyAux_eq : @OptBn.multiplyAux = @OptBls.multiplyAux := by
  funext F _ _ _ _ _ _ fuel
  induction fuel with
  | zero => rfl
  | succ n ih => funext pt k; simp only [OptBn.multiplyAux, OptBls.multiplyAux, ih]; rfl

theorem OptBn.multiply_eq : @OptBn.multiply = @OptBls.multiply := by
  funext F _ _ _ _ _ _ pt n
  rw [OptBn.multiply, OptBls.multiply, OptBn.multiplyAux_eq]

theorem RefBn.is_inf_eq : @RefBn.is_inf = @RefBls.is_inf := rfl
theorem RefBn.is_on_curve_eq : @RefBn.is_on_curve = @RefBls.is_on_curve := rfl
theorem RefBn.double_eq : @RefBn.double = @RefBls.double := rfl
theorem RefBn.add_eq : @RefBn.add = @RefBls.add := rfl
theorem RefBn.neg_eq : @RefBn.neg = @RefBls.neg := rfl
theorem RefBn.linefunc_eq : @RefBn.linefunc = @RefBls.linefunc := rfl

theorem RefBn.multiplyAux_eq : @RefBn.multiplyAux = @RefBls.multiplyAux := by
  funext F _ _ _ _ _ _ _ _ _ fuel
  induction fuel with
  | zero => rfl
  | succ n ih => funext pt k; simp only [RefBn.multiplyAux, RefBls.multiplyAux, ih]; rfl

theorem RefBn.multiply_eq : @RefBn.multiply = @RefBls.multiply := by
  funext F _ _ _ _ _ _ _ _ _ pt n
  rw [RefBn.multiply, RefBls.multiply, RefBn.multiplyAux_eq]

end PyEcc.Gen
