/-
  The quotient `Fp[X]/(modulus)` of an irreducible modulus of degree `d`
  is a finite field with `p^d` elements; Fermat's little theorem in it; consequence for the final
  exponentiation `x ↦ x^((p^d − 1)/r)`: its values are `r`-th roots of unity.
-/
import Mathlib.FieldTheory.Finite.Basic
import Mathlib.RingTheory.AdjoinRoot
import Mathlib.LinearAlgebra.FiniteDimensional.Basic
import Mathlib.GroupTheory.OrderOfElement
import PyEcc.Sem.FqpQuot

namespace PyEcc.NondegSem
open Polynomial PyEcc PyEcc.Fqp PyEcc.FqpSem

section card
variable {p : ℕ} [Fact p.Prime] {mc : List Int} [Fact (Irreducible (modulus p mc))]

omit [Fact (Irreducible (modulus p mc))] in
theorem modulus_ne_zero' : modulus p mc ≠ 0 := (modulus_monic mc).ne_zero

instance finite_quot : Finite (AdjoinRoot (modulus p mc)) := by
  have : Module.Finite (ZMod p) (AdjoinRoot (modulus p mc)) :=
    (AdjoinRoot.powerBasis (modulus_ne_zero' (p := p) (mc := mc))).finite
  exact Module.finite_of_finite (ZMod p)

theorem card_quot : Nat.card (AdjoinRoot (modulus p mc)) = p ^ mc.length := by
  have : Module.Finite (ZMod p) (AdjoinRoot (modulus p mc)) :=
    (AdjoinRoot.powerBasis (modulus_ne_zero' (p := p) (mc := mc))).finite
  have : Fintype (AdjoinRoot (modulus p mc)) := Fintype.ofFinite _
  rw [Nat.card_eq_fintype_card,
    Module.card_eq_pow_finrank (K := ZMod p) (V := AdjoinRoot (modulus p mc)), ZMod.card,
    (AdjoinRoot.powerBasis (modulus_ne_zero' (p := p) (mc := mc))).finrank,
    AdjoinRoot.powerBasis_dim, natDegree_modulus]

theorem fermat_quot (x : AdjoinRoot (modulus p mc)) (hx : x ≠ 0) : x ^ (p ^ mc.length - 1) = 1 := by
  have : Fintype (AdjoinRoot (modulus p mc)) := Fintype.ofFinite _
  rw [← card_quot (p := p) (mc := mc), Nat.card_eq_fintype_card]
  exact FiniteField.pow_card_sub_one_eq_one x hx

theorem pow_card_quot {d : ℕ} (n : ℕ) (hd : d = mc.length * n) (x : AdjoinRoot (modulus p mc)) :
    x ^ (p ^ d) = x := by
  have : Fintype (AdjoinRoot (modulus p mc)) := Fintype.ofFinite _
  rw [hd, pow_mul, ← card_quot (p := p) (mc := mc), Nat.card_eq_fintype_card]
  exact FiniteField.pow_card_pow n x

theorem finalExp_pow_r (r : ℕ) (hr : (p ^ mc.length - 1) % r = 0) (x : AdjoinRoot (modulus p mc))
    (hx : x ≠ 0) : (x ^ ((p ^ mc.length - 1) / r)) ^ r = 1 := by
  rw [← pow_mul, Nat.div_mul_cancel (Nat.dvd_of_mod_eq_zero hr)]
  exact fermat_quot x hx

end card

end PyEcc.NondegSem
