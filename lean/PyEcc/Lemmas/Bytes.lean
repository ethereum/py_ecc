/-
  The model's `os2ip` (`int.from_bytes(x, "big")`), `toBytesBE` and `i2osp` (`x.to_bytes(n, "big")`): lengths, ranges and
  the two round trips. Core Lean only, so that every layer can import it.
-/
import PyEcc.Model.Basic

namespace PyEcc.BytesLem
open PyEcc

theorem os2ip_nil : os2ip [] = 0 := rfl

theorem os2ip_concat (l : Bytes) (b : UInt8) : os2ip (l ++ [b]) = os2ip l * 256 + b.toNat := by
  simp [os2ip, List.foldl_append]

theorem foldl_os2ip_acc (l : Bytes) (a : Nat) :
    l.foldl (fun acc b => acc * 256 + b.toNat) a = a * 256 ^ l.length + os2ip l := by
  induction l generalizing a with
  | nil => simp [os2ip]
  | cons x xs ih =>
    simp only [List.foldl_cons, List.length_cons, os2ip]
    rw [ih, ih (0 * 256 + x.toNat)]
    rw [Nat.pow_succ, Nat.add_mul, Nat.zero_mul, Nat.zero_add, Nat.add_assoc]
    congr 1
    rw [Nat.mul_assoc, Nat.mul_comm (256 ^ xs.length) 256]

theorem os2ip_append (a b : Bytes) : os2ip (a ++ b) = os2ip a * 256 ^ b.length + os2ip b := by
  unfold os2ip
  rw [List.foldl_append, foldl_os2ip_acc]
  rfl

theorem os2ip_cons (x : UInt8) (xs : Bytes) : os2ip (x :: xs) = x.toNat * 256 ^ xs.length + os2ip xs := by
  have := os2ip_append [x] xs
  simpa [os2ip] using this

@[simp] theorem toBytesBE_length (n x : Nat) : (toBytesBE n x).length = n := by
  induction n generalizing x with
  | zero => rfl
  | succ n ih => simp [toBytesBE, ih]

theorem uint8_ofNat_toNat_of_lt {k : Nat} (h : k < 256) : (UInt8.ofNat k).toNat = k := by
  simp [UInt8.toNat_ofNat']
  omega

theorem os2ip_lt (bs : Bytes) : os2ip bs < 256 ^ bs.length := by
  induction bs with
  | nil => simp [os2ip]
  | cons x xs ih =>
    rw [os2ip_cons, List.length_cons, Nat.pow_succ]
    have hx : x.toNat < 256 := x.toNat_lt
    have h1 : x.toNat * 256 ^ xs.length ≤ 255 * 256 ^ xs.length := Nat.mul_le_mul_right _ (by omega)
    have h2 : 256 ^ xs.length * 256 = 255 * 256 ^ xs.length + 256 ^ xs.length := by
      rw [Nat.mul_comm]; omega
    omega

theorem os2ip_toBytesBE_mod (n x : Nat) : os2ip (toBytesBE n x) = x % 256 ^ n := by
  induction n generalizing x with
  | zero => simp [toBytesBE, os2ip, Nat.mod_one]
  | succ n ih =>
    unfold toBytesBE
    rw [os2ip_concat, uint8_ofNat_toNat_of_lt (Nat.mod_lt _ (by decide)), ih]
    rw [Nat.pow_succ, Nat.mul_comm (256 ^ n) 256, Nat.mod_mul]
    omega

/-- `int.from_bytes(x.to_bytes(n, "big"), "big") == x` whenever `x` fits in `n` bytes -/
theorem os2ip_toBytesBE (n x : Nat) (h : x < 256 ^ n) : os2ip (toBytesBE n x) = x := by
  rw [os2ip_toBytesBE_mod, Nat.mod_eq_of_lt h]

theorem toBytesBE_concat (n x : Nat) (b : UInt8) :
    toBytesBE (n + 1) (x * 256 + b.toNat) = toBytesBE n x ++ [b] := by
  have hb : b.toNat < 256 := b.toNat_lt
  have h1 : (x * 256 + b.toNat) / 256 = x := by omega
  have h2 : (x * 256 + b.toNat) % 256 = b.toNat := by omega
  rw [toBytesBE, h1, h2]
  simp

/-- `int.from_bytes(bs, "big").to_bytes(n, "big") == bs` for an `n`-byte string -/
theorem toBytesBE_os2ip (n : Nat) (bs : Bytes) (h : bs.length = n) : toBytesBE n (os2ip bs) = bs := by
  induction n generalizing bs with
  | zero =>
    have : bs = [] := List.eq_nil_of_length_eq_zero h
    subst this; rfl
  | succ n ih =>
    have hne : bs ≠ [] := by intro e; subst e; simp at h
    have hsplit := List.dropLast_concat_getLast hne
    have hlen : bs.dropLast.length = n := by simp [h]
    rw [← hsplit, os2ip_concat, toBytesBE_concat, ih _ hlen]

theorem i2osp_ok {x n : Nat} (h : x < 256 ^ n) : i2osp x n = .ok (toBytesBE n x) := by
  simp [i2osp, h]

theorem i2osp_overflow {x n : Nat} (h : 256 ^ n ≤ x) : i2osp x n = .error .overflow := by
  simp [i2osp, Nat.not_lt.mpr h]

theorem i2osp_length {x n : Nat} {bs : Bytes} (h : i2osp x n = .ok bs) : bs.length = n := by
  unfold i2osp at h
  split at h
  · cases h; simp
  · cases h

theorem os2ip_i2osp {x n : Nat} {bs : Bytes} (h : i2osp x n = .ok bs) : os2ip bs = x := by
  unfold i2osp at h
  split at h
  · rename_i hx; cases h; exact os2ip_toBytesBE n x hx
  · cases h

theorem i2osp_os2ip (bs : Bytes) : i2osp (os2ip bs) bs.length = .ok bs := by
  rw [i2osp_ok (os2ip_lt bs), toBytesBE_os2ip _ bs rfl]

theorem os2ip_injective_of_length {a b : Bytes} (hl : a.length = b.length) (h : os2ip a = os2ip b) : a = b := by
  rw [← toBytesBE_os2ip _ a rfl, ← toBytesBE_os2ip _ b rfl, hl, h]

end PyEcc.BytesLem
