/-
  The 3-isogeny `iso_map_G2` of `optimized_swu.py` maps the curve
  `E2' : y² = x³ + 240i·x + 1012(1+i)` into `E2 : y² = x³ + 4(1+i)` over `Fp²` (projectively, every
  reduced input with `z ≠ 0`), and its output is a reduced triple.

  Same reflection proof as `Lemmas/IsoG1.lean`, with coefficients in the Gaussian integers
  `ℤ[i] = ℤ√(-1)` (kernel-computable), read in `K2 = Fp[X]/(X²+1)` through `Zsqrtd.lift` at the
  imaginary unit `i2`; the model's optimized `FQ2` objects are read in `K2` through
  `q = toQ` (`Sem/Fq2K2.lean`), a `GoodHom` on reduced elements.
-/
import PyEcc.Lemmas.IsoG1
import PyEcc.Lemmas.Swu2Field
import PyEcc.Sem.TransferFqp
import Mathlib.NumberTheory.Zsqrtd.Basic

namespace PyEcc.IsoSem
open PyEcc PyEcc.Fqp PyEcc.FqpSem PyEcc.Swu2 Gen.Consts

abbrev ZI : Type := ℤ√(-1)

/-- a coefficient pair `[a, b]` of the Python tables as the Gaussian integer `a + b·i` -/
def toZI (c : List ℤ) : ZI := ⟨getI c 0, getI c 1⟩

/-- the `i`-th coefficient list of `ISO_3_MAP_COEFFICIENTS`, as pairs -/
def c3 (i : ℕ) : List (List ℤ) := h2c_ISO_3_MAP_COEFFICIENTS.getD i []

/-- the same as Gaussian integers (`0`: x-numerator, `1`: x-denominator, `2`: y-numerator,
    `3`: y-denominator), constant term first -/
def iso3 (i : ℕ) : List ZI := (c3 i).map toZI

theorem coeffs3_eq : h2c_ISO_3_MAP_COEFFICIENTS = [c3 0, c3 1, c3 2, c3 3] := by decide +kernel

/-- all four lists have 4 entries (the x-denominator is padded with a zero leading coefficient), each a
    pair of reduced residues -/
theorem c3_facts : ∀ i < 4, (c3 i).length = 4 ∧ ∀ c ∈ c3 i, Canon (f2c c) ∧ c.length = 2 := by
  decide +kernel

/-- the coefficients of the curve polynomial `x³ + A'x + B'` of `E2'` -/
def g3 : List ZI := [toZI h2c_ISO_3_B, toZI h2c_ISO_3_A, 0, 1]

def zeroModP (c : ZI) : Bool := c.re % (blsP : ℤ) == 0 && c.im % (blsP : ℤ) == 0

/-- the kernel-checked polynomial identity: every coefficient of
    `g·yn²·xd³ − (xn³ + b·xd³)·yd²` (computed over `ℤ[i]`) is divisible by `p` -/
def check3 : Bool :=
  (pSub (pMul g3 (pMul (pPow (iso3 2) 2) (pPow (iso3 1) 3)))
        (pMul (pAdd (pPow (iso3 0) 3) (pSmul (toZI optimized_bls12_381_b2) (pPow (iso3 1) 3)))
          (pPow (iso3 3) 2))).all zeroModP

theorem check3_true : check3 = true := by decide +kernel

/-- `ℤ[i] → K2`, `a + b·i ↦ a + b·i2` -/
noncomputable def fG : ZI →+* K2 :=
  Zsqrtd.lift ⟨i2, by rw [← pow_two, i2_sq]; simp⟩

theorem fG_apply (c : ZI) : fG c = (c.re : K2) + (c.im : K2) * i2 := rfl

theorem intCast_eq_zero {x : ℤ} (h : x % (blsP : ℤ) = 0) : (x : K2) = 0 := by
  rw [← cast_emod, h, Int.cast_zero]

theorem fG_eq_zero {c : ZI} (h : zeroModP c = true) : fG c = 0 := by
  unfold zeroModP at h
  simp only [Bool.and_eq_true, beq_iff_eq] at h
  rw [fG_apply, intCast_eq_zero h.1, intCast_eq_zero h.2]; ring

theorem q_f2c_pair {c : List ℤ} (h : c.length = 2) : q (f2c c) = fG (toZI c) := by
  match c, h with
  | [a, b], _ => rw [f2c, q_pair, fG_apply]; rfl

theorem ev_g3 (w : K2) : ev fG g3 w = w ^ 3 + kA * w + kB := by
  have hA : fG (toZI h2c_ISO_3_A) = kA := (q_f2c_pair (c := h2c_ISO_3_A) rfl).symm.trans q_consts.1
  have hB : fG (toZI h2c_ISO_3_B) = kB := (q_f2c_pair (c := h2c_ISO_3_B) rfl).symm.trans q_consts.2.1
  simp only [g3, ev_cons, ev_nil, hA, hB, map_zero, map_one]
  ring

theorem q_blsB2 : q blsB2 = fG (toZI optimized_bls12_381_b2) :=
  q_f2c_pair (c := optimized_bls12_381_b2) rfl

theorem iso3_identity (w : K2) :
    (w ^ 3 + kA * w + kB) * ev fG (iso3 2) w ^ 2 * ev fG (iso3 1) w ^ 3 =
      (ev fG (iso3 0) w ^ 3 + q blsB2 * ev fG (iso3 1) w ^ 3) * ev fG (iso3 3) w ^ 2 := by
  rw [← ev_g3, q_blsB2]
  exact iso_identity_of_check fG _ (fun _ => fG_eq_zero) g3 _ _ _ _ _ check3_true w

/-- the four Horner values of `iso_map_G2(x, y, z)` -/
def h3 (i : ℕ) (x z : F2) : F2 := isoHorner ((c3 i).map f2c) x (zPowersOf z 3)

theorem isoMapG2_eq (x y z : F2) :
    isoMapG2 x y z =
      (h3 0 x z * (h3 3 x z * z), h3 1 x z * (h3 2 x z * y), h3 1 x z * (h3 3 x z * z)) := by
  unfold isoMapG2 h3
  rw [coeffs3_eq]
  simp only [List.map_cons, List.map_nil, List.getD_cons_zero, List.getD_cons_succ]

theorem h3_rq {i : ℕ} (hi : i < 4) {x z : F2} (hx : Canon x) (hz : Canon z) {w : K2}
    (hw : q x = w * q z) : Rq (h3 i x z) (q z ^ 3 * ev fG (iso3 i) w) := by
  obtain ⟨hlen, hc⟩ := c3_facts i hi
  have hl : ((c3 i).map f2c).length = 3 + 1 := by rw [List.length_map, hlen]
  have hmap : ((c3 i).map f2c).map q = (iso3 i).map fG := by
    rw [iso3, List.map_map, List.map_map]
    exact List.map_congr_left fun c hm => q_f2c_pair (hc c hm).2
  obtain ⟨hzg, hzm⟩ := zPowersOf_good goodHom_q z hz 3
  obtain ⟨g, e⟩ := isoHorner_good goodHom_q (List.ne_nil_of_length_eq_add_one hl)
    (List.forall_mem_map.mpr fun c hm => (hc c hm).1) hx hzg
  rw [hzm, hw, isoHorner_eq (by rw [List.length_map, hl]) w (q z) (le_refl 3), hmap, ev_map] at e
  exact ⟨g, e⟩

/-- `iso_map_G2(x, y, z)` for reduced `x, y, z` with `z ≠ 0`: the three outputs are reduced, and with
    `w = x/z` in `K2` their values are
    `X₃ = z⁷·xn(w)·yd(w)`, `Y₃ = z⁶·y·xd(w)·yn(w)`, `Z₃ = z⁷·xd(w)·yd(w)`. -/
theorem isoMapG2_shape {x y z : F2} (hx : Canon x) (hy : Canon y) (hz : Canon z) (hz0 : q z ≠ 0) :
    Transfer.CanonT (isoMapG2 x y z) ∧
    IsoShape (q y) (q z) (q z ^ 6) (ev fG (iso3 0) (q x / q z)) (ev fG (iso3 1) (q x / q z))
      (ev fG (iso3 2) (q x / q z)) (ev fG (iso3 3) (q x / q z)) (Transfer.mapT q (isoMapG2 x y z)) := by
  have hw : q x = (q x / q z) * q z := (div_mul_cancel₀ (q x) hz0).symm
  have r0 := h3_rq (i := 0) (by decide) hx hz hw
  have r1 := h3_rq (i := 1) (by decide) hx hz hw
  have r2 := h3_rq (i := 2) (by decide) hx hz hw
  have r3 := h3_rq (i := 3) (by decide) hx hz hw
  have rX := r0.mul (r3.mul (.of hz))
  have rY := r1.mul (r2.mul (.of hy))
  have rZ := r1.mul (r3.mul (.of hz))
  rw [isoMapG2_eq]
  exact ⟨⟨rX.1, rY.1, rZ.1⟩, by rw [Transfer.mapT_fst, rX.2]; ring, by rw [Transfer.mapT_snd_fst, rY.2]; ring,
    by rw [Transfer.mapT_snd_snd, rZ.2]; ring⟩

/-- **`iso_map_G2` lands on `E2`.**  For reduced `x, y, z` with `z ≠ 0` and `(x : y : z)` on `E2'`
    (values in `K2`), the output of `iso_map_G2` is a reduced triple and passes
    `is_on_curve(·, b2)`. -/
theorem isoMapG2_on_curve (x y z : F2) (hx : Canon x) (hy : Canon y) (hz : Canon z)
    (hz0 : q z ≠ 0) (h : (q y / q z) ^ 2 = (q x / q z) ^ 3 + kA * (q x / q z) + kB) :
    Transfer.CanonT (isoMapG2 x y z) ∧ Gen.OptBls.is_on_curve (isoMapG2 x y z) blsB2 = true := by
  obtain ⟨hc, s⟩ := isoMapG2_shape hx hy hz hz0
  refine ⟨hc, ?_⟩
  unfold Gen.OptBls.is_on_curve
  split
  · rfl
  · have rL := (((Rq.of hc.2.1).pow 2).mul (.of hc.2.2)).sub ((Rq.of hc.1).pow 3)
    have rR := (Rq.of Transfer.curveF2.good_b).mul ((Rq.of hc.2.2).pow 3)
    rw [decide_eq_true_eq, rL.eq_iff rR]
    exact s.on_curve hz0 (iso3_identity _) h

end PyEcc.IsoSem
