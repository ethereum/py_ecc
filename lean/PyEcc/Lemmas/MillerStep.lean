/-
  One iteration of the optimized BLS12-381 Miller loop against one iteration
  of the reference loop (the induction over the digit list is in `Lemmas/MillerPairing.lean`).

  Invariant (`Inv`): the optimized state `((f_num, f_den), R, twist_R)` and the reference state
  `(f, R_ref)` satisfy `f_den ≠ 0`, `f_num / f_den = f` (values in `K12`), `twist_R = twist(R)`, and
  `twist_R` represents `R_ref` (affine reading in `K12`); all coordinates stored reduced.  It is (`inv_iff`)
  `Acc (f_num, f_den) f` (closed under products; what the two `linefunc`s return is related by it as well,
  `TwRep.line`), `TwRep R R_ref` (preserved by `double` and `add`) and `twist_R = twist(R)`.
-/
import PyEcc.Lemmas.MillerTwist
import PyEcc.Lemmas.MillerLine
import PyEcc.Lemmas.RefMillerLoop

set_option linter.unusedSectionVars false
set_option linter.unusedVariables false

namespace PyEcc.MillerSem
open Polynomial PyEcc PyEcc.Gen PyEcc.Gen.Consts PyEcc.Fqp PyEcc.FqpSem PyEcc.Transfer PyEcc.C13
  PyEcc.C13.Bls PyEcc.NegSem
open PyEcc.TwistSem (goodHom_F12 canonT_twistOptBls)

section step
variable [DecidableEq K2] [DecidableEq K12]

/-- finite with `y ≠ 0` (model-level) -/
def Fin2 (R : T2) : Prop := R.2.2 ≠ 0 ∧ R.2.1 ≠ 0

instance (R : T2) : Decidable (Fin2 R) := by unfold Fin2; infer_instance

structure Inv (so : (OBls12 × OBls12) × T2 × T12) (sr : RBls12 × A12) : Prop where
  cNum : Canon so.1.1
  cDen : Canon so.1.2
  cR : CanonT so.2.1
  tw : so.2.2 = twistOptBls so.2.1
  cf : Canon sr.1
  cRr : GoodO Canon sr.2
  den : (toQ so.1.2 : K12) ≠ 0
  val : (toQ so.1.1 : K12) / toQ so.1.2 = toQ sr.1
  pt : toAff (twK (mapT toQ so.2.1)) = mapO toQ sr.2

/-- the loop-independent data: `Q`, its reference twist `Qr`, the cast of `P` in both forms -/
structure Ctx (Q : T2) (Qr : A12) (castP : T12) (Pr : A12) : Prop where
  cQ : CanonT Q
  Qz : Q.2.2 ≠ 0
  cQr : GoodO Canon Qr
  hQ : toAff (twK (mapT toQ Q)) = mapO toQ Qr
  cP : CanonT castP
  Pz : (toQ castP.2.2 : K12) ≠ 0
  cPr : GoodO Canon Pr
  hP : toAff (mapT toQ castP) = mapO toQ Pr

/-- the reduced pair `(num, den)` stands for the reduced reference value `f`: `den ≠ 0` and `num / den = f` in `K12`
    (the accumulators of the two loops; the results of the two `linefunc`s) -/
structure Acc (nd : OBls12 × OBls12) (f : RBls12) : Prop where
  cNum : Canon nd.1
  cDen : Canon nd.2
  cf : Canon f
  den : (toQ nd.2 : K12) ≠ 0
  val : (toQ nd.1 : K12) / toQ nd.2 = toQ f

theorem Acc.mul {a b : OBls12 × OBls12} {f g : RBls12} (ha : Acc a f) (hb : Acc b g) :
    Acc (a.1 * b.1, a.2 * b.2) (f * g) := by
  have hR := goodHom_F12 (v := .ref)
  obtain ⟨cN, cD, den, v⟩ := acc_mul goodHom_F12 ha.cNum ha.cDen hb.cNum hb.cDen ha.den hb.den hb.val
  exact ⟨cN, cD, hR.good_mul ha.cf hb.cf, den, by rw [v, ha.val, hR.map_mul ha.cf hb.cf]⟩

/-- the reduced triple `X` over `FQ2`, twisted, is the good reference point `Xr` over `FQ12` (the running points of the
    two loops; `Q` and its reference twist) -/
structure TwRep (X : T2) (Xr : A12) : Prop where
  c : CanonT X
  g : Transfer.GoodO Canon Xr
  pt : toAff (twK (mapT toQ X)) = Transfer.mapO toQ Xr

theorem inv_iff {nd : OBls12 × OBls12} {R : T2} {tR : T12} {f : RBls12} {Rr : A12} :
    Inv (nd, R, tR) (f, Rr) ↔ Acc nd f ∧ TwRep R Rr ∧ tR = twistOptBls R :=
  ⟨fun h => ⟨⟨h.cNum, h.cDen, h.cf, h.den, h.val⟩, ⟨h.cR, goodO_iff.mp h.cRr, h.pt⟩, h.tw⟩,
    fun ⟨a, r, t⟩ => ⟨a.cNum, a.cDen, r.c, t, a.cf, goodO_iff.mpr r.g, a.den, a.val, r.pt⟩⟩

theorem Ctx.rep {Q : T2} {Qr : A12} {castP : T12} {Pr : A12} (ctx : Ctx Q Qr castP Pr) : TwRep Q Qr :=
  ⟨ctx.cQ, goodO_iff.mp ctx.cQr, ctx.hQ⟩

theorem toQ2_ne_zero {a : OBls2} (ca : Canon a) (h : a ≠ 0) : (toQ a : K2) ≠ 0 :=
  fun e => h (((goodHom_F2 (v := .opt)).eq_zero_iff ca).mp e)

theorem twist_ne_zero {X : T2} (c : CanonT X) :
    (X.2.2 ≠ 0 → (toQ (twistOptBls X : T12).2.2 : K12) ≠ 0)
      ∧ (X.2.1 ≠ 0 → (toQ (twistOptBls X : T12).2.1 : K12) ≠ 0) := by
  have e := toQ_twistOptBls c
  refine ⟨fun h => ?_, fun h => ?_⟩
  · rw [show (toQ (twistOptBls X : T12).2.2 : K12) = (twK (mapT toQ X)).2.2 from e ▸ rfl, ne_eq, twK_z_eq_zero]
    exact toQ2_ne_zero c.2.2 h
  · rw [show (toQ (twistOptBls X : T12).2.1 : K12) = (twK (mapT toQ X)).2.1 from e ▸ rfl, ne_eq, twK_y_eq_zero]
    exact toQ2_ne_zero c.2.1 h

section twrep
variable {X Y : T2} {Xr Yr : A12}

theorem TwRep.double (r : TwRep X Xr) : TwRep (OptBls.double X) (RefBls.double Xr) := by
  obtain ⟨cD, eD⟩ := Transfer.Bls.good_double (B := K2) (goodHom_F2 (v := .opt)) r.c
  obtain ⟨gD, eDr⟩ := BlsRef.good_double (goodHom_F12 (v := .ref)) r.g
  exact ⟨cD, gD, by rw [eD, toAff_twK_double, r.pt, eDr]⟩

theorem TwRep.add (rX : TwRep X Xr) (rY : TwRep Y Yr) :
    ∃ Zr, RefBls.add Xr Yr = .ok Zr ∧ TwRep (OptBls.add X Y) Zr := by
  obtain ⟨cA, eA⟩ := Transfer.Bls.good_add (B := K2) (goodHom_F2 (v := .opt)) rX.c rY.c
  obtain ⟨gA, eAr⟩ := BlsRef.good_add (goodHom_F12 (v := .ref)) rX.g rY.g
  rw [← rX.pt, ← rY.pt, ref_add_toAff_twK, ← eA] at eAr
  obtain ⟨Zr, hA, gZ, eZ⟩ := exists_ok_of_mapE gA eAr
  exact ⟨Zr, hA, cA, gZ, eZ⟩

theorem TwRep.line {Q : T2} {Qr : A12} {castP : T12} {Pr : A12} (rX : TwRep X Xr) (rY : TwRep Y Yr)
    (ctx : Ctx Q Qr castP Pr) (hX : Fin2 X) (hY : Y.2.2 ≠ 0) :
    ∃ l, RefBls.linefunc Xr Yr Pr = .ok l ∧ Acc (OptBls.linefunc (twistOptBls X) (twistOptBls Y) castP) l := by
  have hO := goodHom_F12 (v := .opt)
  have cX : CanonT (twistOptBls X : T12) := canonT_twistOptBls X
  have cY : CanonT (twistOptBls Y : T12) := canonT_twistOptBls Y
  have eX := toQ_twistOptBls rX.c
  have eY := toQ_twistOptBls rY.c
  have zX := (twist_ne_zero rX.c).1 hX.1
  have zY := (twist_ne_zero rY.c).1 hY
  have hd := line_den_ne_zero hO cX cY ctx.cP zX zY ctx.Pz k12_two_ne_zero fun _ => (twist_ne_zero rX.c).2 hX.2
  obtain ⟨l, hl, cl, cn, cd, lv⟩ := line_agree hO (goodHom_F12 (v := .ref)) cX cY ctx.cP zX zY ctx.Pz
    rX.g rY.g (goodO_iff.mp ctx.cPr) (eX ▸ rX.pt) (eY ▸ rY.pt) ctx.hP hd
  exact ⟨l, hl, cn, cd, cl, hd, lv.symm⟩

end twrep

/-- **One iteration.**  If the invariant holds, `R` is finite with `y ≠ 0` and — when the digit is 1 —
    so is `double(R)`, then the reference iteration returns normally and the invariant holds again. -/
theorem step_inv {Q : T2} {Qr : A12} {castP : T12} {Pr : A12} (ctx : Ctx Q Qr castP Pr)
    (ate i : Nat) {so : (OBls12 × OBls12) × T2 × T12} {sr : RBls12 × A12} (inv : Inv so sr)
    (h1 : Fin2 so.2.1) (h2 : bitSet ate i = true → Fin2 (OptBls.double so.2.1)) :
    ∃ sr', refMillerStep refBlsOps ate Qr Pr sr i = .ok sr' ∧
      Inv (optBlsStep castP (twistOptBls Q) Q so (digitAt ate i)) sr' := by
  obtain ⟨⟨fN, fD⟩, R, tR⟩ := so
  obtain ⟨f, Rr⟩ := sr
  obtain ⟨a0, rR, rfl⟩ := inv_iff.mp inv
  have rD := rR.double
  -- both sides square the accumulator and multiply by the tangent line at `R`
  obtain ⟨l, hl, al⟩ := rR.line rR ctx h1 h1.1
  have acc := (a0.mul a0).mul al
  rw [refMillerStep_eq_stepG (ops := refBlsOps) rfl, optBlsStep_eq_G, optBlsStepG_eq, digitAt]
  cases hb : bitSet ate i
  · rw [if_neg Bool.false_ne_true, if_neg (by decide)]
    exact ⟨_, stepG_eq_ok.mpr ⟨l, hl, .inl ⟨hb, rfl⟩⟩, inv_iff.mpr ⟨acc, rD, rfl⟩⟩
  · -- digit 1: the chord through `double(R)` and `Q`, then `add`
    obtain ⟨l2, hl2, al2⟩ := rD.line ctx.rep ctx (h2 hb) ctx.Qz
    obtain ⟨R2, hA, rA⟩ := rD.add ctx.rep
    rw [if_pos rfl, if_pos rfl]
    exact ⟨_, stepG_eq_ok.mpr ⟨l, hl, .inr ⟨hb, l2, R2, hl2, hA, rfl⟩⟩, inv_iff.mpr ⟨acc.mul al2, rA, rfl⟩⟩

end step

end PyEcc.MillerSem
