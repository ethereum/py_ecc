/-
  Miller's algorithm over a field: a double-and-add loop that multiplies the line values into an accumulator computes
  a Miller value in the sense of `Lemmas/MillerBnIdeal.lean` (`MV`).  `T` is a point of odd prime order `r` of
  `E : y² = x³ + b` over a field `K`, `P = (xP, yP)` the point of `E` the lines are evaluated at, and every vertical
  value `v_{jT}(P)` is killed by the exponent `E` (`Ctx`; for bn128 discharged in `Lemmas/MillerBnVert.lean`: verticals
  lie in `Fp⁶`).

  The reference `linefunc` (`Gen.RefBls.linefunc`; `Gen.RefBn.linefunc` is the same function) returns the line value
  `ℓ_{A,B}(P)` of `Lemmas/MillerBnIdeal.lean` (`ref_linefunc_lineVal`); a digit table (digits `1, 0, −1`) has a running
  scalar (`optScalar`), with `0 < k`, `2k + 1 < r` before every iteration (`OptBound`: decidable, checked on the module
  constants); the reference loop `NegSem.loopG` (binary digits, state `(f, R)`) keeps `RInv k`: `R` is the representation
  of `k·T` and `f` is a Miller value for `k`.  The optimized loop is in `Lemmas/MillerBnOpt.lean`.  The loops over the
  model's coordinate types are carried to `K` by `NegBnSem.millerG_good`, `MillerBnSem.optBnMiller_good`.
-/
import PyEcc.Lemmas.MillerBnIdeal
import PyEcc.Lemmas.RefMillerLoop
import PyEcc.Props.C07_Bls
import PyEcc.Lemmas.BlsAbstract

namespace PyEcc.MillerBnSem
open PyEcc PyEcc.Gen PyEcc.MillerSem PyEcc.NegSem WeierstrassCurve WeierstrassCurve.Affine

section line
variable {F : Type} [Field F] [DecidableEq F] {b : F} {xP yP : F} (hP : (W b).Equation xP yP)

theorem ref_linefunc_lineVal {A B : (W b).Point} (hA : A ≠ 0) (hB : B ≠ 0) (hAB : A + B ≠ 0) :
    RefBls.linefunc (reprRef A) (reprRef B) (some (xP, yP)) = .ok (lineVal hP A B) := by
  rcases A with _ | ⟨x₁, y₁, h₁⟩
  · exact absurd rfl hA
  rcases B with _ | ⟨x₂, y₂, h₂⟩
  · exact absurd rfl hB
  have hxy : ¬(x₁ = x₂ ∧ y₁ = (W b).negY x₂ y₂) := fun h => hAB (Point.add_of_Y_eq h.1 h.2)
  rw [lineVal_some]
  simp only [reprRef_some, RefBls.linefunc, reduceCtorEq, or_self, if_false]
  by_cases hx : x₁ = x₂
  · have hy : y₁ ≠ (W b).negY x₂ y₂ := fun h => hxy ⟨hx, h⟩
    have hyy : y₁ = y₂ := Y_eq_of_Y_ne h₁.1 h₂.1 hx hy
    rw [slope_of_Y_ne hx hy]
    simp only [hx, hyy, ne_eq, not_true_eq_false, if_false, if_true]
    congr 2
    have hn : ∀ x y : F, (W b).negY x y = -y := CurveSem.negY_W b
    rw [hn]
    simp only [W, Nat.cast_ofNat]
    congr 1
    ring
  · rw [slope_of_X_ne hx]
    simp only [ne_eq, hx, not_false_eq_true, if_true]
    congr 2
    rw [← neg_sub y₂ y₁, ← neg_sub x₂ x₁, neg_div_neg_eq]

end line

/-- scalar after one iteration with digit `v` -/
def optNext (k : ℕ) (v : Int) : ℕ := if v = 1 then 2 * k + 1 else if v = -1 then 2 * k - 1 else 2 * k

/-- scalar reached from `k` along a digit list -/
def optScalar : ℕ → List Int → ℕ
  | k, [] => k
  | k, v :: ds => optScalar (optNext k v) ds

/-- the running scalar stays in `(0, (r−1)/2)` before every iteration -/
def OptBound (r : ℕ) : ℕ → List Int → Prop
  | _, [] => True
  | k, v :: ds => 0 < k ∧ 2 * k + 1 < r ∧ OptBound r (optNext k v) ds

instance (r : ℕ) : ∀ (k : ℕ) (ds : List Int), Decidable (OptBound r k ds)
  | _, [] => by unfold OptBound; infer_instance
  | k, v :: ds => by
    unfold OptBound
    have := instDecidableOptBound r (optNext k v) ds
    infer_instance

theorem optNext_digitAt (ate k i : ℕ) :
    optNext k (digitAt ate i) = if bitSet ate i then 2 * k + 1 else 2 * k := by
  unfold optNext digitAt
  cases bitSet ate i <;> simp

variable {K : Type} [Field K] [DecidableEq K] {b : K} {r E : ℕ}

/-- `T` has odd prime order `r` on `E(K)`, `P = (xP, yP)` is on `E`, vertical values are killed by `E` -/
structure Ctx (r E : ℕ) (T : CurvePt b) (xP yP : K) : Prop where
  two : (2 : K) ≠ 0
  prime : r.Prime
  odd : r % 2 = 1
  hP : (W b).Equation xP yP
  T0 : T ≠ 0
  ord : r • T = 0
  vert : ∀ j : ℕ, j • T ≠ 0 → vertVal hP (j • T) ^ E = 1

section ctx
variable {T : CurvePt b} {xP yP : K} (c : Ctx r E T xP yP)
include c

theorem Ctx.ne_zero {j : ℕ} (h0 : 0 < j) (hj : j < r) : j • T ≠ 0 :=
  BlsAbs.nsmul_ne_zero_of_lt c.prime h0 hj c.ord c.T0

/-- no multiple of `T` other than ∞ is 2-torsion (`r` is odd) -/
theorem Ctx.no2 {j : ℕ} (h : j • T ≠ 0) : j • T + j • T ≠ 0 := by
  intro e
  apply h
  have e2 : 2 • (j • T) = 0 := by rw [two_nsmul]; exact e
  have er : r • (j • T) = 0 := by rw [smul_comm, c.ord, smul_zero]
  rw [← Nat.div_add_mod r 2, c.odd, add_nsmul, mul_nsmul, e2, smul_zero, zero_add, one_nsmul] at er
  exact er

theorem Ctx.vertT : vertVal c.hP T ^ E = 1 := by
  have := c.vert 1 (by rw [one_nsmul]; exact c.T0)
  rwa [one_nsmul] at this

/-- the points met in one iteration from `k·T`, `0 < k`, `2k + 1 < r`, are finite -/
theorem Ctx.finite {k : ℕ} (k0 : 0 < k) (kb : 2 * k + 1 < r) :
    k • T ≠ 0 ∧ k • T + k • T ≠ 0 ∧ (2 * k) • T ≠ 0 ∧ (2 * k) • T + T ≠ 0 ∧ (2 * k + 1) • T ≠ 0 := by
  have h2k : (2 * k) • T ≠ 0 := c.ne_zero (by omega) (by omega)
  have h2k1 : (2 * k + 1) • T ≠ 0 := c.ne_zero (by omega) kb
  refine ⟨c.ne_zero k0 (by omega), ?_, h2k, ?_, h2k1⟩
  · rwa [two_mul, add_nsmul] at h2k
  · rwa [succ_nsmul] at h2k1

end ctx

structure RInv {T : CurvePt b} {xP yP : K} (c : Ctx r E T xP yP) (k : ℕ) (s : K × Option (K × K)) : Prop where
  rR : s.2 = reprRef (k • T)
  mv : MV c.hP E T k s.1

section ref
variable {T : CurvePt b} {xP yP : K} (c : Ctx r E T xP yP)
include c

theorem ref_step (ate i : ℕ) {k : ℕ} {s : K × Option (K × K)} (inv : RInv c k s) (k0 : 0 < k)
    (kb : 2 * k + 1 < r) :
    ∃ s', stepG ate (reprRef T) (some (xP, yP)) s i = .ok s' ∧ RInv c (optNext k (digitAt ate i)) s' := by
  obtain ⟨f, R⟩ := s
  obtain ⟨rR, mv⟩ := inv
  obtain rfl : R = reprRef (k • T) := rR
  obtain ⟨hk, hkk, h2k, h2kT, h2k1⟩ := c.finite k0 kb
  have e2k : (2 * k) • T = k • T + k • T := by rw [two_mul, add_nsmul]
  have mv2 := mv.double c.hP E hk h2k (c.vert _ h2k)
  rw [stepG, optNext_digitAt]
  simp only
  rw [ref_linefunc_lineVal c.hP hk hk hkk, ok_bind, C07.Bls.ref_double_refines c.two, ← e2k]
  cases bitSet ate i
  · exact ⟨_, rfl, rfl, mv2⟩
  · rw [if_pos rfl, if_pos rfl, ref_linefunc_lineVal c.hP h2k c.T0 h2kT, ok_bind,
      C07.Bls.ref_add_refines c.two, ok_bind, ← succ_nsmul]
    exact ⟨_, rfl, rfl, mv2.add c.hP E c.T0 h2k h2k1 (c.vert _ h2k1)⟩

theorem ref_loop (ate : ℕ) : ∀ (is : List ℕ) (k : ℕ) (s : K × Option (K × K)), RInv c k s →
    OptBound r k (is.map (digitAt ate)) →
    ∃ s', loopG ate is (reprRef T) (some (xP, yP)) s = .ok s'
      ∧ RInv c (optScalar k (is.map (digitAt ate))) s'
  | [], k, s, inv, _ => ⟨s, rfl, inv⟩
  | i :: is, k, s, inv, hb => by
    obtain ⟨k0, kb, hb'⟩ := hb
    obtain ⟨s1, e1, inv1⟩ := ref_step c ate i inv k0 kb
    obtain ⟨s', e2, inv2⟩ := ref_loop ate is _ s1 inv1 hb'
    exact ⟨s', by rw [loopG_cons, e1]; exact e2, inv2⟩

end ref

end PyEcc.MillerBnSem
