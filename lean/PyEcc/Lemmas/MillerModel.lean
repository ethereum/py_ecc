/-
  The pairing functions of `Model/Pairing.lean` in unfolded form: the four `pairing` functions as guarded
  expressions (`ValueError` for an off-curve argument, then the Miller loop); the bodies of the loops, the tails of the
  bn128 loops and the optimized `miller_loop`s with their callees and coordinate types as parameters; the arithmetic
  of the two final exponents (`FinalExp`).
-/
import PyEcc.Model.Pairing
import PyEcc.Lemmas.Control
import Mathlib.Tactic.SplitIfs

namespace PyEcc
open Gen.Consts

/-- What the proofs use of a final exponent `E = (p¹² − 1)/r`, `r'` being the optimized module's copy of `r`:
    arithmetic of constants, evaluated once per curve (`finalExp_bls`, `finalExp_bn`). -/
structure FinalExp (p r r' E : Nat) : Prop where
  /-- both modules raise to the same power -/
  opt_eq : (p ^ 12 - 1) / r' = E
  r_eq : r' = r
  dvd : (p ^ 12 - 1) % r = 0
  ne_zero : E ≠ 0
  /-- `(p⁶ − 1) ∣ E`, because `r ∤ p⁶ − 1`: the final exponentiation kills the non-zero elements of `Fp⁶` -/
  split : E = (p ^ 6 - 1) * ((p ^ 6 + 1) / r)
  four_dvd : 4 ∣ E
  /-- `p⁶ − 1 = (p² − 1)(p⁴ + p² + 1)` with `3 ∣ p⁴ + p² + 1`: what puts `w²` into `Fp⁶` -/
  split6 : 2 * (p ^ 6 - 1) = 6 * ((p ^ 2 - 1) * ((p ^ 4 + p ^ 2 + 1) / 3))

theorem FinalExp.two_dvd {p r r' E : Nat} (h : FinalExp p r r' E) : 2 ∣ E := Nat.dvd_trans ⟨2, rfl⟩ h.four_dvd

theorem FinalExp.opt_split {p r r' E : Nat} (h : FinalExp p r r' E) :
    (p ^ 12 - 1) / r' = (p ^ 6 - 1) * ((p ^ 6 + 1) / r') := by
  rw [h.opt_eq, h.split, h.r_eq]

theorem finalExp_bls : FinalExp blsP bls12_381_curve_order optimized_bls12_381_curve_order blsFinalExp :=
  ⟨by decide +kernel, by decide +kernel, by decide +kernel, by decide +kernel, by decide +kernel, by decide +kernel,
    by decide +kernel⟩

theorem finalExp_bn : FinalExp bnP bn128_curve_order optimized_bn128_curve_order bnFinalExp :=
  ⟨by decide +kernel, by decide +kernel, by decide +kernel, by decide +kernel, by decide +kernel, by decide +kernel,
    by decide +kernel⟩

end PyEcc

namespace PyEcc.MillerSem
open PyEcc PyEcc.Gen.Consts

/-- the two `is_on_curve` guards of every `pairing` function: `ValueError` unless both pass, then `k` -/
def guard2 {α : Type} (gQ gP : Bool) (k : Except PyErr α) : Except PyErr α :=
  if gQ = false then .error .value else if gP = false then .error .value else k

theorem guard2_true {α : Type} (k : Except PyErr α) : guard2 true true k = k := rfl

theorem guard2_offcurve {α : Type} {gQ gP : Bool} (k : Except PyErr α) (h : gQ = false ∨ gP = false) :
    guard2 gQ gP k = .error .value := by
  cases gQ
  · rfl
  · cases gP
    · rfl
    · simp at h

theorem guard2_ok {α : Type} {gQ gP : Bool} {k : Except PyErr α} {v : α} (h : guard2 gQ gP k = .ok v) :
    gQ = true ∧ gP = true ∧ k = .ok v := by
  cases gQ
  · cases h
  · cases gP
    · cases h
    · exact ⟨rfl, rfl, h⟩

theorem guard2_error_iff {α : Type} {gQ gP : Bool} {k : Except PyErr α} (hk : ∀ e, k ≠ .error e)
    (e : PyErr) : guard2 gQ gP k = .error e ↔ (gQ = false ∨ gP = false) ∧ e = .value := by
  cases gQ
  · exact ⟨fun h => ⟨Or.inl rfl, (Except.error.inj h).symm⟩, fun h => h.2 ▸ rfl⟩
  · cases gP
    · exact ⟨fun h => ⟨Or.inr rfl, (Except.error.inj h).symm⟩, fun h => h.2 ▸ rfl⟩
    · exact ⟨fun h => absurd h (hk e), fun h => by simp at h⟩

/-- the value of a guarded expression that is `one` at ∞ (`z`) and `m` otherwise -/
theorem guard2_ite_ok {α : Type} [One α] {gQ gP : Bool} {z : Prop} [Decidable z] {m f : α}
    (h : guard2 gQ gP (if z then .ok 1 else .ok m) = .ok f) : f = 1 ∨ f = m := by
  have h := (guard2_ok h).2.2
  split at h
  · exact .inl (Except.ok.inj h).symm
  · exact .inr (Except.ok.inj h).symm

theorem ite_ok_ne_error {α : Type} {c : Prop} [Decidable c] (a b : α) (e : PyErr) :
    (if c then Except.ok a else .ok b : Except PyErr α) ≠ .error e := by
  split <;> nofun

theorem guard2_map {α β : Type} (f : α → β) (gQ gP : Bool) (k : Except PyErr α) :
    (guard2 gQ gP k).map f = guard2 gQ gP (k.map f) := by
  cases gQ
  · rfl
  · cases gP <;> rfl

theorem guard2_ite_pow {α : Type} [One α] [Pow α Nat] (gQ gP : Bool) {z : Prop} [Decidable z] (m : α) {e : Nat}
    (h1 : (1 : α) ^ e = 1) :
    guard2 gQ gP (if z then .ok 1 else .ok (m ^ e)) = (guard2 gQ gP (if z then .ok 1 else .ok m)).map (· ^ e) := by
  rw [guard2_map]
  refine congrArg (guard2 gQ gP) ?_
  split
  · exact congrArg Except.ok h1.symm
  · rfl

theorem guard2_congr {α : Type} {gQ gP : Bool} {k k' : Except PyErr α}
    (h : gQ = true → gP = true → k = k') : guard2 gQ gP k = guard2 gQ gP k' := by
  cases gQ
  · rfl
  · cases gP
    · rfl
    · exact h rfl rfl

/-- An optimized `pairing` (guards, `one` for a point at infinity `z`, else the Miller value `m`) and a
    reference `pairing` (the same guards, then `L`) have the same outcome through the readings `co`, `cr`
    if `L` returns `one` at infinity and a value read like `m` otherwise. -/
theorem guards_agree {α β γ : Type} (co : α → γ) (cr : β → γ) {gQ gP : Bool} {z : Prop} [Decidable z]
    {o m : α} {o' : β} {L : Except PyErr β} (h1 : co o = cr o') (hz : z → L = .ok o')
    (hm : gQ = true → gP = true → ¬ z → ∃ fr, L = .ok fr ∧ co m = cr fr) :
    (guard2 gQ gP (if z then .ok o else .ok m)).map co = (guard2 gQ gP L).map cr := by
  rw [guard2_map, guard2_map]
  refine guard2_congr fun hQ hP => ?_
  by_cases h : z
  · rw [if_pos h, hz h, map_ok, map_ok, h1]
  · obtain ⟨fr, e, hc⟩ := hm hQ hP h
    rw [if_neg h, e, map_ok, map_ok, hc]

/-- digit read by the reference loop at index `i` -/
def digitAt (ate i : Nat) : Int := if bitSet ate i then 1 else 0

section ref
variable {p : Nat} {mc12 : List Int} (ops : RefOps p mc12) (ate logAte E : Nat)

theorem refMillerStep_eq (Q P : Option (Fqp .ref p mc12 × Fqp .ref p mc12)) (f : Fqp .ref p mc12)
    (R : Option (Fqp .ref p mc12 × Fqp .ref p mc12)) (i : Nat) :
    refMillerStep ops ate Q P (f, R) i =
      (ops.linefunc R R P >>= fun l =>
        if bitSet ate i then
          ops.linefunc (ops.double R) Q P >>= fun l2 =>
            ops.add (ops.double R) Q >>= fun R2 => pure (f * f * l * l2, R2)
        else pure (f * f * l, ops.double R)) := rfl

theorem refMillerLoop_some (q pp : Fqp .ref p mc12 × Fqp .ref p mc12) :
    refMillerLoop ops ate logAte false E (some q) (some pp) =
      ((downTo logAte).foldlM (refMillerStep ops ate (some q) (some pp)) ((1 : Fqp .ref p mc12), some q)
        >>= fun s => pure (s.1 ^ E)) := rfl

/-- the Frobenius steps and the final power of the reference bn128 `miller_loop`, with `linefunc`, `add` and the
    coordinate type as parameters -/
def refTailG {A : Type} [Mul A] [Neg A] [Pow A Nat]
    (lf : Option (A × A) → Option (A × A) → Option (A × A) → Except PyErr A)
    (add : Option (A × A) → Option (A × A) → Except PyErr (Option (A × A))) (p E : Nat) (qx qy : A)
    (P : Option (A × A)) (s : A × Option (A × A)) : Except PyErr A :=
  lf s.2 (some (qx ^ p, qy ^ p)) P >>= fun l1 =>
  add s.2 (some (qx ^ p, qy ^ p)) >>= fun R =>
  lf R (some ((qx ^ p) ^ p, -((qy ^ p) ^ p))) P >>= fun l2 =>
  pure ((s.1 * l1 * l2) ^ E)

theorem refMillerLoop_none_left (fr : Bool) (P : Option (Fqp .ref p mc12 × Fqp .ref p mc12)) :
    refMillerLoop ops ate logAte fr E none P = .ok 1 := rfl

theorem refMillerLoop_none_right (fr : Bool) (Q : Option (Fqp .ref p mc12 × Fqp .ref p mc12)) :
    refMillerLoop ops ate logAte fr E Q none = .ok 1 := by
  cases Q <;> rfl

end ref

/-! ### the optimized loop bodies with their callees (and coordinate types) as parameters

With `linefunc` a variable, `match linefunc … with | (n, d) => …` reduces by structure eta without the
checker trying to evaluate curve arithmetic; the model's loop bodies are these at the generated functions. -/

section optBls
variable {T2 T12 F12 : Type} [Mul F12] (lf : T12 → T12 → T12 → F12 × F12) (dbl : T2 → T2)
  (add : T2 → T2 → T2) (tw : T2 → T12)

/-- the body of the optimized bls12_381 loop with its callees as parameters -/
def optBlsStepG (castP twistQ : T12) (Q : T2) (st : (F12 × F12) × T2 × T12) (v : Int) : (F12 × F12) × T2 × T12 :=
  let ((fNum, fDen), R, twistR) := st
  let (n, d) := lf twistR twistR castP
  let fNum := fNum * fNum * n
  let fDen := fDen * fDen * d
  let R := dbl R
  let twistR : T12 := tw R
  if v = 1 then
    let (n, d) := lf twistR twistQ castP
    let R := add R Q
    ((fNum * n, fDen * d), R, tw R)
  else ((fNum, fDen), R, twistR)

theorem optBlsStepG_eq (castP twistQ : T12) (Q : T2) (fN fD : F12) (R : T2) (tR : T12) (v : Int) :
    optBlsStepG lf dbl add tw castP twistQ Q ((fN, fD), R, tR) v =
      if v = 1 then
        ((fN * fN * (lf tR tR castP).1 * (lf (tw (dbl R)) twistQ castP).1,
          fD * fD * (lf tR tR castP).2 * (lf (tw (dbl R)) twistQ castP).2),
          add (dbl R) Q, tw (add (dbl R) Q))
      else ((fN * fN * (lf tR tR castP).1, fD * fD * (lf tR tR castP).2), dbl R, tw (dbl R)) := by
  unfold optBlsStepG
  split_ifs <;> rfl

end optBls

/-- reference bls12_381 affine points over `FQ12` (`none` = ∞) -/
abbrev A12 : Type := Option (RBls12 × RBls12)

/-- reference `cast_point_to_fq12` (the `P.map …` of `pairingRefBls`) -/
def castRef (p : Option (Fq blsP × Fq blsP)) : A12 := p.map fun (x, y) => (castFq12 x, castFq12 y)

theorem castRef_some (x y : Fq blsP) : castRef (some (x, y)) = some (castFq12 x, castFq12 y) := rfl

theorem pairingRefBls_eq (Q : Option (RBls2 × RBls2)) (P : Option (Fq blsP × Fq blsP)) :
    pairingRefBls Q P =
      if Gen.RefBls.is_on_curve Q (⟨bls12_381_b2⟩ : RBls2) = false then .error .value
      else if Gen.RefBls.is_on_curve P (Fq.ofInt bls12_381_b : Fq blsP) = false then .error .value
      else refMillerLoop refBlsOps bls12_381_ate_loop_count bls12_381_log_ate_loop_count false
        blsFinalExp (twistRefBls Q) (castRef P) := by
  unfold pairingRefBls
  cases hQ : Gen.RefBls.is_on_curve Q (⟨bls12_381_b2⟩ : RBls2)
  · rfl
  cases hP : Gen.RefBls.is_on_curve P (Fq.ofInt bls12_381_b : Fq blsP)
  · rfl
  rfl

end PyEcc.MillerSem

namespace PyEcc.MillerBnSem
open PyEcc PyEcc.Gen.Consts

section optBn
variable {T12 F12 : Type} [Mul F12] (lf : T12 → T12 → T12 → F12 × F12) (dbl neg : T12 → T12)
  (add : T12 → T12 → T12)

/-- the body of the optimized bn128 loop with its callees as parameters -/
def optBnStepG (Q P : T12) (st : (F12 × F12) × T12) (v : Int) : (F12 × F12) × T12 :=
  let ((fNum, fDen), R) := st
  let (n, d) := lf R R P
  let fNum := fNum * fNum * n
  let fDen := fDen * fDen * d
  let R := dbl R
  if v = 1 then
    let (n, d) := lf R Q P
    ((fNum * n, fDen * d), add R Q)
  else if v = -1 then
    let nQ := neg Q
    let (n, d) := lf R nQ P
    ((fNum * n, fDen * d), add R nQ)
  else ((fNum, fDen), R)

theorem optBnStepG_eq (Q P : T12) (fN fD : F12) (R : T12) (v : Int) :
    optBnStepG lf dbl neg add Q P ((fN, fD), R) v =
      if v = 1 then
        ((fN * fN * (lf R R P).1 * (lf (dbl R) Q P).1, fD * fD * (lf R R P).2 * (lf (dbl R) Q P).2),
          add (dbl R) Q)
      else if v = -1 then
        ((fN * fN * (lf R R P).1 * (lf (dbl R) (neg Q) P).1,
          fD * fD * (lf R R P).2 * (lf (dbl R) (neg Q) P).2), add (dbl R) (neg Q))
      else ((fN * fN * (lf R R P).1, fD * fD * (lf R R P).2), dbl R) := by
  unfold optBnStepG
  split_ifs <;> rfl

/-- the two Frobenius line steps at `QQ = (Q1, nQ2)`: the pair `(f_num·n1·n2, f_den·d1·d2)` -/
def optBnTailPairG (QQ : T12 × T12) (P : T12) (st : (F12 × F12) × T12) : F12 × F12 :=
  let ((fNum, fDen), R) := st
  let (n1, d1) := lf R QQ.1 P
  let R := add R QQ.1
  let (n2, d2) := lf R QQ.2 P
  (fNum * n1 * n2, fDen * d1 * d2)

theorem optBnTailPairG_eq (QQ : T12 × T12) (P : T12) (fN fD : F12) (R : T12) :
    optBnTailPairG lf add QQ P ((fN, fD), R) =
      (fN * (lf R QQ.1 P).1 * (lf (add R QQ.1) QQ.2 P).1, fD * (lf R QQ.1 P).2 * (lf (add R QQ.1) QQ.2 P).2) :=
  rfl

end optBn

section optBnTail
variable {F12 : Type} [One F12] [Mul F12] [Neg F12] [Pow F12 Nat] (p : Nat)
  (lf : F12 × F12 × F12 → F12 × F12 × F12 → F12 × F12 × F12 → F12 × F12)
  (dbl neg : F12 × F12 × F12 → F12 × F12 × F12) (add : F12 × F12 × F12 → F12 × F12 × F12 → F12 × F12 × F12)

/-- `(Q1, nQ2)` with `Q1 = (x ** p, y ** p, z ** p)` and `nQ2 = (x1 ** p, -y1 ** p, z1 ** p)` -/
def frobG (Q : F12 × F12 × F12) : (F12 × F12 × F12) × (F12 × F12 × F12) :=
  let Q1 : F12 × F12 × F12 := (Q.1 ^ p, Q.2.1 ^ p, Q.2.2 ^ p)
  (Q1, (Q1.1 ^ p, -(Q1.2.1 ^ p), Q1.2.2 ^ p))

/-- numerator and denominator of the optimized bn128 Miller value: the loop, then the two Frobenius line steps -/
def optBnPairG (digits : List Int) (Q P : F12 × F12 × F12) : F12 × F12 :=
  optBnTailPairG lf add (frobG p Q) P (digits.foldl (optBnStepG lf dbl neg add Q P) (((1 : F12), (1 : F12)), Q))

end optBnTail

/-- reference bn128 affine points over `FQ12` (`none` = ∞) -/
abbrev RA12 : Type := Option (RBn12 × RBn12)

/-- reference `cast_point_to_fq12` (the `P.map …` of `pairingRefBn`) -/
def castRefBn (p : Option (Fq bnP × Fq bnP)) : RA12 := p.map fun (x, y) => (castFq12 x, castFq12 y)

theorem castRefBn_none : castRefBn none = none := rfl
theorem castRefBn_some (x y : Fq bnP) : castRefBn (some (x, y)) = some (castFq12 x, castFq12 y) := rfl

theorem pairingRefBn_eq (Q : Option (RBn2 × RBn2)) (P : Option (Fq bnP × Fq bnP)) :
    pairingRefBn Q P =
      if Gen.RefBn.is_on_curve Q (⟨bn128_b2⟩ : RBn2) = false then .error .value
      else if Gen.RefBn.is_on_curve P (Fq.ofInt bn128_b : Fq bnP) = false then .error .value
      else refMillerLoop refBnOps bn128_ate_loop_count bn128_log_ate_loop_count true
        bnFinalExp (twistRefBn Q) (castRefBn P) := by
  unfold pairingRefBn
  cases hQ : Gen.RefBn.is_on_curve Q (⟨bn128_b2⟩ : RBn2)
  · rfl
  cases hP : Gen.RefBn.is_on_curve P (Fq.ofInt bn128_b : Fq bnP)
  · rfl
  rfl

end PyEcc.MillerBnSem

namespace PyEcc.PairingSem
open PyEcc PyEcc.Gen.Consts

theorem pairingOptBls_eq (Q : OBls2 × OBls2 × OBls2) (P : Fq blsP × Fq blsP × Fq blsP) (fe : Bool) :
    pairingOptBls Q P fe =
      if Gen.OptBls.is_on_curve Q (⟨optimized_bls12_381_b2⟩ : OBls2) = false then .error .value
      else if Gen.OptBls.is_on_curve P (Fq.ofInt optimized_bls12_381_b : Fq blsP) = false then
        .error .value
      else if P.2.2 = 0 ∨ Q.2.2 = 0 then .ok 1
      else .ok (optBlsMillerLoop (digitsFrom optimized_bls12_381_pseudo_binary_encoding 62)
        (if fe then some ((blsP ^ 12 - 1) / optimized_bls12_381_curve_order) else none) Q P) := by
  unfold pairingOptBls
  cases hQ : Gen.OptBls.is_on_curve Q (⟨optimized_bls12_381_b2⟩ : OBls2)
  · rfl
  cases hP : Gen.OptBls.is_on_curve P (Fq.ofInt optimized_bls12_381_b : Fq blsP)
  · rfl
  by_cases hz : P.2.2 = 0 ∨ Q.2.2 = 0
  · simp only [hz, if_true]; rfl
  · simp only [hz, if_false]; rfl

theorem pairingOptBn_eq (Q : OBn2 × OBn2 × OBn2) (P : Fq bnP × Fq bnP × Fq bnP) (fe : Bool) :
    pairingOptBn Q P fe =
      if Gen.OptBn.is_on_curve Q (⟨optimized_bn128_b2⟩ : OBn2) = false then .error .value
      else if Gen.OptBn.is_on_curve P (Fq.ofInt optimized_bn128_b : Fq bnP) = false then
        .error .value
      else if P.2.2 = 0 ∨ Q.2.2 = 0 then .ok 1
      else .ok (optBnMillerLoop (digitsFrom optimized_bn128_pseudo_binary_encoding 63)
        (if fe then some ((bnP ^ 12 - 1) / optimized_bn128_curve_order) else none) (twistOptBn Q)
        (castFq12 P.1, castFq12 P.2.1, castFq12 P.2.2)) := by
  unfold pairingOptBn
  cases hQ : Gen.OptBn.is_on_curve Q (⟨optimized_bn128_b2⟩ : OBn2)
  · rfl
  cases hP : Gen.OptBn.is_on_curve P (Fq.ofInt optimized_bn128_b : Fq bnP)
  · rfl
  by_cases hz : P.2.2 = 0 ∨ Q.2.2 = 0
  · simp only [hz, if_true]; rfl
  · simp only [hz, if_false]; rfl

/-- on arguments that pass the guards, the optimized bls12_381 `pairing` returns `one` when a point is ∞ and
    the Miller value otherwise -/
theorem pairingOptBls_ok {Q : OBls2 × OBls2 × OBls2} {P : Fq blsP × Fq blsP × Fq blsP} (fe : Bool)
    (hQ : Gen.OptBls.is_on_curve Q (⟨optimized_bls12_381_b2⟩ : OBls2) = true)
    (hP : Gen.OptBls.is_on_curve P (Fq.ofInt optimized_bls12_381_b : Fq blsP) = true) :
    pairingOptBls Q P fe = .ok (if P.2.2 = 0 ∨ Q.2.2 = 0 then 1
      else optBlsMillerLoop (digitsFrom optimized_bls12_381_pseudo_binary_encoding 62)
        (if fe then some ((blsP ^ 12 - 1) / optimized_bls12_381_curve_order) else none) Q P) := by
  rw [pairingOptBls_eq, hQ, hP]
  exact (MillerSem.guard2_true _).trans (apply_ite Except.ok _ _ _).symm

theorem pairingOptBn_ok {Q : OBn2 × OBn2 × OBn2} {P : Fq bnP × Fq bnP × Fq bnP} (fe : Bool)
    (hQ : Gen.OptBn.is_on_curve Q (⟨optimized_bn128_b2⟩ : OBn2) = true)
    (hP : Gen.OptBn.is_on_curve P (Fq.ofInt optimized_bn128_b : Fq bnP) = true) :
    pairingOptBn Q P fe = .ok (if P.2.2 = 0 ∨ Q.2.2 = 0 then 1
      else optBnMillerLoop (digitsFrom optimized_bn128_pseudo_binary_encoding 63)
        (if fe then some ((bnP ^ 12 - 1) / optimized_bn128_curve_order) else none) (twistOptBn Q)
        (castFq12 P.1, castFq12 P.2.1, castFq12 P.2.2)) := by
  rw [pairingOptBn_eq, hQ, hP]
  exact (MillerSem.guard2_true _).trans (apply_ite Except.ok _ _ _).symm

theorem ite_one_rel {α : Type} [One α] {R : α → α → Prop} {z : Prop} [Decidable z] {m m' : α} (h1 : R 1 1)
    (hm : ¬ z → R m m') : R (if z then 1 else m) (if z then 1 else m') := by
  split
  · exact h1
  · exact hm ‹_›

/-- optimized bls12_381 `miller_loop(Q, P, True) = miller_loop(Q, P, False) ** e` (definitional) -/
theorem optBlsMillerLoop_some {p : Nat} {mc2 mc12 : List Int} [NeZero p] (digits : List Int) (e : Nat)
    (Q : Fqp .opt p mc2 × Fqp .opt p mc2 × Fqp .opt p mc2) (P : Fq p × Fq p × Fq p) :
    (optBlsMillerLoop digits (some e) Q P : Fqp .opt p mc12) =
      (optBlsMillerLoop digits none Q P : Fqp .opt p mc12) ^ e := rfl

/-- optimized bn128 `miller_loop(Q, P, True) = miller_loop(Q, P, False) ** e` (definitional) -/
theorem optBnMillerLoop_some {p : Nat} {mc12 : List Int} (digits : List Int) (e : Nat)
    (Q P : Fqp .opt p mc12 × Fqp .opt p mc12 × Fqp .opt p mc12) :
    optBnMillerLoop digits (some e) Q P = optBnMillerLoop digits none Q P ^ e := rfl

end PyEcc.PairingSem

namespace PyEcc.Tie
open PyEcc PyEcc.MillerSem PyEcc.MillerBnSem

/-! ### the optimized `miller_loop`s with their callees as parameters

`Props/TieMiller.lean` compares these with the functions translated from the source. -/

section optBls
variable {T2 T12 F12 : Type} [One F12] [Mul F12] [Div F12] [Pow F12 Nat]

/-- the model's `optBlsMillerLoop` with its callees as parameters -/
def optBlsMillerG {G1 : Type} (lf : T12 → T12 → T12 → F12 × F12) (dbl : T2 → T2) (add : T2 → T2 → T2)
    (tw : T2 → T12) (cast : G1 → T12) (digits : List Int) (finalExp : Option Nat) (Q : T2) (P : G1) : F12 :=
  let castP : T12 := cast P
  let twistQ : T12 := tw Q
  let ((fNum, fDen), _, _) := digits.foldl (optBlsStepG lf dbl add tw castP twistQ Q) (((1 : F12), (1 : F12)), Q, twistQ)
  let f := fNum / fDen
  match finalExp with
  | some e => f ^ e
  | none => f
end optBls

section optBn
variable {F12 : Type} [One F12] [Mul F12] [Div F12] [Neg F12] [Pow F12 Nat]

/-- the model's `optBnMillerLoop` (field characteristic `p`) with its callees as parameters: the division
    `f_num·n1·n2 / (f_den·d1·d2)` and the optional power -/
def optBnMillerG (p : Nat) (lf : F12 × F12 × F12 → F12 × F12 × F12 → F12 × F12 × F12 → F12 × F12)
    (dbl neg : F12 × F12 × F12 → F12 × F12 × F12) (add : F12 × F12 × F12 → F12 × F12 × F12 → F12 × F12 × F12)
    (digits : List Int) (finalExp : Option Nat) (Q P : F12 × F12 × F12) : F12 :=
  let nd := optBnPairG p lf dbl neg add digits Q P
  match finalExp with
  | some e => (nd.1 / nd.2) ^ e
  | none => nd.1 / nd.2
end optBn

end PyEcc.Tie

namespace PyEcc.MillerSem
open PyEcc PyEcc.Tie

/-- the model function is its parametrised form at the generated curve operations (checked at a generic modulus,
    where nothing can be evaluated) -/
theorem optBlsMillerLoop_eq_G {p : Nat} {mc2 mc12 : List Int} [NeZero p] (L : List Int) (fe : Option Nat)
    (Q : Fqp .opt p mc2 × Fqp .opt p mc2 × Fqp .opt p mc2) (P : Fq p × Fq p × Fq p) :
    optBlsMillerLoop (mc12 := mc12) L fe Q P =
      optBlsMillerG Gen.OptBls.linefunc Gen.OptBls.double Gen.OptBls.add twistOptBls
        (fun pt => (castFq12 pt.1, castFq12 pt.2.1, castFq12 pt.2.2)) L fe Q P := rfl

abbrev T2 : Type := OBls2 × OBls2 × OBls2
abbrev T12 : Type := OBls12 × OBls12 × OBls12

section optstep
variable {p : Nat} {mc2 mc12 : List Int}

/-- body of `for v in pseudo_binary_encoding[62::-1]` of the optimized `miller_loop`
    (the local function `step` of `optBlsMillerLoop`, verbatim) -/
def optBlsStep (castP twistQ : Fqp .opt p mc12 × Fqp .opt p mc12 × Fqp .opt p mc12) (Q : Fqp .opt p mc2 × Fqp .opt p mc2 × Fqp .opt p mc2)
    (st : (Fqp .opt p mc12 × Fqp .opt p mc12) × (Fqp .opt p mc2 × Fqp .opt p mc2 × Fqp .opt p mc2) × (Fqp .opt p mc12 × Fqp .opt p mc12 × Fqp .opt p mc12)) (v : Int) :
    (Fqp .opt p mc12 × Fqp .opt p mc12) × (Fqp .opt p mc2 × Fqp .opt p mc2 × Fqp .opt p mc2) × (Fqp .opt p mc12 × Fqp .opt p mc12 × Fqp .opt p mc12) :=
  let ((fNum, fDen), R, twistR) := st
  let (n, d) := Gen.OptBls.linefunc twistR twistR castP
  let fNum := fNum * fNum * n
  let fDen := fDen * fDen * d
  let R := Gen.OptBls.double R
  let twistR : Fqp .opt p mc12 × Fqp .opt p mc12 × Fqp .opt p mc12 := twistOptBls R
  if v = 1 then
    let (n, d) := Gen.OptBls.linefunc twistR twistQ castP
    let R := Gen.OptBls.add R Q
    ((fNum * n, fDen * d), R, twistOptBls R)
  else ((fNum, fDen), R, twistR)

theorem optBlsMillerLoop_none_eq [NeZero p] (digits : List Int) (Q : Fqp .opt p mc2 × Fqp .opt p mc2 × Fqp .opt p mc2)
    (P : Fq p × Fq p × Fq p) :
    (optBlsMillerLoop digits none Q P : Fqp .opt p mc12) =
      (digits.foldl (optBlsStep (castFq12 P.1, castFq12 P.2.1, castFq12 P.2.2) (twistOptBls Q) Q)
          (((1 : Fqp .opt p mc12), (1 : Fqp .opt p mc12)), Q, twistOptBls Q)).1.1 /
      (digits.foldl (optBlsStep (castFq12 P.1, castFq12 P.2.1, castFq12 P.2.2) (twistOptBls Q) Q)
          (((1 : Fqp .opt p mc12), (1 : Fqp .opt p mc12)), Q, twistOptBls Q)).1.2 := rfl

theorem optBlsStep_eq_G (castP twistQ : Fqp .opt p mc12 × Fqp .opt p mc12 × Fqp .opt p mc12) (Q : Fqp .opt p mc2 × Fqp .opt p mc2 × Fqp .opt p mc2)
    (st : (Fqp .opt p mc12 × Fqp .opt p mc12) × (Fqp .opt p mc2 × Fqp .opt p mc2 × Fqp .opt p mc2) × (Fqp .opt p mc12 × Fqp .opt p mc12 × Fqp .opt p mc12)) (v : Int) :
    optBlsStep castP twistQ Q st v =
      optBlsStepG Gen.OptBls.linefunc Gen.OptBls.double Gen.OptBls.add twistOptBls castP twistQ Q st v := rfl

end optstep

theorem optBlsStep_R (castP twistQ : T12) (Q : T2) (st : (OBls12 × OBls12) × T2 × T12) (v : Int) :
    (optBlsStep castP twistQ Q st v).2.1 =
      if v = 1 then Gen.OptBls.add (Gen.OptBls.double st.2.1) Q else Gen.OptBls.double st.2.1 := by
  obtain ⟨⟨a, b⟩, R, tR⟩ := st
  rw [optBlsStep_eq_G, optBlsStepG_eq]
  by_cases hv : v = 1
  · rw [if_pos hv, if_pos hv]
  · rw [if_neg hv, if_neg hv]

end PyEcc.MillerSem

namespace PyEcc.MillerBnSem
open PyEcc PyEcc.Tie

/-- the model function is its parametrised form at the generated curve operations (generic modulus) -/
theorem optBnMillerLoop_eq_G {p : Nat} {mc12 : List Int} (L : List Int) (fe : Option Nat)
    (Q P : Fqp .opt p mc12 × Fqp .opt p mc12 × Fqp .opt p mc12) :
    optBnMillerLoop L fe Q P =
      optBnMillerG p Gen.OptBn.linefunc Gen.OptBn.double Gen.OptBn.neg Gen.OptBn.add L fe Q P := rfl

end PyEcc.MillerBnSem
