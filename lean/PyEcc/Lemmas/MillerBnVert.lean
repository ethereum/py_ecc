/-
  The hypothesis `vert` of the context `Ctx` of `Lemmas/MillerBnLoop.lean` for actual
  bn128 inputs (`vert_killed`; the context itself is assembled in `Lemmas/MillerBnPairing.lean`): for `T = twist(Q)`,
  `Q` a point of the twist curve killed by the group order `r`, and `P` a finite point of `y² = x³ + 3`, every
  vertical value `x_P − x_{jT}` (`jT ≠ ∞`) is a NON-ZERO element of `Fp⁶`, hence killed by the final exponent:
  * it lies in `Fp⁶` because `x_P ∈ Fp` and `x_{jT} = ψ(x')·w²` with `ψ(Fp²) ⊂ Fp⁶`, `w² ∈ Fp⁶`;
  * it is non-zero because `x_P = ψ(x')·w²` forces `x' = 0` (apply the `p²`-Frobenius: `(w²)^(p²−1)` is a
    non-trivial cube root of unity), and a point with `x' = 0` is 3-torsion, impossible in a group of
    prime order `r ≠ 3`.
-/
import PyEcc.Lemmas.MillerBnSub
import PyEcc.Lemmas.MillerBnIdeal
import PyEcc.Lemmas.Irred12Calc
import PyEcc.Sem.TransferFq

set_option linter.unusedSectionVars false
set_option linter.unusedVariables false

namespace PyEcc.MillerBnSem
open Polynomial PyEcc PyEcc.Gen PyEcc.Gen.Consts PyEcc.Fqp PyEcc.FqpSem PyEcc.Transfer PyEcc.TwistSem
  PyEcc.C13 PyEcc.C13.Bn WeierstrassCurve WeierstrassCurve.Affine

theorem inFp6_emb (x : Fq bnP) : InFp6 (embQ bnMc12 x) := ConjSem.of_pow _ 6

/-! ### `(w²)^(p²−1)` is a non-trivial cube root of unity -/

theorem w2_pow : (wQ bnP bnMc12 ^ 2) ^ (bnP ^ 2 - 1) = ((Irred12.bnOmega : ℕ) : K12bn) := by
  have : NeZero bnP := ⟨by decide⟩
  obtain ⟨_, ⟨m, hm⟩, _⟩ := Irred12.bn_side
  have h := Gi.phi_pow (p := bnP) bn_w6_sq ⟨9, 1⟩ ((bnP ^ 2 - 1) / 3)
  rw [Irred12.bn_cu, Gi.phi_natCast, Gi.phi, Nat.cast_one, one_mul, Nat.cast_ofNat, add_sub_cancel] at h
  rw [h, ← pow_mul, ← pow_mul]
  congr 1

theorem omega_ne_one : ((Irred12.bnOmega : ℕ) : K12bn) ≠ 1 := by
  intro h
  have h' : ((Irred12.bnOmega : ℕ) : K12bn) = ((1 : ℕ) : K12bn) := by rw [h, Nat.cast_one]
  rw [CharP.natCast_eq_natCast K12bn bnP] at h'
  exact Irred12.bn_side.2.2 h'

theorem eq_zero_of_of_eq_psi_mul {c : ZMod bnP} {a : K2bn}
    (h : AdjoinRoot.of (modulus bnP bnMc12) c = psiBn a * wQ bnP bnMc12 ^ 2) : a = 0 := by
  have h1 : (AdjoinRoot.of (modulus bnP bnMc12) c) ^ (bnP ^ 2) = AdjoinRoot.of (modulus bnP bnMc12) c := by
    rw [← map_pow, ZMod.pow_card_pow]
  have hp : bnP ^ 2 = (bnP ^ 2 - 1) + 1 := by decide +kernel
  have h2 : (psiBn a * wQ bnP bnMc12 ^ 2) ^ (bnP ^ 2)
      = psiBn a * wQ bnP bnMc12 ^ 2 * ((Irred12.bnOmega : ℕ) : K12bn) := by
    rw [mul_pow, ← map_pow, pow_card_K2bn]
    conv_lhs => rw [hp, pow_succ, w2_pow]
    ring
  rw [h, h2] at h1
  have h3 : psiBn a * wQ bnP bnMc12 ^ 2 * (((Irred12.bnOmega : ℕ) : K12bn) - 1) = 0 := by
    linear_combination h1
  rcases mul_eq_zero.mp h3 with h4 | h4
  · rcases mul_eq_zero.mp h4 with h5 | h5
    · exact (map_eq_zero psiBn).mp h5
    · exact absurd h5 (pow_ne_zero 2 wQ_bn_ne_zero)
  · exact absurd (sub_eq_zero.mp h4) omega_ne_one

section build
variable [DecidableEq K2bn] [DecidableEq K12bn]

theorem vert_killed {Pt : CurvePt (toQ bnB2 : K2bn)} (hr : bnR • Pt = 0) {x y : Fq bnP}
    (hP : (W B12).Equation (embQ bnMc12 x) (embQ bnMc12 y)) (j : ℕ) (hj : j • bnTwistOpt Pt ≠ 0) :
    vertVal hP (j • bnTwistOpt Pt) ^ bnFinalExp = 1 := by
  rw [← map_nsmul] at hj ⊢
  have hj' : j • Pt ≠ 0 := fun h => hj (by rw [h, map_zero])
  have hrj : bnR • (j • Pt) = 0 := by rw [smul_comm, hr, smul_zero]
  have hrep := reprRef_bnTwistOpt (j • Pt)
  rcases hA : j • Pt with _ | ⟨x', y', h'⟩
  · exact absurd hA hj'
  rw [hA] at hrep hrj
  rcases hB : bnTwistOpt (Point.some x' y' h') with _ | ⟨X, Y, H⟩
  · rw [hB] at hrep; cases hrep
  rw [hB] at hrep
  simp only [reprRef_some, twO_some, Option.some.injEq, Prod.mk.injEq] at hrep
  rw [vertVal_some]
  apply pow_finalExp_of_inFp6
  · intro h0
    have hx : embQ bnMc12 x = psiBn x' * wQ bnP bnMc12 ^ 2 := by rw [← hrep.1]; exact sub_eq_zero.mp h0
    have hx0 : x' = 0 := eq_zero_of_of_eq_psi_mul (by rw [← embQ_apply]; exact hx)
    subst hx0
    have := eq_zero_of_coprime_nsmul (by decide +kernel : Nat.Coprime 3 bnR) (three_nsmul_of_x_zero h') hrj
    cases this
  · rw [hrep.1]
    exact ConjSem.Ev.sub (σ := NegBnSem.sigma) (inFp6_emb x) (ConjSem.Ev.mul (inFp6_psi x') inFp6_w2)

end build

end PyEcc.MillerBnSem
