/-
  The theorems of `Props/C07_Bls.lean` about the REFERENCE module `Gen.RefBls` over a field (it refines Mathlib's
  elliptic-curve group) carried to any coordinate type `A` that maps into a field `K` by a `CurveHom`
  (`Sem/TransferRefineBls.lean`). `A` is NOT assumed to be a field: the intended instance is the executable model
  `A = Fqp .ref p mc` of `FQ2` / `FQ12`, `K = AdjoinRoot (modulus p mc)`, `φ = toQ`, `Good = Canon`.
  `RepO c p P`: the good point `p` (`none` = ∞) represents `P : (W bK).Point` through `φ`, `reprRef P = mapO φ p`; on
  such points the generated functions never raise and compute Mathlib's group law (`RepO.add`, …). The commutative-group
  laws are EQUALITIES of the values computed on `A` (`CurveHom.ref_add_comm`, …; `Props/C07_BlsLaws.lean` reads them at
  a field itself, `CurveHom.id`). They hold of `Gen.RefBn` after rewriting with the equations of `Lemmas/TwinModules.lean`.
-/
import PyEcc.Lemmas.TransferRefBls
import PyEcc.Sem.TransferRefineBls
import PyEcc.Props.C07_Bls

set_option linter.unusedSectionVars false
set_option linter.unusedVariables false

namespace PyEcc.Transfer
open PyEcc PyEcc.Transfer WeierstrassCurve

-- the operations are implicit, fixed by the type of `c` (as in `Sem/TransferRefineBls.lean`)
variable {A K : Type}
  {_ : Zero A} {_ : One A} {_ : Add A} {_ : Sub A} {_ : Mul A} {_ : Neg A} {_ : Div A} {_ : NatCast A}
  {_ : Pow A Nat} {_ : Field K} [DecidableEq A] [DecidableEq K]
  {Good : A → Prop} {φ : A → K} {b : A} {bK : K}

structure RepO (c : CurveHom Good φ b bK) (p : Option (A × A)) (P : (W bK).Point) : Prop where
  good : GoodO Good p
  rep : reprRef P = mapO φ p

theorem goodO_true {F : Type} (p : Option (F × F)) : GoodO (fun _ => True) p := by
  rcases p with _ | ⟨x, y⟩
  · trivial
  · exact ⟨trivial, trivial⟩

variable {c : CurveHom Good φ b bK} {p q : Option (A × A)} {P Q : (W bK).Point}

theorem RepO.inj (rp : RepO c p P) (rq : RepO c q P) : p = q :=
  c.hom.mapO_inj rp.good rq.good (rp.rep.symm.trans rq.rep)

theorem RepO.add (rp : RepO c p P) (rq : RepO c q Q) :
    ∃ s, Gen.RefBls.add p q = .ok s ∧ RepO c s (P + Q) := by
  obtain ⟨g, e⟩ := BlsRef.good_add c.hom rp.good rq.good
  rw [← rp.rep, ← rq.rep, C07.Bls.ref_add_refines c.two] at e
  obtain ⟨s, es, gs, rs⟩ := exists_ok_of_mapE g e
  exact ⟨s, es, gs, rs⟩

theorem RepO.double (rp : RepO c p P) : RepO c (Gen.RefBls.double p) (P + P) := by
  obtain ⟨g, e⟩ := BlsRef.good_double c.hom rp.good
  rw [← rp.rep, C07.Bls.ref_double_refines c.two] at e
  exact ⟨g, e.symm⟩

theorem RepO.neg (rp : RepO c p P) : RepO c (Gen.RefBls.neg p) (-P) := by
  obtain ⟨g, e⟩ := BlsRef.good_neg c.hom rp.good
  rw [← rp.rep, C07.Bls.ref_neg_refines] at e
  exact ⟨g, e.symm⟩

theorem RepO.multiply (rp : RepO c p P) (n : ℕ) :
    ∃ s, Gen.RefBls.multiply p n = .ok s ∧ RepO c s (n • P) := by
  obtain ⟨g, e⟩ := BlsRef.good_multiply c.hom rp.good n
  rw [← rp.rep, C07.Bls.ref_multiply_refines c.two] at e
  obtain ⟨s, es, gs, rs⟩ := exists_ok_of_mapE g e
  exact ⟨s, es, gs, rs⟩

theorem RepO.on_curve (rp : RepO c p P) : Gen.RefBls.is_on_curve p b = true := by
  obtain rfl := c.b_eq
  rw [← BlsRef.good_is_on_curve c.hom rp.good c.good_b]
  exact (C07.Bls.ref_is_on_curve_iff c.two c.three c.b_ne _).mpr ⟨P, rp.rep⟩

theorem CurveHom.exists_repO (c : CurveHom Good φ b bK) (g : GoodO Good p)
    (h : Gen.RefBls.is_on_curve p b = true) : ∃ P, RepO c p P := by
  obtain rfl := c.b_eq
  rw [← BlsRef.good_is_on_curve c.hom g c.good_b] at h
  obtain ⟨P, r⟩ := (C07.Bls.ref_is_on_curve_iff c.two c.three c.b_ne _).mp h
  exact ⟨P, g, r⟩

/-! The group laws: take the points (`exists_repO`), evaluate both sides with the lemmas above; the two results represent
  the same point by Mathlib's law, hence are equal (`RepO.inj`). -/

namespace CurveHom
variable (c) {r : Option (A × A)}
include c

theorem ref_add_comm (gp : GoodO Good p) (gq : GoodO Good q)
    (hp : Gen.RefBls.is_on_curve p b = true) (hq : Gen.RefBls.is_on_curve q b = true) :
    Gen.RefBls.add p q = Gen.RefBls.add q p := by
  obtain ⟨P, rp⟩ := c.exists_repO gp hp
  obtain ⟨Q, rq⟩ := c.exists_repO gq hq
  obtain ⟨s, e1, r1⟩ := rp.add rq
  obtain ⟨t, e2, r2⟩ := rq.add rp
  rw [e1, e2, r1.inj (add_comm P Q ▸ r2)]

theorem ref_closed (gp : GoodO Good p) (gq : GoodO Good q) (hp : Gen.RefBls.is_on_curve p b = true)
    (hq : Gen.RefBls.is_on_curve q b = true) (n : ℕ) :
    (∃ s, Gen.RefBls.add p q = .ok s ∧ GoodO Good s ∧ Gen.RefBls.is_on_curve s b = true)
      ∧ (GoodO Good (Gen.RefBls.double p) ∧ Gen.RefBls.is_on_curve (Gen.RefBls.double p) b = true)
      ∧ (GoodO Good (Gen.RefBls.neg p) ∧ Gen.RefBls.is_on_curve (Gen.RefBls.neg p) b = true)
      ∧ (∃ s, Gen.RefBls.multiply p n = .ok s ∧ GoodO Good s ∧ Gen.RefBls.is_on_curve s b = true) := by
  obtain ⟨P, rp⟩ := c.exists_repO gp hp
  obtain ⟨Q, rq⟩ := c.exists_repO gq hq
  obtain ⟨s, e1, r1⟩ := rp.add rq
  obtain ⟨t, e2, r2⟩ := rp.multiply n
  exact ⟨⟨s, e1, r1.good, r1.on_curve⟩, ⟨rp.double.good, rp.double.on_curve⟩,
    ⟨rp.neg.good, rp.neg.on_curve⟩, ⟨t, e2, r2.good, r2.on_curve⟩⟩

theorem ref_add_assoc (gp : GoodO Good p) (gq : GoodO Good q) (gr : GoodO Good r)
    (hp : Gen.RefBls.is_on_curve p b = true) (hq : Gen.RefBls.is_on_curve q b = true)
    (hr : Gen.RefBls.is_on_curve r b = true) :
    (Gen.RefBls.add p q >>= fun s => Gen.RefBls.add s r)
      = (Gen.RefBls.add q r >>= fun t => Gen.RefBls.add p t) := by
  obtain ⟨P, rp⟩ := c.exists_repO gp hp
  obtain ⟨Q, rq⟩ := c.exists_repO gq hq
  obtain ⟨R, rr⟩ := c.exists_repO gr hr
  obtain ⟨s, e1, r1⟩ := rp.add rq
  obtain ⟨t, e2, r2⟩ := rq.add rr
  obtain ⟨u, e3, r3⟩ := r1.add rr
  obtain ⟨v, e4, r4⟩ := rp.add r2
  rw [e1, e2]
  show Gen.RefBls.add s r = Gen.RefBls.add p t
  rw [e3, e4, r3.inj (add_assoc P Q R ▸ r4)]

theorem ref_add_neg (gp : GoodO Good p) (hp : Gen.RefBls.is_on_curve p b = true) :
    Gen.RefBls.add p (Gen.RefBls.neg p) = .ok none ∧ Gen.RefBls.add (Gen.RefBls.neg p) p = .ok none := by
  obtain ⟨P, rp⟩ := c.exists_repO gp hp
  obtain ⟨s, e1, r1⟩ := rp.add rp.neg
  obtain ⟨t, e2, r2⟩ := rp.neg.add rp
  have z : RepO c none (0 : (W bK).Point) := ⟨trivial, rfl⟩
  rw [e1, e2, r1.inj (add_neg_cancel P ▸ z), r2.inj (neg_add_cancel P ▸ z)]
  exact ⟨rfl, rfl⟩

theorem ref_multiply_add (gp : GoodO Good p) (hp : Gen.RefBls.is_on_curve p b = true) (m n : ℕ) :
    Gen.RefBls.multiply p (m + n)
      = (Gen.RefBls.multiply p m >>= fun s => Gen.RefBls.multiply p n >>= fun t => Gen.RefBls.add s t) := by
  obtain ⟨P, rp⟩ := c.exists_repO gp hp
  obtain ⟨s, e1, r1⟩ := rp.multiply m
  obtain ⟨t, e2, r2⟩ := rp.multiply n
  obtain ⟨u, e3, r3⟩ := rp.multiply (m + n)
  obtain ⟨v, e4, r4⟩ := r1.add r2
  rw [e1, e2, e3]
  show _ = Gen.RefBls.add s t
  rw [e4, r3.inj (add_smul m n P ▸ r4)]

theorem ref_multiply_mul (gp : GoodO Good p) (hp : Gen.RefBls.is_on_curve p b = true) (m n : ℕ) :
    (Gen.RefBls.multiply p m >>= fun s => Gen.RefBls.multiply s n) = Gen.RefBls.multiply p (m * n) := by
  obtain ⟨P, rp⟩ := c.exists_repO gp hp
  obtain ⟨s, e1, r1⟩ := rp.multiply m
  obtain ⟨t, e2, r2⟩ := r1.multiply n
  obtain ⟨u, e3, r3⟩ := rp.multiply (m * n)
  rw [e1, e3]
  show Gen.RefBls.multiply s n = _
  rw [e2, r2.inj (by rw [← mul_smul, mul_comm]; exact r3)]

theorem ref_multiply_mod (gp : GoodO Good p) (hp : Gen.RefBls.is_on_curve p b = true) (k : ℕ)
    (hk : Gen.RefBls.multiply p k = .ok none) (n : ℕ) :
    Gen.RefBls.multiply p n = Gen.RefBls.multiply p (n % k) := by
  obtain ⟨P, rp⟩ := c.exists_repO gp hp
  obtain ⟨s, e1, r1⟩ := rp.multiply k
  obtain ⟨t, e2, r2⟩ := rp.multiply n
  obtain ⟨u, e3, r3⟩ := rp.multiply (n % k)
  obtain rfl := Except.ok.inj (hk.symm.trans e1)
  have hk0 : k • P = 0 := CurveSem.reprRef_injective r1.rep
  rw [e2, e3, r2.inj (nsmul_eq_mod_nsmul n hk0 ▸ r3)]

theorem ref_multiply_neg (gp : GoodO Good p) (hp : Gen.RefBls.is_on_curve p b = true) (n : ℕ) :
    Gen.RefBls.multiply (Gen.RefBls.neg p) n = (Gen.RefBls.multiply p n).map Gen.RefBls.neg := by
  obtain ⟨P, rp⟩ := c.exists_repO gp hp
  obtain ⟨s, e1, r1⟩ := rp.neg.multiply n
  obtain ⟨t, e2, r2⟩ := rp.multiply n
  rw [e1, e2]
  show _ = Except.ok (Gen.RefBls.neg t)
  rw [r1.inj (smul_neg n P ▸ r2.neg)]

end CurveHom
end PyEcc.Transfer

/-! laws that hold on every coordinate type -/
namespace PyEcc.Transfer.BlsRef
variable {A : Type}
  [Zero A] [One A] [Add A] [Sub A] [Mul A] [Neg A] [Div A] [NatCast A] [Pow A Nat] [DecidableEq A]

theorem any_add_zero (p : Option (A × A)) :
    Gen.RefBls.add p none = .ok p ∧ Gen.RefBls.add none p = .ok p := by
  rcases p with _ | ⟨x, y⟩ <;> simp [Gen.RefBls.add]

theorem any_add_self (p : Option (A × A)) : Gen.RefBls.add p p = .ok (Gen.RefBls.double p) := by
  rcases p with _ | ⟨x, y⟩ <;> simp [Gen.RefBls.add, Gen.RefBls.double, Gen.RefBls.is_inf]

theorem any_multiply_small (p : Option (A × A)) :
    Gen.RefBls.multiply p 0 = .ok none ∧ Gen.RefBls.multiply p 1 = .ok p
      ∧ Gen.RefBls.multiply p 2 = .ok (Gen.RefBls.double p) := by
  simp [Gen.RefBls.multiply, Gen.RefBls.multiplyAux]

end PyEcc.Transfer.BlsRef
