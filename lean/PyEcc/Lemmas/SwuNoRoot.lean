/-
  The cubic `g(x) = x³ + A'x + B'` of the 11-isogenous curve of BLS12-381 G1
  has no root in `F1 = Fq blsP` (equivalently: the curve has no point of order 2, so the `y` of the
  SSWU map is never `0` and `sgn0(y) = sgn0(t)` holds without exception).

  Proof: a root `r` satisfies `r^p = r` (Fermat).  `x^p mod g` is computed by the kernel in the cubic
  algebra `Fp[x]/(g)`, on triples of naturals `(c0, c1, c2)`; evaluation at `r` is multiplicative, so
  `c0 + c1·r + c2·r² = r`.  Eliminating `r²`, `r³` between this and `g(r) = 0` leaves a linear equation
  `α·r + β = 0` with concrete `α`, `β`, hence `α³·g(−β/α) = −β³ − A'βα² + B'α³ = 0`, which is refuted by
  evaluation.  The cubic algebra is set up over any executable coefficient arithmetic (`Ops`), so
  that G2 (`Lemmas/Swu2NoRoot.lean`, coefficients in `Fp²`) uses the same lemmas.
-/
import PyEcc.Lemmas.SwuG1
import PyEcc.Lemmas.PowLoop

namespace PyEcc.SwuSem
open PyEcc.Spec Gen.Consts

/-- executable coefficient arithmetic, with the two constants of the cubic -/
structure Ops (C : Type) where
  add : C → C → C
  sub : C → C → C
  mul : C → C → C
  zero : C
  one : C
  A : C
  B : C

structure Ops.Hom {C R : Type} [CommRing R] (o : Ops C) (φ : C → R) : Prop where
  add : ∀ a b, φ (o.add a b) = φ a + φ b
  sub : ∀ a b, φ (o.sub a b) = φ a - φ b
  mul : ∀ a b, φ (o.mul a b) = φ a * φ b
  zero : φ o.zero = 0
  one : φ o.one = 1

namespace Ops
variable {C : Type} (o : Ops C)

/-- product of `a0 + a1·x + a2·x²` and `b0 + b1·x + b2·x²`, reduced by `x³ = −Ax − B` -/
def mulK (a b : C × C × C) : C × C × C :=
  let c3 := o.add (o.mul a.2.1 b.2.2) (o.mul a.2.2 b.2.1)
  let c4 := o.mul a.2.2 b.2.2
  (o.sub (o.mul a.1 b.1) (o.mul o.B c3),
   o.sub (o.sub (o.add (o.mul a.1 b.2.1) (o.mul a.2.1 b.1)) (o.mul o.A c3)) (o.mul o.B c4),
   o.sub (o.add (o.add (o.mul a.1 b.2.2) (o.mul a.2.1 b.2.1)) (o.mul a.2.2 b.1)) (o.mul o.A c4))

/-- `o·t^e` by square-and-multiply, with fuel: the loop of `Lemmas/PowLoop.lean` -/
def powK : ℕ → C × C × C → C × C × C → ℕ → C × C × C
  | 0, a, _, _ => a
  | f+1, a, t, e =>
    if e = 0 then a else powK f (if e % 2 = 1 then o.mulK a t else a) (o.mulK t t) (e / 2)

/-- `x^n` -/
def xPow (f n : ℕ) : C × C × C := o.powK f (o.one, o.zero, o.zero) (o.zero, o.one, o.zero) n

/-- `c0 + c1·h + c2·h²`: the composition `c ∘ h` -/
def comp (c h : C × C × C) : C × C × C :=
  let k := o.mulK (c.2.2, o.zero, o.zero) (o.mulK h h)
  let l := o.mulK (c.2.1, o.zero, o.zero) h
  (o.add (o.add c.1 l.1) k.1, o.add l.2.1 k.2.1, o.add l.2.2 k.2.2)

/-- `−β³ − Aβα² + Bα³` for `α = (c1−1)² − c2c0 + Ac2²`, `β = (c1−1)c0 + Bc2²` -/
def check (c : C × C × C) : C :=
  let d := o.sub c.2.1 o.one
  let s := o.mul c.2.2 c.2.2
  let α := o.add (o.sub (o.mul d d) (o.mul c.2.2 c.1)) (o.mul o.A s)
  let β := o.add (o.mul d c.1) (o.mul o.B s)
  o.add (o.sub (o.sub o.zero (o.mul β (o.mul β β))) (o.mul (o.mul o.A β) (o.mul α α)))
    (o.mul o.B (o.mul α (o.mul α α)))

end Ops

section ev
variable {C R : Type} [CommRing R] {o : Ops C} {φ : C → R}

def evK (φ : C → R) (r : R) (a : C × C × C) : R := φ a.1 + φ a.2.1 * r + φ a.2.2 * r ^ 2

variable (h : o.Hom φ) {r : R} (hr : r ^ 3 + φ o.A * r + φ o.B = 0)
include h hr

theorem evK_mulK (a b : C × C × C) : evK φ r (o.mulK a b) = evK φ r a * evK φ r b := by
  simp only [evK, Ops.mulK, h.add, h.sub, h.mul]
  linear_combination (-(φ a.2.1 * φ b.2.2 + φ a.2.2 * φ b.2.1) - (φ a.2.2 * φ b.2.2) * r) * hr

theorem evK_xPow (f n : ℕ) (hn : n < 2 ^ f) : evK φ r (o.xPow f n) = r ^ n := by
  rw [Ops.xPow, powLoop_eq (fun _ _ _ => rfl) (fun _ _ _ _ => rfl) (evK φ r) (evK_mulK h hr) f _ _ n hn]
  simp only [evK, h.one, h.zero]
  ring

theorem evK_comp (c k : C × C × C) : evK φ r (o.comp c k) = evK φ (evK φ r k) c := by
  have e1 := (evK_mulK h hr (c.2.2, o.zero, o.zero) (o.mulK k k)).trans
    (congrArg _ (evK_mulK h hr k k))
  have e2 := evK_mulK h hr (c.2.1, o.zero, o.zero) k
  simp only [evK, h.zero] at e1 e2
  simp only [evK, Ops.comp, h.add]
  linear_combination e1 + e2

/-- if `x` is a root of `x³ + Ax + B` and of `c0 + (c1−1)x + c2x²`, eliminating `x²` gives
    `α·x + β = 0`, and substituting into the cubic gives `−β³ − Aβα² + Bα³ = 0` -/
theorem check_eq_zero {c : C × C × C} (hh : evK φ r c = r) : φ (o.check c) = 0 := by
  simp only [Ops.check, h.add, h.sub, h.mul, h.zero, h.one]
  generalize hα : (φ c.2.1 - 1) * (φ c.2.1 - 1) - φ c.2.2 * φ c.1 + φ o.A * (φ c.2.2 * φ c.2.2) = α
  generalize hβ : (φ c.2.1 - 1) * φ c.1 + φ o.B * (φ c.2.2 * φ c.2.2) = β
  have hlin : α * r + β = 0 := by
    unfold evK at hh
    rw [← hα, ← hβ]
    linear_combination (φ c.2.2) ^ 2 * hr - (φ c.2.2 * r - (φ c.2.1 - 1)) * hh
  linear_combination α ^ 3 * hr - (β ^ 2 - α * r * β + α ^ 2 * r ^ 2 + φ o.A * α ^ 2) * hlin

end ev

/-- `a − b mod p`, for any naturals -/
def subMod (p a b : ℕ) : ℕ := (a + (p - b % p)) % p

section modp
variable {R : Type} [CommRing R] {p : ℕ} (hp : ((p : ℕ) : R) = 0)
include hp

theorem cast_mod (n : ℕ) : ((n % p : ℕ) : R) = n := by
  conv_rhs => rw [← Nat.mod_add_div n p]
  rw [Nat.cast_add, Nat.cast_mul, hp, zero_mul, add_zero]

theorem cast_subMod (h0 : 0 < p) (a b : ℕ) : ((subMod p a b : ℕ) : R) = a - b := by
  rw [subMod, cast_mod hp, Nat.cast_add, Nat.cast_sub (Nat.mod_lt b h0).le, cast_mod hp, hp]
  ring

end modp

def ops1 : Ops ℕ where
  add a b := (a + b) % blsP
  sub := subMod blsP
  mul a b := a * b % blsP
  zero := 0
  one := 1
  A := h2c_ISO_11_A
  B := h2c_ISO_11_B

theorem cast_blsP : ((blsP : ℕ) : F1) = 0 := by
  apply Fq.toZMod_injective
  rw [Fq.toZMod_natCast, ZMod.natCast_self, Fq.toZMod_zero]

theorem hom1 : ops1.Hom (fun n : ℕ => (n : F1)) where
  add a b := by simp only [ops1, cast_mod cast_blsP, Nat.cast_add]
  sub a b := cast_subMod cast_blsP (by decide) a b
  mul a b := by simp only [ops1, cast_mod cast_blsP, Nat.cast_mul]
  zero := Nat.cast_zero
  one := Nat.cast_one

/-- kernel evaluation of `x^p mod g` and of the elimination: `α³·g(−β/α) ≠ 0 mod p` -/
theorem nrCheck1 : 0 < ops1.check (ops1.xPow 381 blsP) ∧ ops1.check (ops1.xPow 381 blsP) < blsP := by
  decide +kernel

/-- **`x³ + A'x + B'` has no root in `F1`** -/
theorem sswuG_ne_zero (x : F1) : sswuG ISO_11_A ISO_11_B x ≠ 0 := by
  intro hr
  have hr' : x ^ 3 + ((ops1.A : ℕ) : F1) * x + ((ops1.B : ℕ) : F1) = 0 := hr
  have hp : x ^ blsP = x := by
    apply Fq.toZMod_injective
    rw [Fq.toZMod_pow, ZMod.pow_card]
  have h0 := check_eq_zero hom1 hr' ((evK_xPow hom1 hr' 381 blsP (by decide +kernel)).trans hp)
  have h1 := congrArg Fq.toZMod h0
  rw [Fq.toZMod_natCast, Fq.toZMod_zero, ZMod.natCast_eq_zero_iff] at h1
  exact absurd (Nat.le_of_dvd nrCheck1.1 h1) (not_le.mpr nrCheck1.2)

/-- the `y` computed by `optimized_swu_G1` is never zero, hence the sign fix always works:
    `sgn0(y) = sgn0(t)` -/
theorem swuY_sgn0_eq (t : F1) : swuY t ≠ 0 ∧ (swuY t).sgn0 = t.sgn0 :=
  IsSswu.sgn0_eq (swu_isSswu t).2 sswuG_ne_zero

end PyEcc.SwuSem
