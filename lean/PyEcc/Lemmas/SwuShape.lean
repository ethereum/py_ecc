/-
  Names for the intermediate values of `optimized_swu_G1(t)` and the shape of
  its result.  Core Lean only (no Mathlib), so that every `+ * ^ - 0 1` below is, syntactically, the
  operation of the executable model `PyEcc/Model/Fq.lean` that `optimizedSwuG1` itself uses.
-/
import PyEcc.Model.Swu

namespace PyEcc.SwuSem

/-- `temp = Z t² + (Z t²)²` -/
def swuT (t : F1) : F1 := ISO_11_Z * t ^ 2 + (ISO_11_Z * t ^ 2) ^ 2
/-- `denominator` after the exceptional-case fix -/
def swuD (t : F1) : F1 :=
  if -(ISO_11_A * swuT t) = (0 : F1) then ISO_11_Z * ISO_11_A else -(ISO_11_A * swuT t)
/-- `numerator` (before the second-branch update) -/
def swuN (t : F1) : F1 := ISO_11_B * (swuT t + (1 : F1))
/-- `v = D³` -/
def swuV (t : F1) : F1 := swuD t ^ 3
/-- `u = N³ + A·N·D² + B·D³` -/
def swuU (t : F1) : F1 := swuN t ^ 3 + ISO_11_A * swuN t * swuD t ^ 2 + ISO_11_B * swuV t
/-- `is_root` -/
def swuOk (t : F1) : Bool := (sqrtDivisionFq (swuU t) (swuV t)).1
/-- the candidate returned by `sqrt_division_FQ` -/
def swuR (t : F1) : F1 := (sqrtDivisionFq (swuU t) (swuV t)).2
/-- `y` before the sign fix -/
def swuY0 (t : F1) : F1 := if swuOk t then swuR t else swuR t * t ^ 3 * SQRT_MINUS_11_CUBED
/-- `y` after the sign fix, before the multiplication by `denominator` -/
def swuY (t : F1) : F1 := if t.sgn0 ≠ (swuY0 t).sgn0 then -(swuY0 t) else swuY0 t
/-- final `numerator` -/
def swuN' (t : F1) : F1 := if swuOk t then swuN t else swuN t * (ISO_11_Z * t ^ 2)

theorem optimizedSwuG1_eq (t : F1) : optimizedSwuG1 t = (swuN' t, swuY t * swuD t, swuD t) := by
  unfold swuN' swuY swuY0 swuOk swuR swuU swuV swuN swuD swuT
  simp only [optimizedSwuG1]
  generalize sqrtDivisionFq _ _ = r
  obtain ⟨b, y⟩ := r
  cases b
  · simp only [Bool.not_false, if_true, Bool.false_eq_true, if_false]
  · simp only [Bool.not_true, if_true, Bool.false_eq_true, if_false]

end PyEcc.SwuSem
