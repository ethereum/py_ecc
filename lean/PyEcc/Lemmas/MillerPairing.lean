/-
  The induction over the digit list (the optimized BLS12-381 Miller loop and the
  reference loop stay related by the invariant `Inv` of `Lemmas/MillerStep.lean`, `loop_inv`), assembled at the
  module constants of BLS12-381: the digit table is the bit table, the initial states satisfy the
  invariant, the cast of `P` in both modules is the same point, the guards of the two `pairing`
  functions agree, and hence the Miller values (before and after the final power) agree in `K12`.
-/
import PyEcc.Lemmas.MillerStep

set_option linter.unusedSectionVars false
set_option linter.unusedVariables false

namespace PyEcc.MillerSem
open Polynomial PyEcc PyEcc.Gen PyEcc.Gen.Consts PyEcc.Fqp PyEcc.FqpSem PyEcc.Transfer PyEcc.C13
  PyEcc.C13.Bls PyEcc.PairingSem
open PyEcc.TwistSem (goodHom_F12)

section loop
-- keep the unifier from unfolding the loop body when comparing `(optBlsStep …).2.1` terms
attribute [local irreducible] optBlsStep
variable [DecidableEq K2] [DecidableEq K12]

/-- every running point met by the optimized loop from `R` on — at the start of an iteration and,
    when the digit is 1, after the doubling — is finite with `y ≠ 0` -/
def RegularFrom (Q : T2) : List Int → T2 → Prop
  | [], _ => True
  | v :: ds, R => Fin2 R ∧ (v = 1 → Fin2 (Gen.OptBls.double R)) ∧
      RegularFrom Q ds (if v = 1 then Gen.OptBls.add (Gen.OptBls.double R) Q else Gen.OptBls.double R)

instance (Q : T2) : ∀ (ds : List Int) (R : T2), Decidable (RegularFrom Q ds R)
  | [], _ => by unfold RegularFrom; infer_instance
  | v :: ds, R => by
    unfold RegularFrom
    have := instDecidableRegularFrom Q ds
    infer_instance

theorem regularFrom_cons (Q : T2) (v : Int) (ds : List Int) (R : T2) :
    RegularFrom Q (v :: ds) R ↔ (Fin2 R ∧ (v = 1 → Fin2 (Gen.OptBls.double R)) ∧
      RegularFrom Q ds (if v = 1 then Gen.OptBls.add (Gen.OptBls.double R) Q else Gen.OptBls.double R)) := by
  rw [RegularFrom]

/-- **The loop induction**: along any index list, the reference `foldlM` returns normally and the
    invariant is preserved, provided the optimized running points are regular. -/
theorem loop_inv {Q : T2} {Qr : A12} {castP : T12} {Pr : A12} (ctx : Ctx Q Qr castP Pr) (ate : Nat) :
    ∀ (is : List Nat) (so : (OBls12 × OBls12) × T2 × T12) (sr : RBls12 × A12), Inv so sr →
      RegularFrom Q (is.map (digitAt ate)) so.2.1 →
      ∃ sr', is.foldlM (refMillerStep refBlsOps ate Qr Pr) sr = .ok sr' ∧
        Inv ((is.map (digitAt ate)).foldl (optBlsStep castP (twistOptBls Q) Q) so) sr' := by
  intro is
  induction is with
  | nil => intro so sr inv _; exact ⟨sr, rfl, inv⟩
  | cons i is ih =>
    intro so sr inv reg
    rw [List.map_cons, regularFrom_cons] at reg
    obtain ⟨r1, r2, r3⟩ := reg
    have hb : bitSet ate i = true → Fin2 (OptBls.double so.2.1) := by
      intro hb; apply r2; simp [digitAt, hb]
    obtain ⟨sr1, e1, inv1⟩ := step_inv ctx ate i inv r1 hb
    have r3' : RegularFrom Q (is.map (digitAt ate))
        (optBlsStep castP (twistOptBls Q) Q so (digitAt ate i)).2.1 := by
      rw [optBlsStep_R]; exact r3
    obtain ⟨sr', e2, inv2⟩ := ih (optBlsStep castP (twistOptBls Q) Q so (digitAt ate i)) sr1 inv1 r3'
    refine ⟨sr', ?_, ?_⟩
    · rw [List.foldlM_cons, e1]; exact e2
    · rw [List.map_cons, List.foldl_cons]; exact inv2

end loop

/-- the digits scanned by the optimized loop (`pseudo_binary_encoding[62::-1]`) are the bits of
    `ate_loop_count` scanned by the reference loop (`range(log_ate_loop_count, -1, -1)`) -/
theorem bls_digits_eq :
    (downTo bls12_381_log_ate_loop_count).map (digitAt bls12_381_ate_loop_count)
      = digitsFrom optimized_bls12_381_pseudo_binary_encoding 62 := by decide +kernel

theorem twistRefBls_some {p : Nat} {mc2 mc12 : List Int} (x y : Fqp .ref p mc2) :
    ∃ q12 : Fqp .ref p mc12 × Fqp .ref p mc12, twistRefBls (some (x, y)) = some q12 := ⟨_, rfl⟩

/-- `cast_point_to_fq12` of both modules gives the same point of `K12`, any representative -/
theorem castP_repr [DecidableEq K12] {P : Fq blsP × Fq blsP × Fq blsP} {p : Option (Fq blsP × Fq blsP)}
    (hP : toAff P = p) (hPz : P.2.2 ≠ 0) :
    toAff (mapT toQ ((castFq12 P.1, castFq12 P.2.1, castFq12 P.2.2) : T12))
      = Transfer.mapO toQ (castRef p) := by
  rw [toAff_of_z_ne_zero hPz] at hP
  subst hP
  rw [toAff_castFq12 hPz]
  simp only [castRef_some, Transfer.mapO_some, toQ_castFq12]

theorem goodO_castP (p : Option (Fq blsP × Fq blsP)) : Transfer.GoodO Canon (castRef p) := by
  rcases p with _ | ⟨x, y⟩
  · trivial
  · exact ⟨PairingSem.canon_castFq12 rfl x, PairingSem.canon_castFq12 rfl y⟩

section init
variable [DecidableEq K2] [DecidableEq K12]
attribute [local irreducible] optBlsStep

theorem toQ_one12 {v : Variant} : (toQ (1 : Fqp v blsP blsMc12) : K12) = 1 := toQ_one
theorem canon_one12 {v : Variant} : Canon (1 : Fqp v blsP blsMc12) := canon_one (by decide) (by decide)

theorem twist_repr {Q : T2} {q : Option (RBls2 × RBls2)} (cq : Transfer.GoodO Canon q)
    (hQ : toAff (mapT toQ Q) = Transfer.mapO toQ q) :
    toAff (twK (mapT toQ Q)) = Transfer.mapO toQ (twistRefBls q : A12) := by
  rw [toAff_twK, hQ, TwistSem.mapO_twistRefBls cq, twA_eq]

theorem init_inv {Q : T2} {q : Option (RBls2 × RBls2)} (cQ : CanonT Q) (cq : Transfer.GoodO Canon q)
    (hQ : toAff (mapT toQ Q) = Transfer.mapO toQ q) :
    Inv (((1 : OBls12), (1 : OBls12)), Q, twistOptBls Q) ((1 : RBls12), twistRefBls q) where
  cNum := canon_one12
  cDen := canon_one12
  cR := cQ
  tw := rfl
  cf := canon_one12
  cRr := goodO_iff.mpr TwistSem.canonO_twistRefBls
  den := by rw [toQ_one12]; exact one_ne_zero
  val := by rw [toQ_one12, toQ_one12, div_one]
  pt := twist_repr cq hQ

theorem mk_ctx {Q : T2} {q : Option (RBls2 × RBls2)} {P : Fq blsP × Fq blsP × Fq blsP}
    {p : Option (Fq blsP × Fq blsP)} (cQ : CanonT Q) (cq : Transfer.GoodO Canon q)
    (hQ : toAff (mapT toQ Q) = Transfer.mapO toQ q) (hP : toAff P = p) (hQz : Q.2.2 ≠ 0) (hPz : P.2.2 ≠ 0) :
    Ctx Q (twistRefBls q) (castFq12 P.1, castFq12 P.2.1, castFq12 P.2.2) (castRef p) where
  cQ := cQ
  Qz := hQz
  cQr := goodO_iff.mpr TwistSem.canonO_twistRefBls
  hQ := twist_repr cq hQ
  cP :=
    ⟨PairingSem.canon_castFq12 rfl _, PairingSem.canon_castFq12 rfl _, PairingSem.canon_castFq12 rfl _⟩
  Pz := by rw [toQ_castFq12]; exact (_root_.map_ne_zero _).mpr hPz
  cPr := goodO_iff.mpr (goodO_castP p)
  hP := castP_repr hP hPz

/-- regularity of the optimized BLS12-381 Miller loop started at `Q` -/
abbrev MillerRegular (Q : T2) : Prop :=
  RegularFrom Q (digitsFrom optimized_bls12_381_pseudo_binary_encoding 62) Q

/-- **Miller values agree.**  For finite `Q`, `P` represented by the reference points `q`, `p`, and
    regular `Q`: the reference loop (at the module constants) returns normally, and its accumulator
    `f` has the same value in `K12` as `f_num / f_den` of the optimized loop. -/
theorem miller_core {Q : T2} {q : Option (RBls2 × RBls2)} {P : Fq blsP × Fq blsP × Fq blsP}
    {p : Option (Fq blsP × Fq blsP)} (cQ : CanonT Q) (cq : Transfer.GoodO Canon q)
    (hQ : toAff (mapT toQ Q) = Transfer.mapO toQ q) (hP : toAff P = p) (hQz : Q.2.2 ≠ 0) (hPz : P.2.2 ≠ 0)
    (hreg : MillerRegular Q) :
    ∃ sr, (downTo bls12_381_log_ate_loop_count).foldlM
        (refMillerStep refBlsOps bls12_381_ate_loop_count (twistRefBls q) (castRef p))
        ((1 : RBls12), twistRefBls q) = .ok sr
      ∧ Canon sr.1
      ∧ Canon (optBlsMillerLoop (digitsFrom optimized_bls12_381_pseudo_binary_encoding 62) none Q P
          : OBls12)
      ∧ (toQ (optBlsMillerLoop (digitsFrom optimized_bls12_381_pseudo_binary_encoding 62) none Q P
          : OBls12) : K12) = toQ sr.1 := by
  have ctx := mk_ctx cQ cq hQ hP hQz hPz
  have reg : RegularFrom Q
      ((downTo bls12_381_log_ate_loop_count).map (digitAt bls12_381_ate_loop_count)) Q := by
    rw [bls_digits_eq]; exact hreg
  obtain ⟨sr, e, inv⟩ := loop_inv ctx bls12_381_ate_loop_count _ _ _ (init_inv cQ cq hQ) reg
  rw [bls_digits_eq] at inv
  have hO := goodHom_F12 (v := .opt)
  refine ⟨sr, e, inv.cf, ?_, ?_⟩
  · rw [optBlsMillerLoop_none_eq]
    exact hO.good_div inv.cNum inv.cDen
  · rw [optBlsMillerLoop_none_eq, hO.map_div inv.cNum inv.cDen]
    exact inv.val

end init

theorem one_coeffs : (1 : OBls12).coeffs = (1 : RBls12).coeffs := rfl

theorem pow_coeffs {fo : OBls12} {fr : RBls12} (co : Canon fo) (cf : Canon fr)
    (v : (toQ fo : K12) = toQ fr) (E : ℕ) : (fo ^ E).coeffs = (fr ^ E).coeffs := by
  have hO := goodHom_F12 (v := .opt)
  have hR := goodHom_F12 (v := .ref)
  apply evQ_inj (hO.good_pow E co) (hR.good_pow E cf)
  have e1 : (toQ (fo ^ E) : K12) = toQ fo ^ E := hO.map_pow E co
  have e2 : (toQ (fr ^ E) : K12) = toQ fr ^ E := hR.map_pow E cf
  exact e1.trans ((congrArg (· ^ E) v).trans e2.symm)

section guards
variable [DecidableEq K2]

theorem on_curve_Q_agree {Q : T2} {q : Option (RBls2 × RBls2)} (cQ : CanonT Q) (cq : Transfer.GoodO Canon q)
    (hQ : toAff (mapT toQ Q) = Transfer.mapO toQ q) :
    Gen.OptBls.is_on_curve Q (⟨optimized_bls12_381_b2⟩ : OBls2)
      = Gen.RefBls.is_on_curve q (⟨bls12_381_b2⟩ : RBls2) :=
  on_curve_agree (K := K2) (goodHom_F2 (v := .opt)) (goodHom_F2 (v := .ref)) cQ cq hQ
    (by decide) (by decide) rfl

end guards

end PyEcc.MillerSem
