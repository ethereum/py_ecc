/-
  PyEcc.Lemmas.Gi — `F_p[i]/(i² + 1)` on pairs of naturals: `Gi p` with its arithmetic, which the kernel
  evaluates quickly on literals, and the reading `Gi.phi i : Gi p → R`, `(a, b) ↦ a + b·i`, into any
  commutative ring `R` of characteristic `p` with an element `i`, `i² = −1`, which turns every operation on
  pairs into the operation of `R` (`phi_add`, …, `phi_pow`).  A fact about powers or polynomial expressions
  in `R` is evaluated on pairs and read through `phi`.
-/
import Mathlib.Algebra.CharP.Defs
import Mathlib.Tactic.Ring
import Mathlib.Tactic.LinearCombination
import PyEcc.Lemmas.PowLoop

namespace PyEcc

/-- `re + im·i` in `F_p[i]/(i² + 1)` (the name: a pair in the style of the Gaussian integers), coordinates
    as plain naturals: the kernel evaluates `Nat` arithmetic on literals with GMP, which the list-based
    model `Fqp` (index loops over `List Int`) does not allow -/
structure Gi (p : ℕ) where
  re : ℕ
  im : ℕ
  deriving DecidableEq

namespace Gi
variable {p : ℕ}

def red (a b : ℕ) : Gi p := ⟨Nat.mod a p, Nat.mod b p⟩

/-! The operations are written with `Nat.add`, `Nat.sub`, `Nat.mul`, `Nat.mod` applied directly: the kernel
    computes these on literals at once, while `+ - * %` first have to be unfolded through their type classes,
    which costs several times as much over a scalar multiplication. -/

instance : Zero (Gi p) := ⟨red 0 0⟩
instance : One (Gi p) := ⟨red 1 0⟩
instance : NatCast (Gi p) := ⟨fun n => red n 0⟩
instance : Add (Gi p) := ⟨fun x y => red (Nat.add x.re y.re) (Nat.add x.im y.im)⟩
instance : Neg (Gi p) := ⟨fun x => red (Nat.sub p (Nat.mod x.re p)) (Nat.sub p (Nat.mod x.im p))⟩
instance : Sub (Gi p) :=
  ⟨fun x y => red (Nat.add x.re (Nat.sub p (Nat.mod y.re p))) (Nat.add x.im (Nat.sub p (Nat.mod y.im p)))⟩
instance : Mul (Gi p) :=
  ⟨fun x y => red (Nat.add (Nat.mul x.re y.re) (Nat.sub p (Nat.mod (Nat.mul x.im y.im) p)))
    (Nat.add (Nat.mul x.re y.im) (Nat.mul x.im y.re))⟩

/-- square-and-multiply, `acc * a ^ e` -/
def powAux : ℕ → Gi p → ℕ → Gi p → Gi p
  | 0, _, _, acc => acc
  | fuel + 1, a, e, acc =>
    if e = 0 then acc else powAux fuel (a * a) (e / 2) (if e % 2 = 1 then acc * a else acc)

instance : Pow (Gi p) ℕ := ⟨fun a e => powAux (e.log2 + 1) a e 1⟩

/-- division by Fermat in `F_{p²}`: `1 / y = y ^ (p² − 2)` (`1 / 0 = 0`) -/
instance : Div (Gi p) := ⟨fun x y => x * y ^ (p ^ 2 - 2)⟩

def Good (x : Gi p) : Prop := x.re < p ∧ x.im < p

instance (x : Gi p) : Decidable (Good x) := by unfold Good; infer_instance

section good
variable [NeZero p]

theorem good_red (a b : ℕ) : Good (red a b : Gi p) :=
  ⟨Nat.mod_lt _ (NeZero.pos p), Nat.mod_lt _ (NeZero.pos p)⟩

end good

section phi
variable {R : Type*} [CommRing R] (i : R)

def phi (x : Gi p) : R := (x.re : R) + (x.im : R) * i

variable [CharP R p]

theorem phi_red (a b : ℕ) : phi i (red a b : Gi p) = (a : R) + (b : R) * i := by
  rw [CharP.cast_eq_mod R p a, CharP.cast_eq_mod R p b]
  rfl

theorem phi_natCast (n : ℕ) : phi i (n : Gi p) = (n : R) := by
  rw [show (n : Gi p) = red n 0 from rfl, phi_red, Nat.cast_zero, zero_mul, add_zero]

theorem phi_zero : phi i (0 : Gi p) = 0 := (phi_natCast i 0).trans Nat.cast_zero

theorem phi_one : phi i (1 : Gi p) = 1 := (phi_natCast i 1).trans Nat.cast_one

theorem phi_add (x y : Gi p) : phi i (x + y) = phi i x + phi i y := by
  rw [show x + y = red (x.re + y.re) (x.im + y.im) from rfl, phi_red, phi, phi, Nat.cast_add, Nat.cast_add]
  ring

variable [NeZero p]

/-- `p − n mod p` is how the operations negate a coordinate -/
theorem cast_sub_mod (n : ℕ) : ((p - n % p : ℕ) : R) = -(n : R) := by
  rw [Nat.cast_sub (Nat.mod_lt n (NeZero.pos p)).le, CharP.cast_eq_zero, ← CharP.cast_eq_mod, zero_sub]

theorem phi_neg (x : Gi p) : phi i (-x) = -phi i x := by
  rw [show -x = red (p - x.re % p) (p - x.im % p) from rfl, phi_red, phi, cast_sub_mod, cast_sub_mod]
  ring

theorem phi_sub (x y : Gi p) : phi i (x - y) = phi i x - phi i y := by
  rw [show x - y = red (x.re + (p - y.re % p)) (x.im + (p - y.im % p)) from rfl, phi_red, phi, phi,
    Nat.cast_add, Nat.cast_add, cast_sub_mod, cast_sub_mod]
  ring

variable {i} (hi : i ^ 2 = -1)
include hi

theorem phi_mul (x y : Gi p) : phi i (x * y) = phi i x * phi i y := by
  rw [show x * y = red (x.re * y.re + (p - x.im * y.im % p)) (x.re * y.im + x.im * y.re) from rfl,
    phi_red, phi, phi, Nat.cast_add, Nat.cast_add, cast_sub_mod]
  push_cast
  linear_combination (-(x.im : R) * (y.im : R)) * hi

theorem phi_pow (x : Gi p) (n : ℕ) : phi i (x ^ n) = phi i x ^ n := by
  rw [show x ^ n = powAux (n.log2 + 1) x n 1 from rfl,
    powLoop_eq (aux := fun f o t e => powAux f t e o) (fun _ _ _ => rfl) (fun _ _ _ _ => rfl) (phi i)
      (phi_mul hi) _ 1 x n Nat.lt_log2_self, phi_one, one_mul]

end phi

end Gi
end PyEcc
