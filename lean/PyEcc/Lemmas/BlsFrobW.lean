/-
  The one genuinely computational fact behind `exp_by_p` of
  `optimized_bls12_381/optimized_pairing.py`:  `exptable[1]` denotes `w^p` in
  `FQ12 = Fp[w]/(w¹² − 2w⁶ + 2)`.

  Evaluating `FQ12([0,1,0,…]) ** p` in the executable model is expensive for the kernel (381
  squarings of 12-coefficient lists).  Instead: `p = 6q + 1`, so `w^p = w · (w⁶)^q`, and `y = w⁶`
  satisfies `y² = 2y − 2`, so `i6 = y − 1` is a square root of `−1` and `y = 1 + i6` lives in the quadratic
  subfield `Fp[i6]`.  `y^q` is computed by the kernel on pairs of naturals (`Gi blsP`, `Lemmas/Gi.lean`,
  ≈ 570 pair multiplications) and read through `Gi.phi i6`.  The entries `exptable[i] = (w^p)ⁱ = wⁱ·(y^q)ⁱ`
  have two non-zero coefficients each and are checked on pairs in the same way (`blsTab_compute`), without
  a multiplication of 12-coefficient lists.
-/
import Mathlib.Tactic.LinearCombination
import PyEcc.Lemmas.ExpByP
import PyEcc.Sem.Primes
import PyEcc.Lemmas.Gi

namespace PyEcc.MillerSem
open PyEcc PyEcc.FqpSem

/-- BLS12-381: the semantic field of `FQ12` coordinates -/
abbrev K12 : Type := AdjoinRoot (modulus blsP blsMc12)

/-- the generator `w` of `K12` -/
noncomputable abbrev w12 : K12 := AdjoinRoot.root (modulus blsP blsMc12)

end PyEcc.MillerSem

namespace PyEcc.PairingSem
open Polynomial PyEcc PyEcc.Fqp PyEcc.FqpSem PyEcc.Gen.Consts
open PyEcc.MillerSem (K12 w12)

theorem blsMc12_len : 1 ≤ blsMc12.length := by decide

/-- `w¹² = 2w⁶ − 2`, i.e. `y = w⁶` satisfies `y² = 2y − 2` -/
theorem y_sq : (w12 ^ 6) ^ 2 = 2 * w12 ^ 6 - 2 := by
  have h : AdjoinRoot.mk (modulus blsP blsMc12)
      (X ^ 12 + ev blsP [2, 0, 0, 0, 0, 0, -2, 0, 0, 0, 0, 0]) = 0 := AdjoinRoot.mk_self
  simp only [ev_cons, ev_nil, map_add, map_mul, map_pow, AdjoinRoot.mk_X, AdjoinRoot.mk_C,
    Int.cast_zero, Int.cast_neg, Int.cast_ofNat, map_zero, map_neg, map_ofNat] at h
  linear_combination h

/-- a square root of `−1` in `K12`; pairs are read through `Gi.phi i6`, and `w⁶ = 1 + i6` -/
noncomputable def i6 : K12 := w12 ^ 6 - 1

theorem i6_sq : i6 ^ 2 = -1 := by rw [i6]; linear_combination y_sq

theorem phi_y : Gi.phi i6 (⟨1, 1⟩ : Gi blsP) = w12 ^ 6 := by
  rw [Gi.phi, i6, Nat.cast_one, one_mul, add_sub_cancel]

/-- the second entry of the module constant `exptable` -/
def blsT1 : OBls12 := blsExptable.getD 1 0

/-! ### the table: `exptable[i] = (w^p)ⁱ = wⁱ·((w⁶)^((p−1)/6))ⁱ` has two non-zero coefficients -/

/-- the twelve coefficients of `wʲ·(a + b·i)` (`j < 6`): `a − b` at position `j` and `b` at position `j + 6` -/
def sparse (j : Nat) (x : Gi blsP) : List Int :=
  List.replicate j 0 ++ (((x.re + (blsP - x.im % blsP)) % blsP : ℕ) : ℤ) :: List.replicate 5 0 ++
    (x.im : ℤ) :: List.replicate (5 - j) 0

theorem evQ_sparse (j : Nat) (x : Gi blsP) : evQ blsP blsMc12 (sparse j x) = w12 ^ j * Gi.phi i6 x := by
  have := charP_quot (p := blsP) (mc := blsMc12) blsMc12_len
  have h : (((x.re + (blsP - x.im % blsP)) % blsP : ℕ) : K12) = x.re - x.im := by
    rw [← CharP.cast_eq_mod, Nat.cast_add, Gi.cast_sub_mod]
    ring
  unfold sparse evQ
  rw [ev_append, ev_append, ev_replicate_zero, ev_cons, ev_cons, ev_replicate_zero,
    ev_replicate_zero]
  simp only [List.length_append, List.length_replicate, List.length_cons, map_add, map_mul,
    map_pow, AdjoinRoot.mk_X, mul_zero, add_zero, zero_add, Int.cast_natCast, map_natCast,
    h, Gi.phi, i6]
  ring

/-- `(w⁶)^((p−1)/6)`, on pairs -/
def yq : Gi blsP := ⟨1, 1⟩ ^ ((blsP - 1) / 6)

theorem w12_pow_p : w12 ^ blsP = w12 * Gi.phi i6 yq := by
  have := charP_quot (p := blsP) (mc := blsMc12) blsMc12_len
  rw [yq, Gi.phi_pow i6_sq, phi_y, ← pow_mul, ← pow_succ', show 6 * ((blsP - 1) / 6) + 1 = blsP by decide]

/-- the pair of `exptable[i]`: the `i`-th power of `yq`, times `w⁶` from `i = 6` on -/
def pairAt (i : Nat) : Gi blsP := if i < 6 then yq ^ i else ⟨1, 1⟩ * yq ^ i

/-- kernel computation on pairs (no multiplication in the executable FQ12 model): every entry of
    `exptable` is stored reduced and is the sparse list of `pairAt` -/
theorem blsTab_compute : ∀ i < 12, Canon (blsExptable.getD i 0) ∧
    (blsExptable.getD i 0).coeffs = sparse (i % 6) (pairAt i) := by decide +kernel

theorem blsTab_spec {i : ℕ} (hi : i < 12) :
    Canon (blsExptable.getD i 0) ∧ toQ (blsExptable.getD i 0) = (w12 ^ blsP) ^ i := by
  have := charP_quot (p := blsP) (mc := blsMc12) blsMc12_len
  obtain ⟨c, hc⟩ := blsTab_compute i hi
  refine ⟨c, ?_⟩
  rw [toQ, hc, evQ_sparse, w12_pow_p, mul_pow, pairAt]
  by_cases h6 : i < 6
  · rw [if_pos h6, Nat.mod_eq_of_lt h6, Gi.phi_pow i6_sq]
  · rw [if_neg h6, Gi.phi_mul i6_sq, phi_y, Gi.phi_pow i6_sq, ← mul_assoc, ← pow_add]
    congr 2
    omega

theorem wf_blsT1 : WF blsT1 := (blsTab_spec (i := 1) (by decide)).1.wf

theorem blsExptable_eq_map : blsExptable = (List.range 12).map fun i => blsExptable.getD i 0 := by
  refine List.ext_getElem (by rw [List.length_map, List.length_range]; decide) fun i h1 _ => ?_
  rw [List.getElem_map, List.getElem_range]
  exact List.getElem_eq_getD 0

end PyEcc.PairingSem
