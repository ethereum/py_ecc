/-
  The BLS signature protocol over abstract groups: additive commutative groups `G1`, `G2`, a commutative group `GT`, a number
  `r`, a map `e : G2 → G1 → GT`, a "generator" `g1 : G1` with `r • g1 = 0` and a "hash" `H : Msg → G2` into the `r`-torsion.
  All that is used of `e` is `IsPairing r e g1`.  The checks have the shape of the py_ecc code (`_CoreVerify`:
  `pairing(sig, G1) * pairing(H(m), −PK)`, `_CoreAggregateVerify`: `∏ pairing(H(mᵢ), PKᵢ) * pairing(sig, −G1)`, each
  followed by the final exponentiation and `== 1`).  `Lemmas/BlsProto.lean`, `BlsProtoAgg.lean` read the model's verification
  functions as `verify` / `aggVerify` on Mathlib's elliptic-curve groups and obtain their theorems about honest keys from
  `abs_verify_iff`, its corollaries and `abs_aggregate_verify_iff`.
-/
import Mathlib.Algebra.BigOperators.Group.List.Basic
import Mathlib.GroupTheory.OrderOfElement
import Mathlib.Data.Nat.Prime.Basic
import Mathlib.Data.Int.GCD
import Mathlib.Data.List.Perm.Basic
import Mathlib.Algebra.BigOperators.Group.List.Lemmas
import Mathlib.Tactic.Abel
import PyEcc.Lemmas.Bilinear

namespace PyEcc.BlsAbs
open NdSem

variable {G1 G2 GT Msg : Type*} [AddCommGroup G1] [AddCommGroup G2] [CommGroup GT]

/-- The hypothesis on the pairing: additivity in each argument on `r`-torsion points (HB1) and non-degeneracy against the
    generator `g1` (ND). -/
structure IsPairing (r : ℕ) (e : G2 → G1 → GT) (g1 : G1) : Prop where
  add_left : ∀ {Q Q' : G2} {P : G1}, r • Q = 0 → r • Q' = 0 → r • P = 0 →
    e (Q + Q') P = e Q P * e Q' P
  add_right : ∀ {Q : G2} {P P' : G1}, r • Q = 0 → r • P = 0 → r • P' = 0 →
    e Q (P + P') = e Q P * e Q P'
  nondeg : ∀ {Q : G2}, r • Q = 0 → e Q g1 = 1 → Q = 0

def pk (g1 : G1) (sk : ℕ) : G1 := sk • g1
def sign (H : Msg → G2) (sk : ℕ) (m : Msg) : G2 := sk • H m
/-- the check of `_CoreVerify`: `e(S, g1) · e(H(m), −PK) = 1` -/
def verify (e : G2 → G1 → GT) (g1 : G1) (H : Msg → G2) (PK : G1) (m : Msg) (S : G2) : Prop :=
  e S g1 * e (H m) (-PK) = 1
/-- the check of `_CoreAggregateVerify`: `∏ e(H(mᵢ), PKᵢ) · e(S, −g1) = 1` -/
def aggVerify (e : G2 → G1 → GT) (g1 : G1) (H : Msg → G2) (l : List (G1 × Msg)) (S : G2) : Prop :=
  (l.map fun x => e (H x.2) x.1).prod * e S (-g1) = 1
/-- the check of `FastAggregateVerify`: the aggregate key `Σ PKᵢ` must not be the identity
    (IETF: `KeyValidate` of the aggregate key) and `S` must verify under it -/
def fastAggVerify (e : G2 → G1 → GT) (g1 : G1) (H : Msg → G2) (PKs : List G1) (m : Msg) (S : G2) :
    Prop :=
  PKs.sum ≠ 0 ∧ verify e g1 H PKs.sum m S

section
variable {r : ℕ} {e : G2 → G1 → GT} {g1 : G1} (he : IsPairing r e g1)
include he

omit he in
theorem IsPairing.isBilinear (he : IsPairing r e g1) : IsBilinear r e := ⟨he.add_left, he.add_right⟩

theorem IsPairing.inj_left (hg : r • g1 = 0) {Q Q' : G2} (hQ : r • Q = 0) (hQ' : r • Q' = 0)
    (h : e Q g1 = e Q' g1) : Q = Q' := by
  have hd : r • (Q + -Q') = 0 := by rw [smul_add, smul_neg, hQ, hQ', neg_zero, add_zero]
  have h1 : e (Q + -Q') g1 = 1 := by
    rw [he.add_left hQ (by rw [smul_neg, hQ', neg_zero]) hg, he.isBilinear.neg_left hQ' hg, h,
      mul_inv_cancel]
  have := he.nondeg hd h1
  rwa [← sub_eq_add_neg, sub_eq_zero] at this

/-! ### C01 / C02: single signatures -/

variable {H : Msg → G2}

/-- **`verify` accepts exactly the canonical signature** (C02): for an `r`-torsion candidate `S`,
    `verify (sk•g1) m S ↔ S = sk • H m`. -/
theorem abs_verify_iff (hg : r • g1 = 0) (hH : ∀ m, r • H m = 0) (sk : ℕ) (m : Msg) {S : G2}
    (hS : r • S = 0) : verify e g1 H (pk g1 sk) m S ↔ S = sign H sk m := by
  have hk : r • (sk • g1) = 0 := by rw [smul_comm, hg, smul_zero]
  have hkh : r • (sk • H m) = 0 := by rw [smul_comm, hH, smul_zero]
  rw [verify, pk, he.isBilinear.neg_right (hH m) hk, he.isBilinear.nsmul_swap (hH m) hg, mul_inv_eq_one]
  exact ⟨he.inj_left hg hS hkh, fun h => by rw [h, sign]⟩

/-- **Honest signatures verify** (C01): `verify (sk•g1) m (sk • H m)`. -/
theorem abs_sign_verify (hg : r • g1 = 0) (hH : ∀ m, r • H m = 0) (sk : ℕ) (m : Msg) :
    verify e g1 H (pk g1 sk) m (sign H sk m) :=
  (abs_verify_iff he hg hH sk m (by rw [sign, smul_comm, hH, smul_zero])).mpr rfl

end

theorem nsmul_eq_nsmul_iff {G : Type*} [AddCommGroup G] {r : ℕ} (hr : r.Prime) {h : G}
    (hh : r • h = 0) (h0 : h ≠ 0) (a b : ℕ) : a • h = b • h ↔ a ≡ b [MOD r] := by
  have ho : addOrderOf h = r := by
    have hd := addOrderOf_dvd_of_nsmul_eq_zero hh
    rcases (Nat.dvd_prime hr).mp hd with h1 | h1
    · exact (h0 (AddMonoid.addOrderOf_eq_one_iff.mp h1)).elim
    · exact h1
  rw [← ho]
  exact nsmul_eq_nsmul_iff_modEq

theorem nsmul_cancel {G : Type*} [AddCommGroup G] {r : ℕ} (hr : r.Prime) {a : ℕ}
    (ha : ¬ r ∣ a) {x y : G} (hx : r • x = 0) (hy : r • y = 0) (h : a • x = a • y) : x = y := by
  have hd : r • (x - y) = 0 := by rw [smul_sub, hx, hy, sub_zero]
  have ha' : a • (x - y) = 0 := by rw [smul_sub, h, sub_self]
  have h1 := addOrderOf_dvd_of_nsmul_eq_zero hd
  have h2 := addOrderOf_dvd_of_nsmul_eq_zero ha'
  rcases (Nat.dvd_prime hr).mp h1 with h3 | h3
  · exact sub_eq_zero.mp (AddMonoid.addOrderOf_eq_one_iff.mp h3)
  · rw [h3] at h2; exact (ha h2).elim

theorem eq_zero_of_neg_eq {G : Type*} [AddCommGroup G] {r : ℕ} (hr : r.Prime) (h2 : r ≠ 2)
    {x : G} (hx : r • x = 0) (h : -x = x) : x = 0 := by
  have hd : ¬ r ∣ 2 := fun hd => h2 ((Nat.prime_dvd_prime_iff_eq hr Nat.prime_two).mp hd)
  apply nsmul_cancel hr hd hx (smul_zero r)
  rw [smul_zero, two_nsmul]
  nth_rewrite 1 [← h]
  exact neg_add_cancel x

theorem nsmul_ne_zero_of_lt {G : Type*} [AddCommGroup G] {r : ℕ} (hr : r.Prime) {k : ℕ} (h0 : 0 < k)
    (hk : k < r) {x : G} (hx : r • x = 0) (hne : x ≠ 0) : k • x ≠ 0 := fun h =>
  hne (nsmul_cancel hr (Nat.not_dvd_of_pos_of_lt h0 hk) hx (smul_zero r) (by rw [h, smul_zero]))

theorem sum_nsmul_const {G : Type*} [AddCommGroup G] (ks : List ℕ) (h : G) :
    (ks.map fun k => k • h).sum = ks.sum • h := by
  induction ks with
  | nil => simp
  | cons k ks ih => rw [List.map_cons, List.sum_cons, List.sum_cons, add_smul, ih]

/-! ### C02 corollaries: each class of wrong candidate, with its exact side condition -/

section
variable {r : ℕ} {e : G2 → G1 → GT} {g1 : G1} (he : IsPairing r e g1) {H : Msg → G2}
include he

/-- the identity `0` verifies only when the honest signature is itself `0` -/
theorem abs_verify_zero_iff (hg : r • g1 = 0) (hH : ∀ m, r • H m = 0) (sk : ℕ) (m : Msg) :
    verify e g1 H (pk g1 sk) m 0 ↔ sign H sk m = 0 := by
  rw [abs_verify_iff he hg hH sk m (smul_zero r)]; exact eq_comm

/-- `−S` (with `S` the honest signature) verifies only when `S = 0`; needs `r` an odd prime -/
theorem abs_verify_neg_iff (hr : r.Prime) (h2 : r ≠ 2) (hg : r • g1 = 0) (hH : ∀ m, r • H m = 0)
    (sk : ℕ) (m : Msg) : verify e g1 H (pk g1 sk) m (-(sign H sk m)) ↔ sign H sk m = 0 := by
  have hS : r • sign H sk m = 0 := by rw [sign, smul_comm, hH, smul_zero]
  rw [abs_verify_iff he hg hH sk m (by rw [smul_neg, hS, neg_zero])]
  exact ⟨eq_zero_of_neg_eq hr h2 hS, fun h => by rw [h, neg_zero]⟩

/-- `2 • S` verifies only when `S = 0` -/
theorem abs_verify_double_iff (hg : r • g1 = 0) (hH : ∀ m, r • H m = 0) (sk : ℕ) (m : Msg) :
    verify e g1 H (pk g1 sk) m (2 • sign H sk m) ↔ sign H sk m = 0 := by
  have hS : r • sign H sk m = 0 := by rw [sign, smul_comm, hH, smul_zero]
  rw [abs_verify_iff he hg hH sk m (by rw [smul_comm, hS, smul_zero]), two_nsmul]
  exact add_eq_left

/-- `S + T` with `T` in the `r`-torsion verifies only when `T = 0` -/
theorem abs_verify_add_iff (hg : r • g1 = 0) (hH : ∀ m, r • H m = 0) (sk : ℕ) (m : Msg) {T : G2}
    (hT : r • T = 0) : verify e g1 H (pk g1 sk) m (sign H sk m + T) ↔ T = 0 := by
  have hS : r • sign H sk m = 0 := by rw [sign, smul_comm, hH, smul_zero]
  rw [abs_verify_iff he hg hH sk m (by rw [smul_add, hS, hT, add_zero])]
  exact add_eq_left

/-- any `r`-torsion candidate different from the honest signature is rejected -/
theorem abs_verify_ne (hg : r • g1 = 0) (hH : ∀ m, r • H m = 0) (sk : ℕ) (m : Msg) {S : G2}
    (hS : r • S = 0) (hne : S ≠ sign H sk m) : ¬ verify e g1 H (pk g1 sk) m S :=
  fun h => hne ((abs_verify_iff he hg hH sk m hS).mp h)

/-- **Other key.**  The signature under `sk` verifies under the key of `sk'` iff
    `sk • H m = sk' • H m`; when `H m ≠ 0` (and `r` prime) this is `sk ≡ sk' (mod r)`. -/
theorem abs_verify_other_key_iff (hr : r.Prime) (hg : r • g1 = 0) (hH : ∀ m, r • H m = 0)
    (sk sk' : ℕ) (m : Msg) (h0 : H m ≠ 0) :
    verify e g1 H (pk g1 sk') m (sign H sk m) ↔ sk ≡ sk' [MOD r] := by
  rw [abs_verify_iff he hg hH sk' m (by rw [sign, smul_comm, hH, smul_zero])]
  exact nsmul_eq_nsmul_iff hr (hH m) h0 sk sk'

/-- other key, rejection form: `sk' ≢ sk (mod r)` and `H m ≠ 0` -/
theorem abs_verify_other_key (hr : r.Prime) (hg : r • g1 = 0) (hH : ∀ m, r • H m = 0)
    (sk sk' : ℕ) (m : Msg) (h0 : H m ≠ 0) (hne : ¬ sk ≡ sk' [MOD r]) :
    ¬ verify e g1 H (pk g1 sk') m (sign H sk m) :=
  fun h => hne ((abs_verify_other_key_iff he hr hg hH sk sk' m h0).mp h)

/-- **Other message.**  The signature of `m` verifies for `m'` iff `sk • H m = sk • H m'`; for
    `sk ≢ 0 (mod r)` (and `r` prime) this is `H m = H m'`. -/
theorem abs_verify_other_msg_iff (hr : r.Prime) (hg : r • g1 = 0) (hH : ∀ m, r • H m = 0)
    (sk : ℕ) (hsk : ¬ r ∣ sk) (m m' : Msg) :
    verify e g1 H (pk g1 sk) m' (sign H sk m) ↔ H m = H m' := by
  rw [abs_verify_iff he hg hH sk m' (by rw [sign, smul_comm, hH, smul_zero])]
  exact ⟨nsmul_cancel hr hsk (hH m) (hH m'), fun h => by rw [sign, sign, h]⟩

/-- other message, rejection form: `H m' ≠ H m` and `sk ≢ 0 (mod r)` -/
theorem abs_verify_other_msg (hr : r.Prime) (hg : r • g1 = 0) (hH : ∀ m, r • H m = 0)
    (sk : ℕ) (hsk : ¬ r ∣ sk) (m m' : Msg) (hne : H m' ≠ H m) :
    ¬ verify e g1 H (pk g1 sk) m' (sign H sk m) :=
  fun h => hne ((abs_verify_other_msg_iff he hr hg hH sk hsk m m').mp h).symm

end

/-! ### C03: aggregation -/

section
variable {r : ℕ} {e : G2 → G1 → GT} {g1 : G1} (he : IsPairing r e g1)
include he

variable {H : Msg → G2}

/-- **`aggVerify` accepts exactly the group sum** (C03): with keys `skᵢ • g1` and messages `mᵢ`,
    an `r`-torsion `S` is accepted iff `S = Σ skᵢ • H mᵢ`. -/
theorem abs_aggregate_verify_iff (hg : r • g1 = 0) (hH : ∀ m, r • H m = 0) (l : List (ℕ × Msg))
    {S : G2} (hS : r • S = 0) :
    aggVerify e g1 H (l.map fun x => (pk g1 x.1, x.2)) S ↔ S = (l.map fun x => sign H x.1 x.2).sum := by
  -- the product of the values at the keys is the value of the sum at the generator
  have hsum : r • (l.map fun x => sign H x.1 x.2).sum = 0 ∧
      ((l.map fun x => (pk g1 x.1, x.2)).map fun x => e (H x.2) x.1).prod =
        e (l.map fun x => sign H x.1 x.2).sum g1 := by
    induction l with
    | nil => exact ⟨smul_zero r, (he.isBilinear.zero_left hg).symm⟩
    | cons x xs ih =>
      obtain ⟨h1, h2⟩ := ih
      have hkx : r • sign H x.1 x.2 = 0 := by rw [sign, smul_comm, hH, smul_zero]
      simp only [List.map_cons, List.sum_cons, List.prod_cons]
      refine ⟨by rw [smul_add, hkx, h1, add_zero], ?_⟩
      rw [he.add_left hkx h1 hg, h2, pk, sign, he.isBilinear.nsmul_swap (hH _) hg]
  rw [aggVerify, hsum.2, he.isBilinear.neg_right hS hg, mul_inv_eq_one]
  exact ⟨fun h => (he.inj_left hg hsum.1 hS h).symm, fun h => by rw [h]⟩

/-- **`fastAggVerify`** (one shared message, aggregate key `Σ skᵢ • g1`): an `r`-torsion `S` is accepted
    iff the aggregate key is not the identity AND `S = (Σ skᵢ) • H m = Σ skᵢ • H m`.
    The first conjunct is the IETF-mandated rejection of an identity aggregate key. -/
theorem abs_fast_aggregate_verify_iff (hg : r • g1 = 0) (hH : ∀ m, r • H m = 0) (sks : List ℕ)
    (m : Msg) {S : G2} (hS : r • S = 0) :
    fastAggVerify e g1 H (sks.map (pk g1)) m S ↔
      (sks.map (pk g1)).sum ≠ 0 ∧ S = (sks.map fun sk => sign H sk m).sum := by
  rw [fastAggVerify, show (sks.map (pk g1)).sum = pk g1 sks.sum from sum_nsmul_const sks g1,
    show (sks.map fun sk => sign H sk m).sum = sign H sks.sum m from sum_nsmul_const sks (H m),
    abs_verify_iff he hg hH _ m hS]

/-- **Single-element perturbations** (dropping / duplicating / substituting a signer, reordering …):
    if `S` is accepted for the list `l` and `S'` for `l'`, then `S = S'` iff the two required sums are
    equal. -/
theorem abs_aggregate_accept_eq_iff (hg : r • g1 = 0) (hH : ∀ m, r • H m = 0)
    (l l' : List (ℕ × Msg)) {S S' : G2} (hS : r • S = 0) (hS' : r • S' = 0)
    (h : aggVerify e g1 H (l.map fun x => (pk g1 x.1, x.2)) S)
    (h' : aggVerify e g1 H (l'.map fun x => (pk g1 x.1, x.2)) S') :
    S = S' ↔ (l.map fun x => sign H x.1 x.2).sum = (l'.map fun x => sign H x.1 x.2).sum := by
  rw [(abs_aggregate_verify_iff he hg hH l hS).mp h, (abs_aggregate_verify_iff he hg hH l' hS').mp h']

theorem abs_aggregate_transfer_iff (hg : r • g1 = 0) (hH : ∀ m, r • H m = 0)
    (l l' : List (ℕ × Msg)) {S : G2} (hS : r • S = 0)
    (h : aggVerify e g1 H (l.map fun x => (pk g1 x.1, x.2)) S) :
    aggVerify e g1 H (l'.map fun x => (pk g1 x.1, x.2)) S ↔
      (l.map fun x => sign H x.1 x.2).sum = (l'.map fun x => sign H x.1 x.2).sum := by
  rw [abs_aggregate_verify_iff he hg hH l' hS, ← (abs_aggregate_verify_iff he hg hH l hS).mp h]

/-- dropping a signer `(sk, m)` from an accepted aggregate keeps it accepted iff that signer's own
    signature is `0` -/
theorem abs_aggregate_drop_iff (hg : r • g1 = 0) (hH : ∀ m, r • H m = 0) (x : ℕ × Msg)
    (l : List (ℕ × Msg)) {S : G2} (hS : r • S = 0)
    (h : aggVerify e g1 H ((x :: l).map fun x => (pk g1 x.1, x.2)) S) :
    aggVerify e g1 H (l.map fun x => (pk g1 x.1, x.2)) S ↔ sign H x.1 x.2 = 0 := by
  rw [abs_aggregate_transfer_iff he hg hH (x :: l) l hS h]
  simp only [List.map_cons, List.sum_cons]
  exact add_eq_right

/-- duplicating a signer `(sk, m)` in an accepted aggregate keeps it accepted iff that signer's own
    signature is `0` -/
theorem abs_aggregate_dup_iff (hg : r • g1 = 0) (hH : ∀ m, r • H m = 0) (x : ℕ × Msg)
    (l : List (ℕ × Msg)) {S : G2} (hS : r • S = 0)
    (h : aggVerify e g1 H ((x :: l).map fun x => (pk g1 x.1, x.2)) S) :
    aggVerify e g1 H ((x :: x :: l).map fun x => (pk g1 x.1, x.2)) S ↔ sign H x.1 x.2 = 0 := by
  rw [abs_aggregate_transfer_iff he hg hH (x :: l) (x :: x :: l) hS h]
  simp only [List.map_cons, List.sum_cons]
  constructor
  · intro h; exact (add_eq_right.mp h.symm)
  · intro h; rw [h, zero_add, zero_add]

/-- substituting signer `x` by `y` in an accepted aggregate keeps it accepted iff their signatures are
    equal -/
theorem abs_aggregate_subst_iff (hg : r • g1 = 0) (hH : ∀ m, r • H m = 0) (x y : ℕ × Msg)
    (l : List (ℕ × Msg)) {S : G2} (hS : r • S = 0)
    (h : aggVerify e g1 H ((x :: l).map fun x => (pk g1 x.1, x.2)) S) :
    aggVerify e g1 H ((y :: l).map fun x => (pk g1 x.1, x.2)) S ↔
      sign H x.1 x.2 = sign H y.1 y.2 := by
  rw [abs_aggregate_transfer_iff he hg hH (x :: l) (y :: l) hS h]
  simp only [List.map_cons, List.sum_cons]
  exact add_left_inj _

end

/-! ### order and grouping independence of the aggregate (no pairing needed) -/

/-- the aggregate of a permuted list of signatures is the same group element -/
theorem abs_aggregate_perm {l l' : List G2} (h : l.Perm l') : l.sum = l'.sum := h.sum_eq

/-- aggregating in groups and then aggregating the partial aggregates gives the same element -/
theorem abs_aggregate_append (l l' : List G2) : (l ++ l').sum = [l.sum, l'.sum].sum := by
  simp [List.sum_append]

/-- nested aggregation over any grouping -/
theorem abs_aggregate_flatten (ls : List (List G2)) : ls.flatten.sum = (ls.map List.sum).sum :=
  List.sum_flatten

/-- the required sum does not depend on the order of the `(key, message)` pairs; hence neither does the
    accepted aggregate -/
theorem abs_aggregate_verify_perm {r : ℕ} {e : G2 → G1 → GT} {g1 : G1} (he : IsPairing r e g1)
    {H : Msg → G2} (hg : r • g1 = 0) (hH : ∀ m, r • H m = 0) {l l' : List (ℕ × Msg)}
    (hp : l.Perm l') {S : G2} (hS : r • S = 0) :
    aggVerify e g1 H (l.map fun x => (pk g1 x.1, x.2)) S ↔
      aggVerify e g1 H (l'.map fun x => (pk g1 x.1, x.2)) S := by
  rw [abs_aggregate_verify_iff he hg hH l hS, abs_aggregate_verify_iff he hg hH l' hS,
    (hp.map _).sum_eq]

/-! ### non-vacuity: a concrete pairing on `ZMod r` -/

/-- `IsPairing` is satisfiable: on `G1 = G2 = ZMod r` with `GT = Multiplicative (ZMod r)`, the map
    `e a b = a * b` is bilinear and non-degenerate against the generator `1`. -/
example (r : ℕ) : IsPairing (G1 := ZMod r) (G2 := ZMod r) (GT := Multiplicative (ZMod r)) r
    (fun a b => Multiplicative.ofAdd (a * b)) 1 where
  add_left := fun _ _ _ => by simp [add_mul, ofAdd_add]
  add_right := fun _ _ _ => by simp [mul_add, ofAdd_add]
  nondeg := fun _ h => by simpa using h

end PyEcc.BlsAbs
