/-
  PyEcc.Lemmas.Hb2FactsBn — GENERATED data: concrete points of the bn128 twist `E'(Fp²)`
  (`y² = x³ + 3/(9+i)`), used to determine `#E'(Fp²) = (2p − r)·r`: a point of order `q` for each prime factor
  `q` of `2p − r = 10069 · 5864401 · 1875725156269 · C` (`C` a 178-bit prime).  Coordinates are `FQ2`
  coefficient pairs (`Gi`, `Lemmas/FastFq2.lean`).  Found by tools (Python, `tools/leangen`); what is claimed
  of them is checked in `Lemmas/Hb2Bn.lean`.
-/
import PyEcc.Lemmas.FastFq2

namespace PyEcc.Hb2

/-- the 178-bit prime factor of `2p − r` -/
def bnC : ℕ := 197620364512881247228717050342013327560683201906968909

/-- a point of order 10069 of the bn128 twist -/
def ptbn_10069 : Gi bnP × Gi bnP × Gi bnP :=
  (⟨9623466969819186210096099112386315455791237079390456581453738055980425269292, 17692382642665795858331459766236260286187917687754477715501738521284345041308⟩, ⟨12865421648231312951340958604967729539437910403193079944083607760704855770454, 14259550034904450902393517181334394889178378255868966757665071873786609510755⟩, ⟨1, 0⟩)

/-- a point of order 5864401 of the bn128 twist -/
def ptbn_5864401 : Gi bnP × Gi bnP × Gi bnP :=
  (⟨6802774311692061239147914588924630883413075268849005015308810083529713906404, 2007449563763677219949445264447460429512417289314188260361517727208049572911⟩, ⟨2700652042107284435299279984891723478951608875333647380207543353466509472078, 17997379348567724064770286098920279168964581121340791520190788106854174478668⟩, ⟨1, 0⟩)

/-- a point of order 1875725156269 of the bn128 twist -/
def ptbn_1875725156269 : Gi bnP × Gi bnP × Gi bnP :=
  (⟨9299345632973749624958914052096019679118660634734387053005749413756015057140, 12832369548772185279177404432682282472020366604252211252632292338880691753111⟩, ⟨6899405629974735862643051094613982585316431174900338183523626950366625637392, 13574025087019572892773054184368487053167116519138101118520768513514386056929⟩, ⟨1, 0⟩)

/-- a point of order bnC of the bn128 twist -/
def ptbn_C : Gi bnP × Gi bnP × Gi bnP :=
  (⟨5490625945880956701322516856606090112533827442273378112602046815279215459810, 5256559682079401526478338507835237520546066524746659229454838606561515070957⟩, ⟨18336626198097072709156157380110605728840577171804651926704525737008246269551, 15227366733205547649501293969420982421844579393002720848734642488450204116916⟩, ⟨1, 0⟩)

end PyEcc.Hb2
