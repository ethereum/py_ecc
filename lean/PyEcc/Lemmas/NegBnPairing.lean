/-
  bn128: the optimized Miller value read through the reference `miller_loop` over `K12bn` (`bn_core`, from
  `miller_core_bnK`), the `K12bn` readings of `neg(Q)`, `neg(P)`, and the resulting statements
     `pairing(Q, P) · pairing(Q, −P) = 1`,   `pairing(Q, P) · pairing(−Q, P) = 1`
  in the executable `FQ12` model, for reduced on-curve `Q` killed by the group order and on-curve `P`.
-/
import PyEcc.Lemmas.NegBnField
import PyEcc.Lemmas.NegTail
import PyEcc.Lemmas.NegModel
import PyEcc.Props.C12_MillerBn
import PyEcc.Props.C07_Facts

set_option linter.unusedSectionVars false

namespace PyEcc.NegBnSem
open Polynomial PyEcc PyEcc.Gen PyEcc.Gen.Consts PyEcc.Fqp PyEcc.FqpSem PyEcc.TwistSem PyEcc.PairingSem
  PyEcc.NegSem PyEcc.MillerBnSem PyEcc.C13 PyEcc.ConjSem
open PyEcc.Transfer

variable [DecidableEq K2bn] [DecidableEq K12bn]

/-- `x`-coordinate of `twist(Q)` in `K12bn` -/
noncomputable def qxK (Q : BnG2Pt) : K12bn := psiBn (toQ Q.1 / toQ Q.2.2) * wbn ^ 2
/-- `y`-coordinate of `twist(Q)` in `K12bn` -/
noncomputable def qyK (Q : BnG2Pt) : K12bn := psiBn (toQ Q.2.1 / toQ Q.2.2) * wbn ^ 3

theorem even_qxK (Q : BnG2Pt) : NegBnSem.InFp6 (qxK Q) := Ev.mul (inFp6_psi _) inFp6_w2
theorem odd_qyK (Q : BnG2Pt) : InWFp6 (qyK Q) := Ev.mul_odd (inFp6_psi _) odd_w3

theorem qyK_neg {Q : BnG2Pt} (cQ : CanonT Q) : qyK (OptBn.neg Q) = -qyK Q ∧ qxK (OptBn.neg Q) = qxK Q := by
  obtain ⟨x, y, z⟩ := Q
  obtain ⟨cx, cy, cz⟩ := cQ
  have e : (toQ (-y) : K2bn) = -toQ y := (goodHom_F2bn (v := .opt)).map_neg cy
  refine ⟨?_, rfl⟩
  show psiBn (toQ (-y) / toQ z) * wbn ^ 3 = -(psiBn (toQ y / toQ z) * wbn ^ 3)
  rw [e, neg_div (toQ z : K2bn) (toQ y), map_neg, neg_mul]

theorem bn_noTrail : NoTrail bn128_ate_loop_count (downTo bn128_log_ate_loop_count) :=
  noTrail_downTo (by decide) _

theorem B12_frob : B12 ^ bnP = B12 := by
  have := frob_B12
  rwa [frobenius_def] at this

theorem g1bn_y_ne_zero {P : BnG1Pt}
    (hon : OptBn.is_on_curve P (Fq.ofInt optimized_bn128_b : Fq bnP) = true) (hz : P.2.2 ≠ 0) :
    embQ bnMc12 (P.2.1 / P.2.2) ≠ 0 := by
  refine (_root_.map_ne_zero _).mpr
    (y_ne_zero_of_on_curve (Fq.ringEquiv (p := bnP)).toRingHom (fun x => ?_) hon hz)
  show x ^ 3 + Fq.toZMod (Fq.ofInt optimized_bn128_b : Fq bnP) ≠ 0
  rw [Fq.toZMod_ofInt, Int.cast_natCast]
  exact C07.Facts.bn_no_cube_root x

/-- **the optimized bn128 Miller value is the value of the reference loop over `K12bn`** at the twisted point, which
    lies on `E` -/
theorem bn_core {Q : BnG2Pt} {P : BnG1Pt} (cQ : CanonT Q) (hon : OptBn.is_on_curve Q bnB2 = true)
    (honP : OptBn.is_on_curve P (Fq.ofInt optimized_bn128_b : Fq bnP) = true)
    (hQz : Q.2.2 ≠ 0) (hPz : P.2.2 ≠ 0) (hsub : OptBn.is_inf (OptBn.multiply Q bnR) = true) :
    Canon (optV Q P) ∧
      millerG true bnP bn128_ate_loop_count (downTo bn128_log_ate_loop_count) bnFinalExp
        (qxK Q) (qyK Q) (some (embQ bnMc12 (P.1 / P.2.2), embQ bnMc12 (P.2.1 / P.2.2)))
        = .ok (toQ (optV Q P) : K12bn)
      ∧ qyK Q ^ 2 = qxK Q ^ 3 + B12 := by
  obtain ⟨Pt, qx, qy, rQ, rT, co, core⟩ := miller_core_bnK cQ hon honP hQz hPz hsub
  have hzq : (mapT (toQ : OBn2 → K2bn) Q).2.2 ≠ 0 := by
    rw [Transfer.mapT_snd_snd]
    exact fun e => hQz (((goodHom_F2bn (v := .opt)).eq_zero_iff cQ.2.2).mp e)
  have rT' : reprRef (bnTwistOpt Pt) = some (qxK Q, qyK Q) := by
    rw [reprRef_bnTwistOpt, ← show toAff (mapT toQ Q) = reprRef Pt from rQ, toAff_of_z_ne_zero hzq]
    rfl
  obtain ⟨rfl, rfl⟩ := Prod.mk.inj (Option.some.inj (rT'.symm.trans rT))
  refine ⟨co, core, ?_⟩
  rcases hT : bnTwistOpt Pt with _ | ⟨X, Y, hXY⟩
  · rw [hT] at rT; cases rT
  · rw [hT] at rT
    obtain ⟨rfl, rfl⟩ := Prod.mk.inj (Option.some.inj rT)
    exact (CurveSem.equation_W _ _ _).mp hXY.1

/-- `ConjSem.model_neg` at the bn128 constants and the optimized `FQ12` -/
theorem model_neg_bn {qx qy xt yt : K12bn} (hqx : NegBnSem.InFp6 qx) (hqy : InWFp6 qy)
    (hxt : NegBnSem.InFp6 xt) (hyt : NegBnSem.InFp6 yt) (hy0 : yt ≠ 0) (eq : qy ^ 2 = qx ^ 3 + B12)
    (eT : yt ^ 2 = xt ^ 3 + B12) {o : OBn12} (c : Canon o)
    (h : millerG true bnP bn128_ate_loop_count (downTo bn128_log_ate_loop_count) bnFinalExp qx qy
      (some (xt, yt)) = .ok (toQ o)) :
    o ≠ 0 ∧ ∀ o', Canon o' →
      (millerG true bnP bn128_ate_loop_count (downTo bn128_log_ate_loop_count) bnFinalExp qx qy
          (some (xt, -yt)) = .ok (toQ o')
        ∨ millerG true bnP bn128_ate_loop_count (downTo bn128_log_ate_loop_count) bnFinalExp qx (-qy)
          (some (xt, yt)) = .ok (toQ o')) → o * o' = 1 :=
  model_neg goodHom_F12bn k12bn_two (by decide) sigma_sigma (fun _ => pow_finalExp_of_inFp6)
    finalExp_bn.two_dvd finalExp_bn.ne_zero hqx hqy hxt hyt hy0 (fun _ => ⟨B12, B12_frob, eq, eT⟩) bn_noTrail c h

theorem neg_G2bn_facts {Q : BnG2Pt} (cQ : CanonT Q) (hon : OptBn.is_on_curve Q bnB2 = true)
    (hsub : OptBn.is_inf (OptBn.multiply Q bnR) = true) :
    CanonT (OptBn.neg Q) ∧ OptBn.is_on_curve (OptBn.neg Q) bnB2 = true
      ∧ OptBn.is_inf (OptBn.multiply (OptBn.neg Q) bnR) = true := by
  obtain ⟨Pt, rQ⟩ := curveF2bn.exists_rep cQ hon
  have rN := rQ.neg
  rw [OptBn.is_inf_eq, OptBn.multiply_eq] at hsub ⊢
  refine ⟨rN.good, rN.on_curve, (rN.multiply bnR).is_inf_iff.mpr ?_⟩
  rw [smul_neg, (rQ.multiply bnR).is_inf_iff.mp hsub, neg_zero]

/-- **`miller_loop(Q, P) · miller_loop(Q, −P) = 1`**, and the value is not zero (bn128, optimized) -/
theorem optV_neg_right {Q : BnG2Pt} {P : BnG1Pt} (cQ : CanonT Q)
    (hon : OptBn.is_on_curve Q bnB2 = true)
    (honP : OptBn.is_on_curve P (Fq.ofInt optimized_bn128_b : Fq bnP) = true)
    (hQz : Q.2.2 ≠ 0) (hPz : P.2.2 ≠ 0) (hsub : OptBn.is_inf (OptBn.multiply Q bnR) = true) :
    Canon (optV Q P) ∧ Canon (optV Q (OptBn.neg P)) ∧ optV Q P ≠ 0
      ∧ optV Q P * optV Q (OptBn.neg P) = 1 := by
  obtain ⟨c, e, eq⟩ := bn_core (P := P) cQ hon honP hQz hPz hsub
  obtain ⟨c', e', _⟩ := bn_core (P := OptBn.neg P) cQ hon ((on_curve_neg P _).trans honP) hQz hPz hsub
  rw [OptBn.neg_eq, (map_aff_neg _ P).1, (map_aff_neg _ P).2] at e'
  obtain ⟨h0, h⟩ := model_neg_bn (even_qxK Q) (odd_qyK Q) (inFp6_emb _) (inFp6_emb _) (g1bn_y_ne_zero honP hPz) eq
    ((CurveSem.equation_W _ _ _).mp (p_equation honP hPz)) c e
  exact ⟨c, c', h0, h _ c' (.inl e')⟩

/-- **`miller_loop(Q, P) · miller_loop(−Q, P) = 1`** (bn128, optimized) -/
theorem optV_neg_left {Q : BnG2Pt} {P : BnG1Pt} (cQ : CanonT Q)
    (hon : OptBn.is_on_curve Q bnB2 = true)
    (honP : OptBn.is_on_curve P (Fq.ofInt optimized_bn128_b : Fq bnP) = true)
    (hQz : Q.2.2 ≠ 0) (hPz : P.2.2 ≠ 0) (hsub : OptBn.is_inf (OptBn.multiply Q bnR) = true) :
    Canon (optV Q P) ∧ Canon (optV (OptBn.neg Q) P) ∧ optV Q P * optV (OptBn.neg Q) P = 1 := by
  obtain ⟨cN, honN, hsubN⟩ := neg_G2bn_facts cQ hon hsub
  obtain ⟨c, e, eq⟩ := bn_core (P := P) cQ hon honP hQz hPz hsub
  obtain ⟨c', e', _⟩ := bn_core (P := P) cN honN honP hQz hPz hsubN
  rw [(qyK_neg cQ).1, (qyK_neg cQ).2] at e'
  exact ⟨c, c', (model_neg_bn (even_qxK Q) (odd_qyK Q) (inFp6_emb _) (inFp6_emb _) (g1bn_y_ne_zero honP hPz) eq
    ((CurveSem.equation_W _ _ _).mp (p_equation honP hPz)) c e).2 _ c' (.inr e')⟩

/-- **`pairing(Q, P) · pairing(Q, neg(P)) = 1`** (optimized bn128; with reducedness of the two values) -/
theorem pairingBn_neg_right_core (Q : BnG2Pt) (P : BnG1Pt) (cQ : CanonT Q)
    (honQ : OptBn.is_on_curve Q bnB2 = true)
    (honP : OptBn.is_on_curve P (Fq.ofInt optimized_bn128_b : Fq bnP) = true)
    (hsub : OptBn.is_inf (OptBn.multiply Q optimized_bn128_curve_order) = true) :
    ∃ v v' : OBn12, pairingOptBn Q P true = .ok v ∧ pairingOptBn Q (OptBn.neg P) true = .ok v'
      ∧ Canon v ∧ Canon v' ∧ v ≠ 0 ∧ v * v' = 1 := by
  have hO := goodHom_F12bn (v := .opt)
  refine ⟨_, _, pairingOptBn_ok true honQ honP, pairingOptBn_ok true honQ ((on_curve_neg P _).trans honP), ?_⟩
  refine ite_one_rel (R := fun v v' : OBn12 => Canon v ∧ Canon v' ∧ v ≠ 0 ∧ v * v' = 1)
    ⟨hO.good_one, hO.good_one, by decide, one_mul_one hO⟩ fun hz => ?_
  rw [not_or] at hz
  rw [if_pos rfl, finalExp_bn.opt_eq]
  exact optV_neg_right cQ honQ honP hz.2 hz.1 hsub

/-- **`pairing(Q, P) · pairing(neg(Q), P) = 1`** (optimized bn128; with reducedness of the two values) -/
theorem pairingBn_neg_left_core (Q : BnG2Pt) (P : BnG1Pt) (cQ : CanonT Q)
    (honQ : OptBn.is_on_curve Q bnB2 = true)
    (honP : OptBn.is_on_curve P (Fq.ofInt optimized_bn128_b : Fq bnP) = true)
    (hsub : OptBn.is_inf (OptBn.multiply Q optimized_bn128_curve_order) = true) :
    ∃ v v' : OBn12, pairingOptBn Q P true = .ok v ∧ pairingOptBn (OptBn.neg Q) P true = .ok v'
      ∧ Canon v ∧ Canon v' ∧ v * v' = 1 := by
  obtain ⟨cN, honN, hsubN⟩ := neg_G2bn_facts cQ honQ hsub
  have hO := goodHom_F12bn (v := .opt)
  refine ⟨_, _, pairingOptBn_ok true honQ honP, pairingOptBn_ok true honN honP, ?_⟩
  refine ite_one_rel (R := fun v v' : OBn12 => Canon v ∧ Canon v' ∧ v * v' = 1)
    ⟨hO.good_one, hO.good_one, one_mul_one hO⟩ fun hz => ?_
  rw [not_or] at hz
  rw [if_pos rfl, finalExp_bn.opt_eq]
  exact optV_neg_left cQ honQ honP hz.2 hz.1 hsub

end PyEcc.NegBnSem
