/-
  HB2 for `E(Fp)` of BLS12-381, helper level: the model field `F1 = Fq blsP` is finite
  with `p` elements; from kernel evaluations of the generated `optimized_bls12_381` curve code on the points
  of `Lemmas/Hb2FactsG1.lean` and the automorphism `φ(x, y) = (ω·x, y)` a subgroup `≅ (Z/q)²` for each
  `q ∈ {11, 10177, 859267, 52437899}`; hence `h₁·r ∣ #E(Fp)`.
-/
import PyEcc.Lemmas.Hb2Phi
import PyEcc.Lemmas.Hb2FactsG1
import PyEcc.Sem.PrattCerts2
import PyEcc.Props.C07_Model

namespace PyEcc.Hb2
open PyEcc PyEcc.Gen PyEcc.Gen.Consts PyEcc.Transfer WeierstrassCurve

/-- the group `E(Fp)` of BLS12-381: Mathlib points of `y² = x³ + 4` over the model field `Fq blsP` -/
abbrev E1 : Type := CurvePt (blsB : F1)

noncomputable instance : Fintype F1 := Fintype.ofEquiv (ZMod blsP) Fq.ringEquiv.symm.toEquiv

theorem card_F1 : Fintype.card F1 = blsP := by
  rw [Fintype.card_congr Fq.ringEquiv.toEquiv, ZMod.card]

theorem card_E1_le : Nat.card E1 ≤ 2 * blsP + 1 :=
  card_point_le_of_card blsB (Nat.card_eq_fintype_card.trans card_F1)

theorem c1_facts : c1 ^ 3 = 1 ∧ w1 = c1 ^ 2 := by decide +kernel

theorem sq_subgroup_E1 {T : G1Pt} {q l₁ l₂ : ℕ} [Fact q.Prime] (f : SqFacts T blsB w1 q l₁ l₂)
    (hroots : ∀ k : ZMod q, k ^ 3 = 1 → k = 1 ∨ k = (l₁ : ZMod q) ∨ k = (l₂ : ZMod q)) :
    ∃ H : AddSubgroup E1, Nat.card H = q ^ 2 ∧ ∀ x ∈ H, q • x = 0 :=
  sq_subgroup_of_facts curveF1 trivial c1_facts.1 c1_facts.2 (goodT_true T) f hroots

instance fact_11 : Fact (Nat.Prime 11) := ⟨by norm_num⟩
instance fact_10177 : Fact (Nat.Prime 10177) := ⟨Pratt.prime_10177⟩
instance fact_859267 : Fact (Nat.Prime 859267) := ⟨Pratt.prime_859267⟩
instance fact_52437899 : Fact (Nat.Prime 52437899) := ⟨Pratt.prime_52437899⟩

theorem sq_E1_11 : ∃ H : AddSubgroup E1, Nat.card H = 11 ^ 2 ∧ ∀ x ∈ H, 11 • x = 0 :=
  sq_subgroup_E1 (T := pt1_11) (l₁ := 1) (l₂ := 1) (by decide +kernel)
    fun k hk => .inl (cube_root_of_mod3 (by decide) k hk)

theorem sq_E1_10177 : ∃ H : AddSubgroup E1, Nat.card H = 10177 ^ 2 ∧ ∀ x ∈ H, 10177 • x = 0 :=
  sq_subgroup_E1 (T := pt1_10177) (l₁ := 4773) (l₂ := 5403) (by decide +kernel)
    (cube_roots_of_split _ _ (by decide +kernel) (by decide +kernel))

theorem sq_E1_859267 : ∃ H : AddSubgroup E1, Nat.card H = 859267 ^ 2 ∧ ∀ x ∈ H, 859267 • x = 0 :=
  sq_subgroup_E1 (T := pt1_859267) (l₁ := 119571) (l₂ := 739695) (by decide +kernel)
    (cube_roots_of_split _ _ (by decide +kernel) (by decide +kernel))

theorem sq_E1_52437899 :
    ∃ H : AddSubgroup E1, Nat.card H = 52437899 ^ 2 ∧ ∀ x ∈ H, 52437899 • x = 0 :=
  sq_subgroup_E1 (T := pt1_52437899) (l₁ := 1) (l₂ := 1) (by decide +kernel)
    fun k hk => .inl (cube_root_of_mod3 (by decide +kernel) k hk)

/-- `3 ∣ #E(Fp)`; the witness is the point `(0, 2)` (`pt1_3`) of order 3 -/
theorem three_dvd_card_E1 : 3 ∣ Nat.card E1 :=
  have : Fact (Nat.Prime 3) := ⟨Nat.prime_three⟩
  dvd_card_of_facts curveF1 (goodT_true pt1_3) (by decide +kernel)

theorem r_dvd_card_E1 : blsR ∣ Nat.card E1 := by
  obtain ⟨_, G, _, _, _, hG⟩ := C07M.blsG1_point
  exact dvd_card_of_order G hG

/-- `h₁ = 3·11²·10177²·859267²·52437899²` -/
theorem h1r_dvd_card_E1 : Spec.BLS12381.h1 * blsR ∣ Nat.card E1 := by
  obtain ⟨H1, d1, _⟩ := sq_E1_11
  obtain ⟨H2, d2, _⟩ := sq_E1_10177
  obtain ⟨H3, d3, _⟩ := sq_E1_859267
  obtain ⟨H4, d4, _⟩ := sq_E1_52437899
  have e : Spec.BLS12381.h1 * blsR
      = [3, 11 ^ 2, 10177 ^ 2, 859267 ^ 2, 52437899 ^ 2, blsR].prod := by decide +kernel
  rw [e]
  refine prod_dvd_of_pairwise_coprime (by decide +kernel) ?_
  simp only [List.forall_mem_cons, List.not_mem_nil, false_imp_iff, implies_true, and_true]
  exact ⟨three_dvd_card_E1, sq_dvd_card H1 d1, sq_dvd_card H2 d2, sq_dvd_card H3 d3, sq_dvd_card H4 d4,
    r_dvd_card_E1⟩

end PyEcc.Hb2
