/-
  The pairing `e` of the BLS protocol theorems is TAKEN TO BE what the model computes, so that the hypothesis HB1′
  ("the model computes the pairing `e`") is not needed.

  `NdSem.PairingValueFacts'' e` asks for a map `e` on Mathlib points that is bilinear (HB1) and such that for
  every pairing call on canonical, on-curve, `r`-torsion triples `(Q, P)` representing `(q, p)` the value of
  `final_exponentiate(pairing(Q, P, False))` is `e q p` (HB1′).  HB1′ contains a fact about the CODE:

      the value returned by the model does not depend on the projective representatives `Q`, `P`
      of the points `q`, `p`.

  This is `pairing_value_rep_indep`, from `C12M.pairingOptBls_eq_pairingRefBls_subgroup`
  (optimized pairing = reference pairing of the affine points, for any representatives).  Hence the function

      `valM q p : K12`  :=  value in `F_{p¹²}` of `final_exponentiate(pairing(Q, P, False))`
                            for ANY canonical on-curve representatives `Q`, `P` of `r`-torsion `q`, `p`

  is well defined (`valM_spec`), and HB1′ holds for it BY DEFINITION.  The one hypothesis is
  `ModelBilinear`: `valM` is additive in each argument on `r`-torsion points — bilinearity of the function the
  code computes.  From it: `valM q p` is a unit (`valM 0 p = 1` is computed by the code), so `eM q p : K12ˣ`
  is defined, and `ModelBilinear → PairingValueFacts'' eM`.

  `ModelBilinearCode` is the same hypothesis stated on the Python functions only (no Mathlib points):
  `pairing(add(Q, Q'), P) == pairing(Q, P) * pairing(Q', P)` and `pairing(Q, add(P, P')) == pairing(Q, P) *
  pairing(Q, P')` for all triples that pass `is_on_curve` and `subgroup_check`; `ModelBilinearCode → ModelBilinear`.
-/
import PyEcc.Lemmas.NdFromModel

set_option linter.unusedSectionVars false

namespace PyEcc.NdSem
open PyEcc PyEcc.Gen PyEcc.Gen.Consts PyEcc.Fqp PyEcc.FqpSem PyEcc.Transfer PyEcc.BlsSem PyEcc.BlsProto

section
variable [DecidableEq K2]

/-- every `r`-torsion point of the twist curve has a canonical representative (`multiply(G2, k)`) -/
theorem exists_rep2 (q : E2) (hq : blsR • q = 0) : ∃ Q : G2Pt, RepG2 Q q := by
  obtain ⟨k, rfl⟩ := g2_generates q hq
  exact ⟨OptBls.multiply blsG2 k, g2_rep.multiply k⟩

/-- every `r`-torsion point of `E(Fp)` has a representative (`multiply(G1, k)`) -/
theorem exists_rep1 (p : E1) (hp : blsR • p = 0) : ∃ P : G1Pt, Represents P p := by
  obtain ⟨k, _, rfl⟩ := C17O.torsion_E1_cyclic g1 p g1_rep hp
  exact ⟨OptBls.multiply blsG1 k, C07Opt.Bls.opt_multiply_refines curveF1.two g1_rep k⟩

/-- every pair of `r`-torsion points is the pair of represented points of some admissible pairing call -/
theorem exists_good (q : E2) (p : E1) (hq : blsR • q = 0) (hp : blsR • p = 0) :
    ∃ a : Arg, a.Good ∧ a.q = q ∧ a.p = p := by
  obtain ⟨Q, rq⟩ := exists_rep2 q hq
  obtain ⟨P, rp⟩ := exists_rep1 p hp
  obtain ⟨m, hm⟩ := pairing_ok rq rp
  exact ⟨⟨Q, P, q, p, m⟩, ⟨rq, rp, hq, hp, hm⟩, rfl, rfl⟩

/-- **The model pairing depends only on the represented points.**  Two pairing calls
    `pairing(Q, P, False)`, `pairing(Q', P', False)` on canonical, on-curve, `r`-torsion triples with
    `Q`, `Q'` representing the same point of the twist curve and `P`, `P'` the same point of `E(Fp)` give, after
    `final_exponentiate`, the SAME twelve FQ12 coefficients — whatever the projective scalings.
    (The raw Miller values differ; their `(p¹²−1)/r`-th powers do not.) -/
theorem pairing_value_rep_indep {a a' : Arg} (ha : a.Good) (ha' : a'.Good) (hq : a'.q = a.q)
    (hp : a'.p = a.p) : finalExponentiateOptBls a'.m = finalExponentiateOptBls a.m := by
  obtain ⟨rq, rp, tq, _, hm⟩ := ha
  obtain ⟨rq', rp', tq', _, hm'⟩ := ha'
  rw [hq] at rq'
  rw [hp] at rp'
  obtain ⟨g, h⟩ := C12M.refOfOptG2_repr rq.1
  have hQ' : toAff (mapT toQ a'.Q) = MillerSem.mapO toQ (C12M.refOfOptG2 a.Q) :=
    (show toAff (mapT toQ a'.Q) = reprRef a.q from rq'.2).trans
      ((show toAff (mapT toQ a.Q) = reprRef a.q from rq.2).symm.trans h)
  have hP' : toAff a'.P = C12M.refOfOptG1 a.P :=
    (show toAff a'.P = reprRef a.p from rp').trans
      ((show toAff a.P = reprRef a.p from rp).symm.trans (C12M.refOfOptG1_repr a.P))
  have e1 := C12M.pairingOptBls_eq_pairingRefBls_subgroup a.Q a.P _ _ rq.1 g h
    (C12M.refOfOptG1_repr a.P) ((C17M.subgroupCheck_G2_iff rq.1 rq.2).mpr tq)
  have e2 := C12M.pairingOptBls_eq_pairingRefBls_subgroup a'.Q a'.P _ _ rq'.1 g hQ' hP'
    ((C17M.subgroupCheck_G2_iff rq'.1 rq'.2).mpr tq)
  rw [C12.pairingOptBls_false_then_final _ _ _ hm, map_ok] at e1
  rw [C12.pairingOptBls_false_then_final _ _ _ hm', map_ok, ← e1] at e2
  have e3 : (finalExponentiateOptBls a'.m).coeffs = (finalExponentiateOptBls a.m).coeffs :=
    Except.ok.inj e2
  revert e3
  generalize finalExponentiateOptBls a'.m = x
  generalize finalExponentiateOptBls a.m = y
  intro e3
  cases x; cases y
  simp only [Fqp.mk.injEq]
  exact e3

theorem exists_val (q : E2) (p : E1) (h : blsR • q = 0 ∧ blsR • p = 0) :
    ∃ x : K12, ∀ a : Arg, a.Good → a.q = q → a.p = p → (toQ (finalExponentiateOptBls a.m) : K12) = x := by
  obtain ⟨a0, g0, hq0, hp0⟩ := exists_good q p h.1 h.2
  refine ⟨toQ (finalExponentiateOptBls a0.m), fun a ga hq hp => ?_⟩
  rw [pairing_value_rep_indep g0 ga (hq.trans hq0.symm) (hp.trans hp0.symm)]

open Classical in
/-- **`valM q p`: the value the model computes for the points `q`, `p`** — for `r`-torsion points, the value in
    `F_{p¹²} = F_p[X]/(X¹²−2X⁶+2)` of `final_exponentiate(pairing(Q, P, final_exponentiate=False))` for any
    (equivalently: all, `valM_spec`) canonical on-curve representatives `Q` of `q`, `P` of `p`; `1` outside the
    `r`-torsion (never used). -/
noncomputable def valM (q : E2) (p : E1) : K12 :=
  if h : blsR • q = 0 ∧ blsR • p = 0 then Classical.choose (exists_val q p h) else 1

/-- **HB1′ holds by definition for `valM`**: for EVERY pairing call on canonical, on-curve, `r`-torsion
    arguments `(Q, P)` representing `(q, p)`, the value of `final_exponentiate(pairing(Q, P, False))` is
    `valM q p`. -/
theorem valM_spec (a : Arg) (ha : a.Good) :
    (toQ (finalExponentiateOptBls a.m) : K12) = valM a.q a.p := by
  have h : blsR • a.q = 0 ∧ blsR • a.p = 0 := ⟨ha.2.2.1, ha.2.2.2.1⟩
  unfold valM
  rw [dif_pos h]
  exact Classical.choose_spec (exists_val a.q a.p h) a ha rfl rfl

/-- the same for `pairing(Q, P)` with the default `final_exponentiate=True` -/
theorem valM_spec_true {Q : G2Pt} {P : G1Pt} {q : E2} {p : E1} (rq : RepG2 Q q) (rp : Represents P p)
    (hq : blsR • q = 0) (hp : blsR • p = 0) {v : OBls12} (hv : pairingOptBls Q P true = .ok v) :
    (toQ v : K12) = valM q p := by
  obtain ⟨m, hm⟩ := pairing_ok rq rp
  have := C12.pairingOptBls_false_then_final _ _ m hm
  rw [hv] at this
  rw [Except.ok.inj this]
  exact valM_spec ⟨Q, P, q, p, m⟩ ⟨rq, rp, hq, hp, hm⟩

/-- the code returns `FQ12.one()` when one of the two arguments is a point at infinity -/
theorem valM_of_inf {Q : G2Pt} {P : G1Pt} {q : E2} {p : E1} (rq : RepG2 Q q) (rp : Represents P p)
    (hq : blsR • q = 0) (hp : blsR • p = 0) (hz : P.2.2 = 0 ∨ Q.2.2 = 0) : valM q p = 1 := by
  have hm : pairingOptBls Q P false = .ok 1 := by
    rw [PairingSem.pairingOptBls_eq, show OptBls.is_on_curve Q (⟨optimized_bls12_381_b2⟩ : OBls2) = true
      from rq.on_curve, show OptBls.is_on_curve P (Fq.ofInt optimized_bls12_381_b : Fq blsP) = true
      from C07Opt.Bls.opt_on_curve_of_represents rp, if_neg (by decide), if_neg (by decide), if_pos hz]
  rw [← valM_spec ⟨Q, P, q, p, 1⟩ ⟨rq, rp, hq, hp, hm⟩]
  show (toQ (finalExponentiateOptBls 1) : K12) = 1
  rw [toQ_finalExponentiate 1 (wf_one hd12), show (toQ (1 : OBls12) : K12) = 1 from toQ_one, one_pow]

theorem valM_zero_left (p : E1) (hp : blsR • p = 0) : valM 0 p = 1 :=
  let ⟨_, rp⟩ := exists_rep1 p hp
  valM_of_inf .zero rp (smul_zero _) hp (.inr rfl)

theorem valM_zero_right (q : E2) (hq : blsR • q = 0) : valM q 0 = 1 :=
  let ⟨_, rq⟩ := exists_rep2 q hq
  valM_of_inf rq (C07Opt.Bls.represents_zero (T := Z1) rfl) hq (smul_zero _) (.inl rfl)

/-- **`ModelBilinear`: the ONLY hypothesis of the BLS protocol theorems.**  The function `valM` that
    the CODE computes (value of `final_exponentiate(pairing(Q, P, False))` at any representatives — it is
    well defined, `valM_spec`) is additive in each argument on points killed by `r = curve_order`:
    * `add_left`  — `valM (q + q') p = valM q p * valM q' p`,
    * `add_right` — `valM q (p + p') = valM q p * valM q p'`.
    This is the bilinearity of the (optimal ate) pairing as implemented; it needs the theory of divisors /
    Weil reciprocity, which Mathlib does not have.  It is a closed statement, a hypothesis, never an axiom. -/
structure ModelBilinear : Prop where
  add_left : ∀ {q q' : E2} {p : E1}, blsR • q = 0 → blsR • q' = 0 → blsR • p = 0 →
    valM (q + q') p = valM q p * valM q' p
  add_right : ∀ {q : E2} {p p' : E1}, blsR • q = 0 → blsR • p = 0 → blsR • p' = 0 →
    valM q (p + p') = valM q p * valM q p'

/-- under `ModelBilinear` the model value at `r`-torsion points is invertible (so: not `FQ12.zero()`) -/
theorem ModelBilinear.isUnit (mb : ModelBilinear) {q : E2} {p : E1} (hq : blsR • q = 0)
    (hp : blsR • p = 0) : IsUnit (valM q p) := by
  have h := mb.add_left hq (neg_torsion hq) hp
  rw [add_neg_cancel, valM_zero_left p hp] at h
  exact IsUnit.of_mul_eq_one _ h.symm

open Classical in
/-- **`eM`: the model pairing with values in the unit group of `F_{p¹²}`** (`valM` where it is invertible) -/
noncomputable def eM (q : E2) (p : E1) : K12ˣ :=
  if h : IsUnit (valM q p) then h.unit else 1

theorem ModelBilinear.eM_val (mb : ModelBilinear) {q : E2} {p : E1} (hq : blsR • q = 0)
    (hp : blsR • p = 0) : ((eM q p : K12ˣ) : K12) = valM q p := by
  unfold eM
  rw [dif_pos (mb.isUnit hq hp)]
  exact IsUnit.unit_spec _

/-- **`ModelBilinear` implies the bundle HB1 + HB1′ for `e := eM`**: the link field holds by definition of
    `valM`, the bilinearity fields are `ModelBilinear`. -/
theorem ModelBilinear.toPairingValueFacts'' (mb : ModelBilinear) : PairingValueFacts'' eM where
  add_left := by
    intro q q' p hq hq' hp
    apply Units.ext
    rw [Units.val_mul, mb.eM_val hq hp, mb.eM_val hq' hp,
      mb.eM_val (show blsR • (q + q') = 0 by rw [smul_add, hq, hq', add_zero]) hp]
    exact mb.add_left hq hq' hp
  add_right := by
    intro q p p' hq hp hp'
    apply Units.ext
    rw [Units.val_mul, mb.eM_val hq hp, mb.eM_val hq hp',
      mb.eM_val hq (show blsR • (p + p') = 0 by rw [smul_add, hp, hp', add_zero])]
    exact mb.add_right hq hp hp'
  value := by
    intro a ha
    rw [mb.eM_val ha.2.2.1 ha.2.2.2.1]
    exact valM_spec a ha

/-- `ModelBilinear` implies the bundle `BlsProto.PairingFacts` (for `e := eM`) -/
theorem ModelBilinear.toPairingFacts (mb : ModelBilinear) : PairingFacts eM :=
  mb.toPairingValueFacts''.toPairingFacts

/-- conversely: if SOME map `e` satisfies HB1 and the per-call link HB1′, then the model is bilinear — so
    `ModelBilinear` is not stronger than `PairingValueFacts'' e` for some `e` -/
theorem ModelBilinear.of_pairingValueFacts'' {e : E2 → E1 → K12ˣ} (pv : PairingValueFacts'' e) :
    ModelBilinear := by
  have key : ∀ {q : E2} {p : E1}, blsR • q = 0 → blsR • p = 0 → valM q p = ((e q p : K12ˣ) : K12) := by
    intro q p hq hp
    obtain ⟨a, ga, rfl, rfl⟩ := exists_good q p hq hp
    rw [← valM_spec a ga]
    exact pv.value a ga
  constructor
  · intro q q' p hq hq' hp
    rw [key hq hp, key hq' hp, key (show blsR • (q + q') = 0 by rw [smul_add, hq, hq', add_zero]) hp,
      pv.add_left hq hq' hp, Units.val_mul]
  · intro q p p' hq hp hp'
    rw [key hq hp, key hq hp', key hq (show blsR • (p + p') = 0 by rw [smul_add, hp, hp', add_zero]),
      pv.add_right hq hp hp', Units.val_mul]

/-- **`ModelBilinear` is EQUIVALENT to the existence of a bilinear map that the model computes.** -/
theorem modelBilinear_iff : ModelBilinear ↔ ∃ e : E2 → E1 → K12ˣ, PairingValueFacts'' e :=
  ⟨fun mb => ⟨eM, mb.toPairingValueFacts''⟩, fun ⟨_, pv⟩ => ModelBilinear.of_pairingValueFacts'' pv⟩

/-- **`ModelBilinearCode`: bilinearity of `pairing` as a statement about the code alone.**  For all `FQ2`
    triples `Q`, `Q'` with reduced coefficients and all `FQ` triples `P`, `P'` that pass `is_on_curve` and
    `subgroup_check`:
    * `pairing(add(Q, Q'), P) == pairing(Q, P) * pairing(Q', P)`,
    * `pairing(Q, add(P, P')) == pairing(Q, P) * pairing(Q, P')`
    (equalities of FQ12 coefficient lists; the calls return, they do not raise). -/
structure ModelBilinearCode : Prop where
  add_left : ∀ (Q Q' : G2Pt) (P : G1Pt), CanonT Q → CanonT Q' →
    OptBls.is_on_curve Q blsB2 = true → OptBls.is_on_curve Q' blsB2 = true →
    OptBls.is_on_curve P blsB = true →
    subgroupCheck Q = true → subgroupCheck Q' = true → subgroupCheck P = true →
    ∀ v v' w : OBls12, pairingOptBls Q P true = .ok v → pairingOptBls Q' P true = .ok v' →
      pairingOptBls (OptBls.add Q Q') P true = .ok w → w = v * v'
  add_right : ∀ (Q : G2Pt) (P P' : G1Pt), CanonT Q →
    OptBls.is_on_curve Q blsB2 = true → OptBls.is_on_curve P blsB = true →
    OptBls.is_on_curve P' blsB = true →
    subgroupCheck Q = true → subgroupCheck P = true → subgroupCheck P' = true →
    ∀ v v' w : OBls12, pairingOptBls Q P true = .ok v → pairingOptBls Q P' true = .ok v' →
      pairingOptBls Q (OptBls.add P P') true = .ok w → w = v * v'

theorem pairing_true_ok {Q : G2Pt} {P : G1Pt} {q : E2} {p : E1} (rq : RepG2 Q q)
    (rp : Represents P p) : ∃ v, pairingOptBls Q P true = .ok v :=
  pairingOptBls_ok_of_on_curve rq.on_curve (C07Opt.Bls.opt_on_curve_of_represents rp)

/-- three pairing calls on representatives of `r`-torsion points whose values the code multiplies: so does `valM`
    (either argument may be the one that varies) -/
theorem valM_mul_of_code {Q₁ Q₂ Q₃ : G2Pt} {P₁ P₂ P₃ : G1Pt} {q₁ q₂ q₃ : E2} {p₁ p₂ p₃ : E1}
    (c₁ : RepG2 Q₁ q₁ ∧ Represents P₁ p₁ ∧ blsR • q₁ = 0 ∧ blsR • p₁ = 0)
    (c₂ : RepG2 Q₂ q₂ ∧ Represents P₂ p₂ ∧ blsR • q₂ = 0 ∧ blsR • p₂ = 0)
    (c₃ : RepG2 Q₃ q₃ ∧ Represents P₃ p₃ ∧ blsR • q₃ = 0 ∧ blsR • p₃ = 0)
    (h : ∀ v v' w : OBls12, pairingOptBls Q₁ P₁ true = .ok v → pairingOptBls Q₂ P₂ true = .ok v' →
      pairingOptBls Q₃ P₃ true = .ok w → w = v * v') : valM q₃ p₃ = valM q₁ p₁ * valM q₂ p₂ := by
  obtain ⟨v, hv⟩ := pairing_true_ok c₁.1 c₁.2.1
  obtain ⟨v', hv'⟩ := pairing_true_ok c₂.1 c₂.2.1
  obtain ⟨w, hw⟩ := pairing_true_ok c₃.1 c₃.2.1
  rw [← valM_spec_true c₁.1 c₁.2.1 c₁.2.2.1 c₁.2.2.2 hv, ← valM_spec_true c₂.1 c₂.2.1 c₂.2.2.1 c₂.2.2.2 hv',
    ← valM_spec_true c₃.1 c₃.2.1 c₃.2.2.1 c₃.2.2.2 hw, h v v' w hv hv' hw]
  exact toQ_mul (C12.pairingOptBls_wf _ _ _ _ hv) (C12.pairingOptBls_wf _ _ _ _ hv')

/-- **the code-level statement implies `ModelBilinear`** (through the proved refinement of Mathlib's group law
    by `add`, C07/C13, and the ring laws of the FQ12 model) -/
theorem ModelBilinearCode.toModelBilinear (mc : ModelBilinearCode) : ModelBilinear := by
  constructor
  · intro q q' p hq hq' hp
    obtain ⟨Q, rq⟩ := exists_rep2 q hq
    obtain ⟨Q', rq'⟩ := exists_rep2 q' hq'
    obtain ⟨P, rp⟩ := exists_rep1 p hp
    exact valM_mul_of_code ⟨rq, rp, hq, hp⟩ ⟨rq', rp, hq', hp⟩
      ⟨rq.add rq', rp, by rw [smul_add, hq, hq', add_zero], hp⟩
      (mc.add_left Q Q' P rq.1 rq'.1 rq.on_curve rq'.on_curve (C07Opt.Bls.opt_on_curve_of_represents rp)
        (rq.subgroupCheck_iff.mpr hq) (rq'.subgroupCheck_iff.mpr hq') ((C17M.subgroupCheck_G1_iff rp).mpr hp))
  · intro q p p' hq hp hp'
    obtain ⟨Q, rq⟩ := exists_rep2 q hq
    obtain ⟨P, rp⟩ := exists_rep1 p hp
    obtain ⟨P', rp'⟩ := exists_rep1 p' hp'
    exact valM_mul_of_code ⟨rq, rp, hq, hp⟩ ⟨rq, rp', hq, hp'⟩
      ⟨rq, C07Opt.Bls.opt_add_refines curveF1.two rp rp', hq, by rw [smul_add, hp, hp', add_zero]⟩
      (mc.add_right Q P P' rq.1 rq.on_curve (C07Opt.Bls.opt_on_curve_of_represents rp)
        (C07Opt.Bls.opt_on_curve_of_represents rp') (rq.subgroupCheck_iff.mpr hq)
        ((C17M.subgroupCheck_G1_iff rp).mpr hp) ((C17M.subgroupCheck_G1_iff rp').mpr hp'))

/-- non-vacuity of the side conditions of `ModelBilinearCode`: the generators satisfy them, and
    `pairing(G2, G1)` returns -/
example : CanonT blsG2 ∧ OptBls.is_on_curve blsG2 blsB2 = true ∧ OptBls.is_on_curve blsG1 blsB = true ∧
    subgroupCheck blsG2 = true ∧ subgroupCheck blsG1 = true ∧
    ∃ v, pairingOptBls blsG2 blsG1 true = .ok v :=
  ⟨C17M.blsG2_passes.1, C17M.blsG2_passes.2.1, C17M.blsG1_passes.1, C17M.blsG2_passes.2.2,
    C17M.blsG1_passes.2, pairing_true_ok g2_rep g1_rep⟩

end

end PyEcc.NdSem
