/-
  `CurveSem.sDouble / sAdd / sNeg / sOn`: the chord–tangent formulas of the py_ecc reference curve modules written once,
  in mathematical notation (numerals `3 : F`, no `Except`), and proved to compute Mathlib's group law on `(W b).Point`
  through `reprRef` (`sAdd_refines`, `sDouble_refines`: the one place where code formulas meet Mathlib's `addX`, `addY`,
  `slope`). `Props/C07_Bls.lean` shows that the GENERATED functions agree pointwise with these.
  At the end, facts about points of small order on `y² = x³ + b`: no 2-torsion when `b` is not a cube (`no_two_torsion`), a
  point with `x = 0` has order 3 (`three_nsmul_of_x_zero`), a point killed by two coprime scalars is 0.
-/
import Mathlib.AlgebraicGeometry.EllipticCurve.Affine.Point
import Mathlib.Tactic.Ring
import Mathlib.Tactic.FieldSimp
import Mathlib.Tactic.LinearCombination
import Mathlib.Tactic.NormNum
import PyEcc.Sem.Curve

namespace PyEcc.CurveSem
open WeierstrassCurve

set_option linter.unusedSectionVars false
variable {F : Type} [Field F] [DecidableEq F]

/-- tangent formula; a point with `y = 0` (order two) doubles to ∞ -/
def sDouble (pt : Option (F × F)) : Option (F × F) :=
  match pt with
  | none => none
  | some (x, y) =>
    if y = 0 then none else
    let m := 3 * x ^ 2 / (2 * y)
    let newx := m ^ 2 - 2 * x
    let newy := -m * newx + m * x - y
    some (newx, newy)

def sAdd (p1 p2 : Option (F × F)) : Option (F × F) :=
  match p1, p2 with
  | none, q => q
  | some p, none => some p
  | some (x1, y1), some (x2, y2) =>
    if x2 = x1 ∧ y2 = y1 then sDouble (some (x1, y1))
    else if x2 = x1 then none
    else
      let m := (y2 - y1) / (x2 - x1)
      let newx := m ^ 2 - x1 - x2
      let newy := -m * newx + m * x1 - y1
      some (newx, newy)

def sNeg (pt : Option (F × F)) : Option (F × F) :=
  match pt with
  | none => none
  | some (x, y) => some (x, -y)

def sOn (pt : Option (F × F)) (b : F) : Prop :=
  match pt with
  | none => True
  | some (x, y) => y ^ 2 - x ^ 3 = b

theorem eq_neg_self_iff (h2 : (2 : F) ≠ 0) {y : F} : y = -y ↔ y = 0 := by
  rw [eq_neg_iff_add_eq_zero, ← two_mul, mul_eq_zero, or_iff_right h2]

theorem negY_W (b x y : F) : (W b).negY x y = -y := by
  rw [Affine.negY, W_a₁, W_a₃, zero_mul, sub_zero, sub_zero]

theorem equation_W_iff (b x y : F) : (W b).Equation x y ↔ y ^ 2 - x ^ 3 = b := by
  simp only [Affine.equation_iff, W_a₁, W_a₂, W_a₃, W_a₄, W_a₆, zero_mul, add_zero, sub_eq_iff_eq_add']

theorem equation_W (b x y : F) : (W b).Equation x y ↔ y ^ 2 = x ^ 3 + b :=
  (equation_W_iff b x y).trans sub_eq_iff_eq_add'

/-- on `y² = x³ + b` with `b ≠ 0` (and `2, 3 ≠ 0`) every point is nonsingular: where `y ≠ 0` the
    `y`-derivative `2y` does not vanish, and where `y = 0` we have `x³ = -b ≠ 0`, so the `x`-derivative
    `3x²` does not -/
theorem nonsingular_W_of_equation {b : F} (h2 : (2 : F) ≠ 0) (h3 : (3 : F) ≠ 0) (hb : b ≠ 0)
    {x y : F} (h : y ^ 2 - x ^ 3 = b) : (W b).Nonsingular x y := by
  simp only [Affine.nonsingular_iff, equation_W_iff, W_a₁, W_a₂, W_a₃, W_a₄, zero_mul, mul_zero, add_zero,
    sub_zero]
  refine ⟨h, ?_⟩
  by_cases hy : y = 0
  · subst hy
    have hx : x ≠ 0 := fun hx => hb (by rw [← h, hx]; ring)
    exact .inl (mul_ne_zero h3 (pow_ne_zero 2 hx)).symm
  · exact .inr (mt (eq_neg_self_iff h2).mp hy)

theorem reprRef_injective {b : F} : Function.Injective (reprRef (b := b)) := by
  intro P Q h
  rcases P with _ | ⟨x1, y1, h1⟩ <;> rcases Q with _ | ⟨x2, y2, h2⟩
  · rfl
  · simp [reprRef] at h
  · simp [reprRef] at h
  · simp only [reprRef, Option.some.injEq, Prod.mk.injEq] at h
    obtain ⟨rfl, rfl⟩ := h
    rfl

theorem sOn_reprRef {b : F} (P : (W b).Point) : sOn (reprRef P) b := by
  rcases P with _ | ⟨x, y, h⟩
  · trivial
  · exact (equation_W_iff b x y).mp h.1

theorem exists_repr {b : F} (h2 : (2 : F) ≠ 0) (h3 : (3 : F) ≠ 0) (hb : b ≠ 0)
    {pt : Option (F × F)} (h : sOn pt b) : ∃ P : (W b).Point, reprRef P = pt := by
  rcases pt with _ | ⟨x, y⟩
  · exact ⟨0, rfl⟩
  · exact ⟨.some x y (nonsingular_W_of_equation h2 h3 hb h), rfl⟩

theorem sOn_iff_exists {b : F} (h2 : (2 : F) ≠ 0) (h3 : (3 : F) ≠ 0) (hb : b ≠ 0)
    (pt : Option (F × F)) : sOn pt b ↔ ∃ P : (W b).Point, reprRef P = pt :=
  ⟨exists_repr h2 h3 hb, fun ⟨P, hP⟩ => hP ▸ sOn_reprRef P⟩

theorem sNeg_refines {b : F} (P : (W b).Point) : sNeg (reprRef P) = reprRef (-P) := by
  rcases P with _ | ⟨x, y, h⟩
  · rfl
  · show some (x, -y) = reprRef (-(Affine.Point.some x y h))
    rw [Affine.Point.neg_some, reprRef_some, negY_W]

theorem addXY_W (b x1 y1 x2 m : F) : ((W b).addX x1 x2 m, (W b).addY x1 x2 y1 m)
    = (m ^ 2 - x1 - x2, -m * (m ^ 2 - x1 - x2) + m * x1 - y1) := by
  simp only [Affine.addX, Affine.addY, Affine.negAddY, Affine.negY, W_a₁, W_a₂, W_a₃, zero_mul, sub_zero,
    add_zero]
  congr 1
  ring

theorem sAdd_refines {b : F} (h2 : (2 : F) ≠ 0) (P Q : (W b).Point) :
    sAdd (reprRef P) (reprRef Q) = reprRef (P + Q) := by
  rcases P with _ | ⟨x1, y1, h1⟩ <;> rcases Q with _ | ⟨x2, y2, h2'⟩
  · rfl
  · rfl
  · rfl
  rw [reprRef_some, reprRef_some, sAdd]
  by_cases hx : x1 = x2
  · subst hx
    have hyy : y1 = y2 ∨ y1 = -y2 := sq_eq_sq_iff_eq_or_eq_neg.mp <| sub_left_inj.mp <|
      ((equation_W_iff b x1 y1).mp h1.1).trans ((equation_W_iff b x1 y2).mp h2'.1).symm
    by_cases hy : y1 = -y2
    · rw [Affine.Point.add_of_Y_eq rfl ((negY_W b x1 y2).symm ▸ hy), reprRef_zero]
      subst hy
      by_cases hy0 : y2 = 0
      · subst hy0; simp [sDouble]
      · simp [mt (eq_neg_self_iff h2).mp hy0]
    · obtain rfl := hyy.resolve_right hy
      have hn : y1 ≠ (W b).negY x1 y1 := by rwa [negY_W]
      rw [Affine.Point.add_of_Y_ne hn, reprRef_some, addXY_W, Affine.slope_of_Y_ne rfl hn, negY_W,
        sub_neg_eq_add, ← two_mul]
      simp only [and_self, if_true, sDouble, mt (eq_neg_self_iff h2).mpr hy, if_false, W_a₁, W_a₂, W_a₄,
        mul_zero, zero_mul, sub_zero, add_zero]
      rw [two_mul x1, sub_add_eq_sub_sub]
  · have hx' : ¬ x2 = x1 := fun h => hx h.symm
    rw [Affine.Point.add_of_X_ne hx, reprRef_some, addXY_W, Affine.slope_of_X_ne hx, ← neg_sub y2 y1,
      ← neg_sub x2 x1, neg_div_neg_eq]
    simp only [hx', false_and, if_false]

theorem sDouble_refines {b : F} (h2 : (2 : F) ≠ 0) (P : (W b).Point) :
    sDouble (reprRef P) = reprRef (P + P) := by
  rw [← sAdd_refines h2]
  rcases P with _ | ⟨x, y, h⟩
  · rfl
  · simp [reprRef, sAdd]

/-- if `x³ + b` has no root then no curve point has `y = 0`, hence the only `P` with `P + P = 0` is `0` -/
theorem no_two_torsion {b : F} (h2 : (2 : F) ≠ 0) (hno : ∀ x : F, x ^ 3 + b ≠ 0)
    (P : (W b).Point) (h2P : P + P = 0) : P = 0 := by
  rcases P with _ | ⟨x, y, hxy⟩
  · rfl
  · exfalso
    have hneg : Affine.Point.some x y hxy = -Affine.Point.some x y hxy :=
      eq_neg_of_add_eq_zero_left h2P
    rw [Affine.Point.neg_some] at hneg
    have hy : y = (W b).negY x y := ((Affine.Point.some.injEq ..).mp hneg).2
    rw [negY_W] at hy
    have e := (equation_W_iff b x y).mp hxy.1
    apply hno x
    rw [(eq_neg_self_iff h2).mp hy] at e
    linear_combination -e

end PyEcc.CurveSem

namespace PyEcc.MillerBnSem
open WeierstrassCurve WeierstrassCurve.Affine

theorem three_nsmul_of_x_zero {F : Type} [Field F] [DecidableEq F] {b y : F}
    (h : (W b).Nonsingular 0 y) : 3 • (Point.some 0 y h) = 0 := by
  have hn : ∀ x y : F, (W b).negY x y = -y := CurveSem.negY_W b
  have hy : y ≠ (W b).negY 0 y := by
    have := ((W b).nonsingular_iff 0 y).mp h
    rcases this.2 with h1 | h1
    · simp [W] at h1
    · rw [hn]; simpa [W] using h1
  have e : Point.some 0 y h + Point.some 0 y h = -Point.some 0 y h := by
    rw [Point.add_self_of_Y_ne hy, Point.neg_some]
    have hs : (W b).slope 0 0 y y = 0 := by
      rw [slope_of_Y_ne rfl hy]; simp [W]
    have hx : (W b).addX 0 0 ((W b).slope 0 0 y y) = 0 := by rw [hs]; simp [addX, W]
    have hyy : (W b).addY 0 0 y ((W b).slope 0 0 y y) = (W b).negY 0 y := by
      rw [addY, negAddY, hx, hs, hn, hn]; ring
    simp only [hx, hyy]
  rw [show (3 : ℕ) = 2 + 1 from rfl, add_nsmul, two_nsmul, one_nsmul, e, neg_add_cancel]

theorem eq_zero_of_coprime_nsmul {G : Type} [AddGroup G] {A : G} {m n : ℕ} (hc : Nat.Coprime m n) (hm : m • A = 0)
    (hn : n • A = 0) : A = 0 := by
  have := Nat.dvd_gcd (addOrderOf_dvd_of_nsmul_eq_zero hm) (addOrderOf_dvd_of_nsmul_eq_zero hn)
  rw [hc] at this
  exact AddMonoid.addOrderOf_eq_one_iff.mp (Nat.dvd_one.mp this)

end PyEcc.MillerBnSem
