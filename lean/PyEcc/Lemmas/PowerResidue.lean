/-
  PyEcc.Lemmas.PowerResidue — deciding roots in a finite field by one power: the model's `pow(b, e, m)` (`powMod`)
  is the power in `ZMod m` and THE residue below `m` of it (`powMod_cast`, `powMod_eq_iff`); for a prime `p ≡ 3 mod 4`
  the test `(r^((p+1)/4))² = r` succeeds exactly on the squares (`sqrt_check_iff_of_mod4`); if `3 ∣ N − 1`, Fermat
  holds with `N`, `b ≠ 0` and `(−b)^((N−1)/3) ≠ 1` then `x³ + b` has no root (`no_cube_root_of_pow_ne_one`, `no_cube_root`).
  Used by the point codec (`Sem/CodecSem.lean`), ECDSA recovery (`Sem/EcdsaSem.lean`) and the group orders.
-/
import PyEcc.Model.Basic
import PyEcc.Lemmas.PowLoop
import Mathlib.FieldTheory.Finite.Basic
import Mathlib.Tactic.Ring

namespace PyEcc.CodecSem
open PyEcc

theorem powMod_cast (b e m : ℕ) : ((powMod b e m : ℕ) : ZMod m) = (b : ZMod m) ^ e :=
  (powLoop_eq (aux := fun f o t e => powModAux m f t e o) (mul := fun a b => a * b % m)
    (fun _ _ _ => rfl) (fun _ _ _ _ => rfl) (fun n : ℕ => (n : ZMod m))
    (fun a b => by rw [ZMod.natCast_mod, Nat.cast_mul]) _ (1 % m) (b % m) e Nat.lt_two_pow_self).trans
    (by rw [ZMod.natCast_mod, ZMod.natCast_mod, Nat.cast_one, one_mul])

theorem powMod_lt (b e m : ℕ) (hm : 0 < m) : powMod b e m < m :=
  powLoop_ind (aux := fun f o t e => powModAux m f t e o) (mul := fun a b => a * b % m)
    (fun _ _ _ => rfl) (fun _ _ _ _ => rfl) (Q := (· < m)) (fun _ _ => Nat.mod_lt _ hm) _ _ _ _
    (Nat.mod_lt _ hm)

theorem natCast_inj_of_lt {m a b : ℕ} (ha : a < m) (hb : b < m) (h : (a : ZMod m) = (b : ZMod m)) : a = b := by
  have := (ZMod.natCast_eq_natCast_iff' a b m).mp h
  rwa [Nat.mod_eq_of_lt ha, Nat.mod_eq_of_lt hb] at this

theorem powMod_eq_iff {b e m r : ℕ} (hm : 0 < m) (hr : r < m) :
    powMod b e m = r ↔ (b : ZMod m) ^ e = (r : ZMod m) := by
  rw [← powMod_cast]
  constructor
  · intro h; rw [h]
  · intro h; exact natCast_inj_of_lt (powMod_lt b e m hm) hr h

/-- for `r = t²`, `r^((p+1)/2) = t^(p-1) · t²` -/
theorem sqrt_check_iff_of_mod4 {p : ℕ} [Fact p.Prime] (hp : p % 4 = 3) (r : ZMod p) :
    (r ^ ((p + 1) / 4)) ^ 2 = r ↔ IsSquare r := by
  refine ⟨fun h => ⟨r ^ ((p + 1) / 4), by rw [← pow_two, h]⟩, ?_⟩
  rintro ⟨t, rfl⟩
  rcases eq_or_ne t 0 with rfl | ht
  · rw [mul_zero, zero_pow (by omega), zero_pow (by decide)]
  · have he : 2 * ((p + 1) / 4 * 2) = (p - 1) + 2 := by omega
    rw [← pow_two, ← pow_mul, ← pow_mul, he, pow_add, ZMod.pow_card_sub_one_eq_one ht, one_mul]

/-- a root `x ≠ 0` would give `(-b)^((N-1)/3) = x^(N-1) = 1` -/
theorem _root_.PyEcc.CurveSem.no_cube_root_of_pow_ne_one {K : Type*} [Field K] {N : ℕ}
    (fermat : ∀ x : K, x ≠ 0 → x ^ (N - 1) = 1) (h3 : 3 ∣ N - 1) {b : K} (hb : b ≠ 0)
    (hpow : (-b) ^ ((N - 1) / 3) ≠ 1) (x : K) : x ^ 3 + b ≠ 0 := by
  intro hx
  have hx0 : x ≠ 0 := by
    rintro rfl
    exact hb (by simpa using hx)
  apply hpow
  rw [← eq_neg_of_add_eq_zero_left hx, ← pow_mul, Nat.mul_div_cancel' h3]
  exact fermat x hx0

theorem no_cube_root {F : Type*} [Field F] [Fintype F] {b : F} (hb : b ≠ 0) {k : ℕ}
    (hk : 3 * k = Fintype.card F - 1) (h : (-b) ^ k ≠ 1) (x : F) : x ^ 3 + b ≠ 0 := by
  refine CurveSem.no_cube_root_of_pow_ne_one (N := Fintype.card F)
    (fun x hx => FiniteField.pow_card_sub_one_eq_one x hx) ⟨k, hk.symm⟩ hb ?_ x
  rw [← hk, Nat.mul_div_cancel_left k (by decide)]
  exact h

end PyEcc.CodecSem
