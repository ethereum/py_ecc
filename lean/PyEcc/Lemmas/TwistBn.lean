/-
  The bn128 `twist` functions of the model (`twistOptBn`, `twistRefBn`,
  `Model/Curve.lean`) read in the fields `K2bn`, `K12bn`:

      value of `twist(pt)`  =  `twO ψ w` (value of `pt`),      `(x, y) ↦ (ψ(x)·w², ψ(y)·w³)`

  (`ψ = psiBn`, `i ↦ w⁶ − 9`, `Lemmas/TwistField.lean`; `twO`, `twistHom`: `Lemmas/TwistPoint.lean`), for the
  optimized module through the affine reading `toAff` of the projective triple
  `(ψ(x)·w² : ψ(y)·w³ : ψ(z))`, and for the reference module literally.
  `ψ(b2)·w⁶ = b12` (`b2 = 3/(9+i)`, `ψ(9+i) = w⁶`), so the target curve is `y² = x³ + 3`.
-/
import PyEcc.Lemmas.TwistField
import PyEcc.Lemmas.TwistLaws
import PyEcc.Props.C07_Consts

set_option linter.unusedSectionVars false

namespace PyEcc.TwistSem
open PyEcc PyEcc.Gen PyEcc.Gen.Consts PyEcc.Fqp PyEcc.FqpSem PyEcc.Transfer PyEcc.CurveSem
  WeierstrassCurve

theorem toQ_fq2_bn {v : Variant} {x : Fqp v bnP bnMc2} (hx : WF x) :
    (toQ x : K2bn) = AdjoinRoot.of _ ((getI x.coeffs 0 : ℤ) : ZMod bnP)
      + AdjoinRoot.of _ ((getI x.coeffs 1 : ℤ) : ZMod bnP) * AdjoinRoot.root _ := toQ_fq2 hx

/-- the scaling constant of the bn128 twist: `c = w` -/
noncomputable abbrev cBn : K12bn := wQ bnP bnMc12

theorem cBn_ne_zero : cBn ≠ 0 := wQ_bn_ne_zero

/-- `ψ(b2)·c⁶ = b12`: `b2·(9 + i) = 3` in the model of `FQ2`, either class (`C07.Consts.bn_b2`), and `ψ(9+i) = w⁶` -/
theorem bn_b_twist (v : Variant) : psiBn (toQ (bnB2v v)) * cBn ^ 6 = toQ (bnB12 v) := by
  have g := goodHom_F2bn (v := v)
  have cx : Canon (Fqp.ofInts [9, 1] : Fqp v bnP bnMc2) := canon_ofInts (by decide) rfl
  have h : psiBn (toQ (bnB2v v * (Fqp.ofInts [9, 1] : Fqp v bnP bnMc2)) : K2bn)
      = psiBn (toQ (Fqp.ofInts [3, 0] : Fqp v bnP bnMc2)) := by
    cases v
    · exact congrArg (fun x => psiBn (toQ x)) C07.Consts.bn_b2.1
    · exact congrArg (fun x => psiBn (toQ x)) C07.Consts.bn_b2.2.1
  rw [g.map_mul (curveF2bnv v).good_b cx, map_mul, toQ_ofInts, toQ_ofInts, evQ_pair, evQ_pair, psiBn_apply,
    psiBn_apply] at h
  simp only [Int.cast_ofNat, Int.cast_one, Int.cast_zero, mul_one, sub_self, map_zero, zero_add, map_one,
    one_mul, mul_zero, sub_zero, zero_mul, add_zero, map_ofNat] at h
  rw [toQ_bnB12]
  exact h

section coord
variable {v : Variant} (x : Fqp v bnP bnMc2) (k : ℕ)

theorem canon_embed_mul_w : Canon (embed12 9 0 6 x * wElem ^ k : F12bn v) :=
  goodHom_F12bn.good_mul (canon_embed_bn _ _ _ _) (goodHom_F12bn.good_pow k wElem_bn.1)

variable {x} in
/-- the coordinates of both `twist`s: `embed12 9 0 6 x * w^k` has the value `ψ(x)·wᵏ` -/
theorem toQ_embed_mul_w (hx : WF x) :
    toQ (embed12 9 0 6 x * wElem ^ k : F12bn v) = psiBn (toQ x) * cBn ^ k := by
  have g := goodHom_F12bn (v := v)
  rw [g.map_mul (canon_embed_bn _ _ _ _) (g.good_pow k wElem_bn.1), g.map_pow k wElem_bn.1, wElem_bn.2,
    toQ_embed_bn hx]

end coord

section pts
variable [DecidableEq K2bn] [DecidableEq K12bn]

/-- the bn128 twist as a homomorphism of Mathlib point groups
    `E'(Fp²) : y² = x³ + 3/(9+i)  →  E(Fp¹²) : y² = x³ + 3`, `(x, y) ↦ (ψ(x)·w², ψ(y)·w³)` -/
noncomputable def bnTwist (v : Variant) :
    CurvePt (toQ (bnB2v v) : K2bn) →+ CurvePt (toQ (bnB12 v) : K12bn) :=
  twistHom psiBn cBn_ne_zero (k12bn_field_ok v).1 (k12bn_field_ok v).2.1 (k12bn_field_ok v).2.2.2
    (bn_b_twist v)

theorem bnTwist_injective (v : Variant) : Function.Injective (bnTwist v) :=
  twistHom_injective _ _ _ _ _ _

theorem reprRef_bnTwist (v : Variant) (P : CurvePt (toQ (bnB2v v) : K2bn)) :
    reprRef (bnTwist v P) = twO psiBn cBn (reprRef P) := reprRef_twistHom _ _ _ _ _ _ P

/-- `bnTwist` for the optimized module (`b2 = bnB2`, the constant of `Sem/TransferFqp.lean`) -/
noncomputable def bnTwistOpt : CurvePt (toQ bnB2 : K2bn) →+ CurvePt (toQ (bnB12 .opt) : K12bn) :=
  bnTwist .opt

theorem bnTwistOpt_injective : Function.Injective bnTwistOpt := bnTwist_injective .opt

theorem reprRef_bnTwistOpt (P : CurvePt (toQ bnB2 : K2bn)) :
    reprRef (bnTwistOpt P) = twO psiBn cBn (reprRef P) := reprRef_bnTwist .opt P

theorem canonT_twistOptBn (T : BnG2Pt) : CanonT (twistOptBn (mc12 := bnMc12) T) :=
  ⟨canon_embed_mul_w T.1 2, canon_embed_mul_w T.2.1 3, canon_embed_bn _ _ _ _⟩

theorem mapT_twistOptBn {T : BnG2Pt} (c : CanonT T) :
    mapT (toQ : F12bn .opt → K12bn) (twistOptBn T)
      = (psiBn (toQ T.1) * wQ bnP bnMc12 ^ 2, psiBn (toQ T.2.1) * wQ bnP bnMc12 ^ 3,
          psiBn (toQ T.2.2)) := by
  obtain ⟨x, y, z⟩ := T
  simp only [twistOptBn, mapT_mk]
  rw [toQ_embed_mul_w 2 c.1.wf, toQ_embed_mul_w 3 c.2.1.wf, toQ_embed_bn c.2.2.wf]

/-- the affine reading of `(ψ(x)·w² : ψ(y)·w³ : ψ(z))` is `toAff_twist` with `t = 1` -/
theorem rep_twistOptBn {T : BnG2Pt} {P : CurvePt (toQ bnB2 : K2bn)} (r : Rep curveF2bn T P) :
    Rep (curveF12bn .opt) (twistOptBn T) (bnTwistOpt P) :=
  rep_twist psiBn cBn_ne_zero (bn_b_twist .opt) (canonT_twistOptBn T)
    (by rw [← toAff_twist psiBn one_ne_zero, mul_one, mul_one, mul_one, mapT_twistOptBn r.good]; rfl) r

theorem canonO_twistRefBn {p : Option (Fqp .ref bnP bnMc2 × Fqp .ref bnP bnMc2)} :
    CanonO (twistRefBn (mc12 := bnMc12) p) := by
  rcases p with _ | ⟨x, y⟩
  · trivial
  · exact ⟨canon_embed_mul_w x 2, canon_embed_mul_w y 3⟩

theorem mapO_twistRefBn {p : Option (Fqp .ref bnP bnMc2 × Fqp .ref bnP bnMc2)} (c : CanonO p) :
    mapO (toQ : F12bn .ref → K12bn) (twistRefBn p) = twO psiBn cBn (mapO (toQ : _ → K2bn) p) := by
  rcases p with _ | ⟨x, y⟩
  · rfl
  · simp only [twistRefBn, mapO_some, twO_some]
    rw [toQ_embed_mul_w 2 c.1.wf, toQ_embed_mul_w 3 c.2.wf]

theorem rep_twistRefBn {p : Option (Fqp .ref bnP bnMc2 × Fqp .ref bnP bnMc2)}
    {P : CurvePt (toQ (bnB2v .ref) : K2bn)} (r : RepO (curveF2bnv .ref) p P) :
    RepO (curveF12bn .ref) (twistRefBn p) (bnTwist .ref P) :=
  repO_twist psiBn cBn_ne_zero (bn_b_twist .ref) canonO_twistRefBn (mapO_twistRefBn r.good) r

end pts

end PyEcc.TwistSem
