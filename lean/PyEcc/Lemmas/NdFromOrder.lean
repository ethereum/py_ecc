/-
  Non-degeneracy (ND) of a bilinear map FOLLOWS from one non-trivial value
  (pure algebra, no elliptic curves).

  Setting: additive commutative groups `G1`, `G2`, a commutative group `GT`, a prime `r`, a map
  `e : G2 → G1 → GT` that is additive in each argument on `r`-torsion points (`IsBilinear r e`), a point
  `g2` generating the `r`-torsion of `G2` (every `Q` with `r • Q = 0` is `k • g2`), an `r`-torsion point
  `g1`.  If `e g2 g1 ≠ 1` then `e · g1` is injective on the `r`-torsion of `G2`:

      `r • Q = 0 → e Q g1 = 1 → Q = 0`                                     (`nondeg_of_generator`)

  Proof: `Q = k • g2`, so `1 = e Q g1 = (e g2 g1)^k`; also `(e g2 g1)^r = e (r • g2) g1 = e 0 g1 = 1`, so
  the order of `e g2 g1` divides the prime `r` and is not `1`: it is `r`, hence `r ∣ k` and `Q = k • g2 = 0`.
-/
import PyEcc.Lemmas.BlsAbstract
import Mathlib.Data.ZMod.Basic

namespace PyEcc.NdSem

variable {G1 G2 GT : Type*} [AddCommGroup G1] [AddCommGroup G2] [CommGroup GT]

section
variable {r : ℕ} {e : G2 → G1 → GT} (he : IsBilinear r e)
include he

theorem IsBilinear.orderOf_eq (hr : r.Prime) {Q : G2} {P : G1} (hQ : r • Q = 0) (hP : r • P = 0)
    (hne : e Q P ≠ 1) : orderOf (e Q P) = r := by
  have hd : orderOf (e Q P) ∣ r := orderOf_dvd_of_pow_eq_one (he.pow_r hQ hP)
  rcases (Nat.dvd_prime hr).mp hd with h1 | h
  · exact (hne (orderOf_eq_one_iff.mp h1)).elim
  · exact h

/-- **ND from one non-trivial value.**  Let `r` be prime, `e` bilinear on the `r`-torsion, `g2` a generator
    of the `r`-torsion of `G2`, `g1` an `r`-torsion point of `G1` with `e g2 g1 ≠ 1`.  Then an `r`-torsion
    point `Q` with `e Q g1 = 1` is `0`. -/
theorem nondeg_of_generator (hr : r.Prime) {g2 : G2} {g1 : G1} (hg2 : r • g2 = 0) (hg1 : r • g1 = 0)
    (hgen : ∀ Q : G2, r • Q = 0 → ∃ k : ℕ, Q = k • g2) (hne : e g2 g1 ≠ 1)
    {Q : G2} (hQ : r • Q = 0) (h1 : e Q g1 = 1) : Q = 0 := by
  obtain ⟨k, rfl⟩ := hgen Q hQ
  rw [he.nsmul_left hg2 hg1] at h1
  have hd : r ∣ k := by
    rw [← he.orderOf_eq hr hg2 hg1 hne]
    exact orderOf_dvd_of_pow_eq_one h1
  obtain ⟨c, rfl⟩ := hd
  rw [mul_comm, mul_smul, hg2, smul_zero]

/-- the abstract pairing bundle (HB1 + ND) from bilinearity and one non-trivial value at generators -/
theorem isPairing_of_generator (hr : r.Prime) {g2 : G2} {g1 : G1} (hg2 : r • g2 = 0) (hg1 : r • g1 = 0)
    (hgen : ∀ Q : G2, r • Q = 0 → ∃ k : ℕ, Q = k • g2) (hne : e g2 g1 ≠ 1) :
    BlsAbs.IsPairing r e g1 where
  add_left := he.add_left
  add_right := he.add_right
  nondeg := fun hQ h1 => nondeg_of_generator he hr hg2 hg1 hgen hne hQ h1

end

/-- non-vacuity: on `ZMod 5` (additive) with values in `Multiplicative (ZMod 5)`, `e a b = a * b` is
    bilinear, `1` generates, and `e 1 1 ≠ 1` -/
example : IsBilinear 5 (fun a b : ZMod 5 => Multiplicative.ofAdd (a * b)) ∧
    (5 : ℕ) • (1 : ZMod 5) = 0 ∧ (∀ Q : ZMod 5, 5 • Q = 0 → ∃ k : ℕ, Q = k • (1 : ZMod 5)) ∧
    Multiplicative.ofAdd ((1 : ZMod 5) * 1) ≠ 1 := by
  refine ⟨⟨?_, ?_⟩, by decide, ?_, by decide⟩
  · intro Q Q' P _ _ _; rw [add_mul]; rfl
  · intro Q P P' _ _ _; rw [mul_add]; rfl
  · intro Q _; exact ⟨Q.val, by rw [nsmul_eq_mul, mul_one, ZMod.natCast_zmod_val]⟩

end PyEcc.NdSem
