/-
  The optimized bn128 Miller loop (signed digits, the running point `R`
  a projective triple over FQ12), its two Frobenius line steps, the division and the final power,
  re-expressed over the fast `FQ12` arithmetic `FBn` (`Lemmas/NondegFast.lean` at `w¹² = 18w⁶ − 82`, the `FQ12` class
  of `py_ecc.optimized_bn128`; `Y12` is the record in which bn128 values are written down), and the proof that
  this returns the coefficient list the model's `optBnMillerLoop` returns — for ALL inputs `Q`, `P`,
  digit lists and exponents.

  The loop body and the tail are `optBnStep`, `optBnTailPair` of `Lemmas/MillerBnNaturality.lean` (the model's,
  around the GENERATED generic functions of `Gen/OptBn.lean`) instantiated at `FBn`; they commute with
  `toL` by `MillerBnSem.optBnMiller_good` at `goodHom_toL`;
  `cast_point_to_fq12` and the embedded coordinates of `twist` are the model's, read back into `FBn`
  (`ofL`); the one division `f_num·n1·n2 / (f_den·d1·d2)` is the model's.
-/
import PyEcc.Lemmas.NondegFast
import PyEcc.Lemmas.MillerBnNaturality
import PyEcc.Lemmas.TransferOptBn
import PyEcc.Lemmas.TwistBn

namespace PyEcc.NondegBnSem
open PyEcc PyEcc.Gen PyEcc.Gen.Consts PyEcc.Fqp PyEcc.FqpSem PyEcc.TwistSem PyEcc.MillerBnSem PyEcc.NondegSem
open PyEcc.Transfer (mapT mapP GoodT GoodP mapT_mk mapP_mk)
open X12 (Good)
open F12

/-- an element of bn128 `FQ12`: the 12 coefficients (naturals) of `1, w, …, w¹¹`.  A record of its own
    beside `X12` because `X12.toL` is typed into the BLS12-381 model type `OBls12`, while `Y12.toL` is typed
    into the bn128 model type `OBn12`. -/
structure Y12 where
  (c0 c1 c2 c3 c4 c5 c6 c7 c8 c9 c10 c11 : Nat)
  deriving DecidableEq, Repr

/-- the fast `FQ12` of bn128 -/
abbrev FBn : Type := F12 bnP bnMc12 18 82

namespace Y12

/-- the coefficient list, as an element of the model's optimized `FQ12` -/
def toL (x : Y12) : OBn12 := ⟨[(x.c0 : Int), (x.c1 : Int), (x.c2 : Int), (x.c3 : Int), (x.c4 : Int), (x.c5 : Int), (x.c6 : Int), (x.c7 : Int), (x.c8 : Int), (x.c9 : Int), (x.c10 : Int), (x.c11 : Int)]⟩

/-- the same twelve coefficients as an element of the fast arithmetic -/
def toF (x : Y12) : FBn := X12.mk x.c0 x.c1 x.c2 x.c3 x.c4 x.c5 x.c6 x.c7 x.c8 x.c9 x.c10 x.c11

theorem toL_toF (x : Y12) : F12.toL x.toF = x.toL := rfl

end Y12

instance : Reduces bnP bnMc12 18 82 where
  len := by decide
  hw := by linear_combination TwistSem.bn_w6_sq

/-- projective points over the fast `FQ12` of bn128 -/
abbrev TY : Type := FBn × FBn × FBn
/-- projective points over the model's optimized bn128 `FQ12` -/
abbrev TL : Type := OBn12 × OBn12 × OBn12

/-- `twist(Q) = (nx * w**2, ny * w**3, nz)`: the embedded coordinates and `w` are the model's, read into the
    fast representation; the products and powers are taken there -/
def twistY (Q : OBn2 × OBn2 × OBn2) : TY :=
  (ofL (embed12 9 0 6 Q.1) * ofL wElem ^ 2, ofL (embed12 9 0 6 Q.2.1) * ofL wElem ^ 3,
    ofL (embed12 9 0 6 Q.2.2))

/-- `cast_point_to_fq12(P)` read into the fast representation -/
def castY (P : Fq bnP × Fq bnP × Fq bnP) : TY :=
  mapT ofL ((castFq12 P.1, castFq12 P.2.1, castFq12 P.2.2) : TL)

/-- the state `((f_num, f_den), R)` after the loop, over the fast `FQ12` -/
def loopY (digits : List Int) (Q P : TY) : (FBn × FBn) × TY :=
  digits.foldl (optBnStep Q P) (((1 : FBn), (1 : FBn)), Q)

/-- numerator and denominator of the Miller value, over the fast `FQ12` -/
def millerY (digits : List Int) (Q P : TY) : FBn × FBn :=
  optBnTailPair (frobG bnP Q) P (loopY digits Q P)

theorem twistY_spec (Q : OBn2 × OBn2 × OBn2) :
    GoodT (Good bnP) (twistY Q) ∧ mapT toL (twistY Q) = (twistOptBn Q : TL) := by
  obtain ⟨x, y, z⟩ := Q
  refine ⟨⟨good_mulF _ _, good_mulF _ _, (ofL_spec (canon_embed_bn _ _ _ _)).1⟩, ?_⟩
  simp only [twistY, mapT_mk, toL_mul, toL_pow, (ofL_spec (canon_embed_bn _ _ _ _)).2,
    (ofL_spec wElem_bn.1).2]
  rfl

theorem castY_spec (P : Fq bnP × Fq bnP × Fq bnP) :
    GoodT (Good bnP) (castY P) ∧
      mapT toL (castY P) = ((castFq12 P.1, castFq12 P.2.1, castFq12 P.2.2) : TL) :=
  ofL_specT
    ⟨PairingSem.canon_castFq12 rfl _, PairingSem.canon_castFq12 rfl _, PairingSem.canon_castFq12 rfl _⟩

/-- **`pairing`'s call `miller_loop(twist(Q), cast_point_to_fq12(P), final_exponentiate)` of the model,
    computed by the fast arithmetic**: for every digit list, optional exponent, FQ2 triple `Q` and FQ triple
    `P`, the model's value is the coefficient list of `num / den` computed over `FBn`, raised (by the model's
    `**`) to the exponent if there is one. -/
theorem optBnMillerLoop_fast (digits : List Int) (fe : Option ℕ) (Q : OBn2 × OBn2 × OBn2)
    (P : Fq bnP × Fq bnP × Fq bnP) :
    (optBnMillerLoop digits fe (twistOptBn Q) (castFq12 P.1, castFq12 P.2.1, castFq12 P.2.2) : OBn12)
      = match fe with
        | some e => toL ((millerY digits (twistY Q) (castY P)).1 / (millerY digits (twistY Q) (castY P)).2) ^ e
        | none => toL ((millerY digits (twistY Q) (castY P)).1 / (millerY digits (twistY Q) (castY P)).2) := by
  obtain ⟨gQ, eQ⟩ := twistY_spec Q
  obtain ⟨gP, eP⟩ := castY_spec P
  rw [optBnMillerLoop_eq, ← eQ, ← eP, ← (optBnMiller_good goodHom_toL bnP digits fe gQ gP).2]
  cases fe with
  | none => rfl
  | some e => exact toL_pow _ e

end PyEcc.NondegBnSem
