/-
  The byte encodings of G1 / G2 points read semantically: `EncG1 bs p` ("the 48-byte string `bs` decodes to a
  representative of the Mathlib point `p`") and `EncG2 bs q` (same for 96-byte strings and the twist curve over `K2`).
  From C11 (round trip / canonicity of the codec), the C07/C13 transfer (`Represents`) and C17 (`subgroup_check`): every
  point of the `r`-torsion has exactly one encoding, and every accepted string encodes exactly one point.
-/
import PyEcc.Props.C04
import PyEcc.Props.C11
import PyEcc.Props.C11_G2Full
import PyEcc.Props.C17_Model

set_option linter.unusedSectionVars false

namespace PyEcc.BlsProto
open PyEcc PyEcc.Gen PyEcc.Gen.Consts PyEcc.FqpSem PyEcc.Transfer PyEcc.BlsSem

/-- Mathlib's group of points of `y² = x³ + 4` over `Fq blsP` -/
abbrev E1 : Type := CurvePt (blsB : F1)
/-- Mathlib's group of points of the twist `y² = x³ + 4(1+i)` over `K2 = F_p[X]/(X²+1)` -/
abbrev E2 : Type := CurvePt (toQ blsB2 : K2)

section G1
variable {T T' : G1Pt} {p p' : E1}

theorem toAff_fin {T : G1Pt} (hz : T.2.2 ≠ 0) : toAff T = some (T.1 / T.2.2, T.2.1 / T.2.2) :=
  C13.toAff_of_z_ne_zero hz

theorem compressG1_congr (h : toAff T = toAff T') : compressG1 T = compressG1 T' := by
  by_cases hz : T.2.2 = 0 <;> by_cases hz' : T'.2.2 = 0
  · rw [CodecSem.compressG1_inf hz, CodecSem.compressG1_inf hz']
  · rw [C13.toAff_of_z_eq_zero hz, toAff_fin hz'] at h; cases h
  · rw [toAff_fin hz, C13.toAff_of_z_eq_zero hz'] at h; cases h
  · rw [toAff_fin hz, toAff_fin hz'] at h
    obtain ⟨e1, e2⟩ := Prod.mk.inj (Option.some.inj h)
    rw [CodecSem.compressG1_fin hz, CodecSem.compressG1_fin hz', show (T.1 / T.2.2 : F1) = _ from e1,
      show (T.2.1 / T.2.2 : F1) = _ from e2]

/-- **K1 does not touch the subgroup.**  A finite triple representing a point of the `r`-torsion has
    `X ≠ 0`: the two curve points with `x = 0` have order 3, and `gcd(3, r) = 1`, so such a point would be
    `0`.  Hence C11's G1 round trip applies to it. -/
theorem x_ne_zero_of_torsion (r : Represents T p) (hp : blsR • p = 0) (hz : T.2.2 ≠ 0) : T.1 ≠ 0 := by
  intro hX
  have e : toAff T = reprRef p := r
  rw [toAff_fin hz, hX, zero_div] at e
  rcases p with _ | ⟨x, y, h⟩
  · cases e
  · obtain ⟨rfl, -⟩ := Prod.mk.inj (Option.some.inj e)
    cases MillerBnSem.eq_zero_of_coprime_nsmul (by decide : Nat.Coprime 3 blsR)
      (MillerBnSem.three_nsmul_of_x_zero h) hp

/-- the 48-byte string `bs` decodes (`pubkey_to_G1`) to a representative of `p` -/
def EncG1 (bs : Bytes) (p : E1) : Prop :=
  bs.length = 48 ∧ ∃ P, pubkeyToG1 bs = .ok P ∧ Represents P p

/-- what `pubkey_to_G1` returns on 48 bytes is on the curve, hence represents a point -/
theorem pubkeyToG1_rep {bs : Bytes} (hl : bs.length = 48) {P : G1Pt} (h : pubkeyToG1 bs = .ok P) :
    ∃ p : E1, Represents P p :=
  let ⟨p, r⟩ := curveF1.exists_rep (goodT_true P) (C11.g1ToPubkey_pubkeyToG1 bs hl P h).1
  ⟨p, r.rep⟩

/-- **Every `r`-torsion point has an encoding**: `G1_to_pubkey` of any representative returns it. -/
theorem encG1_of_rep (r : Represents T p) (hp : blsR • p = 0) :
    ∃ bs, g1ToPubkey T = .ok bs ∧ EncG1 bs p := by
  obtain ⟨bs, hbs, hl, _⟩ := C11.g1ToPubkey_length T
  have hon : OptBls.is_on_curve T blsB = true := C07Opt.Bls.opt_on_curve_of_represents r
  obtain ⟨hdec, heq⟩ := C11.decompress_compress_G1_partial T hon (x_ne_zero_of_torsion r hp)
  have hpk := (C11.pubkeyToG1_g1ToPubkey T hbs).trans hdec
  obtain ⟨p', r'⟩ := pubkeyToG1_rep hl hpk
  have : p' = p := (C07Opt.Bls.opt_eq_refines r' r).mp heq
  subst this
  exact ⟨bs, hbs, hl, _, hpk, r'⟩

theorem EncG1.point_unique {bs : Bytes} (h : EncG1 bs p) (h' : EncG1 bs p') : p = p' := by
  obtain ⟨_, P, hP, r⟩ := h
  obtain ⟨_, P', hP', r'⟩ := h'
  rw [hP] at hP'
  cases hP'
  exact C07Opt.Bls.represents_unique r r'

theorem EncG1.bytes_unique {bs bs' : Bytes} (h : EncG1 bs p) (h' : EncG1 bs' p) : bs = bs' := by
  obtain ⟨hl, P, hP, r⟩ := h
  obtain ⟨hl', P', hP', r'⟩ := h'
  have e := (C11.g1ToPubkey_pubkeyToG1 bs hl P hP).2
  have e' := (C11.g1ToPubkey_pubkeyToG1 bs' hl' P' hP').2
  unfold g1ToPubkey at e e'
  rw [compressG1_congr (show toAff P = toAff P' from r.trans r'.symm)] at e
  rw [e] at e'
  exact Except.ok.inj e'

/-- a canonical public key (`CanonPk`, Lemmas/BlsSem.lean) is the encoding of a non-zero `r`-torsion point -/
theorem canonPk_enc {pk : Bytes} {P : G1Pt} (h : CanonPk pk P) :
    ∃ p : E1, Represents P p ∧ EncG1 pk p ∧ p ≠ 0 ∧ blsR • p = 0 := by
  obtain ⟨hl, hP, hi, hs⟩ := h
  obtain ⟨p, r⟩ := pubkeyToG1_rep hl hP
  refine ⟨p, r, ⟨hl, P, hP, r⟩, ?_, (C17M.subgroupCheck_G1_iff r).mp hs⟩
  intro h0
  rw [(C07Opt.Bls.opt_is_inf_refines r).mpr h0] at hi
  cases hi

/-- conversely the encoding of a non-zero `r`-torsion point is a canonical public key -/
theorem canonPk_of_enc {pk : Bytes} (h : EncG1 pk p) (h0 : p ≠ 0) (hp : blsR • p = 0) :
    ∃ P, CanonPk pk P ∧ Represents P p := by
  obtain ⟨hl, P, hP, r⟩ := h
  refine ⟨P, ⟨hl, hP, ?_, (C17M.subgroupCheck_G1_iff r).mpr hp⟩, r⟩
  cases hi : OptBls.is_inf P with
  | false => rfl
  | true => exact (h0 ((C07Opt.Bls.opt_is_inf_refines r).mp hi)).elim

end G1

section G2
variable [DecidableEq K2] {T T' : G2Pt} {q q' : E2}

/-- the canonical model triple `T` (three `FQ2` objects with reduced coefficients) represents the
    Mathlib point `q` of the twist curve over `K2` -/
def RepG2 (T : G2Pt) (q : E2) : Prop := CanonT T ∧ Represents (mapT toQ T) q

/-- `RepG2` is the curve layer's `Rep` (`Sem/TransferRefineBls.lean`) at `curveF2`; what follows is read off it -/
theorem RepG2.rep (h : RepG2 T q) : Rep curveF2 T q := ⟨h.1, h.2⟩

theorem RepG2.of (r : Rep curveF2 T q) : RepG2 T q := ⟨r.good, r.rep⟩

theorem RepG2.on_curve (h : RepG2 T q) : OptBls.is_on_curve T blsB2 = true := h.rep.on_curve

theorem RepG2.unique (h : RepG2 T q) (h' : RepG2 T q') : q = q' :=
  C07Opt.Bls.represents_unique h.2 h'.2

theorem RepG2.zero : RepG2 Z2 (0 : E2) := .of (Rep.zero curveF2 (by decide) rfl)

theorem RepG2.add (h : RepG2 T q) (h' : RepG2 T' q') : RepG2 (OptBls.add T T') (q + q') :=
  .of (h.rep.add h'.rep)

theorem RepG2.double (h : RepG2 T q) : RepG2 (OptBls.double T) (q + q) := .of h.rep.double

theorem RepG2.neg (h : RepG2 T q) : RepG2 (OptBls.neg T) (-q) := .of h.rep.neg

theorem RepG2.multiply (h : RepG2 T q) (k : ℕ) : RepG2 (OptBls.multiply T k) (k • q) :=
  .of (h.rep.multiply k)

theorem RepG2.is_inf_iff (h : RepG2 T q) : OptBls.is_inf T = true ↔ q = 0 := h.rep.is_inf_iff

theorem RepG2.ne_zero (h : RepG2 T q) (hinf : OptBls.is_inf T = false) : q ≠ 0 := fun h0 => by
  rw [h.is_inf_iff.mpr h0] at hinf
  cases hinf

theorem RepG2.eq_iff (h : RepG2 T q) (h' : RepG2 T' q') : OptBls.eq T T' = true ↔ q = q' :=
  h.rep.eq_iff h'.rep

theorem RepG2.subgroupCheck_iff (h : RepG2 T q) : subgroupCheck T = true ↔ blsR • q = 0 :=
  C17Sub.rep_iff h.rep

theorem repG2_of_on_curve (c : CanonT T) (hon : OptBls.is_on_curve T blsB2 = true) :
    ∃ q : E2, RepG2 T q :=
  (curveF2.exists_rep c hon).imp fun _ => .of

theorem toQ_z_eq_zero_iff (c : CanonT T) : (toQ T.2.2 : K2) = 0 ↔ T.2.2 = 0 :=
  goodHom_F2.eq_zero_iff c.2.2

theorem compressG2_congr (h : RepG2 T q) (h' : RepG2 T' q) : compressG2 T = compressG2 T' := by
  have hon := h.on_curve
  have hon' := h'.on_curve
  cases hi : OptBls.is_inf T with
  | true =>
    rw [(C11.decompress_compress_G2_inf T hi).1,
      (C11.decompress_compress_G2_inf T' (h'.is_inf_iff.mpr (h.is_inf_iff.mp hi))).1]
  | false =>
    have hz : T.2.2 ≠ 0 := by simpa [OptBls.is_inf] using hi
    have hz' : T'.2.2 ≠ 0 := fun h0 => h.ne_zero hi (h'.is_inf_iff.mp (by simp [OptBls.is_inf, h0]))
    obtain ⟨c, r⟩ := h
    obtain ⟨c', r'⟩ := h'
    have ha : toAff (mapT (toQ : F2 → K2) T) = toAff (mapT (toQ : F2 → K2) T') := r.trans r'.symm
    rw [C13.toAff_of_z_ne_zero (show (mapT (toQ : F2 → K2) T).2.2 ≠ 0 from
          fun h1 => hz ((toQ_z_eq_zero_iff c).mp h1)),
      C13.toAff_of_z_ne_zero (show (mapT (toQ : F2 → K2) T').2.2 ≠ 0 from
          fun h1 => hz' ((toQ_z_eq_zero_iff c').mp h1))] at ha
    have h1 := (Prod.mk.inj (Option.some.inj ha)).1
    have h2 := (Prod.mk.inj (Option.some.inj ha)).2
    simp only [mapT_fst, mapT_snd_fst, mapT_snd_snd] at h1 h2
    have g := goodHom_F2 (v := .opt)
    have e1 : T.1 / T.2.2 = T'.1 / T'.2.2 :=
      g.inj (g.good_div c.1 c.2.2) (g.good_div c'.1 c'.2.2) (by rw [g.map_div c.1 c.2.2, g.map_div c'.1 c'.2.2, h1])
    have e2 : T.2.1 / T.2.2 = T'.2.1 / T'.2.2 :=
      g.inj (g.good_div c.2.1 c.2.2) (g.good_div c'.2.1 c'.2.2)
        (by rw [g.map_div c.2.1 c.2.2, g.map_div c'.2.1 c'.2.2, h2])
    rw [Fq2Sqrt.compressG2_fin hon hz, Fq2Sqrt.compressG2_fin hon' hz', e1, e2]

theorem signatureToG2_canon {bs : Bytes} (hl : bs.length = 96) {S : G2Pt}
    (h : signatureToG2 bs = .ok S) : CanonT S ∧ OptBls.is_on_curve S blsB2 = true := by
  unfold signatureToG2 at h
  have l1 : (bs.take 48).length = 48 := by rw [List.length_take]; omega
  have hlt : os2ip (bs.take 48) < 2 ^ 384 := by
    have := BytesLem.os2ip_lt (bs.take 48)
    rwa [l1, show (256 : ℕ) = 2 ^ 8 from rfl, ← Nat.pow_mul, show 8 * 48 = 384 from rfl] at this
  obtain ⟨hc, hon, _⟩ := C11.compress_decompress_G2 _ _ hlt S h
  exact ⟨hc, hon⟩

/-- the 96-byte string `bs` decodes (`signature_to_G2`) to a representative of `q` -/
def EncG2 (bs : Bytes) (q : E2) : Prop :=
  bs.length = 96 ∧ ∃ S, signatureToG2 bs = .ok S ∧ RepG2 S q

theorem signatureToG2_rep {bs : Bytes} (hl : bs.length = 96) {S : G2Pt}
    (h : signatureToG2 bs = .ok S) : ∃ q : E2, RepG2 S q :=
  repG2_of_on_curve (signatureToG2_canon hl h).1 (signatureToG2_canon hl h).2

/-- **Every point of the twist curve has an encoding**: `G2_to_signature` of any canonical
    representative returns it (no exception: C11 for G2 has no excluded point). -/
theorem encG2_of_rep (h : RepG2 T q) : ∃ bs, g2ToSignature T = .ok bs ∧ EncG2 bs q := by
  have hon := h.on_curve
  obtain ⟨bs, hbs, hl, hdec⟩ := C11.signatureToG2_g2ToSignature_roundtrip T h.1 hon
  obtain ⟨_, _, _, _, heq⟩ := C11.decompress_compress_G2 T h.1 hon
  obtain ⟨q', r'⟩ := signatureToG2_rep hl hdec
  have : q' = q := (r'.eq_iff h).mp heq
  subst this
  exact ⟨bs, hbs, hl, _, hdec, r'⟩

theorem EncG2.point_unique {bs : Bytes} (h : EncG2 bs q) (h' : EncG2 bs q') : q = q' := by
  obtain ⟨_, S, hS, r⟩ := h
  obtain ⟨_, S', hS', r'⟩ := h'
  rw [hS] at hS'
  cases hS'
  exact r.unique r'

theorem EncG2.bytes_unique {bs bs' : Bytes} (h : EncG2 bs q) (h' : EncG2 bs' q) : bs = bs' := by
  obtain ⟨hl, S, hS, r⟩ := h
  obtain ⟨hl', S', hS', r'⟩ := h'
  have e := (C11.g2ToSignature_signatureToG2 bs hl S hS).2
  have e' := (C11.g2ToSignature_signatureToG2 bs' hl' S' hS').2
  unfold g2ToSignature at e e'
  rw [compressG2_congr r r'] at e
  rw [e] at e'
  exact Except.ok.inj e'

theorem g2ToSignature_eq_iff (h : RepG2 T q) (bs : Bytes) : g2ToSignature T = .ok bs ↔ EncG2 bs q := by
  obtain ⟨bs0, h0, e0⟩ := encG2_of_rep h
  constructor
  · intro hb; rw [h0] at hb; cases hb; exact e0
  · intro hb; rw [h0, e0.bytes_unique hb]

/-- a canonical signature (`CanonSig`, Lemmas/BlsSem.lean) is the encoding of an `r`-torsion point -/
theorem canonSig_enc {sig : Bytes} {S : G2Pt} (h : CanonSig sig S) :
    ∃ q : E2, RepG2 S q ∧ EncG2 sig q ∧ blsR • q = 0 := by
  obtain ⟨hl, hS, hs⟩ := h
  obtain ⟨q, r⟩ := signatureToG2_rep hl hS
  exact ⟨q, r, ⟨hl, S, hS, r⟩, r.subgroupCheck_iff.mp hs⟩

theorem canonSig_of_enc {sig : Bytes} (h : EncG2 sig q) (hq : blsR • q = 0) :
    ∃ S, CanonSig sig S ∧ RepG2 S q := by
  obtain ⟨hl, S, hS, r⟩ := h
  exact ⟨S, ⟨hl, hS, r.subgroupCheck_iff.mpr hq⟩, r⟩

end G2

end PyEcc.BlsProto
