/-
  PyEcc.Lemmas.Irred12Calc — the kernel-checked power-residue computations in `Fp(i)` behind the
  irreducibility of the two degree-12 moduli (`decide +kernel`, no axioms):
  `ξ^((p²−1)/2) = −1` and `ξ^((p²−1)/3) = u ∈ Fp`, `u ≠ 1`, for `ξ = 1 + i` (BLS12-381), `ξ = 9 + i` (BN128).
-/
import PyEcc.Lemmas.Irred12
import PyEcc.Model.Curve
import PyEcc.Sem.FqpFq2

namespace PyEcc.Irred12
open Polynomial PyEcc PyEcc.Fqp PyEcc.FqpSem

/-- the cube-root of unity `(1+i)^((p²−1)/3)` of BLS12-381 (it lies in `Fp`) -/
def blsOmega : ℕ :=
  793479390729215512621379701633421447060886740281060493010456487427281649075476305620758731620350

/-- the cube-root of unity `(9+i)^((p²−1)/3)` of BN128 (it lies in `Fp`) -/
def bnOmega : ℕ :=
  21888242871839275220042445260109153167277707414472061641714758635765020556616

theorem bls_side : blsP % 4 = 3 ∧ 3 ∣ blsP ^ 2 - 1 ∧ blsOmega % blsP ≠ 1 % blsP := by decide +kernel

theorem bn_side : bnP % 4 = 3 ∧ 3 ∣ bnP ^ 2 - 1 ∧ bnOmega % bnP ≠ 1 % bnP := by decide +kernel

/-- `1 + i` is not a square in `Fp²` (BLS12-381): Euler's criterion gives `−1`. -/
theorem bls_sq : (⟨1, 1⟩ : Gi blsP) ^ ((blsP ^ 2 - 1) / 2) = -1 := by decide +kernel

/-- `1 + i` is not a cube in `Fp²` (BLS12-381): `(1+i)^((p²−1)/3)` is a non-trivial cube root of unity. -/
theorem bls_cu : (⟨1, 1⟩ : Gi blsP) ^ ((blsP ^ 2 - 1) / 3) = blsOmega := by decide +kernel

/-- `9 + i` is not a square in `Fp²` (BN128). -/
theorem bn_sq : (⟨9, 1⟩ : Gi bnP) ^ ((bnP ^ 2 - 1) / 2) = -1 := by decide +kernel

/-- `9 + i` is not a cube in `Fp²` (BN128). -/
theorem bn_cu : (⟨9, 1⟩ : Gi bnP) ^ ((bnP ^ 2 - 1) / 3) = bnOmega := by decide +kernel

/-! ### the generated moduli in the form `((X − a)² + 1) ∘ X⁶` -/

theorem modulus_eq_quad_comp (p a : ℕ) :
    modulus p [(a : ℤ) ^ 2 + 1, 0, 0, 0, 0, 0, -(2 * a), 0, 0, 0, 0, 0] = (quad p a).comp (X ^ 6) := by
  rw [quad_comp]
  simp only [modulus, ev_cons, ev_nil, List.length_cons, List.length_nil, Int.cast_zero, C_0, mul_zero,
    add_zero, zero_add, Int.cast_neg, Int.cast_mul, Int.cast_add, Int.cast_pow, Int.cast_natCast,
    Int.cast_ofNat, Int.cast_one]
  rw [C_neg]
  ring

theorem modulus_bls12 : modulus blsP blsMc12 = (quad blsP 1).comp (X ^ 6) :=
  modulus_eq_quad_comp blsP 1

theorem modulus_bn12 : modulus bnP bnMc12 = (quad bnP 9).comp (X ^ 6) :=
  modulus_eq_quad_comp bnP 9

theorem sane_bls12 : Sane blsP blsMc12 := sane_of_natAbs_lt (by decide)
theorem sane_bn12 : Sane bnP bnMc12 := sane_of_natAbs_lt (by decide)

end PyEcc.Irred12
