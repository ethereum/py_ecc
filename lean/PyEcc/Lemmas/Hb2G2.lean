/-
  HB2 for the twist `E'(Fp²)` of BLS12-381, helper level: `K2 = F_p[X]/(X²+1)` has `p²`
  elements; from kernel evaluations of the generated `optimized_bls12_381` curve code on the points of
  `Lemmas/Hb2FactsG2.lean` (coefficient pairs, `Lemmas/FastFq2.lean`) subgroups `≅ (Z/13)²`, `(Z/23)²` and
  points of order `2713, 11953, 262069, Q`; hence `h₂·r ∣ #E'(Fp²)`.
-/
import PyEcc.Lemmas.Hb2Phi
import PyEcc.Lemmas.Hb2FactsG2
import PyEcc.Sem.PrattCerts2
import PyEcc.Lemmas.FqpQuotFinite
import PyEcc.Props.C07_Model

namespace PyEcc.Hb2
open PyEcc PyEcc.Gen PyEcc.Gen.Consts PyEcc.FqpSem PyEcc.Transfer WeierstrassCurve

/-- the group `E'(Fp²)` of BLS12-381: Mathlib points of `y² = x³ + 4(1+i)` over `K2` -/
abbrev E2 : Type := CurvePt (toQ blsB2 : K2)

theorem card_E2_le : Nat.card E2 ≤ 2 * blsP ^ 2 + 1 := by
  classical exact card_point_le_of_card _ NondegSem.card_quot

/-- `b2 = 4 + 4i` of `optimized_bls12_381` as a coefficient pair -/
def blsb2 : Gi blsP := Gi.ofF blsB2

theorem c2_facts : Gi.Good blsb2 ∧ Gi.Good c2 ∧ Gi.Good w2 ∧ c2 ^ 3 = 1 ∧ w2 = c2 ^ 2 := by decide +kernel

/-- the code on coefficient pairs computes in `E'(K2)` -/
theorem curveVal2 : CurveHom Gi.Good (val2 : Gi blsP → K2) blsb2 (toQ blsB2) :=
  ⟨goodHom_val2, curveF2.two, curveF2.three, c2_facts.1, Gi.val_ofF curveF2.good_b, curveF2.b_ne⟩

section
variable [DecidableEq K2]

theorem sq_subgroup_E2 {T : Gi blsP × Gi blsP × Gi blsP} {q l₁ l₂ : ℕ} [Fact q.Prime]
    (f : GoodT Gi.Good T ∧ SqFacts T blsb2 w2 q l₁ l₂)
    (hroots : ∀ k : ZMod q, k ^ 3 = 1 → k = 1 ∨ k = (l₁ : ZMod q) ∨ k = (l₂ : ZMod q)) :
    ∃ H : AddSubgroup E2, Nat.card H = q ^ 2 ∧ ∀ x ∈ H, q • x = 0 := by
  obtain ⟨_, _, gw, h3, hw⟩ := c2_facts
  have g := goodHom_val2
  refine sq_subgroup_of_facts curveVal2 gw (c₃ := val2 c2) ?_ ?_ f.1 f.2 hroots
  · rw [← g.map_pow 3 (by decide), h3, g.map_one]
  · rw [hw, g.map_pow 2 (by decide)]

theorem dvd_card_E2 {T : Gi blsP × Gi blsP × Gi blsP} {q : ℕ} [Fact q.Prime]
    (f : GoodT Gi.Good T ∧ CycFacts T blsb2 q) : q ∣ Nat.card E2 :=
  dvd_card_of_facts curveVal2 f.1 f.2

end

instance fact_13 : Fact (Nat.Prime 13) := ⟨by norm_num⟩
instance fact_23 : Fact (Nat.Prime 23) := ⟨by norm_num⟩
instance fact_2713 : Fact (Nat.Prime 2713) := ⟨Pratt.prime_2713⟩
instance fact_11953 : Fact (Nat.Prime 11953) := ⟨Pratt.prime_11953⟩
instance fact_262069 : Fact (Nat.Prime 262069) := ⟨Pratt.prime_262069⟩
instance fact_bigQ : Fact (Nat.Prime bigQ) :=
  ⟨Pratt.prime_402096035359507321594726366720466575392706800671181159425656785868777272553337714697862511267018014931937703598282857976535744623203249⟩

theorem r_dvd_card_E2 : blsR ∣ Nat.card E2 := by
  classical
  obtain ⟨_, _, G, _, _, _, hG⟩ := C07M.blsG2_point
  exact dvd_card_of_order G hG

/-- `h₂ = 13²·23²·2713·11953·262069·Q` -/
theorem h2r_dvd_card_E2 : blsconst_G2_COFACTOR * blsR ∣ Nat.card E2 := by
  classical
  obtain ⟨H1, d1, _⟩ := sq_subgroup_E2 (T := pt2_13) (q := 13) (l₁ := 3) (l₂ := 9) (by decide +kernel)
    (cube_roots_of_split _ _ (by decide) (by decide))
  obtain ⟨H2, d2, _⟩ := sq_subgroup_E2 (T := pt2_23) (q := 23) (l₁ := 1) (l₂ := 1) (by decide +kernel)
    fun k hk => .inl (cube_root_of_mod3 (by decide) k hk)
  have e : blsconst_G2_COFACTOR * blsR
      = [13 ^ 2, 23 ^ 2, 2713, 11953, 262069, bigQ, blsR].prod := by decide +kernel
  rw [e]
  refine prod_dvd_of_pairwise_coprime (by decide +kernel) ?_
  simp only [List.forall_mem_cons, List.not_mem_nil, false_imp_iff, implies_true, and_true]
  exact ⟨sq_dvd_card H1 d1, sq_dvd_card H2 d2, dvd_card_E2 (T := pt2_2713) (by decide +kernel),
    dvd_card_E2 (T := pt2_11953) (by decide +kernel), dvd_card_E2 (T := pt2_262069) (by decide +kernel),
    dvd_card_E2 (T := pt2_Q) (by decide +kernel), r_dvd_card_E2⟩

end PyEcc.Hb2
