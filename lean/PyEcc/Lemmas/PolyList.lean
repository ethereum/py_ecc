/-
  Polynomials as coefficient lists (constant term first) over a ring `S` with kernel-computable operations (`ℤ`, `ℤ[i]`),
  for proving by reflection the polynomial identities with huge coefficients behind the isogeny maps of hash-to-curve
  (C10): `ev f l x` reads a list at `x : R` through `f : S →+* R` and turns the list arithmetic into that of `R`, so two
  lists have the same value once `f` kills every coefficient of their difference (`ev_eq_of_sub`). The Horner loop shared
  by `iso_map_G1` / `iso_map_G2` (`Model/Swu.lean: isoHorner`, run on `x = w·z` with the table `[z, z², …]`) computes
  the homogenisation `z^deg · k(w)` (`isoHorner_eq`) and commutes with a `GoodHom` (`isoHorner_good`, for `toQ : F2 → K2`).
-/
import PyEcc.Model.Swu
import PyEcc.Lemmas.TransferBase
import Mathlib.Algebra.Ring.Hom.Defs
import Mathlib.Algebra.Ring.Basic
import Mathlib.Algebra.BigOperators.Group.List.Basic
import Mathlib.Tactic.Ring

namespace PyEcc.IsoSem

section ops
variable {S : Type} [CommRing S]

def pAdd : List S → List S → List S
  | [], b => b
  | a, [] => a
  | a :: as, b :: bs => (a + b) :: pAdd as bs

def pNeg (a : List S) : List S := a.map fun c => -c

def pSub (a b : List S) : List S := pAdd a (pNeg b)

def pSmul (c : S) (a : List S) : List S := a.map fun d => c * d

def pMul : List S → List S → List S
  | [], _ => []
  | a :: as, b => pAdd (pSmul a b) (0 :: pMul as b)

def pPow (a : List S) : ℕ → List S
  | 0 => [1]
  | n + 1 => pMul a (pPow a n)

end ops

section eval
variable {S R : Type} [CommRing S] [CommRing R] (f : S →+* R)

def ev (l : List S) (x : R) : R := l.foldr (fun c acc => f c + x * acc) 0

@[simp] theorem ev_nil (x : R) : ev f [] x = 0 := rfl
@[simp] theorem ev_cons (c : S) (l : List S) (x : R) : ev f (c :: l) x = f c + x * ev f l x := rfl

theorem ev_pAdd (a b : List S) (x : R) : ev f (pAdd a b) x = ev f a x + ev f b x := by
  induction a generalizing b with
  | nil => simp [pAdd]
  | cons c a ih =>
    cases b with
    | nil => simp [pAdd]
    | cons d b => simp only [pAdd, ev_cons, ih, map_add]; ring

theorem ev_pNeg (a : List S) (x : R) : ev f (pNeg a) x = -ev f a x := by
  induction a with
  | nil => simp [pNeg]
  | cons c a ih =>
    have : pNeg (c :: a) = (-c) :: pNeg a := rfl
    rw [this, ev_cons, ev_cons, ih, map_neg]; ring

theorem ev_pSub (a b : List S) (x : R) : ev f (pSub a b) x = ev f a x - ev f b x := by
  rw [pSub, ev_pAdd, ev_pNeg]; ring

theorem ev_pSmul (c : S) (a : List S) (x : R) : ev f (pSmul c a) x = f c * ev f a x := by
  induction a with
  | nil => simp [pSmul]
  | cons d a ih =>
    have : pSmul c (d :: a) = (c * d) :: pSmul c a := rfl
    rw [this, ev_cons, ev_cons, ih, map_mul]; ring

theorem ev_pMul (a b : List S) (x : R) : ev f (pMul a b) x = ev f a x * ev f b x := by
  induction a with
  | nil => simp [pMul]
  | cons c a ih => simp only [pMul, ev_pAdd, ev_pSmul, ev_cons, ih, map_zero]; ring

theorem ev_pPow (a : List S) (n : ℕ) (x : R) : ev f (pPow a n) x = ev f a x ^ n := by
  induction n with
  | zero => simp [pPow]
  | succ n ih => rw [pPow, ev_pMul, ih, pow_succ']

theorem ev_eq_zero (l : List S) (h : ∀ c ∈ l, f c = 0) (x : R) : ev f l x = 0 := by
  induction l with
  | nil => rfl
  | cons c l ih =>
    rw [ev_cons, h c (List.mem_cons_self), ih fun d hd => h d (List.mem_cons_of_mem _ hd)]
    ring

theorem ev_eq_of_sub (a b : List S) (h : ∀ c ∈ pSub a b, f c = 0) (x : R) : ev f a x = ev f b x := by
  have := ev_eq_zero f _ h x
  rw [ev_pSub] at this
  exact sub_eq_zero.mp this

theorem ev_map (l : List S) (x : R) : ev (RingHom.id R) (l.map f) x = ev f l x := by
  induction l with
  | nil => rfl
  | cons c l ih => rw [List.map_cons, ev_cons, ev_cons, ih]; rfl

theorem ev_append_singleton (l : List S) (c : S) (x : R) :
    ev f (l ++ [c]) x = ev f l x + x ^ l.length * f c := by
  induction l with
  | nil => simp
  | cons d l ih => rw [List.cons_append, ev_cons, ev_cons, ih, List.length_cons]; ring

end eval

section horner
variable {R : Type} [CommRing R]

/-- the table `[z, z², …, zⁿ]` by exponents, which start anywhere as `List.range'` does -/
theorem zPowersOf_eq {F : Type} [Pow F Nat] (z : F) (n : ℕ) :
    zPowersOf z n = (List.range' 1 n).map (z ^ ·) := by
  rw [zPowersOf, List.range'_eq_map_range, List.map_map]
  exact List.map_congr_left fun i _ => congrArg (z ^ ·) (Nat.add_comm i 1)

/-- loop invariant: started from `z^s · h` with the table `[z^(s+1), z^(s+2), …]` (at least as long as
    the remaining coefficients `r`), the loop on `x = w·z` returns `z^(s+|r|)` times the plain Horner
    evaluation at `w` -/
theorem horner_loop (w z : R) (r : List R) : ∀ (s n : ℕ) (h : R), r.length ≤ n →
    (List.zip r ((List.range' (s + 1) n).map (z ^ ·))).foldl
        (fun acc kz => acc * (w * z) + kz.2 * kz.1) (z ^ s * h)
      = z ^ (s + r.length) * r.foldl (fun acc k => acc * w + k) h := by
  induction r with
  | nil => intro s n h _; rfl
  | cons k r ih =>
    intro s n h hn
    obtain ⟨m, rfl⟩ := Nat.exists_eq_add_one_of_ne_zero (Nat.ne_zero_of_lt hn)
    rw [List.range'_succ, List.map_cons, List.zip_cons_cons, List.foldl_cons, List.foldl_cons,
      show z ^ s * h * (w * z) + z ^ (s + 1) * k = z ^ (s + 1) * (h * w + k) by ring,
      ih (s + 1) m _ (Nat.le_of_succ_le_succ hn), List.length_cons, Nat.add_right_comm, Nat.add_assoc]

theorem horner_foldl (w : R) (l : List R) (c : R) :
    l.reverse.foldl (fun acc k => acc * w + k) c = ev (RingHom.id R) (l ++ [c]) w := by
  induction l with
  | nil => simp
  | cons d l ih =>
    rw [List.reverse_cons, List.foldl_append, ih, List.cons_append, ev_cons]
    simp only [List.foldl_cons, List.foldl_nil, RingHom.id_apply]
    ring

theorem isoHorner_concat {F : Type} [Mul F] [Add F] [Inhabited F] (k : List F) (c x : F) (zs : List F) :
    isoHorner (k ++ [c]) x zs = (List.zip k.reverse zs).foldl (fun acc kz => acc * x + kz.2 * kz.1) c := by
  rw [isoHorner, List.getLast?_concat, List.dropLast_concat]
  rfl

theorem isoHorner_eq [Inhabited R] {k : List R} {d : ℕ} (hk : k.length = d + 1) (w z : R) {n : ℕ}
    (hn : d ≤ n) : isoHorner k (w * z) (zPowersOf z n) = z ^ d * ev (RingHom.id R) k w := by
  obtain ⟨k, c, rfl⟩ : ∃ k' c, k = k' ++ [c] :=
    ⟨_, _, (List.dropLast_append_getLast (List.ne_nil_of_length_eq_add_one hk)).symm⟩
  obtain rfl : k.length = d := by simpa using hk
  have h := horner_loop w z k.reverse 0 n c (by rw [List.length_reverse]; exact hn)
  simp only [pow_zero, one_mul, Nat.zero_add, List.length_reverse] at h
  rw [isoHorner_concat, zPowersOf_eq, h, horner_foldl]

end horner

section good
open PyEcc.Transfer
variable {A B : Type}
  [Zero A] [One A] [Add A] [Sub A] [Mul A] [Neg A] [Div A] [NatCast A] [Pow A Nat]
  [Zero B] [One B] [Add B] [Sub B] [Mul B] [Neg B] [Div B] [NatCast B] [Pow B Nat]
  {Good : A → Prop} {φ : A → B}

theorem horner_loop_good (h : GoodHom Good φ) {x : A} (hx : Good x) {l : List (A × A)} {acc : A}
    (ha : Good acc) (hl : ∀ kz ∈ l, Good kz.1 ∧ Good kz.2) :
    Good (l.foldl (fun acc kz => acc * x + kz.2 * kz.1) acc) ∧
    φ (l.foldl (fun acc kz => acc * x + kz.2 * kz.1) acc) =
      (l.map (Prod.map φ φ)).foldl (fun acc kz => acc * φ x + kz.2 * kz.1) (φ acc) := by
  rw [List.foldl_map]
  refine List.foldl_rel (r := fun a b => Good a ∧ φ a = b) ⟨ha, rfl⟩ fun kz hkz a b r => ?_
  have g1 := h.good_mul r.1 hx
  have g2 := h.good_mul (hl kz hkz).2 (hl kz hkz).1
  exact ⟨h.good_add g1 g2,
    by rw [h.map_add g1 g2, h.map_mul r.1 hx, h.map_mul (hl kz hkz).2 (hl kz hkz).1, r.2]; rfl⟩

theorem isoHorner_good [Inhabited A] [Inhabited B] (h : GoodHom Good φ) {k : List A} (hk : k ≠ [])
    (hkg : ∀ c ∈ k, Good c) {x : A} (hx : Good x) {zs : List A} (hz : ∀ c ∈ zs, Good c) :
    Good (isoHorner k x zs) ∧ φ (isoHorner k x zs) = isoHorner (k.map φ) (φ x) (zs.map φ) := by
  obtain ⟨k, c, rfl⟩ : ∃ k' c, k = k' ++ [c] := ⟨_, _, (List.dropLast_append_getLast hk).symm⟩
  rw [List.map_append, List.map_singleton, isoHorner_concat, isoHorner_concat, ← List.map_reverse,
    List.zip_map]
  exact horner_loop_good h hx (hkg c (List.mem_append_right _ (List.mem_singleton_self c))) fun kz hkz =>
    ⟨hkg _ (List.mem_append_left _ (List.mem_reverse.mp (List.of_mem_zip hkz).1)),
      hz _ (List.of_mem_zip hkz).2⟩

theorem zPowersOf_good (h : GoodHom Good φ) (z : A) (hz : Good z) (n : ℕ) :
    (∀ c ∈ zPowersOf z n, Good c) ∧ (zPowersOf z n).map φ = zPowersOf (φ z) n := by
  unfold zPowersOf
  constructor
  · intro c hc
    obtain ⟨i, _, rfl⟩ := List.mem_map.mp hc
    exact h.good_pow _ hz
  · rw [List.map_map]
    apply List.map_congr_left
    intro i _
    exact h.map_pow _ hz

end good

end PyEcc.IsoSem
