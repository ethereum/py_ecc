/-
  PyEcc.Lemmas.TwistField — the "field isomorphism" lines of `twist`:

      ψ : Fp[i]/(i² + 1)  →+*  Fp[w]/(w¹² − 2a·w⁶ + a² + 1),     i ↦ w⁶ − a
      (a = 1: BLS12-381, a = 9: bn128),

  a ring homomorphism because `(w⁶ − a)² + 1 = w¹² − 2a·w⁶ + a² + 1 = 0` in the target.  The model's
  `embed12 k pos0 pos1` (`Model/Curve.lean`; the coefficient shuffling `[c0 − k·c1, 0, …, c1, 0, …]` of the
  Python code) computes `ψ(x)·w^pos0` for `k = a`, `pos1 = pos0 + 6`.  Last, the embedding of the base field
  (`embQ`), which `cast_point_to_fq12` computes.
-/
import PyEcc.Sem.TransferFq12
import PyEcc.Sem.FqZMod

set_option linter.unusedSectionVars false

namespace PyEcc.TwistSem
open Polynomial PyEcc PyEcc.Fqp PyEcc.FqpSem PyEcc.Transfer PyEcc.Irred12

section generic
variable {p : ℕ} {mc12 : List Int}

/-- the class of `X`, i.e. the element `w` of `FQ12` -/
noncomputable abbrev wQ (p : ℕ) (mc12 : List Int) : AdjoinRoot (modulus p mc12) := AdjoinRoot.root _

theorem w6_sq (a : ℕ) (hm : modulus p mc12 = (quad p a).comp (X ^ 6)) :
    (wQ p mc12 ^ 6 - (a : AdjoinRoot (modulus p mc12))) ^ 2 + 1 = 0 := by
  have h := AdjoinRoot.mk_self (f := modulus p mc12)
  conv at h => lhs; arg 2; rw [hm, quad]
  rwa [add_comp, pow_comp, sub_comp, X_comp, C_comp, one_comp, RingHom.map_add, RingHom.map_pow,
    RingHom.map_sub, RingHom.map_pow, AdjoinRoot.mk_X, AdjoinRoot.mk_C, RingHom.map_one, map_natCast] at h

/-- the embedding `ψ : FQ2 → FQ12`, `a₀ + a₁·i ↦ (a₀ − a·a₁) + a₁·w⁶` -/
noncomputable def psi (a : ℕ) (hm : modulus p mc12 = (quad p a).comp (X ^ 6)) :
    AdjoinRoot (modulus p [1, 0]) →+* AdjoinRoot (modulus p mc12) :=
  AdjoinRoot.lift (AdjoinRoot.of _) (wQ p mc12 ^ 6 - (a : AdjoinRoot (modulus p mc12))) (by
    rw [modulus_fq2, eval₂_add, eval₂_pow, eval₂_X, eval₂_one]
    exact w6_sq a hm)

variable (a : ℕ) (hm : modulus p mc12 = (quad p a).comp (X ^ 6))

theorem psi_root : psi a hm (AdjoinRoot.root _) = wQ p mc12 ^ 6 - (a : AdjoinRoot (modulus p mc12)) :=
  AdjoinRoot.lift_root _

theorem psi_of (x : ZMod p) : psi a hm (AdjoinRoot.of _ x) = AdjoinRoot.of _ x := AdjoinRoot.lift_of _

theorem psi_apply (a₀ a₁ : ZMod p) :
    psi a hm (AdjoinRoot.of _ a₀ + AdjoinRoot.of _ a₁ * AdjoinRoot.root _)
      = AdjoinRoot.of _ (a₀ - a * a₁) + AdjoinRoot.of _ a₁ * wQ p mc12 ^ 6 := by
  rw [RingHom.map_add, RingHom.map_mul, psi_of, psi_of, psi_root, RingHom.map_sub, RingHom.map_mul,
    map_natCast]
  ring

theorem psi_injective [Fact p.Prime] [Fact (Irreducible (modulus p [1, 0]))]
    [Fact (Irreducible (modulus p mc12))] : Function.Injective (psi a hm) :=
  RingHom.injective _

variable {v : Variant}

theorem toQ_fq2 {x : Fqp v p [1, 0]} (hx : WF x) :
    toQ x = AdjoinRoot.of _ ((getI x.coeffs 0 : ℤ) : ZMod p)
      + AdjoinRoot.of _ ((getI x.coeffs 1 : ℤ) : ZMod p) * AdjoinRoot.root _ := by
  obtain ⟨l⟩ := x
  match l, hx with
  | [c0, c1], _ => exact evQ_pair _ c0 c1

theorem ev_two_coeffs {n i j : ℕ} (hi : i < n) (hj : j < n) (hij : i ≠ j) (c0 c1 : ℤ) :
    ev p ((List.range n).map fun t => if t = i then c0 else if t = j then c1 else 0)
      = C (c0 : ZMod p) * X ^ i + C (c1 : ZMod p) * X ^ j := by
  have hg : ∀ t < n, getI ((List.range n).map fun t => if t = i then c0 else if t = j then c1 else 0) t
      = if t = i then c0 else if t = j then c1 else 0 := fun t ht => by simp [getI, ht]
  rw [ev_eq_sum, List.length_map, List.length_range,
    Finset.sum_eq_add_of_mem i j (Finset.mem_range.2 hi) (Finset.mem_range.2 hj) hij, hg i hi, hg j hj,
    if_pos rfl, if_neg hij.symm, if_pos rfl]
  intro t ht hne
  rw [hg t (Finset.mem_range.1 ht), if_neg hne.1, if_neg hne.2, Int.cast_zero, C_0, zero_mul]

theorem toQ_embed (k : Int) {i : ℕ} (hi : i < 6) (x : Fqp v p [1, 0]) :
    toQ (embed12 k i (i + 6) x : Fqp v p mc12)
      = (AdjoinRoot.of _ (((getI x.coeffs 0 - getI x.coeffs 1 * k : ℤ)) : ZMod p)
        + AdjoinRoot.of _ ((getI x.coeffs 1 : ℤ) : ZMod p) * wQ p mc12 ^ 6) * wQ p mc12 ^ i := by
  rw [embed12, toQ_ofInts, evQ, ev_two_coeffs (by omega) (by omega) (by omega), RingHom.map_add,
    RingHom.map_mul, RingHom.map_mul, RingHom.map_pow, RingHom.map_pow, AdjoinRoot.mk_C, AdjoinRoot.mk_C,
    AdjoinRoot.mk_X]
  ring

include hm in
/-- `embed12 a i (i + 6)` implements `x ↦ ψ(x)·wⁱ` on well-formed `FQ2` elements (`i = 0`: the lines
    `FQ12([c0 − a·c1, 0,0,0,0,0, c1, 0,…])` of `twist`; `i = 1, 3`: the shifted placements of the optimized
    BLS12-381 `twist`) -/
theorem toQ_embed12 {i : ℕ} (hi : i < 6) {x : Fqp v p [1, 0]} (hx : WF x) :
    toQ (embed12 (a : ℤ) i (i + 6) x : Fqp v p mc12) = psi a hm (toQ x) * wQ p mc12 ^ i := by
  rw [toQ_embed _ hi, toQ_fq2 hx, psi_apply, Int.cast_sub, Int.cast_mul, Int.cast_natCast,
    mul_comm (a : ZMod p)]

theorem canon_embed12 (hp : 0 < p) (h12 : mc12.length = 12) {mc2 : List Int} (k : Int) (pos0 pos1 : ℕ)
    (x : Fqp v p mc2) : Canon (embed12 k pos0 pos1 x : Fqp v p mc12) :=
  canon_ofInts hp (by simp [h12])

theorem wElem_spec (hp : 0 < p) (h12 : mc12.length = 12) :
    Canon (wElem : Fqp v p mc12) ∧ toQ (wElem : Fqp v p mc12) = wQ p mc12 := by
  refine ⟨canon_ofInts hp (by simp [h12]), ?_⟩
  rw [wElem, toQ_ofInts]
  simp [evQ, AdjoinRoot.mk_X]

end generic

/-- BLS12-381: `ψ : FQ2 → FQ12`, `a₀ + a₁·i ↦ (a₀ − a₁) + a₁·w⁶` (`i ↦ w⁶ − 1`) -/
noncomputable def psiBls : K2 →+* K12 := psi 1 modulus_bls12

/-- bn128: `ψ : FQ2 → FQ12`, `a₀ + a₁·i ↦ (a₀ − 9a₁) + a₁·w⁶` (`i ↦ w⁶ − 9`) -/
noncomputable def psiBn : K2bn →+* K12bn := psi 9 modulus_bn12

theorem psiBls_injective : Function.Injective psiBls := RingHom.injective _
theorem psiBn_injective : Function.Injective psiBn := RingHom.injective _

theorem bls_w6_sq : (wQ blsP blsMc12 ^ 6 - 1) ^ 2 = -1 := by
  have := w6_sq 1 modulus_bls12
  rw [Nat.cast_one] at this
  exact eq_neg_of_add_eq_zero_left this

theorem bn_w6_sq : (wQ bnP bnMc12 ^ 6 - 9) ^ 2 = -1 := by
  have := w6_sq 9 modulus_bn12
  rw [Nat.cast_ofNat] at this
  exact eq_neg_of_add_eq_zero_left this

theorem psiBls_apply (a₀ a₁ : ZMod blsP) :
    psiBls (AdjoinRoot.of _ a₀ + AdjoinRoot.of _ a₁ * AdjoinRoot.root _)
      = AdjoinRoot.of _ (a₀ - a₁) + AdjoinRoot.of _ a₁ * wQ blsP blsMc12 ^ 6 := by
  have := psi_apply 1 modulus_bls12 a₀ a₁
  rwa [Nat.cast_one, one_mul] at this

theorem psiBn_apply (a₀ a₁ : ZMod bnP) :
    psiBn (AdjoinRoot.of _ a₀ + AdjoinRoot.of _ a₁ * AdjoinRoot.root _)
      = AdjoinRoot.of _ (a₀ - 9 * a₁) + AdjoinRoot.of _ a₁ * wQ bnP bnMc12 ^ 6 := by
  have := psi_apply 9 modulus_bn12 a₀ a₁
  rwa [Nat.cast_ofNat] at this

section concrete
variable {v : Variant}

/-- BLS12-381: `embed12 1 0 6` (the lines `FQ12([c0 − c1, 0,0,0,0,0, c1, 0,…])` of `twist`) is `ψ` -/
theorem toQ_embed_bls {x : Fqp v blsP blsMc2} (hx : WF x) :
    toQ (embed12 1 0 6 x : F12 v) = psiBls (toQ x) :=
  (toQ_embed12 1 modulus_bls12 (i := 0) (by decide) hx).trans (by rw [pow_zero, mul_one]; rfl)

/-- BLS12-381 optimized `twist`, x-coordinate: `embed12 1 1 7 x` is `ψ(x)·w` -/
theorem toQ_embed_bls_w {x : Fqp v blsP blsMc2} (hx : WF x) :
    toQ (embed12 1 1 7 x : F12 v) = psiBls (toQ x) * wQ blsP blsMc12 :=
  (toQ_embed12 1 modulus_bls12 (i := 1) (by decide) hx).trans (by rw [pow_one]; rfl)

/-- BLS12-381 optimized `twist`, z-coordinate: `embed12 1 3 9 z` is `ψ(z)·w³` -/
theorem toQ_embed_bls_w3 {x : Fqp v blsP blsMc2} (hx : WF x) :
    toQ (embed12 1 3 9 x : F12 v) = psiBls (toQ x) * wQ blsP blsMc12 ^ 3 :=
  toQ_embed12 1 modulus_bls12 (i := 3) (by decide) hx

/-- bn128: `embed12 9 0 6` is `ψ` -/
theorem toQ_embed_bn {x : Fqp v bnP bnMc2} (hx : WF x) :
    toQ (embed12 9 0 6 x : F12bn v) = psiBn (toQ x) :=
  (toQ_embed12 9 modulus_bn12 (i := 0) (by decide) hx).trans (by rw [pow_zero, mul_one]; rfl)

theorem canon_embed_bls {mc2 : List Int} (k : Int) (pos0 pos1 : ℕ) (x : Fqp v blsP mc2) :
    Canon (embed12 k pos0 pos1 x : F12 v) := canon_embed12 (by decide) (by decide) k pos0 pos1 x

theorem canon_embed_bn {mc2 : List Int} (k : Int) (pos0 pos1 : ℕ) (x : Fqp v bnP mc2) :
    Canon (embed12 k pos0 pos1 x : F12bn v) := canon_embed12 (by decide) (by decide) k pos0 pos1 x

theorem wElem_bls : Canon (wElem : F12 v) ∧ toQ (wElem : F12 v) = wQ blsP blsMc12 :=
  wElem_spec (by decide) (by decide)

theorem wElem_bn : Canon (wElem : F12bn v) ∧ toQ (wElem : F12bn v) = wQ bnP bnMc12 :=
  wElem_spec (by decide) (by decide)

theorem wQ_bls_ne_zero : wQ blsP blsMc12 ≠ 0 := by
  rw [← (wElem_bls (v := .opt)).2]
  exact C08P.toQ_ne_zero (by decide) wElem_bls.1 (by decide)

theorem wQ_bn_ne_zero : wQ bnP bnMc12 ≠ 0 := by
  rw [← (wElem_bn (v := .opt)).2]
  exact C08P.toQ_ne_zero (by decide) wElem_bn.1 (by decide)

end concrete

end PyEcc.TwistSem

namespace PyEcc.FqpSem
open PyEcc PyEcc.Fqp
variable {v : Variant} {p : ℕ} [NeZero p] {mc12 : List Int}

/-- the base field inside `FQ12`, on the model type `Fq p` -/
noncomputable def embQ (mc12 : List Int) : Fq p →+* AdjoinRoot (modulus p mc12) :=
  (AdjoinRoot.of (modulus p mc12)).comp (Fq.ringEquiv : Fq p ≃+* ZMod p).toRingHom

theorem embQ_apply (x : Fq p) : embQ mc12 x = AdjoinRoot.of (modulus p mc12) (Fq.toZMod x) := rfl

theorem toQ_castFq12 (x : Fq p) : toQ (castFq12 x : Fqp v p mc12) = embQ mc12 x := by
  rw [embQ_apply, Fq.toZMod_def]
  simp [castFq12, toQ_ofInts, evQ]

open PyEcc.Transfer in
theorem toAff_castFq12 [Fact p.Prime] [Fact (Irreducible (modulus p mc12))]
    [DecidableEq (AdjoinRoot (modulus p mc12))] {P : Fq p × Fq p × Fq p} (hz : P.2.2 ≠ 0) :
    toAff (mapT (toQ : Fqp v p mc12 → AdjoinRoot (modulus p mc12)) (castFq12 P.1, castFq12 P.2.1, castFq12 P.2.2))
      = some (embQ mc12 (P.1 / P.2.2), embQ mc12 (P.2.1 / P.2.2)) := by
  have hz' : embQ mc12 P.2.2 ≠ 0 := (_root_.map_ne_zero _).mpr hz
  have : (mapT (toQ : Fqp v p mc12 → AdjoinRoot (modulus p mc12))
      (castFq12 P.1, castFq12 P.2.1, castFq12 P.2.2)).2.2 ≠ 0 := by
    rw [mapT_snd_snd, toQ_castFq12]; exact hz'
  rw [C13.toAff_of_z_ne_zero this]
  simp only [mapT_mk, toQ_castFq12, map_div₀]

end PyEcc.FqpSem
