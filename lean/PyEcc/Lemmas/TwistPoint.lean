/-
  The twisting map on points, field-generically.

  `ψ : K →+* L` a homomorphism of fields, `c ∈ L` non-zero.  The map

      `twO ψ c : (x, y) ↦ (ψ(x)·c², ψ(y)·c³)`,  `∞ ↦ ∞`

  commutes with the chord–tangent formulas `sAdd`, `sDouble`, `sNeg` of `Lemmas/CurveAux.lean` (on ALL
  pairs, on the curve or not), is injective, and maps solutions of `y² = x³ + b` to solutions of
  `y² = x³ + b'` when `ψ(b)·c⁶ = b'`.  Hence it induces an injective homomorphism of Mathlib's point groups
  `twistHom : (W b).Point →+ (W b').Point`.  On projective triples, `(ψ(x)·c²t : ψ(y)·c³t : ψ(z)·t)` reads as
  `twO ψ c` of the affine reading of `(x : y : z)` (`toAff_twist`; the optimized `twist` functions have this
  form with `t = w³` resp. `t = 1`).
-/
import PyEcc.Lemmas.CurveAux
import PyEcc.Lemmas.C13Aux

set_option linter.unusedSectionVars false

namespace PyEcc.TwistSem
open PyEcc PyEcc.CurveSem WeierstrassCurve

variable {K L : Type} [Field K] [Field L] [DecidableEq K] [DecidableEq L]

def twO (ψ : K →+* L) (c : L) (p : Option (K × K)) : Option (L × L) :=
  p.map fun q => (ψ q.1 * c ^ 2, ψ q.2 * c ^ 3)

section
variable (ψ : K →+* L) {c : L} (hc : c ≠ 0)

@[simp] theorem twO_none : twO ψ c none = none := rfl
@[simp] theorem twO_some (x y : K) : twO ψ c (some (x, y)) = some (ψ x * c ^ 2, ψ y * c ^ 3) := rfl

theorem twO_eq_none (p : Option (K × K)) : twO ψ c p = none ↔ p = none := by
  cases p <;> simp [twO]

theorem toAff_twist {t : L} (ht : t ≠ 0) (T : K × K × K) :
    toAff (ψ T.1 * (c ^ 2 * t), ψ T.2.1 * (c ^ 3 * t), ψ T.2.2 * t) = twO ψ c (toAff T) := by
  by_cases hz : T.2.2 = 0
  · rw [C13.toAff_of_z_eq_zero hz, C13.toAff_of_z_eq_zero (by rw [hz, map_zero, zero_mul])]
    rfl
  · rw [C13.toAff_of_z_ne_zero hz, C13.toAff_of_z_ne_zero (mul_ne_zero ((map_ne_zero ψ).mpr hz) ht),
      twO_some, map_div₀, map_div₀, ← mul_assoc, ← mul_assoc, mul_div_mul_right _ _ ht,
      mul_div_mul_right _ _ ht, mul_div_right_comm, mul_div_right_comm]

include hc

theorem twO_injective : Function.Injective (twO ψ c) := by
  intro p q e
  rcases p with _ | ⟨x, y⟩ <;> rcases q with _ | ⟨x', y'⟩
  · rfl
  · simp [twO] at e
  · simp [twO] at e
  · simp only [twO_some, Option.some.injEq, Prod.mk.injEq] at e
    have h2 : c ^ 2 ≠ 0 := pow_ne_zero _ hc
    have h3 : c ^ 3 ≠ 0 := pow_ne_zero _ hc
    rw [ψ.injective (mul_right_cancel₀ h2 e.1), ψ.injective (mul_right_cancel₀ h3 e.2)]

private theorem x_iff (x x' : K) : ψ x' * c ^ 2 = ψ x * c ^ 2 ↔ x' = x :=
  ⟨fun e => ψ.injective (mul_right_cancel₀ (pow_ne_zero _ hc) e), fun e => e ▸ rfl⟩

private theorem y_iff (y y' : K) : ψ y' * c ^ 3 = ψ y * c ^ 3 ↔ y' = y :=
  ⟨fun e => ψ.injective (mul_right_cancel₀ (pow_ne_zero _ hc) e), fun e => e ▸ rfl⟩

private theorem y_zero_iff (y : K) : ψ y * c ^ 3 = 0 ↔ y = 0 := by
  rw [mul_eq_zero, or_iff_left (pow_ne_zero _ hc), map_eq_zero]

private theorem slope_scale (n d : L) (k : ℕ) : n * c * c ^ k / (d * c ^ k) = n / d * c := by
  rw [mul_div_mul_right _ _ (pow_ne_zero k hc), mul_div_right_comm]

theorem twO_sDouble (p : Option (K × K)) : twO ψ c (sDouble p) = sDouble (twO ψ c p) := by
  rcases p with _ | ⟨x, y⟩
  · rfl
  · have hm : 3 * (ψ x * c ^ 2) ^ 2 / (2 * (ψ y * c ^ 3)) = ψ (3 * x ^ 2 / (2 * y)) * c := by
      rw [map_div₀, RingHom.map_mul, RingHom.map_mul, RingHom.map_pow, map_ofNat, map_ofNat,
        ← slope_scale hc _ _ 3]
      congr 1 <;> ring
    simp only [sDouble, twO_some, y_zero_iff ψ hc, hm]
    split_ifs
    · rfl
    · simp only [twO_some, RingHom.map_sub, RingHom.map_add, RingHom.map_mul, RingHom.map_neg,
        RingHom.map_pow, map_ofNat]
      congr 1
      ext <;> ring

theorem twO_sNeg (p : Option (K × K)) : twO ψ c (sNeg p) = sNeg (twO ψ c p) := by
  rcases p with _ | ⟨x, y⟩
  · rfl
  · simp only [sNeg, twO_some, RingHom.map_neg, neg_mul]

theorem twO_sAdd (p q : Option (K × K)) : twO ψ c (sAdd p q) = sAdd (twO ψ c p) (twO ψ c q) := by
  rcases p with _ | ⟨x1, y1⟩ <;> rcases q with _ | ⟨x2, y2⟩
  · rfl
  · rfl
  · rfl
  · have hd := twO_sDouble ψ hc (some (x1, y1))
    have hm : (ψ y2 * c ^ 3 - ψ y1 * c ^ 3) / (ψ x2 * c ^ 2 - ψ x1 * c ^ 2)
        = ψ ((y2 - y1) / (x2 - x1)) * c := by
      rw [map_div₀, map_sub, map_sub, ← slope_scale hc _ _ 2]
      congr 1 <;> ring
    simp only [twO_some] at hd
    simp only [sAdd, twO_some, x_iff ψ hc, y_iff ψ hc, ← hd, hm]
    split_ifs
    · rfl
    · rfl
    · simp only [twO_some, map_sub, map_add, map_mul, map_neg, map_pow]
      congr 1
      ext <;> ring

theorem twO_sOn_iff {b : K} {b' : L} (hb : ψ b * c ^ 6 = b') (p : Option (K × K)) :
    sOn (twO ψ c p) b' ↔ sOn p b := by
  rcases p with _ | ⟨x, y⟩
  · exact Iff.rfl
  · simp only [sOn, twO_some, ← hb]
    have e : (ψ y * c ^ 3) ^ 2 - (ψ x * c ^ 2) ^ 3 = ψ (y ^ 2 - x ^ 3) * c ^ 6 := by
      simp only [RingHom.map_sub, RingHom.map_pow]; ring
    rw [e]
    exact ⟨fun h => ψ.injective (mul_right_cancel₀ (pow_ne_zero _ hc) h), fun h => by rw [h]⟩

end

section hom
variable (ψ : K →+* L) {c : L} (hc : c ≠ 0) (h2 : (2 : L) ≠ 0) (h3 : (3 : L) ≠ 0) {b : K} {b' : L}
  (hb' : b' ≠ 0) (hb : ψ b * c ^ 6 = b')

noncomputable def twistPt : (W b).Point → (W b').Point
  | .zero => 0
  | .some x y h => .some (ψ x * c ^ 2) (ψ y * c ^ 3)
      (nonsingular_W_of_equation h2 h3 hb'
        ((twO_sOn_iff ψ hc hb (some (x, y))).mpr ((equation_W_iff b x y).mp h.1)))

theorem reprRef_twistPt (P : (W b).Point) :
    reprRef (twistPt ψ hc h2 h3 hb' hb P) = twO ψ c (reprRef P) := by
  rcases P with _ | ⟨x, y, h⟩ <;> rfl

include ψ in
theorem two_ne_zero_src (h2 : (2 : L) ≠ 0) : (2 : K) ≠ 0 := by
  intro e; apply h2; rw [← map_ofNat ψ 2, e, map_zero]

noncomputable def twistHom : (W b).Point →+ (W b').Point where
  toFun := twistPt ψ hc h2 h3 hb' hb
  map_zero' := rfl
  map_add' P Q := by
    apply CurveSem.reprRef_injective
    rw [reprRef_twistPt, ← sAdd_refines (two_ne_zero_src ψ h2), twO_sAdd ψ hc, ← sAdd_refines h2,
      reprRef_twistPt, reprRef_twistPt]

theorem twistHom_apply (P : (W b).Point) :
    twistHom ψ hc h2 h3 hb' hb P = twistPt ψ hc h2 h3 hb' hb P := rfl

theorem reprRef_twistHom (P : (W b).Point) :
    reprRef (twistHom ψ hc h2 h3 hb' hb P) = twO ψ c (reprRef P) := reprRef_twistPt ψ hc h2 h3 hb' hb P

theorem twistHom_injective : Function.Injective (twistHom ψ hc h2 h3 hb' hb) := by
  intro P Q e
  apply CurveSem.reprRef_injective
  apply twO_injective ψ hc
  rw [← reprRef_twistHom ψ hc h2 h3 hb' hb, ← reprRef_twistHom ψ hc h2 h3 hb' hb, e]

end hom

end PyEcc.TwistSem
