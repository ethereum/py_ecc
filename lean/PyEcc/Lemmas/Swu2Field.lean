/-
  The kernel-evaluated facts about the tables `POSITIVE_EIGHTH_ROOTS_OF_UNITY`,
  `ETAS` and the constants `ISO_3_A`, `ISO_3_B`, `ISO_3_Z` that the proof of `optimized_swu_G2` needs, and
  RFC 9380's constants in `K2` (`Sem/Fq2K2.lean`).
-/
import PyEcc.Lemmas.Swu2Shape
import PyEcc.Sem.Fq2K2
import PyEcc.Props.C10_Consts
import Mathlib.Tactic.Ring
import Mathlib.Tactic.LinearCombination

namespace PyEcc.Swu2
open PyEcc PyEcc.Fqp PyEcc.FqpSem Gen.Consts Polynomial

instance irr2 : Fact (Irreducible (modulus blsP blsMc2)) := ⟨irreducible_modulus_fq2 (by decide)⟩

/-- `p² − 1 = 8·(2e + 1)` with `e = P_MINUS_9_DIV_16 = (p² − 9)/16` -/
theorem exp_eq : blsP ^ 2 - 1 = (2 * h2c_P_MINUS_9_DIV_16 + 1) * 8 := by
  have := C10.P_MINUS_9_DIV_16_spec.2
  omega

/-- the input `a + b·i`, `0 ≤ a, b < p`, of `hash_to_G2` is a reduced element -/
theorem cn_f2c {a b : ℕ} (ha : a < blsP) (hb : b < blsP) : Canon (f2c [(a : Int), (b : Int)]) := by
  refine ⟨rfl, ?_⟩
  intro c hc
  simp only [f2c, List.mem_cons, List.not_mem_nil, or_false] at hc
  rcases hc with rfl | rfl
  · exact ⟨Int.natCast_nonneg _, by exact_mod_cast ha⟩
  · exact ⟨Int.natCast_nonneg _, by exact_mod_cast hb⟩

theorem cn_consts : Canon ISO_3_Z ∧ Canon ISO_3_A ∧ Canon ISO_3_B := by decide +kernel
theorem cn_Z : Canon ISO_3_Z := cn_consts.1
theorem cn_A : Canon ISO_3_A := cn_consts.2.1
theorem cn_B : Canon ISO_3_B := cn_consts.2.2

theorem cn_roots : ∀ x ∈ POSITIVE_EIGHTH_ROOTS_OF_UNITY, Canon x := by decide +kernel
theorem cn_etas : ∀ x ∈ ETAS, Canon x := by decide +kernel

def rt (k : ℕ) : F2 := POSITIVE_EIGHTH_ROOTS_OF_UNITY.getD k 0
def et (k : ℕ) : F2 := ETAS.getD k 0

theorem roots_eq : POSITIVE_EIGHTH_ROOTS_OF_UNITY = [rt 0, rt 1, rt 2, rt 3] := by decide +kernel
theorem etas_eq : ETAS = [et 0, et 1, et 2, et 3] := by decide +kernel

theorem rt_mem : rt 0 ∈ POSITIVE_EIGHTH_ROOTS_OF_UNITY ∧ rt 1 ∈ POSITIVE_EIGHTH_ROOTS_OF_UNITY ∧
    rt 2 ∈ POSITIVE_EIGHTH_ROOTS_OF_UNITY ∧ rt 3 ∈ POSITIVE_EIGHTH_ROOTS_OF_UNITY := by
  rw [roots_eq]
  simp
theorem et_mem : et 0 ∈ ETAS ∧ et 1 ∈ ETAS ∧ et 2 ∈ ETAS ∧ et 3 ∈ ETAS := by
  rw [etas_eq]
  simp

theorem cn_rt : Canon (rt 0) ∧ Canon (rt 1) ∧ Canon (rt 2) ∧ Canon (rt 3) :=
  ⟨cn_roots _ rt_mem.1, cn_roots _ rt_mem.2.1, cn_roots _ rt_mem.2.2.1, cn_roots _ rt_mem.2.2.2⟩
theorem cn_et : Canon (et 0) ∧ Canon (et 1) ∧ Canon (et 2) ∧ Canon (et 3) :=
  ⟨cn_etas _ et_mem.1, cn_etas _ et_mem.2.1, cn_etas _ et_mem.2.2.1, cn_etas _ et_mem.2.2.2⟩

/-- **table facts, roots**: `POSITIVE_EIGHTH_ROOTS_OF_UNITY = [1, i, r₂, r₃]` with `i² = −1`,
    `r₂² = −i`, `r₃² = i` (so the squares of the four entries are the four 4th roots of unity) -/
theorem roots_facts :
    rt 0 = 1 ∧ rt 1 ^ 2 = -(1 : F2) ∧ rt 2 ^ 2 = -(rt 1) ∧ rt 3 ^ 2 = rt 1 := by decide +kernel

/-- **table facts, etas**: `η₀²·(−r₃) = η₁²·r₃ = η₂²·r₂ = η₃²·(−r₂) = Z³`, i.e. `ηₖ² = Z³/ζ` for the
    four primitive 8th roots of unity `ζ = ±r₂, ±r₃` -/
theorem etas_facts :
    et 0 ^ 2 * -(rt 3) - ISO_3_Z ^ 3 = 0 ∧ et 1 ^ 2 * rt 3 - ISO_3_Z ^ 3 = 0 ∧
    et 2 ^ 2 * rt 2 - ISO_3_Z ^ 3 = 0 ∧ et 3 ^ 2 * -(rt 2) - ISO_3_Z ^ 3 = 0 := by decide +kernel

theorem consts_ne : ISO_3_A ≠ 0 ∧ ISO_3_B ≠ 0 ∧ ISO_3_Z ≠ 0 ∧ ISO_3_Z * ISO_3_A ≠ 0 := by decide +kernel

/-- in the exceptional case (`N = B`, `D = Z·A`) `u/v = g(B/(Z·A))` is a square in `Fp²` — RFC 9380
    §6.6.2 requires this of `Z` (criterion 4 of Appendix H.2).  The root `w` with `w²·v = u` is the one
    `sqrt_division_FQ2(u, v)` returns; here it is only squared. -/
def excRoot : F2 := f2c
  [3611395798403580372189180981549434777847917790633063236702417299179272465463714843962369288472002469087378085294992,
   423613093348586218576377851437437729690830432842722856441196780662664494552025968214749014884639894158037286276385]

theorem exc_sq : Canon excRoot ∧
    excRoot ^ 2 * (ISO_3_Z * ISO_3_A) ^ 3 - ((ISO_3_B * ((0 : F2) + (1 : F2))) ^ 3
        + ISO_3_A * (ISO_3_B * ((0 : F2) + (1 : F2))) * (ISO_3_Z * ISO_3_A) ^ 2
        + ISO_3_B * (ISO_3_Z * ISO_3_A) ^ 3) = 0 := by
  decide +kernel

/-- RFC 9380 §8.8.2: `A' = 240·I` -/
noncomputable def kA : K2 := 240 * i2
/-- RFC 9380 §8.8.2: `B' = 1012·(1 + I)` -/
noncomputable def kB : K2 := 1012 * (1 + i2)
/-- RFC 9380 §8.8.2: `Z = −(2 + I)` -/
noncomputable def kZ : K2 := -(2 + i2)

theorem q_consts : q ISO_3_A = kA ∧ q ISO_3_B = kB ∧ q ISO_3_Z = kZ := by
  refine ⟨?_, ?_, ?_⟩
  · show q ⟨[0, 240]⟩ = _
    rw [q_pair]; unfold kA; push_cast; ring
  · show q ⟨[1012, 1012]⟩ = _
    rw [q_pair]; unfold kB; push_cast; ring
  · rw [C10.ISO_3_Z_eq, q_neg]
    show -q ⟨[2, 1]⟩ = _
    rw [q_pair]; unfold kZ; push_cast; ring

end PyEcc.Swu2
