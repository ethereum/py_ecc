/-
  Facts about the power maps `x ↦ x^(p^d)` of `Fp[X]/(modulus)` (irreducible modulus) from which `σ w = −w`
  follows for the conjugation `σ : x ↦ x^(p⁶)` of both pairing fields without computing a power of `w`.
  The class `w` of `X` is not fixed for `0 < d < deg` (`root_pow_ne`: it generates the field, and the fixed
  elements are the at most `p^d` roots of `X^(p^d) − X`); `(w²)^N = w²` when `w⁶` is the image of an element of a
  subfield with `q` elements and `2(N − 1) = 6(q − 1)k` (`sq_pow_eq`). So `σ(w)² = w²` and `σ w ≠ w` (`neg_of_sq_eq`).
  `of_pow`: the image of the prime field is fixed by every such power map.
-/
import PyEcc.Lemmas.FqpQuotFinite
import PyEcc.Lemmas.ExpByP
import Mathlib.Algebra.CharP.Frobenius

namespace PyEcc.ConjSem
open Polynomial PyEcc PyEcc.Fqp PyEcc.FqpSem PyEcc.NondegSem PyEcc.PairingSem

section quot
variable {p : ℕ} [Fact p.Prime] {mc : List Int} [Fact (Irreducible (modulus p mc))]

theorem of_pow (c : ZMod p) (d : ℕ) :
    AdjoinRoot.of (modulus p mc) c ^ (p ^ d) = AdjoinRoot.of (modulus p mc) c := by
  rw [← map_pow, ZMod.pow_card_pow]

theorem root_pow_ne {d : ℕ} (hd : d ≠ 0) (h : d < mc.length) :
    AdjoinRoot.root (modulus p mc) ^ (p ^ d) ≠ AdjoinRoot.root (modulus p mc) := by
  intro hw
  have := charP_quot (p := p) (mc := mc) (by omega)
  have : Fintype (AdjoinRoot (modulus p mc)) := Fintype.ofFinite _
  have hp := (Fact.out : p.Prime).one_lt
  -- `x ↦ x^(p^d)` is a ring homomorphism fixing `Fp` and `X`, hence everything
  have hall : ∀ x : AdjoinRoot (modulus p mc), x ^ (p ^ d) = x := fun x => by
    induction x using AdjoinRoot.induction_on with | ih q =>
    induction q using Polynomial.induction_on with
    | C a => exact of_pow a d
    | add f g hf hg => rw [map_add, add_pow_char_pow, hf, hg]
    | monomial n a ih =>
      rw [pow_succ, ← mul_assoc, map_mul, mul_pow, ih, AdjoinRoot.mk_X, hw]
  -- so `X^(p^d) − X` has `p^deg` roots
  refine FiniteField.X_pow_card_pow_sub_X_ne_zero (AdjoinRoot (modulus p mc)) hd hp
    (eq_zero_of_natDegree_lt_card_of_eval_eq_zero' _ Finset.univ (fun x _ => ?_) ?_)
  · rw [eval_sub, eval_pow, eval_X, hall, sub_self]
  · rw [FiniteField.X_pow_card_pow_sub_X_natDegree_eq _ hd hp, Finset.card_univ,
      ← Nat.card_eq_fintype_card, card_quot]
    exact Nat.pow_lt_pow_right hp h

end quot

variable {K F : Type} [Field K] [Field F]

theorem sq_pow_eq (ψ : F →+* K) {w : K} {ξ : F} {q N k : ℕ} (hw : w ^ 6 = ψ ξ) (hξ : ξ ^ (q - 1) = 1)
    (hN : 2 * (N - 1) = 6 * ((q - 1) * k)) (hN0 : N ≠ 0) : (w ^ 2) ^ N = w ^ 2 := by
  have h1 : (w ^ 2) ^ (N - 1) = 1 := by
    rw [← pow_mul, hN, pow_mul, hw, ← map_pow, pow_mul, hξ, one_pow, map_one]
  rw [← Nat.succ_pred_eq_of_ne_zero hN0, pow_succ, Nat.pred_eq_sub_one, h1, one_mul]

theorem pow_eq_one_of_pow_eq {x : K} {N : ℕ} (hN : N ≠ 0) (h0 : x ≠ 0) (hx : x ^ N = x) (m : ℕ) :
    x ^ ((N - 1) * m) = 1 := by
  rw [← Nat.succ_pred_eq_of_ne_zero hN, pow_succ, Nat.pred_eq_sub_one] at hx
  rw [pow_mul, mul_right_cancel₀ h0 (hx.trans (one_mul x).symm), one_pow]

theorem neg_of_sq_eq (σ : K →+* K) {w : K} (h2 : σ (w ^ 2) = w ^ 2) (h1 : σ w ≠ w) : σ w = -w := by
  have : (σ w - w) * (σ w + w) = 0 := by rw [map_pow] at h2; linear_combination h2
  exact eq_neg_of_add_eq_zero_left ((mul_eq_zero.mp this).resolve_left (sub_ne_zero.mpr h1))

end PyEcc.ConjSem
