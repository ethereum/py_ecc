/-
  Between the executable BLS model (`Model/Bls.lean`) and the abstract protocol (`Lemmas/BlsAbstract.lean`), for single
  signatures.  The readings take `PairingFacts e`, what they use of a pairing `e` on Mathlib's point groups (its
  docstring says which fields are theorems, and where); `MillerOf e m v` is its field `miller` used one pairing call at
  a time.  The partial functions are read totally: `g1` is the point of the constant `G1`, `hashG2` the hash point as a
  function of the message, `decG1` the key as a function of its bytes.  `coreVerify_sem`: `_CoreVerify`, for ANY key, is
  `BlsAbs.verify` on the decoded points, in the shape every reading of a verification function has (conditions on keys
  and messages, and `sig` encodes an `r`-torsion point that passes the abstract check); `exists_enc_iff` turns such a
  reading into "`sig` is the encoding of …" once the abstract check singles out one point (`coreVerify_honest`,
  `coreVerify_iff_coreSign`).  `coreVerify_enc_iff` reads `_CoreVerify` on the encoding of a point `c` as `BlsAbs.verify`
  at `c`; through it the rejection theorems of `Props/C02_Proto.lean` are the `abs_verify_*` theorems.
-/
import PyEcc.Lemmas.BlsProtoCodec
import PyEcc.Lemmas.BlsAbstract
import PyEcc.Props.C01_Logic
import PyEcc.Sem.Primes

set_option linter.unusedSectionVars false

namespace PyEcc.BlsProto
open PyEcc PyEcc.Gen PyEcc.Gen.Consts PyEcc.FqpSem PyEcc.Transfer PyEcc.BlsSem

theorem exists_g1 : ∃ g : E1, Represents blsG1 g :=
  let ⟨g, r⟩ := curveF1.exists_rep (goodT_true blsG1) C17M.blsG1_passes.1
  ⟨g, r.rep⟩

/-- the Mathlib point represented by the model's generator constant `G1` -/
noncomputable def g1 : E1 := Classical.choose exists_g1

theorem g1_rep : Represents blsG1 g1 := Classical.choose_spec exists_g1

theorem eq_g1 {g : E1} (h : Represents blsG1 g) : g = g1 := C07Opt.Bls.represents_unique h g1_rep

theorem g1_torsion : blsR • g1 = 0 := (C17M.subgroupCheck_G1_iff g1_rep).mp C17M.blsG1_passes.2

theorem g1_ne_zero : g1 ≠ 0 := by
  intro h0
  have := (C07Opt.Bls.opt_is_inf_refines g1_rep).mpr h0
  rw [C07.Facts.bls_G1_model.2.1] at this
  cases this

theorem prime_r : blsR.Prime := by
  have h := prime_blsR
  rwa [show bls12_381_curve_order = blsR from by decide] at h

theorem r_ne_two : blsR ≠ 2 := by decide

/-- a secret key `0 < k < r` gives a non-identity public key -/
theorem nsmul_g1_ne_zero {k : ℕ} (h0 : 0 < k) (hk : k < blsR) : k • g1 ≠ 0 :=
  BlsAbs.nsmul_ne_zero_of_lt prime_r h0 hk g1_torsion g1_ne_zero

theorem nsmul_torsion {G : Type*} [AddCommGroup G] {x : G} (h : blsR • x = 0) (k : ℕ) :
    blsR • (k • x) = 0 := by rw [smul_comm, h, smul_zero]

/-- one `pairing(Q, P)` call with its (un-exponentiated) Miller value `m`, together with the Mathlib
    points `q`, `p` the arguments stand for -/
structure Arg where
  Q : G2Pt
  P : G1Pt
  q : E2
  p : E1
  m : OBls12

/-- the call is one the verification code can make: `Q` is a canonical triple representing `q`, `P`
    represents `p`, both points lie in the `r`-torsion, and `pairing(Q, P, final_exponentiate=False)`
    returned `m` -/
def Arg.Good [DecidableEq K2] (a : Arg) : Prop :=
  RepG2 a.Q a.q ∧ Represents a.P a.p ∧ blsR • a.q = 0 ∧ blsR • a.p = 0 ∧
    pairingOptBls a.Q a.P false = .ok a.m

/-- the product of Miller values in the order the code forms it: `((m₁ * m₂) * m₃) * …` -/
def mprod : List OBls12 → OBls12
  | [] => 1
  | m :: ms => ms.foldl (· * ·) m

/-- **`PairingFacts e`: what the readings of the verification functions use of a pairing** (a hypothesis of the
    theorems of `Props/C0{1,2,3}_Proto.lean`, never an axiom).  `e : E2 → E1 → GT` is "the reduced pairing" on
    Mathlib's point groups, with values in any commutative group `GT` (think: the `r`-th roots of unity of `F_{p¹²}`).

    * `add_left`, `add_right` — **HB1, bilinearity**: on points of the `r`-torsion, `e` is additive in
      each argument (needs divisors / Weil reciprocity; not available in Mathlib).
    * `nondeg` — **ND, non-degeneracy against the generator**: an `r`-torsion point `q` of the twist
      curve with `e q g1 = 1` is `0` (`g1` = the point represented by the constant `G1`).
    * `miller` — **HB1′, the model computes this pairing**: for every non-empty list of pairing calls on
      canonical, on-curve, `r`-torsion arguments, the final exponentiation of the product of the
      model's Miller-loop values is `1` exactly when the product of the `e`-values of the REPRESENTED
      points is `1`.  This says at once that the final-exponentiated Miller value depends only on the
      points (not on the projective representatives) and is multiplicative.
    * `hash_good` — **HT6**: whatever `hash_to_G2` returns is a canonical triple on the twist curve that
      passes `subgroup_check` (with C17: the hash point lies in the `r`-torsion).

    Group orders (HB2) do not enter: ND is stated on the whole `r`-torsion and public keys are multiples of `g1`
    by construction.

    Which fields are theorems.  `hash_good` is `C17O.hash_good_proved` (`Props/C17_Order.lean`); `C17O.PairingFacts'`
    (`Props/C01_ProtoHB2.lean`) is this bundle without it.  `nondeg` follows from the other fields
    (`NdSem.PairingFacts''.nondeg`, `Lemmas/NdFromModel.lean`); `NdSem.PairingFacts''` is `add_left`, `add_right`,
    `miller`.  `miller` follows from its per-call form `value` (`miller_of_value`, `Lemmas/BlsProtoMiller.lean`);
    `PairingValueFacts`, `C17O.PairingValueFacts'`, `NdSem.PairingValueFacts''` are the three bundles with `value` in its
    place.  `value` holds by definition of `NdSem.eM`, the value the code computes (`Lemmas/ModelPairing.lean`).  What
    remains assumed is bilinearity, in the form `NdSem.ModelBilinearCode`: `pairing(add(Q, Q'), P) == pairing(Q, P) *
    pairing(Q', P)` and its mirror image for triples that pass `is_on_curve` and `subgroup_check`;
    `Props/C01_ProtoModel.lean` states the theorems of C01–C03 under it alone. -/
structure PairingFacts [DecidableEq K2] {GT : Type} [CommGroup GT] (e : E2 → E1 → GT) : Prop where
  add_left : ∀ {q q' : E2} {p : E1}, blsR • q = 0 → blsR • q' = 0 → blsR • p = 0 →
    e (q + q') p = e q p * e q' p
  add_right : ∀ {q : E2} {p p' : E1}, blsR • q = 0 → blsR • p = 0 → blsR • p' = 0 →
    e q (p + p') = e q p * e q p'
  nondeg : ∀ {g : E1}, Represents blsG1 g → ∀ {q : E2}, blsR • q = 0 → e q g = 1 → q = 0
  miller : ∀ l : List Arg, l ≠ [] → (∀ a ∈ l, a.Good) →
    (finalExponentiateOptBls (mprod (l.map Arg.m)) = (1 : OBls12) ↔
      (l.map fun a => e a.q a.p).prod = 1)
  hash_good : ∀ (H : HashFn) (msg dst : Bytes) (mp : G2Pt), hashToG2 H msg dst = .ok mp →
    CanonT mp ∧ OptBls.is_on_curve mp blsB2 = true ∧ subgroupCheck mp = true

section
variable [DecidableEq K2] {GT : Type} [CommGroup GT] {e : E2 → E1 → GT}

theorem PairingFacts.isPairing (pf : PairingFacts e) : BlsAbs.IsPairing blsR e g1 where
  add_left := pf.add_left
  add_right := pf.add_right
  nondeg := pf.nondeg g1_rep

/-- `hash_good` read semantically: the hash point represents an `r`-torsion point of the twist curve -/
theorem PairingFacts.hash_rep (pf : PairingFacts e) {H : HashFn} {msg dst : Bytes} {mp : G2Pt}
    (h : hashToG2 H msg dst = .ok mp) : ∃ hq : E2, RepG2 mp hq ∧ blsR • hq = 0 := by
  obtain ⟨c, hon, hs⟩ := pf.hash_good H msg dst mp h
  obtain ⟨hq, r⟩ := repG2_of_on_curve c hon
  exact ⟨hq, r, r.subgroupCheck_iff.mp hs⟩

/-- `m` is the product, in the order the code forms it, of the Miller values of good pairing calls whose `e`-values
    multiply to `v` -/
def MillerOf (e : E2 → E1 → GT) (m : OBls12) (v : GT) : Prop :=
  ∃ l : List Arg, l ≠ [] ∧ (∀ a ∈ l, a.Good) ∧ mprod (l.map Arg.m) = m ∧ (l.map fun a => e a.q a.p).prod = v

section
variable {Q : G2Pt} {P : G1Pt} {q : E2} {p : E1} {m m' : OBls12} {v : GT}

theorem MillerOf.call (rq : RepG2 Q q) (rp : Represents P p) (hq : blsR • q = 0) (hp : blsR • p = 0)
    (h : pairingOptBls Q P false = .ok m) : MillerOf e m (e q p) :=
  ⟨[⟨Q, P, q, p, m⟩], by simp, fun _ ha => List.mem_singleton.mp ha ▸ ⟨rq, rp, hq, hp, h⟩, rfl, by simp⟩

theorem MillerOf.mul (hm : MillerOf e m v) (rq : RepG2 Q q) (rp : Represents P p) (hq : blsR • q = 0)
    (hp : blsR • p = 0) (h : pairingOptBls Q P false = .ok m') : MillerOf e (m * m') (v * e q p) := by
  obtain ⟨l, hne, hg, rfl, rfl⟩ := hm
  refine ⟨l ++ [⟨Q, P, q, p, m'⟩], by simp, fun b hb => ?_, ?_, by simp⟩
  · rcases List.mem_append.mp hb with hb | hb
    · exact hg b hb
    · rw [List.mem_singleton.mp hb]; exact ⟨rq, rp, hq, hp, h⟩
  · cases l with
    | nil => exact (hne rfl).elim
    | cons x xs => simp [mprod, List.foldl_append]

end

theorem PairingFacts.final (pf : PairingFacts e) {m : OBls12} {v : GT} (hm : MillerOf e m v) :
    finalExponentiateOptBls m = (1 : OBls12) ↔ v = 1 := by
  obtain ⟨l, hne, hg, rfl, rfl⟩ := hm
  exact pf.miller l hne hg

/-- whatever `hash_to_G2` returns represents `h_eff • P` for a point `P` of the twist curve, as soon as
    `map_to_curve_G2` lands on the curve: `hash_to_field` only produces reduced coordinates (C04), `add` and
    `clear_cofactor_G2 = h_eff •` refine Mathlib's group law on canonical triples (C07/C13/C17 transfer) -/
theorem hash_rep_of_map
    (hmap : ∀ a b : ℕ, a < blsP → b < blsP → ∀ q : G2Pt,
      mapToCurveG2 (f2c [(a : ℤ), (b : ℤ)]) = .ok q → CanonT q ∧ OptBls.is_on_curve q blsB2 = true)
    (H : HashFn) (msg dst : Bytes) (mp : G2Pt) (h : hashToG2 H msg dst = .ok mp) :
    ∃ P : E2, RepG2 mp (h2c_H_EFF_G2 • P) := by
  unfold hashToG2 at h
  obtain ⟨us, hus, h2⟩ := bind_eq_ok h
  have hr := hashToFieldFq2_ok_range hus
  split at h2
  · next u0 u1 =>
    obtain ⟨q0, hq0, h3⟩ := bind_eq_ok h2
    obtain ⟨q1, hq1, h4⟩ := bind_eq_ok h3
    have e : mp = clearCofactorG2 (OptBls.add q0 q1) := (Except.ok.inj h4).symm
    have r0 := hr u0 (by simp)
    have r1 := hr u1 (by simp)
    obtain ⟨c0, on0⟩ := hmap u0.1 u0.2 r0.1 r0.2 q0 hq0
    obtain ⟨c1, on1⟩ := hmap u1.1 u1.2 r1.1 r1.2 q1 hq1
    obtain ⟨p0, rp0⟩ := repG2_of_on_curve c0 on0
    obtain ⟨p1, rp1⟩ := repG2_of_on_curve c1 on1
    rw [e]
    exact ⟨p0 + p1, (rp0.add rp1).multiply _⟩
  · cases h2

/-- The `hash_good` field of `PairingFacts` follows from two smaller statements:
    (i) `map_to_curve_G2` (SWU + 3-isogeny), on every field element `a + b·i` with `0 ≤ a, b < p`, returns —
        when it returns — a well-formed triple on the twist curve (`C10Iso.map_to_curve_G2_good`);
    (ii) `h₂ · r` kills every point of `E'(F_{p²})` (`C17O.bls_order_kills_E2`, from the group order).
    Proof: `hash_rep_of_map`, and `h₂ ∣ h_eff` (C17). -/
theorem hash_good_of_map_and_order
    (hmap : ∀ a b : ℕ, a < blsP → b < blsP → ∀ q : G2Pt,
      mapToCurveG2 (f2c [(a : ℤ), (b : ℤ)]) = .ok q → CanonT q ∧ OptBls.is_on_curve q blsB2 = true)
    (hord : ∀ P : E2, (blsconst_G2_COFACTOR * blsR) • P = 0)
    (H : HashFn) (msg dst : Bytes) (mp : G2Pt) (h : hashToG2 H msg dst = .ok mp) :
    CanonT mp ∧ OptBls.is_on_curve mp blsB2 = true ∧ subgroupCheck mp = true := by
  obtain ⟨P, rc⟩ := hash_rep_of_map hmap H msg dst mp h
  exact ⟨rc.1, rc.on_curve, rc.subgroupCheck_iff.mpr (C17.clear_G2_lands _ (hord _))⟩

theorem pairing_ok {Q : G2Pt} {P : G1Pt} {q : E2} {p : E1} (rq : RepG2 Q q) (rp : Represents P p) :
    ∃ m, pairingOptBls Q P false = .ok m :=
  pairingOptBls_ok_of_on_curve rq.on_curve (C07Opt.Bls.opt_on_curve_of_represents rp)

/-- `SkToPk` on a valid key returns THE encoding of `k • g1` -/
theorem skToPk_enc {sk : PyArg} {k : ℕ} (h : isValidPrivkey sk = some k) (pk : Bytes) :
    skToPk sk = .ok pk ↔ EncG1 pk (k • g1) := by
  have hr := C07Opt.Bls.opt_multiply_refines curveF1.two g1_rep k
  obtain ⟨bs, hbs, henc⟩ := encG1_of_rep hr (nsmul_torsion g1_torsion k)
  have e : skToPk sk = g1ToPubkey (OptBls.multiply blsG1 k) := by simp only [skToPk, h]
  rw [e, hbs]
  constructor
  · intro hh; cases hh; exact henc
  · intro hh; rw [henc.bytes_unique hh]

theorem validPrivkey_range {sk : PyArg} {k : ℕ} (h : isValidPrivkey sk = some k) :
    0 < k ∧ k < blsR := by
  cases sk with
  | other => cases h
  | int z =>
    obtain ⟨h1, h2, h3⟩ := (C01.isValidPrivkey_int_iff z k).mp h
    rw [C01.curveOrder_eq.2.2] at h2
    omega

theorem skToPk_ok {sk : PyArg} {k : ℕ} (h : isValidPrivkey sk = some k) :
    ∃ pk, skToPk sk = .ok pk ∧ EncG1 pk (k • g1) := by
  obtain ⟨bs, hbs, henc⟩ := encG1_of_rep (C07Opt.Bls.opt_multiply_refines curveF1.two g1_rep k) (nsmul_torsion g1_torsion k)
  exact ⟨bs, (skToPk_enc h bs).mpr henc, henc⟩

/-- `_CoreSign` on a valid key, once `hash_to_G2` has returned a representative of `hq`, returns THE
    encoding of `k • hq` -/
theorem coreSign_enc {H : HashFn} {sk : PyArg} {k : ℕ} (h : isValidPrivkey sk = some k)
    {msg dst : Bytes} {mp : G2Pt} {hq : E2} (hmp : hashToG2 H msg dst = .ok mp) (rh : RepG2 mp hq)
    (sig : Bytes) : coreSign H sk msg dst = .ok sig ↔ EncG2 sig (k • hq) := by
  have e : coreSign H sk msg dst = g2ToSignature (OptBls.multiply mp k) := by
    simp only [coreSign, h, hmp, bind, Except.bind]
  rw [e]
  exact g2ToSignature_eq_iff (rh.multiply k) sig

theorem coreSign_returns {H : HashFn} {sk : PyArg} {k : ℕ} (h : isValidPrivkey sk = some k)
    {msg dst : Bytes} {mp : G2Pt} {hq : E2} (hmp : hashToG2 H msg dst = .ok mp) (rh : RepG2 mp hq) :
    ∃ sig, coreSign H sk msg dst = .ok sig ∧ sig.length = 96 := by
  obtain ⟨bs, _, enc⟩ := encG2_of_rep (rh.multiply k)
  exact ⟨bs, (coreSign_enc h hmp rh bs).mpr enc, enc.1⟩

theorem coreSign_hash_error {H : HashFn} {sk : PyArg} {k : ℕ} (h : isValidPrivkey sk = some k)
    {msg dst : Bytes} {err : PyErr} (hmp : hashToG2 H msg dst = .error err) :
    coreSign H sk msg dst = .error err := by
  simp only [coreSign, h, hmp, bind, Except.bind]

/-- `hash_to_G2(msg, dst)` returned a (canonical) representative of the point `h` -/
def HashPt (H : HashFn) (dst : Bytes) (msg : Bytes) (h : E2) : Prop :=
  ∃ mp, hashToG2 H msg dst = .ok mp ∧ RepG2 mp h

theorem HashPt.unique {H : HashFn} {dst msg : Bytes} {h h' : E2} (a : HashPt H dst msg h)
    (b : HashPt H dst msg h') : h = h' := by
  obtain ⟨mp, hmp, rh⟩ := a
  obtain ⟨mp', hmp', rh'⟩ := b
  rw [hmp] at hmp'; cases hmp'
  exact rh.unique rh'

theorem HashPt.torsion (pf : PairingFacts e) {H : HashFn} {dst msg : Bytes} {h : E2}
    (hh : HashPt H dst msg h) : blsR • h = 0 := by
  obtain ⟨mp, hmp, rh⟩ := hh
  obtain ⟨h', rh', ht⟩ := pf.hash_rep hmp
  rwa [rh'.unique rh] at ht

/-- `hash_to_G2(msg, dst)` returns -/
def Hashes (H : HashFn) (dst msg : Bytes) : Prop := ∃ mp, hashToG2 H msg dst = .ok mp

/-- the total reading of a relation with at most one value (`decG1`, `decG2`, `hashG2`) has that value where there is one -/
theorem choose_eq_of_unique {α : Type*} {R : α → Prop} {_ : Decidable (∃ a, R a)} {d a : α}
    (hu : ∀ {b c}, R b → R c → b = c) (h : R a) : (if h : ∃ a, R a then Classical.choose h else d) = a := by
  rw [dif_pos ⟨a, h⟩]
  exact hu (Classical.choose_spec _) h

/-- the point `hash_to_G2(msg, dst)` represents (`0` when it raises) -/
noncomputable def hashG2 (H : HashFn) (dst msg : Bytes) : E2 :=
  open Classical in if h : ∃ q, HashPt H dst msg q then Classical.choose h else 0

theorem HashPt.hashG2_eq {H : HashFn} {dst msg : Bytes} {q : E2} (h : HashPt H dst msg q) :
    hashG2 H dst msg = q :=
  choose_eq_of_unique HashPt.unique h

theorem hashG2_rep (pf : PairingFacts e) {H : HashFn} {dst msg : Bytes} {mp : G2Pt}
    (hmp : hashToG2 H msg dst = .ok mp) : RepG2 mp (hashG2 H dst msg) := by
  obtain ⟨h, rh, _⟩ := pf.hash_rep hmp
  rwa [HashPt.hashG2_eq ⟨mp, hmp, rh⟩]

theorem hashG2_torsion (pf : PairingFacts e) (H : HashFn) (dst msg : Bytes) : blsR • hashG2 H dst msg = 0 := by
  unfold hashG2
  split
  · next hex => exact (Classical.choose_spec hex).torsion pf
  · exact smul_zero _

theorem hashPt_iff (pf : PairingFacts e) {H : HashFn} {dst : Bytes} (msg : Bytes) (h : E2) :
    HashPt H dst msg h ↔ Hashes H dst msg ∧ hashG2 H dst msg = h :=
  ⟨fun hp => ⟨⟨_, hp.choose_spec.1⟩, hp.hashG2_eq⟩, fun ⟨⟨mp, hmp⟩, hh⟩ => hh ▸ ⟨mp, hmp, hashG2_rep pf hmp⟩⟩

theorem exists_hashPt_iff (pf : PairingFacts e) {H : HashFn} {dst msg : Bytes} {P : E2 → Prop} :
    (∃ h, HashPt H dst msg h ∧ P h) ↔ Hashes H dst msg ∧ P (hashG2 H dst msg) := by
  simp only [hashPt_iff pf, and_assoc, exists_eq_left', exists_and_left]

/-- the point a 48-byte string decodes to (`0` for strings `pubkey_to_G1` rejects) -/
noncomputable def decG1 (bs : Bytes) : E1 :=
  open Classical in if h : ∃ p, EncG1 bs p then Classical.choose h else 0

theorem EncG1.decG1_eq {bs : Bytes} {p : E1} (h : EncG1 bs p) : decG1 bs = p :=
  choose_eq_of_unique EncG1.point_unique h

/-- a key that passes `KeyValidate` decodes to a representative of `decG1 pk`, a non-zero point of the `r`-torsion -/
theorem key_rep {pk : Bytes} (h : keyValidate pk = true) :
    ∃ P, CanonPk pk P ∧ Represents P (decG1 pk) ∧ decG1 pk ≠ 0 ∧ blsR • decG1 pk = 0 := by
  obtain ⟨P, hP⟩ := (keyValidate_iff_canon pk).mp h
  obtain ⟨p, rp, encp, hp0, hp⟩ := canonPk_enc hP
  rw [encp.decG1_eq]
  exact ⟨P, hP, rp, hp0, hp⟩

theorem EncG1.valid {pk : Bytes} {p : E1} (h : EncG1 pk p) (h0 : p ≠ 0) (hp : blsR • p = 0) :
    keyValidate pk = true :=
  let ⟨P, hP, _⟩ := canonPk_of_enc h h0 hp
  (keyValidate_iff_canon pk).mpr ⟨P, hP⟩

theorem neg_torsion {G : Type*} [AddCommGroup G] {x : G} (h : blsR • x = 0) : blsR • -x = 0 :=
  (neg_nsmul x blsR).trans (neg_eq_zero.mpr h)

/-- a check that, on the `r`-torsion, exactly the point `s` passes: the candidate encodes a point that passes iff it
    is the encoding of `s` -/
theorem exists_enc_iff {C : E2 → Prop} {s : E2} (hs : blsR • s = 0) (hC : ∀ {q}, blsR • q = 0 → (C q ↔ q = s))
    (sig : Bytes) : (∃ q, EncG2 sig q ∧ blsR • q = 0 ∧ C q) ↔ EncG2 sig s :=
  ⟨fun ⟨_, enc, hq, h⟩ => (hC hq).mp h ▸ enc, fun enc => ⟨s, enc, hs, (hC hs).mpr rfl⟩⟩

/-- **`_CoreVerify` read on points, for ANY key** (honest or not): it returns `True` iff `pk` passes `KeyValidate`
    (it is then the encoding of the non-zero `r`-torsion point `decG1 pk`), the message hashes, and `sig` is the
    encoding of an `r`-torsion point `q` of the twist curve with `e(q, g1) · e(H(m), −pk) = 1` (`BlsAbs.verify`). -/
theorem coreVerify_sem (pf : PairingFacts e) {H : HashFn} {s : Suite} {pk msg sig dst : Bytes} :
    coreVerify H s pk msg sig dst = .returned true ↔
      keyValidate pk = true ∧ Hashes H dst msg ∧
        ∃ q, EncG2 sig q ∧ blsR • q = 0 ∧ BlsAbs.verify e g1 (hashG2 H dst) (decG1 pk) msg q := by
  -- the two pairing calls of `_CoreVerify` on representatives of `q`, `H(m)`, `pk`
  have key : ∀ {S mp : G2Pt} {q : E2} {P : G1Pt} {e1 e2 : OBls12}, RepG2 S q → blsR • q = 0 →
      hashToG2 H msg dst = .ok mp → Represents P (decG1 pk) → blsR • decG1 pk = 0 →
      pairingOptBls S blsG1 false = .ok e1 → pairingOptBls mp (OptBls.neg P) false = .ok e2 →
      (finalExponentiateOptBls (e1 * e2) = (1 : OBls12) ↔ BlsAbs.verify e g1 (hashG2 H dst) (decG1 pk) msg q) :=
    fun rq hq hmp rp hp he1 he2 => pf.final ((MillerOf.call rq g1_rep hq g1_torsion he1).mul (hashG2_rep pf hmp)
      (C07Opt.Bls.opt_neg_refines rp) (hashG2_torsion pf H dst msg) (neg_torsion hp) he2)
  rw [coreVerify_true_iff]
  constructor
  · rintro ⟨P, S, mp, e1, e2, hP, hS, hmp, he1, he2, hfe⟩
    have hkv := (keyValidate_iff_canon pk).mpr ⟨P, hP⟩
    obtain ⟨P', hP', rp, _, hp⟩ := key_rep hkv
    obtain ⟨q, rq, encq, hq⟩ := canonSig_enc hS
    exact ⟨hkv, ⟨mp, hmp⟩, q, encq, hq, (key rq hq hmp (hP.unique hP' ▸ rp) hp he1 he2).mp hfe⟩
  · rintro ⟨hkv, ⟨mp, hmp⟩, q, encq, hq, heq⟩
    obtain ⟨P, hP, rp, _, hp⟩ := key_rep hkv
    obtain ⟨S, hS, rq⟩ := canonSig_of_enc encq hq
    obtain ⟨e1, he1⟩ := pairing_ok rq g1_rep
    obtain ⟨e2, he2⟩ := pairing_ok (hashG2_rep pf hmp) (C07Opt.Bls.opt_neg_refines rp)
    exact ⟨P, S, mp, e1, e2, hP, hS, hmp, he1, he2, (key rq hq hmp rp hp he1 he2).mpr heq⟩

/-- **`_CoreVerify` under a key that encodes `k • g1 ≠ 0`** accepts `cand` iff `hash_to_G2` returns and `cand` is the
    encoding of `k • H(m)` -/
theorem coreVerify_honest (pf : PairingFacts e) {H : HashFn} {s : Suite} {k : ℕ} {pk : Bytes}
    (hpk : EncG1 pk (k • g1)) (hne : k • g1 ≠ 0) (msg dst cand : Bytes) :
    coreVerify H s pk msg cand dst = .returned true ↔
      Hashes H dst msg ∧ EncG2 cand (k • hashG2 H dst msg) := by
  have hH := hashG2_torsion pf H dst
  rw [coreVerify_sem pf, show decG1 pk = BlsAbs.pk g1 k from hpk.decG1_eq, exists_enc_iff (nsmul_torsion (hH msg) k)
    (BlsAbs.abs_verify_iff pf.isPairing g1_torsion hH k msg)]
  exact and_iff_right (hpk.valid hne (nsmul_torsion g1_torsion k))

theorem coreSign_iff_hashG2 (pf : PairingFacts e) {H : HashFn} {sk : PyArg} {k : ℕ}
    (hv : isValidPrivkey sk = some k) (msg dst sg : Bytes) :
    coreSign H sk msg dst = .ok sg ↔ Hashes H dst msg ∧ EncG2 sg (k • hashG2 H dst msg) := by
  cases hmp : hashToG2 H msg dst with
  | error err =>
    rw [coreSign_hash_error hv hmp]
    exact ⟨fun h => (nomatch h), fun ⟨⟨_, hmp'⟩, _⟩ => by rw [hmp] at hmp'; cases hmp'⟩
  | ok mp =>
    rw [coreSign_enc hv hmp (hashG2_rep pf hmp)]
    exact ⟨fun henc => ⟨⟨mp, hmp⟩, henc⟩, And.right⟩

/-- **`_CoreVerify` accepts exactly what `_CoreSign` produces.**  For every valid secret key, with `pk`
    its `SkToPk`, every message and domain-separation tag, every suite and hash function, and every
    byte string `cand` (of any length):
    `_CoreVerify(pk, msg, cand, dst) = True  ↔  _CoreSign(sk, msg, dst) = cand`. -/
theorem coreVerify_iff_coreSign (pf : PairingFacts e) (H : HashFn) (s : Suite) {sk : PyArg} {k : ℕ}
    (hv : isValidPrivkey sk = some k) {pk : Bytes} (hpk : skToPk sk = .ok pk) (msg dst cand : Bytes) :
    coreVerify H s pk msg cand dst = .returned true ↔ coreSign H sk msg dst = .ok cand := by
  obtain ⟨h0, hk⟩ := validPrivkey_range hv
  rw [coreVerify_honest pf ((skToPk_enc hv pk).mp hpk) (nsmul_g1_ne_zero h0 hk), coreSign_iff_hashG2 pf hv]

/-- under the key of `k`, a candidate that is the encoding of the point `c` is accepted iff `c` is an `r`-torsion point
    that passes the abstract check -/
theorem coreVerify_enc_iff (pf : PairingFacts e) (H : HashFn) (s : Suite) {sk : PyArg} {k : ℕ}
    (hv : isValidPrivkey sk = some k) {pk : Bytes} (hpk : skToPk sk = .ok pk) {msg dst : Bytes}
    {mp : G2Pt} (hmp : hashToG2 H msg dst = .ok mp) {c : E2} {cand : Bytes} (enc : EncG2 cand c) :
    coreVerify H s pk msg cand dst = .returned true ↔
      blsR • c = 0 ∧ BlsAbs.verify e g1 (hashG2 H dst) (BlsAbs.pk g1 k) msg c := by
  obtain ⟨h0, hk⟩ := validPrivkey_range hv
  have hpk' := (skToPk_enc hv pk).mp hpk
  rw [coreVerify_sem pf, show decG1 pk = BlsAbs.pk g1 k from hpk'.decG1_eq]
  exact ⟨fun ⟨_, _, q, hq, h⟩ => enc.point_unique hq ▸ h,
    fun h => ⟨hpk'.valid (nsmul_g1_ne_zero h0 hk) (nsmul_torsion g1_torsion k), ⟨mp, hmp⟩, c, enc, h⟩⟩

/-- same key, other `(message, tag)`: accepted iff the two hash points are equal -/
theorem coreVerify_other_msg_iff (pf : PairingFacts e) (H : HashFn) (s : Suite) {sk : PyArg} {k : ℕ}
    (hv : isValidPrivkey sk = some k) {pk : Bytes} (hpk : skToPk sk = .ok pk)
    {msg dst msg' dst' sig : Bytes} {mp mp' : G2Pt}
    (hmp : hashToG2 H msg dst = .ok mp) (hmp' : hashToG2 H msg' dst' = .ok mp')
    (hsig : coreSign H sk msg dst = .ok sig) :
    coreVerify H s pk msg' sig dst' = .returned true ↔ OptBls.eq mp mp' = true := by
  obtain ⟨hq, rh, hh⟩ := pf.hash_rep hmp
  obtain ⟨hq', rh', hh'⟩ := pf.hash_rep hmp'
  have enc := (coreSign_enc hv hmp rh sig).mp hsig
  obtain ⟨h0, hk⟩ := validPrivkey_range hv
  rw [coreVerify_iff_coreSign pf H s hv hpk, coreSign_enc hv hmp' rh', rh.eq_iff rh']
  exact ⟨fun h => BlsAbs.nsmul_cancel prime_r (Nat.not_dvd_of_pos_of_lt h0 hk) hh hh' (enc.point_unique h),
    fun h => h ▸ enc⟩

theorem sign_eq_coreSign (H : HashFn) (s : Suite) {sk : PyArg} {pk : Bytes} (hpk : skToPk sk = .ok pk)
    (msg : Bytes) : sign H s sk msg = coreSign H sk (vmsg s pk msg) s.dst := by
  cases s <;> simp [sign, vmsg, hpk, bind, Except.bind]

theorem popProve_eq_coreSign (H : HashFn) {sk : PyArg} {pk : Bytes} (hpk : skToPk sk = .ok pk) :
    popProve H sk = coreSign H sk pk popTag := by
  simp [popProve, hpk, bind, Except.bind]

theorem validPrivkey_int {sk : ℤ} (h : 1 ≤ sk ∧ sk < (curveOrder : ℤ)) :
    isValidPrivkey (.int sk) = some sk.toNat :=
  (C01.isValidPrivkey_int_iff sk sk.toNat).mpr ⟨h.1, h.2, rfl⟩

end

end PyEcc.BlsProto
