/-
  PyEcc.Lemmas.PowLoop — the square-and-multiply loop.  A fuelled function `aux f o t e` that satisfies the
  two equations below (the shape of `FQ.__pow__` and `FQP.__pow__` in the model and of the power on pairs in
  `Lemmas/Gi.lean`), read through a multiplicative map `φ` into a monoid, returns `φ o * φ t ^ e`.
-/
import Mathlib.Algebra.Group.Defs

namespace PyEcc

/-- `P` is an invariant that `mul` preserves and under which `φ` is multiplicative.  The fuel `f`
    suffices as soon as `e < 2 ^ f`. -/
theorem powLoop_spec {α M : Type*} [Monoid M] {mul : α → α → α} {aux : ℕ → α → α → ℕ → α}
    (h0 : ∀ o t e, aux 0 o t e = o)
    (hs : ∀ f o t e, aux (f + 1) o t e =
      if e = 0 then o else aux f (if e % 2 = 1 then mul o t else o) (mul t t) (e / 2))
    (φ : α → M) (P : α → Prop)
    (hmul : ∀ a b, P a → P b → P (mul a b) ∧ φ (mul a b) = φ a * φ b) :
    ∀ (f : ℕ) (o t : α) (e : ℕ), e < 2 ^ f → P o → P t →
      P (aux f o t e) ∧ φ (aux f o t e) = φ o * φ t ^ e := by
  intro f
  induction f with
  | zero =>
    intro o t e h ho _
    obtain rfl : e = 0 := by omega
    rw [h0, pow_zero, mul_one]
    exact ⟨ho, rfl⟩
  | succ f ih =>
    intro o t e h ho ht
    rw [hs]
    by_cases he : e = 0
    · rw [if_pos he, he, pow_zero, mul_one]
      exact ⟨ho, rfl⟩
    · rw [if_neg he]
      obtain ⟨ptt, qtt⟩ := hmul t t ht ht
      have h2 : e / 2 < 2 ^ f := by rw [Nat.pow_succ] at h; omega
      -- `t ^ e = (t * t) ^ (e / 2)` times one more `t` when `e` is odd
      have hsq : (φ t * φ t) ^ (e / 2) = φ t ^ (2 * (e / 2)) := by rw [← pow_two, pow_mul]
      by_cases hodd : e % 2 = 1
      · rw [if_pos hodd]
        obtain ⟨pot, qot⟩ := hmul o t ho ht
        obtain ⟨w, q⟩ := ih (mul o t) (mul t t) (e / 2) h2 pot ptt
        refine ⟨w, ?_⟩
        rw [q, qot, qtt, hsq, mul_assoc, ← pow_succ', show 2 * (e / 2) + 1 = e by omega]
      · rw [if_neg hodd]
        obtain ⟨w, q⟩ := ih o (mul t t) (e / 2) h2 ho ptt
        refine ⟨w, ?_⟩
        rw [q, qtt, hsq, show 2 * (e / 2) = e by omega]

/-- whatever every product satisfies, the loop's result satisfies as soon as the accumulator does -/
theorem powLoop_ind {α : Type*} {mul : α → α → α} {aux : ℕ → α → α → ℕ → α}
    (h0 : ∀ o t e, aux 0 o t e = o)
    (hs : ∀ f o t e, aux (f + 1) o t e =
      if e = 0 then o else aux f (if e % 2 = 1 then mul o t else o) (mul t t) (e / 2))
    {Q : α → Prop} (hQ : ∀ x y, Q (mul x y)) :
    ∀ (f : ℕ) (o t : α) (e : ℕ), Q o → Q (aux f o t e) := by
  intro f
  induction f with
  | zero => intro o t e ho; rw [h0]; exact ho
  | succ f ih =>
    intro o t e ho
    rw [hs]
    split
    · exact ho
    · apply ih
      split
      · exact hQ o t
      · exact ho

theorem powLoop_eq {α M : Type*} [Monoid M] {mul : α → α → α} {aux : ℕ → α → α → ℕ → α}
    (h0 : ∀ o t e, aux 0 o t e = o)
    (hs : ∀ f o t e, aux (f + 1) o t e =
      if e = 0 then o else aux f (if e % 2 = 1 then mul o t else o) (mul t t) (e / 2))
    (φ : α → M) (hmul : ∀ a b, φ (mul a b) = φ a * φ b) (f : ℕ) (o t : α) (e : ℕ) (h : e < 2 ^ f) :
    φ (aux f o t e) = φ o * φ t ^ e :=
  (powLoop_spec h0 hs φ (fun _ => True) (fun a b _ _ => ⟨trivial, hmul a b⟩) f o t e h trivial
    trivial).2

end PyEcc
