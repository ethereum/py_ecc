/-
  For C06/C19, on C18 (the generated secp256k1 code is Mathlib's group `E(F_P)` of prime order `N`).  `E(F_P)` is a vector
  space over the scalar field `Fn = ZMod N`, so that `s⁻¹`, `r⁻¹` make sense on points.  `recover_sem`: `ecdsa_raw_recover`
  returns exactly the keys `r⁻¹ • (s • R − z • G)`, `R` the curve point with `x = r` and the parity of `v`; that key is the
  one solution of `r • Q = s • R − z • G` (`key_eq_iff`).  `sign_sem`: a signature `(v, r, s)` of `ecdsa_raw_sign` satisfies
  `s • R = (z + r·d) • G` at that point `R`.  `Verifies` is textbook verification (SEC 1 §4.1.4) over the Mathlib group.
-/
import PyEcc.Props.C18
import PyEcc.Sem.EcdsaSem
import Mathlib.Algebra.Module.ZMod

namespace PyEcc.EcdsaSem
open WeierstrassCurve PyEcc PyEcc.Gen.Secp PyEcc.SecpSem PyEcc.Gen.Consts PyEcc.Ecdsa

abbrev Fn : Type := ZMod secp256k1_N

/-- `E(F_P)` is killed by the prime `N` (C18), hence a vector space over `ZMod N` -/
noncomputable instance instModuleFn : Module Fn E.Point := AddCommGroup.zmodModule C18.N_smul_eq_zero

theorem cast_smul (n : ℤ) (Q : E.Point) : ((n : ℤ) : Fn) • Q = n • Q := Int.cast_smul_eq_zsmul Fn n Q

theorem mod_N_zsmul (n : ℤ) (Q : E.Point) : (n % N) • Q = (n : Fn) • Q := by
  rw [← cast_smul, cast_mod N_eq]

theorem inv_N_cast (a : ℤ) (ha : a % N ≠ 0) : ((inv a N : ℤ) : Fn) = (a : Fn)⁻¹ := by
  rw [N_eq] at ha ⊢
  exact Gen.Secp.inv_spec prime_secpN a (Or.inr ha)

theorem fn_ne_zero_iff {a : ℤ} : (a : Fn) ≠ 0 ↔ a % N ≠ 0 := not_congr (cast_eq_zero_iff_mod N_eq a)

theorem fn_two_ne_zero : (2 : Fn) ≠ 0 := by
  simpa using natCast_ne_zero (m := secp256k1_N) (k := 2) (by decide)

theorem jrep_G : JRep (Gx, Gy, 1) Gpt := by
  have h := jrep_to_jacobian Gpt
  rw [reprSecp_Gpt] at h
  exact h

theorem jrep_affine {x y : ℤ} {X Y : Fp} (hns : E.Nonsingular X Y) (hx : (x : Fp) = X) (hy : (y : Fp) = Y) :
    JRep (x, y, 1) (.some X Y hns) := by
  refine ⟨by simp, ?_, ?_⟩
  · simp [affX, hx]
  · simp [affY, hy]

/-- **the tail of `ecdsa_raw_recover` computes `r⁻¹ • (s • R − z • G)`** for every point `R` represented by the
lifted pair `(x, y, 1)`, every `s`, every hash, and every `r ≢ 0 (mod N)` -/
theorem recoverCore_refines (h : Bytes) (x y r s : ℤ) (R : E.Point) (hR : JRep (x, y, 1) R) (hr : r % N ≠ 0) :
    recoverCore h x y r s =
      .ok (reprSecp ((r : Fn)⁻¹ • ((s : Fn) • R - ((bytesToInt h : ℤ) : Fn) • Gpt))) := by
  obtain ⟨Gz, h1, r1⟩ := jacobian_multiply_spec (Gx, Gy, 1) ((N - bytesToInt h) % N)
  obtain ⟨XY, h2, r2⟩ := jacobian_multiply_spec (x, y, 1) s
  obtain ⟨Q, h3, r3⟩ := jacobian_multiply_spec (jacobian_add Gz XY) (inv r N)
  rw [recoverCore_of_ok h1 h2 h3, jrep_from_jacobian (r3 _ (jrep_add (r1 _ jrep_G) (r2 _ hR)))]
  congr 2
  rw [mod_N_zsmul, mod_N_zsmul, mod_N_zsmul, inv_N_cast r hr, cast_mod N_eq]
  push_cast
  rw [cast_self N_eq, zero_sub, neg_smul]
  congr 1
  abel

theorem val_range (Y : Fp) : 0 ≤ ((Y.val : ℕ) : ℤ) ∧ ((Y.val : ℕ) : ℤ) < P := by
  refine ⟨Int.natCast_nonneg _, ?_⟩
  rw [P_eq]; exact_mod_cast ZMod.val_lt Y

/-- a curve point is determined by `x` and the parity of `y` (as a residue in `[0, P)`) -/
theorem some_eq_of_parity {X Y X' Y' : Fp} (hns : E.Nonsingular X Y) (hns' : E.Nonsingular X' Y') (hX : X = X')
    (hpar : ((Y.val : ℕ) : ℤ) % 2 = ((Y'.val : ℕ) : ℤ) % 2) :
    Affine.Point.some X Y hns = Affine.Point.some X' Y' hns' := by
  refine some_congr hX ?_
  have h := signBit_parity.unique (val_range Y) (val_range Y') ?_ hpar
  · rw [← val_cast_cast Y, h, val_cast_cast]
  · rw [val_cast_cast, val_cast_cast, (CurveSem.equation_W _ X Y).mp hns.1, (CurveSem.equation_W _ X' Y').mp hns'.1, hX]

/-- **What `ecdsa_raw_recover` computes.** It returns `Q` exactly when `v ∈ {27, 28}`, `r, s ≢ 0 (mod N)` and
`Q` represents `r⁻¹ • (s • R − z • G)` for a curve point `R = (X, Y)` with `X ≡ r (mod P)` whose `Y` (as a
residue in `[0, P)`) has the parity encoded by `v` (there is at most one such point); every other input raises
`ValueError` (`recover_cases`). -/
theorem recover_sem {h : Bytes} {v r s : ℤ} {Q : ℤ × ℤ} :
    ecdsaRawRecover h v r s = .ok Q ↔ (v = 27 ∨ v = 28) ∧ r % N ≠ 0 ∧ s % N ≠ 0 ∧
      ∃ (X Y : Fp) (hns : E.Nonsingular X Y), (r : Fp) = X ∧ ((Y.val : ℕ) : ℤ) % 2 = (v - 27) % 2 ∧
        Q = reprSecp ((r : Fn)⁻¹ • ((s : Fn) • (Affine.Point.some X Y hns) - ((bytesToInt h : ℤ) : Fn) • Gpt)) := by
  obtain ⟨hn, e⟩ | ⟨⟨hv, hr, hs, hsq⟩, e⟩ := recover_cases h v r s
  · rw [e]
    refine iff_of_false (fun c => by cases c) fun ⟨hv, hr, hs, X, Y, hns, hX, _, _⟩ => hn ⟨hv, hr, hs, Y, ?_⟩
    rw [hX, ← pow_two]
    exact ((CurveSem.equation_W _ X Y).mp hns.1).symm
  · have hns := nonsingular_of_eq ((check_iff_field v r).mp ((check_iff_isSquare v r).mpr hsq))
    have hpar : (((((liftY v r : ℤ) : Fp)).val : ℕ) : ℤ) % 2 = (v - 27) % 2 := by
      rw [val_cast, Int.emod_eq_of_lt (liftY_spec v r).1.1 (liftY_spec v r).1.2]
      exact (liftY_spec v r).2.2
    rw [e, recoverCore_refines h r _ r s _ (jrep_affine hns rfl rfl) hr]
    constructor
    · exact fun hQ => ⟨hv, hr, hs, _, _, hns, rfl, hpar, (Except.ok.inj hQ).symm⟩
    · rintro ⟨-, -, -, X, Y, hns', hX, hpar', rfl⟩
      rw [some_eq_of_parity hns hns' hX (hpar.trans hpar'.symm)]

/-- the mirror image `−R = (X, −Y)` has the other parity -/
theorem neg_val_parity {Y : Fp} (hY : Y ≠ 0) : (((-Y).val : ℕ) : ℤ) % 2 = 1 - ((Y.val : ℕ) : ℤ) % 2 := by
  have : Fact (secp256k1_P).Prime := ⟨prime_secpP⟩
  have hne : NeZero Y := ⟨hY⟩
  rw [ZMod.val_neg_of_ne_zero]
  have hlt : Y.val < secp256k1_P := ZMod.val_lt Y
  have hodd : secp256k1_P % 2 = 1 := by decide
  rw [Nat.cast_sub hlt.le]
  omega

/-- the recovered key is THE solution `Q` of `r • Q = s • R − z • G` (`N` is prime and `r ≢ 0`) -/
theorem key_eq_iff {r : ℤ} (hr : r % N ≠ 0) (s z : ℤ) (R Q : E.Point) :
    r • Q = s • R - z • Gpt ↔ Q = (r : Fn)⁻¹ • ((s : Fn) • R - (z : Fn) • Gpt) := by
  rw [← cast_smul, ← cast_smul, ← cast_smul, eq_comm, eq_comm (a := Q), inv_smul_eq_iff₀ (fn_ne_zero_iff.mpr hr)]

/-- **the other recovery id gives another key**: `55 − v` selects the mirror image `−R`, and
`r⁻¹ • (s • (−R) − z • G) = r⁻¹ • (s • R − z • G)` would force `2s • R = 0` (`N` is odd, `s ≢ 0`, `R ≠ 0`) -/
theorem recover_other_ne {h : Bytes} {v r s : ℤ} {Q : ℤ × ℤ} (hok : ecdsaRawRecover h v r s = .ok Q) :
    ecdsaRawRecover h (55 - v) r s ≠ .ok Q := by
  obtain ⟨hv, hr, hs, X, Y, hns, hX, hpar, rfl⟩ := recover_sem.mp hok
  intro hok'
  obtain ⟨-, -, -, X', Y', hns', hX', hpar', e⟩ := recover_sem.mp hok'
  obtain ⟨hm, hneg⟩ := neg_some hns
  have hpar'' : ((Y'.val : ℕ) : ℤ) % 2 = (((-Y).val : ℕ) : ℤ) % 2 := by
    rw [neg_val_parity (y_ne_zero hns), hpar', hpar]
    rcases hv with rfl | rfl <;> rfl
  rw [some_eq_of_parity hns' hm (hX'.symm.trans hX) hpar'', ← hneg, smul_neg] at e
  have e' := sub_left_injective (smul_right_injective _ (inv_ne_zero (fn_ne_zero_iff.mpr hr))
    (SecpSem.reprSecp_injective e))
  have h2 : ((2 : Fn) * (s : Fn)) • (Affine.Point.some X Y hns : E.Point) = 0 := by
    rw [mul_smul, two_smul]
    nth_rewrite 1 [e']
    exact neg_add_cancel _
  rcases smul_eq_zero.mp h2 with c | c
  · exact (mul_ne_zero fn_two_ne_zero (fn_ne_zero_iff.mpr hs)) c
  · cases c

theorem signS0_cast (h priv : Bytes) {k : ℤ} (hk : k % N ≠ 0) (r : ℤ) : ((signS0 h priv k r : ℤ) : Fn) =
    (k : Fn)⁻¹ * (((bytesToInt h : ℤ) : Fn) + (r : Fn) * ((bytesToInt priv : ℤ) : Fn)) := by
  rw [signS0, cast_mod N_eq]
  push_cast
  rw [inv_N_cast k hk]

/-- **low-`s` normalisation mirrors the point**: passing from `s₀` to `N − s₀` and flipping the recorded parity
bit describes the same multiple `s₀ • R`, of the mirror image `−R` -/
theorem lowS_point {X Y : Fp} (hns : E.Nonsingular X Y) (s0 : ℤ) (c : Prop) [Decidable c] :
    ∃ (Y' : Fp) (hns' : E.Nonsingular X Y'),
      ((Y'.val : ℕ) : ℤ) % 2 = pyXor (((Y.val : ℕ) : ℤ) % 2) (if c then 0 else 1) ∧
      (((if c then s0 else N - s0 : ℤ)) : Fn) • (Affine.Point.some X Y' hns' : E.Point) =
        (s0 : Fn) • (Affine.Point.some X Y hns : E.Point) := by
  have hb : ((Y.val : ℕ) : ℤ) % 2 = 0 ∨ ((Y.val : ℕ) : ℤ) % 2 = 1 := by omega
  by_cases hc : c
  · rw [if_pos hc, if_pos hc, (pyXor_bit hb).1]
    exact ⟨Y, hns, rfl, rfl⟩
  · obtain ⟨hns', hneg⟩ := neg_some hns
    rw [if_neg hc, if_neg hc, (pyXor_bit hb).2]
    refine ⟨-Y, hns', neg_val_parity (y_ne_zero hns), ?_⟩
    rw [← hneg, smul_neg, ← neg_smul]
    push_cast
    rw [cast_self N_eq, zero_sub, neg_neg]

/-- **What `ecdsa_raw_sign` returns, in the group.** If it returns `(v, r, s)` with `r ≠ 0` for hash `h`, key bytes
`priv` and nonce `k` (`z`, `d` the ints of `h`, `priv`): `k ≢ 0 (mod N)`, `v ∈ {27, 28}`, `r` is the `x`-coordinate of `k • G`, and
the signing equation `s • R = (z + r·d) • G` holds at the point `R = ±(k • G)` above `r` whose `y` has the parity
recorded in `v`. -/
theorem sign_sem {h priv : Bytes} {k v r s : ℤ} (hsig : rawSignWithK h priv k = .ok (v, r, s)) (hr : r ≠ 0) :
    k % N ≠ 0 ∧ (v = 27 ∨ v = 28) ∧ (∃ y, reprSecp (k • Gpt) = (r, y)) ∧
    ∃ (X Y : Fp) (hns : E.Nonsingular X Y), ((X.val : ℕ) : ℤ) = r ∧ ((Y.val : ℕ) : ℤ) % 2 = (v - 27) % 2 ∧
      (s : Fn) • (Affine.Point.some X Y hns : E.Point) =
        (((bytesToInt h : ℤ) : Fn) + (r : Fn) * ((bytesToInt priv : ℤ) : Fn)) • Gpt := by
  have hm := C18.multiply_refines Gpt k
  rw [reprSecp_Gpt] at hm
  rcases hK : k • Gpt with _ | ⟨X, Y, hns⟩ <;> rw [hK] at hm
  · exact absurd (congrArg (·.2.1) (Except.ok.inj ((rawSignWithK_of_ok hm).symm.trans hsig))).symm hr
  obtain ⟨hv, hs⟩ := Prod.mk.inj (Except.ok.inj ((rawSignWithK_of_ok hm).symm.trans hsig))
  obtain ⟨rfl, rfl⟩ := Prod.mk.inj hs
  have hk : k % N ≠ 0 := fun e => by
    rw [← cast_smul, (cast_eq_zero_iff_mod N_eq k).mpr e, zero_smul Fn Gpt] at hK
    cases hK
  obtain ⟨Y', hns', hpar, hsR⟩ := lowS_point hns (signS0 h priv k (X.val : ℕ)) (signS0 h priv k (X.val : ℕ) * 2 < N)
  refine ⟨hk, by omega, ⟨_, rfl⟩, X, Y', hns', rfl, by omega, ?_⟩
  rw [hsR, ← hK, ← cast_smul, smul_smul, signS0_cast h priv hk, mul_comm, mul_inv_cancel_left₀ (fn_ne_zero_iff.mpr hk)]

/-- **ECDSA verification** (SEC 1 v2 §4.1.4, with `e = z` the integer of the message hash), read over the Mathlib
group: `r, s ≢ 0 (mod N)`, and for an inverse `w` of `s` modulo `N`, `u₁ = z·w`, `u₂ = r·w`, the point
`u₁ • G + u₂ • Q` is not the identity and its `x`-coordinate (as an int in `[0, P)`) is `≡ r (mod N)`. -/
def Verifies (z r s : ℤ) (Q : E.Point) : Prop :=
  r % N ≠ 0 ∧ s % N ≠ 0 ∧ ∃ w : ℤ, (w * s) % N = 1 ∧
    ∃ (X Y : Fp) (hns : E.Nonsingular X Y), (z * w) • Gpt + (r * w) • Q = Affine.Point.some X Y hns ∧
      ((X.val : ℕ) : ℤ) % N = r % N

theorem verifies_of_eq {z r s : ℤ} {Q : E.Point} (hr : r % N ≠ 0) (hs : s % N ≠ 0) {X Y : Fp}
    (hns : E.Nonsingular X Y) (hx : ((X.val : ℕ) : ℤ) % N = r % N)
    (he : r • Q = s • (Affine.Point.some X Y hns) - z • Gpt) : Verifies z r s Q := by
  have hs' := fn_ne_zero_iff.mpr hs
  have hw : ((inv s N : ℤ) : Fn) = (s : Fn)⁻¹ := inv_N_cast s hs
  refine ⟨hr, hs, inv s N, ?_, X, Y, hns, ?_, hx⟩
  · have h1 : (((inv s N * s : ℤ)) : Fn) = ((1 : ℤ) : Fn) := by
      push_cast; rw [hw, inv_mul_cancel₀ hs']
    have := (cast_eq_iff_mod N_eq _ _).mp h1
    rw [this]; decide
  · rw [mul_comm z, mul_comm r, mul_zsmul, mul_zsmul, ← zsmul_add, he, add_sub_cancel, ← cast_smul, ← cast_smul, hw,
      smul_smul, inv_mul_cancel₀ hs', one_smul]

end PyEcc.EcdsaSem
