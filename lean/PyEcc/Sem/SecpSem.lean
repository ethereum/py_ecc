/-
  For reasoning about the generated secp256k1 code (`PyEcc.Gen.Secp`) in the
  prime field `ZMod P`: the `Int → ZMod P` cast discharges the `% P` reductions, reduced residues compare
  equal as ints iff they are equal in the field, and `inv(a, P)` is the field inverse (`cast_inv`): the generated
  `secp256k1.inv` runs the loop of `prime_field_inv` (`Sem/InvLoop.lean`), for ANY prime modulus (`Gen.Secp.inv_spec`).
-/
import Mathlib.Data.ZMod.Basic
import Mathlib.Algebra.Field.ZMod
import Mathlib.Tactic.Ring
import Mathlib.Tactic.FieldSimp
import Mathlib.Tactic.LinearCombination
import Mathlib.Tactic.NormNum
import PyEcc.Sem.Primes
import PyEcc.Sem.InvLoop

namespace PyEcc.FqSem

/-- the tuple-state loop generated from `secp256k1.inv` is the same loop as `invLoop` -/
theorem secp_inv_loop_fst : ∀ (f : ℕ) (lm low hm high : ℤ),
    (Gen.Secp.inv_loop f (lm, low, hm, high)).1 = invLoop f lm low hm high := by
  intro f
  induction f with
  | zero => intro lm low hm high; rfl
  | succ f ih =>
    intro lm low hm high
    unfold Gen.Secp.inv_loop invLoop
    by_cases hgt : low > 1
    · simp only [hgt, if_true]; exact ih _ _ _ _
    · simp only [hgt, if_false]

/-- `secp256k1.inv(a, n)` unfolded: `0` for `a = 0`, otherwise the shared loop on `a mod n` -/
theorem secp_inv_eq (a n : ℤ) :
    Gen.Secp.inv a n = if a = 0 then 0 else invLoop (a % n).toNat 1 (a % n) 0 n % n := by
  unfold Gen.Secp.inv
  by_cases ha : a = 0
  · simp [ha]
  · simp only [ha, if_false]
    rw [← secp_inv_loop_fst]

/-- `secp256k1.inv` agrees with `prime_field_inv` except on non-zero multiples of `n` -/
theorem secp_inv_eq_primeFieldInv (a n : ℤ) (h : a % n ≠ 0) :
    Gen.Secp.inv a n = primeFieldInv a n := by
  have ha : a ≠ 0 := by rintro rfl; simp at h
  rw [secp_inv_eq, if_neg ha]
  unfold primeFieldInv
  simp only [Int.emod_emod_of_dvd _ (dvd_refl n), if_neg h]

/-- `secp256k1.inv(a, n)` for a NON-ZERO multiple `a` of `n` returns `1 % n` (i.e. `1` for `n > 1`),
    NOT `0`: `a == 0` is tested before `a` is reduced, the loop body never runs (`low = 0`) and the
    initial `lm = 1` is returned.  (`prime_field_inv` reduces first and returns `0` here.) -/
theorem secp_inv_of_dvd (a n : ℤ) (ha : a ≠ 0) (h : a % n = 0) : Gen.Secp.inv a n = 1 % n := by
  rw [secp_inv_eq, if_neg ha, h]
  rfl

end PyEcc.FqSem

namespace PyEcc.Gen.Secp
open PyEcc.FqSem

/-- **`secp256k1.inv(a, n)` is inversion in `ZMod q`** for `n = q` prime and every integer `a` that
    is `0` or not a multiple of `q` (negative and `≥ q` included).  The guard cannot be dropped:
    see `inv_of_dvd` (`inv(q, q) = 1`). -/
theorem inv_spec {q : ℕ} (hq : q.Prime) (a : ℤ) (ha : a = 0 ∨ a % (q : ℤ) ≠ 0) :
    ((inv a q : ℤ) : ZMod q) = (a : ZMod q)⁻¹ := by
  have : Fact q.Prime := ⟨hq⟩
  rcases ha with rfl | ha
  · simp [inv]
  · rw [secp_inv_eq_primeFieldInv a q ha]; exact primeFieldInv_spec hq a

/-- `secp256k1.inv(a, q)` on a non-zero multiple of `q > 1` is `1` (and `1 ≠ a⁻¹ = 0` in `ZMod q`) -/
theorem inv_of_dvd {q : ℕ} (hq : 1 < q) (a : ℤ) (ha : a ≠ 0) (h : a % (q : ℤ) = 0) :
    inv a q = 1 := by
  rw [secp_inv_of_dvd a q ha h]
  exact Int.emod_eq_of_lt (by omega) (by exact_mod_cast hq)

theorem inv_range {n : ℤ} (hn : 0 < n) (a : ℤ) : 0 ≤ inv a n ∧ inv a n < n := by
  rw [secp_inv_eq]
  split
  · exact ⟨le_refl _, hn⟩
  · exact ⟨Int.emod_nonneg _ (by omega), Int.emod_lt_of_pos _ hn⟩

example : inv 7 7 = 1 := by decide
example : inv (-14) 7 = 1 := by decide
example : inv 3 7 = 5 := by decide
example : primeFieldInv 7 7 = 0 := by decide

end PyEcc.Gen.Secp

namespace PyEcc.SecpSem
open PyEcc.Gen.Consts

/-- the base field of secp256k1 -/
abbrev Fp : Type := ZMod secp256k1_P

/-- the generated modulus (a Python int) is the proved-prime natural number -/
theorem P_eq : Gen.Secp.P = ((secp256k1_P : ℕ) : ℤ) := by decide

theorem N_eq : Gen.Secp.N = ((secp256k1_N : ℕ) : ℤ) := by decide

theorem P_pos : 0 < Gen.Secp.P := by decide

/-! ### Python ints read modulo a generated modulus `M` (`P` here, `N` for the scalars of ECDSA) -/
section Modulus
variable {m : ℕ} {M : ℤ} (hM : M = (m : ℤ))
include hM

theorem cast_mod (a : ℤ) : ((a % M : ℤ) : ZMod m) = (a : ZMod m) := by
  rw [hM]; exact ZMod.intCast_mod a m

theorem cast_self : ((M : ℤ) : ZMod m) = 0 := by
  rw [hM]; simp

theorem cast_eq_iff_mod (a b : ℤ) : (a : ZMod m) = (b : ZMod m) ↔ a % M = b % M := by
  rw [hM]; exact ZMod.intCast_eq_intCast_iff' a b m

theorem cast_eq_zero_iff_mod (a : ℤ) : (a : ZMod m) = 0 ↔ a % M = 0 := by
  simpa using cast_eq_iff_mod hM a 0

end Modulus

theorem natCast_ne_zero {m k : ℕ} (h : ¬ m ∣ k) : ((k : ℕ) : ZMod m) ≠ 0 :=
  mt (ZMod.natCast_eq_zero_iff k m).mp h

@[simp, push_cast] theorem cast_mod_P (a : ℤ) : ((a % Gen.Secp.P : ℤ) : Fp) = (a : Fp) := cast_mod P_eq a

theorem cast_P : ((Gen.Secp.P : ℤ) : Fp) = 0 := cast_self P_eq

theorem cast_eq_iff (a b : ℤ) : (a : Fp) = (b : Fp) ↔ a % Gen.Secp.P = b % Gen.Secp.P := cast_eq_iff_mod P_eq a b

theorem cast_eq_zero_iff (a : ℤ) : (a : Fp) = 0 ↔ a % Gen.Secp.P = 0 := cast_eq_zero_iff_mod P_eq a

theorem eq_zero_of_cast_eq_zero {a : ℤ} (h0 : 0 ≤ a) (hP : a < Gen.Secp.P) (h : (a : Fp) = 0) : a = 0 := by
  have := (cast_eq_zero_iff a).mp h
  rwa [Int.emod_eq_of_lt h0 hP] at this

theorem mod_nonneg (a : ℤ) : 0 ≤ a % Gen.Secp.P := Int.emod_nonneg _ (by decide)
theorem mod_lt (a : ℤ) : a % Gen.Secp.P < Gen.Secp.P := Int.emod_lt_of_pos _ P_pos

theorem val_cast (a : ℤ) : (((a : Fp).val : ℕ) : ℤ) = a % Gen.Secp.P := by
  rw [P_eq]; exact ZMod.val_intCast a

theorem fp_two_ne_zero : (2 : Fp) ≠ 0 := by
  simpa using natCast_ne_zero (m := secp256k1_P) (k := 2) (by decide)

theorem fp_three_ne_zero : (3 : Fp) ≠ 0 := by
  simpa using natCast_ne_zero (m := secp256k1_P) (k := 3) (by decide)

theorem inv_zero : Gen.Secp.inv 0 Gen.Secp.P = 0 := rfl

/-- `inv(a, P)` is the field inverse of every int that is `0` or a unit mod `P` (`Gen.Secp.inv_spec` at the proved
prime). NOTE: for `a` a NON-ZERO multiple of `P` the Python function returns `1`, not `0` (`Gen.Secp.inv_of_dvd`). -/
theorem cast_inv (a : ℤ) (h : a = 0 ∨ (a : Fp) ≠ 0) : ((Gen.Secp.inv a Gen.Secp.P : ℤ) : Fp) = (a : Fp)⁻¹ := by
  rw [P_eq]
  exact Gen.Secp.inv_spec prime_secpP a (h.imp_right (mt (cast_eq_zero_iff_mod rfl a).mpr))

/-- `cast_inv` on reduced arguments, as a proposition: `C13.Secp.from_jacobian_double_scale` and
`from_jacobian_add_scale` take it as a hypothesis (their proofs do not use it); `invSpec` proves it -/
def InvSpec : Prop :=
  ∀ a : ℤ, 0 ≤ a → a < Gen.Secp.P → ((Gen.Secp.inv a Gen.Secp.P : ℤ) : Fp) = ((a : ℤ) : Fp)⁻¹

theorem invSpec : InvSpec := fun a h0 h1 =>
  cast_inv a (or_iff_not_imp_left.mpr fun ha => mt (eq_zero_of_cast_eq_zero h0 h1) ha)

theorem InvSpec.general (hinv : InvSpec) (a : ℤ) (h : a = 0 ∨ (a : Fp) ≠ 0) :
    ((Gen.Secp.inv a Gen.Secp.P : ℤ) : Fp) = (a : Fp)⁻¹ := cast_inv a h

open PyEcc.Gen.Secp (P)

/-- affine `x` read off a Jacobian triple of Python ints: `x / z²` in `ZMod P` -/
def affX (T : ℤ × ℤ × ℤ) : Fp := (T.1 : Fp) / (T.2.2 : Fp) ^ 2
/-- affine `y` read off a Jacobian triple of Python ints: `y / z³` in `ZMod P` -/
def affY (T : ℤ × ℤ × ℤ) : Fp := (T.2.1 : Fp) / (T.2.2 : Fp) ^ 3

def Reduced (T : ℤ × ℤ × ℤ) : Prop :=
  (0 ≤ T.1 ∧ T.1 < P) ∧ (0 ≤ T.2.1 ∧ T.2.1 < P) ∧ (0 ≤ T.2.2 ∧ T.2.2 < P)

/-- the locals `U1 = x₁z₂²`, `S1 = y₁z₂³` of `jacobian_add p q` read in the field (`U2`, `S2`: operands swapped);
they stay folded, so that algebra about the results of `jacobian_add` does not expand them -/
def jU (p q : ℤ × ℤ × ℤ) : Fp := (p.1 : Fp) * (q.2.2 : Fp) ^ 2
def jS (p q : ℤ × ℤ × ℤ) : Fp := (p.2.1 : Fp) * (q.2.2 : Fp) ^ 3

theorem jU_eq_iff {p q : ℤ × ℤ × ℤ} (hz1 : (p.2.2 : Fp) ≠ 0) (hz2 : (q.2.2 : Fp) ≠ 0) :
    jU p q = jU q p ↔ affX p = affX q := by
  rw [jU, jU, affX, affX, div_eq_div_iff (pow_ne_zero 2 hz1) (pow_ne_zero 2 hz2)]

theorem jS_eq_iff {p q : ℤ × ℤ × ℤ} (hz1 : (p.2.2 : Fp) ≠ 0) (hz2 : (q.2.2 : Fp) ≠ 0) :
    jS p q = jS q p ↔ affY p = affY q := by
  rw [jS, jS, affY, affY, div_eq_div_iff (pow_ne_zero 3 hz1) (pow_ne_zero 3 hz2)]

/-- `p'` is the rescaling `(l²x, l³y, l·z)` (mod `P`) of `p`, with the same int identity marker -/
structure Scaled (l : Fp) (p p' : ℤ × ℤ × ℤ) : Prop where
  x : (p'.1 : Fp) = l ^ 2 * (p.1 : Fp)
  y : (p'.2.1 : Fp) = l ^ 3 * (p.2.1 : Fp)
  z : (p'.2.2 : Fp) = l * (p.2.2 : Fp)
  marker : p'.2.1 = 0 ↔ p.2.1 = 0

/-- `z` is the int `0` or a unit mod `P` (true of every reduced triple) -/
def ZOk (T : ℤ × ℤ × ℤ) : Prop := T.2.2 = 0 ∨ (T.2.2 : Fp) ≠ 0

theorem Reduced.zok {T : ℤ × ℤ × ℤ} (h : Reduced T) : ZOk T := by
  by_cases hz : (T.2.2 : Fp) = 0
  · exact Or.inl (eq_zero_of_cast_eq_zero h.2.2.1 h.2.2.2 hz)
  · exact Or.inr hz

theorem Scaled.jU {l m : Fp} {p p' q q' : ℤ × ℤ × ℤ} (hp : Scaled l p p') (hq : Scaled m q q') :
    jU p' q' = (l * m) ^ 2 * jU p q := by
  rw [SecpSem.jU, SecpSem.jU, hp.x, hq.z]; ring

theorem Scaled.jS {l m : Fp} {p p' q q' : ℤ × ℤ × ℤ} (hp : Scaled l p p') (hq : Scaled m q q') :
    jS p' q' = (l * m) ^ 3 * jS p q := by
  rw [SecpSem.jS, SecpSem.jS, hp.y, hq.z]; ring

theorem Scaled.refl (p : ℤ × ℤ × ℤ) : Scaled 1 p p := ⟨by simp, by simp, by simp, Iff.rfl⟩

theorem marker_of_reduced {T T' : ℤ × ℤ × ℤ} (h : Reduced T) (h' : Reduced T') {k : Fp} (hk : k ≠ 0)
    (hy : (T'.2.1 : Fp) = k * (T.2.1 : Fp)) : T'.2.1 = 0 ↔ T.2.1 = 0 := by
  constructor
  · intro e
    apply eq_zero_of_cast_eq_zero h.2.1.1 h.2.1.2
    rw [e] at hy
    have : k * (T.2.1 : Fp) = 0 := by rw [← hy]; simp
    exact (mul_eq_zero.mp this).resolve_left hk
  · intro e
    apply eq_zero_of_cast_eq_zero h'.2.1.1 h'.2.1.2
    rw [hy, e]; simp

end PyEcc.SecpSem
