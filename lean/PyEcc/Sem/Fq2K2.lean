/-
  How the optimized `FQ2` model `F2` of BLS12-381 is read in the field `K2 = Fp[X]/(X²+1)`, said once for the
  hash-to-curve and the point-compression proofs: `q : F2 → K2` is `toQ`, a `GoodHom` on reduced elements (`goodHom_q`,
  from `Sem/FqpGoodHom.lean`); `Rq a x` ("`a` is reduced and its value is `x`") is closed under the operations. `K2` has
  `p²` elements and characteristic `p`; `i2`, the class of `X`, has `i2² = −1` and `i2^p = −i2`; the value of a
  coefficient pair is `a + b·i2`, and a reduced element is a pair of residues.
  The curve layer (`Sem/TransferFqp.lean`) writes the same field `Transfer.K2` and the same map `toQ`, for either
  class; its `goodHom_F2` at the optimized class is `goodHom_q`, both being `goodHom_fq2` at the BLS12-381 prime.
-/
import PyEcc.Sem.FqpGoodHom
import PyEcc.Lemmas.FqpQuotFinite
import PyEcc.Model.Swu

namespace PyEcc.Swu2
open PyEcc PyEcc.Fqp PyEcc.FqpSem Gen.Consts Polynomial

/-- `Fp² = Fp[X]/(X² + 1)` for the BLS12-381 base prime -/
abbrev K2 := AdjoinRoot (modulus blsP blsMc2)

/- Local: which instance of this fact a statement elsewhere is elaborated with stays what the importing
   modules declare (`Swu2.irr2`, `Fq2Sqrt.irr`, `Transfer.irreducible_blsMc2`). -/
local instance irrK2 : Fact (Irreducible (modulus blsP blsMc2)) := ⟨irreducible_modulus_fq2 (by decide)⟩

noncomputable instance : Fintype K2 := Fintype.ofFinite K2
instance : CharP K2 blsP := Transfer.charP_field

theorem card_K2 : Fintype.card K2 = blsP ^ 2 := by
  rw [← Nat.card_eq_fintype_card, NondegSem.card_quot]
  rfl

theorem fermat_K2 (x : K2) (hx : x ≠ 0) : x ^ (blsP ^ 2 - 1) = 1 := NondegSem.fermat_quot x hx

noncomputable def q (x : F2) : K2 := toQ x

theorem goodHom_q : Transfer.GoodHom (Canon (v := .opt) (p := blsP) (mc := blsMc2)) q :=
  @Transfer.goodHom_fq2 .opt blsP _ irrK2

/-- "`a` is reduced and its value in `K2` is `x`": closed under the operations, so that one term proves
    both facts about a compound model expression -/
def Rq (a : F2) (x : K2) : Prop := Canon a ∧ q a = x

namespace Rq
variable {a b : F2} {x y : K2}

theorem of (ha : Canon a) : Rq a (q a) := ⟨ha, rfl⟩
theorem zero : Rq 0 0 := ⟨goodHom_q.good_zero, goodHom_q.map_zero⟩
theorem one : Rq 1 1 := ⟨goodHom_q.good_one, goodHom_q.map_one⟩
theorem add (ra : Rq a x) (rb : Rq b y) : Rq (a + b) (x + y) :=
  ⟨goodHom_q.good_add ra.1 rb.1, by rw [goodHom_q.map_add ra.1 rb.1, ra.2, rb.2]⟩
theorem sub (ra : Rq a x) (rb : Rq b y) : Rq (a - b) (x - y) :=
  ⟨goodHom_q.good_sub ra.1 rb.1, by rw [goodHom_q.map_sub ra.1 rb.1, ra.2, rb.2]⟩
theorem mul (ra : Rq a x) (rb : Rq b y) : Rq (a * b) (x * y) :=
  ⟨goodHom_q.good_mul ra.1 rb.1, by rw [goodHom_q.map_mul ra.1 rb.1, ra.2, rb.2]⟩
/-- the model's `/` is the field's, `x / 0 = 0` included -/
theorem div (ra : Rq a x) (rb : Rq b y) : Rq (a / b) (x / y) :=
  ⟨goodHom_q.good_div ra.1 rb.1, by rw [goodHom_q.map_div ra.1 rb.1, ra.2, rb.2]⟩
theorem neg (ra : Rq a x) : Rq (-a) (-x) := ⟨goodHom_q.good_neg ra.1, by rw [goodHom_q.map_neg ra.1, ra.2]⟩
theorem pow (ra : Rq a x) (n : ℕ) : Rq (a ^ n) (x ^ n) :=
  ⟨goodHom_q.good_pow n ra.1, by rw [goodHom_q.map_pow n ra.1, ra.2]⟩

theorem eq_iff (ra : Rq a x) (rb : Rq b y) : a = b ↔ x = y := by
  rw [← ra.2, ← rb.2]; exact (goodHom_q.eq_iff ra.1 rb.1).symm
theorem eq_zero_iff (ra : Rq a x) : a = 0 ↔ x = 0 := ra.eq_iff zero
/-- the model's test `a − b == 0` is equality of values -/
theorem sub_eq_zero (ra : Rq a x) (rb : Rq b y) : a - b = (0 : F2) ↔ x = y :=
  (ra.sub rb).eq_zero_iff.trans _root_.sub_eq_zero

end Rq

theorem q_neg (a : F2) : q (-a) = -q a := toQ_neg a

theorem q_eq_zero {a : F2} (ha : Canon a) : q a = 0 ↔ a = 0 := goodHom_q.eq_zero_iff ha

noncomputable def i2 : K2 := AdjoinRoot.root (modulus blsP blsMc2)

theorem i2_sq : i2 ^ 2 = -1 := root_fq2_sq

/-- the Frobenius map is complex conjugation (`p ≡ 3 mod 4`) -/
theorem i2_pow_p : i2 ^ blsP = -i2 := by
  have hp : blsP = 2 * ((blsP - 1) / 2) + 1 := by decide
  have hk : Odd ((blsP - 1) / 2) := by rw [Nat.odd_iff]; decide
  rw [congrArg (i2 ^ ·) hp, pow_succ, pow_mul, i2_sq, hk.neg_one_pow, neg_one_mul]

theorem intCast_pow_p (c : ℤ) : (c : K2) ^ blsP = c := by
  rw [← map_intCast (algebraMap (ZMod blsP) K2), ← map_pow, ZMod.pow_card]

theorem frob_pair (a b : ℤ) : ((a : K2) + (b : K2) * i2) ^ blsP = (a : K2) - (b : K2) * i2 := by
  rw [add_pow_char, mul_pow, i2_pow_p, intCast_pow_p, intCast_pow_p]; ring

theorem q_pair (a b : ℤ) : q (⟨[a, b]⟩ : F2) = (a : K2) + (b : K2) * i2 :=
  (evQ_pair _ a b).trans (by rw [map_intCast, map_intCast]; rfl)

theorem cast_emod (x : ℤ) : ((x % (blsP : ℤ) : ℤ) : K2) = (x : K2) := by
  rw [← map_intCast (algebraMap (ZMod blsP) K2), ZMod.intCast_mod, map_intCast]

theorem canon_pair {y : F2} (hy : Canon y) :
    ∃ a b : ℤ, y = ⟨[a, b]⟩ ∧ 0 ≤ a ∧ a < blsP ∧ 0 ≤ b ∧ b < blsP := by
  obtain ⟨l⟩ := y
  obtain ⟨hl, hc⟩ := hy
  match l, hl with
  | [a, b], _ =>
    exact ⟨a, b, rfl, (hc a (by simp)).1, (hc a (by simp)).2, (hc b (by simp)).1, (hc b (by simp)).2⟩

theorem neg_pair (a b : ℤ) : (-(⟨[a, b]⟩ : F2)) = ⟨[(-a) % (blsP : ℤ), (-b) % (blsP : ℤ)]⟩ := rfl

theorem zero_pair : (0 : F2) = ⟨[0, 0]⟩ := rfl

theorem neg_emod {p a : ℤ} (h0 : 0 < a) (h1 : a < p) : (-a) % p = p - a := by
  rw [← Int.add_emod_right, Int.emod_eq_of_lt (by omega) (by omega)]; ring

end PyEcc.Swu2
