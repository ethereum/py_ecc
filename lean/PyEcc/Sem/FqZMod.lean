/-
  The executable model `Fq p` of py_ecc's `FQ` class IS `ZMod p`.

  `Fq.toZMod : Fq p → ZMod p` (cast of the stored residue `.n`) is a bijection that commutes with every
  operation of the model: `ofInt`, `0`, `1`, `+`, `*`, `-`, unary `-`, `/`, `inv`, `**`, the int-operand
  forms and the casts.  `Fq p` gets its `CommRing` structure (any `p ≠ 0`) and `Field` structure
  (`p` prime) by pull-back along `toZMod`; the operations of these instances are, definitionally, the
  model's `Fq.add`, `Fq.mul`, … (the instances of `PyEcc/Model/Fq.lean` are reused, not replaced).
  So `toZMod` is an `OpHom` of `Lemmas/TransferBase.lean` (`Transfer.opHom_toZMod`).
-/
import PyEcc.Sem.InvLoop
import PyEcc.Lemmas.PowLoop
import PyEcc.Lemmas.TransferBase
import Mathlib.Algebra.Ring.InjSurj
import Mathlib.Algebra.Ring.Equiv
import Mathlib.Algebra.Field.Basic

namespace PyEcc
namespace Fq
variable {p : ℕ}

/-- semantic reading of an `FQ` object: its residue class -/
def toZMod (a : Fq p) : ZMod p := (a.n : ZMod p)

theorem toZMod_def (a : Fq p) : toZMod a = (a.n : ZMod p) := rfl

theorem toZMod_injective : Function.Injective (toZMod (p := p)) := by
  intro a b h
  apply Fq.ext
  have := (ZMod.natCast_eq_natCast_iff' a.n b.n p).mp h
  rwa [Nat.mod_eq_of_lt a.lt, Nat.mod_eq_of_lt b.lt] at this

theorem toZMod_inj {a b : Fq p} : toZMod a = toZMod b ↔ a = b := toZMod_injective.eq_iff

variable [NeZero p]

def ofZMod (z : ZMod p) : Fq p := ⟨z.val, ZMod.val_lt z⟩

@[simp] theorem toZMod_ofZMod (z : ZMod p) : toZMod (ofZMod z) = z := ZMod.natCast_zmod_val z

@[simp] theorem ofZMod_toZMod (a : Fq p) : ofZMod (toZMod a) = a :=
  toZMod_injective (toZMod_ofZMod _)

theorem toZMod_surjective : Function.Surjective (toZMod (p := p)) := fun z => ⟨ofZMod z, toZMod_ofZMod z⟩

theorem pmod_cast (z : ℤ) : ((pmod z p : ℕ) : ℤ) = z % (p : ℤ) := by
  unfold pmod
  exact Int.toNat_of_nonneg (Int.emod_nonneg _ (by exact_mod_cast NeZero.ne p))

/-- `FQ(z)` for an arbitrary Python int `z` (negative, `≥ p`) is the class of `z` -/
@[simp] theorem toZMod_ofInt (z : ℤ) : toZMod (ofInt z : Fq p) = (z : ZMod p) := by
  show ((pmod z p : ℕ) : ZMod p) = (z : ZMod p)
  rw [← Int.cast_natCast, pmod_cast, ZMod.intCast_mod]

theorem n_ofInt (z : ℤ) : ((ofInt z : Fq p).n : ℤ) = z % (p : ℤ) := pmod_cast z

@[simp] theorem toZMod_zero : toZMod (0 : Fq p) = 0 := by
  show toZMod (ofInt 0) = 0; simp
@[simp] theorem toZMod_one : toZMod (1 : Fq p) = 1 := by
  show toZMod (ofInt 1) = 1; simp
theorem toZMod_eq_zero {a : Fq p} : toZMod a = 0 ↔ a = 0 := by rw [← toZMod_zero, toZMod_inj]
@[simp] theorem toZMod_add (a b : Fq p) : toZMod (a + b) = toZMod a + toZMod b := by
  show toZMod (ofInt _) = _; rw [toZMod_ofInt]; simp [toZMod]
@[simp] theorem toZMod_mul (a b : Fq p) : toZMod (a * b) = toZMod a * toZMod b := by
  show toZMod (ofInt _) = _; rw [toZMod_ofInt]; simp [toZMod]
@[simp] theorem toZMod_sub (a b : Fq p) : toZMod (a - b) = toZMod a - toZMod b := by
  show toZMod (ofInt _) = _; rw [toZMod_ofInt]; simp [toZMod]
@[simp] theorem toZMod_neg (a : Fq p) : toZMod (-a) = -toZMod a := by
  show toZMod (ofInt _) = _; rw [toZMod_ofInt]; simp [toZMod]
@[simp] theorem toZMod_natCast (k : ℕ) : toZMod (k : Fq p) = (k : ZMod p) := by
  show toZMod (ofInt _) = _; simp
@[simp] theorem toZMod_intCast (k : ℤ) : toZMod (k : Fq p) = (k : ZMod p) := by
  show toZMod (ofInt _) = _; simp

-- the same about the named functions of the model
theorem toZMod_add' (a b : Fq p) : toZMod (add a b) = toZMod a + toZMod b := toZMod_add a b
theorem toZMod_mul' (a b : Fq p) : toZMod (mul a b) = toZMod a * toZMod b := toZMod_mul a b
theorem toZMod_sub' (a b : Fq p) : toZMod (sub a b) = toZMod a - toZMod b := toZMod_sub a b
theorem toZMod_neg' (a : Fq p) : toZMod (neg a) = -toZMod a := toZMod_neg a

@[simp] theorem toZMod_addInt (a : Fq p) (k : ℤ) : toZMod (addInt a k) = toZMod a + (k : ZMod p) := by
  unfold addInt; rw [toZMod_ofInt]; simp [toZMod]
@[simp] theorem toZMod_mulInt (a : Fq p) (k : ℤ) : toZMod (mulInt a k) = toZMod a * (k : ZMod p) := by
  unfold mulInt; rw [toZMod_ofInt]; simp [toZMod]
@[simp] theorem toZMod_subInt (a : Fq p) (k : ℤ) : toZMod (subInt a k) = toZMod a - (k : ZMod p) := by
  unfold subInt; rw [toZMod_ofInt]; simp [toZMod]
@[simp] theorem toZMod_rsubInt (a : Fq p) (k : ℤ) : toZMod (rsubInt a k) = (k : ZMod p) - toZMod a := by
  unfold rsubInt; rw [toZMod_ofInt]; simp [toZMod]

/-- `FQ.__pow__` (the iterative square-and-multiply of the `fix:` commit for defect F1) computes the `e`-th power,
    for every `e : ℕ` -/
@[simp] theorem toZMod_pow (a : Fq p) (e : ℕ) : toZMod (a ^ e) = toZMod a ^ e := by
  show toZMod (powAux e (ofInt 1) a e) = _
  rw [powLoop_eq (fun _ _ _ => rfl) (fun _ _ _ _ => rfl) toZMod toZMod_mul' e _ a e
    Nat.lt_two_pow_self, toZMod_ofInt, Int.cast_one, one_mul]

theorem toZMod_pow' (a : Fq p) (e : ℕ) : toZMod (pow a e) = toZMod a ^ e := toZMod_pow a e

instance instSMulNat : SMul ℕ (Fq p) := ⟨fun k a => mulInt a k⟩
instance instSMulInt : SMul ℤ (Fq p) := ⟨fun k a => mulInt a k⟩

theorem toZMod_nsmul (k : ℕ) (a : Fq p) : toZMod (k • a) = k • toZMod a := by
  show toZMod (mulInt a k) = _
  rw [toZMod_mulInt, nsmul_eq_mul, Int.cast_natCast, mul_comm]

theorem toZMod_zsmul (k : ℤ) (a : Fq p) : toZMod (k • a) = k • toZMod a := by
  show toZMod (mulInt a k) = _
  rw [toZMod_mulInt, zsmul_eq_mul, mul_comm]

/-- `Fq p` with the model's `+ * - 0 1 **` is a commutative ring (any modulus `p ≠ 0`) -/
instance instCommRing : CommRing (Fq p) :=
  toZMod_injective.commRing toZMod toZMod_zero toZMod_one toZMod_add toZMod_mul toZMod_neg
    toZMod_sub toZMod_nsmul toZMod_zsmul toZMod_pow toZMod_natCast toZMod_intCast

/-- the model of `FQ` is ring-isomorphic to `ZMod p` via `n ↦ n mod p` -/
def ringEquiv : Fq p ≃+* ZMod p where
  toFun := toZMod
  invFun := ofZMod
  left_inv := ofZMod_toZMod
  right_inv := toZMod_ofZMod
  map_mul' := toZMod_mul
  map_add' := toZMod_add

@[simp] theorem ringEquiv_apply (a : Fq p) : ringEquiv a = toZMod a := rfl
@[simp] theorem ringEquiv_symm_apply (z : ZMod p) : (ringEquiv (p := p)).symm z = ofZMod z := rfl

theorem foldl_replicate (a acc : Fq p) (n : ℕ) :
    (List.replicate n a).foldl mul acc = mul acc (pow a n) := by
  induction n generalizing acc with
  | zero => exact (mul_one acc).symm
  | succ n ih =>
    rw [List.replicate_succ, List.foldl_cons, ih]
    show acc * a * a ^ n = acc * a ^ (n + 1)
    rw [pow_succ', mul_assoc]

end Fq

namespace Fq
open FqSem
variable {p : ℕ} [Fact p.Prime]

@[simp] theorem toZMod_inv' (a : Fq p) : toZMod (inv a) = (toZMod a)⁻¹ := by
  unfold inv
  rw [toZMod_ofInt, primeFieldInv_spec Fact.out, Int.cast_natCast]; rfl

/-- `FQ.__truediv__` is division in `ZMod p` (with `x / 0 = 0`) -/
@[simp] theorem toZMod_div (a b : Fq p) : toZMod (a / b) = toZMod a / toZMod b := by
  show toZMod (ofInt _) = _
  rw [toZMod_ofInt, Int.cast_mul, primeFieldInv_spec Fact.out, Int.cast_natCast, Int.cast_natCast,
    div_eq_mul_inv]; rfl

theorem toZMod_div' (a b : Fq p) : toZMod (div a b) = toZMod a / toZMod b := toZMod_div a b

/-- `FQ / int` -/
@[simp] theorem toZMod_divInt (a : Fq p) (k : ℤ) : toZMod (divInt a k) = toZMod a / (k : ZMod p) := by
  unfold divInt
  rw [toZMod_ofInt, Int.cast_mul, primeFieldInv_spec Fact.out, Int.cast_natCast, div_eq_mul_inv]; rfl

/-- `int / FQ` -/
@[simp] theorem toZMod_rdivInt (a : Fq p) (k : ℤ) : toZMod (rdivInt a k) = (k : ZMod p) / toZMod a := by
  unfold rdivInt
  rw [toZMod_ofInt, Int.cast_mul, primeFieldInv_spec Fact.out, Int.cast_natCast, div_eq_mul_inv,
    mul_comm]; rfl

instance instInv : Inv (Fq p) := ⟨inv⟩

@[simp] theorem toZMod_inv (a : Fq p) : toZMod a⁻¹ = (toZMod a)⁻¹ := toZMod_inv' a

/-- for prime `p`, `Fq p` with the model's `/` and `inv` is a field -/
instance instField : Field (Fq p) :=
  { instCommRing with
    inv := inv
    div := div
    exists_pair_ne := ⟨0, 1, fun h => by
      have := congrArg toZMod h
      rw [toZMod_zero, toZMod_one] at this
      exact zero_ne_one this⟩
    mul_inv_cancel := fun a ha => by
      apply toZMod_injective
      rw [toZMod_mul, toZMod_inv', toZMod_one]
      exact mul_inv_cancel₀ (fun h => ha (toZMod_injective (h.trans toZMod_zero.symm)))
    inv_zero := by
      apply toZMod_injective
      rw [toZMod_inv', toZMod_zero, inv_zero]
    div_eq_mul_inv := fun a b => by
      apply toZMod_injective
      rw [toZMod_div, toZMod_mul, toZMod_inv', div_eq_mul_inv]
    nnqsmul := _
    nnqsmul_def := fun _ _ => rfl
    qsmul := _
    qsmul_def := fun _ _ => rfl }

theorem ringEquiv_inv (a : Fq p) : ringEquiv a⁻¹ = (ringEquiv a)⁻¹ := toZMod_inv a
theorem ringEquiv_div (a b : Fq p) : ringEquiv (a / b) = ringEquiv a / ringEquiv b := toZMod_div a b

end Fq
end PyEcc

/-- `toZMod : Fq p → ZMod p` preserves every operation of the generated curve code, so the code commutes
    with it (`Lemmas/TransferOptBls.lean`, `Lemmas/TransferOptBn.lean`): what is evaluated over `ZMod p`
    holds of the model run on `Fq p` -/
theorem PyEcc.Transfer.opHom_toZMod {p : ℕ} [Fact p.Prime] : OpHom (Fq.toZMod : Fq p → ZMod p) :=
  ⟨Fq.toZMod_zero, Fq.toZMod_one, Fq.toZMod_add, Fq.toZMod_sub, Fq.toZMod_mul, Fq.toZMod_neg,
    Fq.toZMod_div, Fq.toZMod_natCast, Fq.toZMod_pow, Fq.toZMod_injective⟩
