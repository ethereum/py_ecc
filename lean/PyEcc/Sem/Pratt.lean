/-
  PyEcc.Sem.Pratt — primality from Pratt certificates.  `powMod` (bitwise square-and-multiply) with
  `powMod_cast` (its value in `ZMod m`); `pratt_step`, the Lucas/Pratt step from computable checks; the
  windowed `powModW` (`powModW_eq`), which the table checker uses instead of `powMod` because the kernel
  unfolds one step of it per eight bits of the exponent, on its built-in `^ * %`, where `powMod` takes one per
  bit; certificate rows `Row`, the checkers `rowOk`, `tableOk`, and their soundness `prime_of_tableOk`.
-/
import Mathlib.NumberTheory.LucasPrimality
import Mathlib.Tactic.NormNum.Prime
import PyEcc.Lemmas.PowLoop

namespace PyEcc.Pratt

def powModAux : Nat → Nat → Nat → Nat → Nat → Nat
  | 0, _, _, _, acc => acc
  | fuel+1, a, e, m, acc =>
    if e = 0 then acc
    else powModAux fuel (a * a % m) (e / 2) m (if e % 2 = 1 then acc * a % m else acc)

def powMod (a e m : Nat) : Nat := powModAux (e.log2 + 1) (a % m) e m (1 % m)

theorem powMod_cast (a e m : Nat) : ((powMod a e m : ℕ) : ZMod m) = (a : ZMod m) ^ e :=
  (powLoop_eq (aux := fun f o t e => powModAux f t e m o) (mul := fun a b => a * b % m)
    (fun _ _ _ => rfl) (fun _ _ _ _ => rfl) (fun n : ℕ => (n : ZMod m))
    (fun a b => by rw [ZMod.natCast_mod, Nat.cast_mul]) _ (1 % m) (a % m) e Nat.lt_log2_self).trans
    (by rw [ZMod.natCast_mod, ZMod.natCast_mod, Nat.cast_one, one_mul])

/-- Lucas/Pratt step from computable checks: `fs` lists the prime factors of `p - 1`
with multiplicities (`(q, e)`), each `q` already known prime. -/
theorem pratt_step (p a : ℕ) (fs : List (ℕ × ℕ)) (hp1 : 1 < p)
    (h1 : powMod a (p - 1) p % p = 1)
    (hprod : (fs.map (fun qe => qe.1 ^ qe.2)).prod = p - 1)
    (hfs : ∀ qe ∈ fs, qe.1.Prime ∧ powMod a ((p - 1) / qe.1) p % p ≠ 1) : p.Prime := by
  have h1p : 1 % p = 1 := Nat.mod_eq_of_lt hp1
  have hmod : ∀ x : ℕ, ((x : ZMod p) = 1 ↔ x % p = 1) := by
    intro x
    have := ZMod.natCast_eq_natCast_iff' x 1 p
    rw [Nat.cast_one, h1p] at this
    exact this
  apply lucas_primality p (a : ZMod p)
  · rw [← powMod_cast]; exact (hmod _).mpr h1
  · intro q hq hdvd
    rw [← hprod] at hdvd
    obtain ⟨x, hx, hqx⟩ := (Prime.dvd_prod_iff hq.prime).mp hdvd
    obtain ⟨qe, hqe, rfl⟩ := List.mem_map.mp hx
    have hq' := (hfs qe hqe).1
    have hdq : q ∣ qe.1 := hq.prime.dvd_of_dvd_pow hqx
    have heq : q = qe.1 := (Nat.prime_dvd_prime_iff_eq hq hq').mp hdq
    subst heq
    intro hcontra
    apply (hfs qe hqe).2
    rw [← powMod_cast] at hcontra
    exact (hmod _).mp hcontra

theorem powMod_mod (a e m : ℕ) : powMod a e m % m = a ^ e % m :=
  (ZMod.natCast_eq_natCast_iff' _ _ _).mp (by rw [powMod_cast, Nat.cast_pow])

/-- `a ^ e % m`, eight bits of `e` at a step.  The kernel computes `^`, `*`, `%` on literals natively, so
a step costs it no more than one of the one-bit steps of `powMod`.  The recursion stops at `e = 0`;
`fuel` only makes it structural. -/
def powW (a m : ℕ) : ℕ → ℕ → ℕ
  | 0, _ => 1 % m
  | fuel + 1, e => if e = 0 then 1 % m else powW a m fuel (e / 256) ^ 256 * a ^ (e % 256) % m

theorem powW_eq (a m : ℕ) : ∀ fuel e, e < 256 ^ fuel → powW a m fuel e = a ^ e % m
  | 0, e, h => by
    obtain rfl : e = 0 := by simpa using h
    rfl
  | fuel + 1, e, h => by
    rw [powW]
    split_ifs with he
    · rw [he, pow_zero]
    · rw [powW_eq a m fuel _ (Nat.div_lt_of_lt_mul (by rwa [pow_succ'] at h))]
      conv_rhs => rw [← Nat.div_add_mod e 256, pow_add, pow_mul']
      exact ((Nat.mod_modEq _ _).pow 256).mul_right _

def powModW (a e m : ℕ) : ℕ := powW a m e e

theorem powModW_eq (a e m : ℕ) : powModW a e m = a ^ e % m :=
  powW_eq a m e e (Nat.lt_pow_self (by norm_num))

/-- Trial division: no `m ≥ d` with `m * m ≤ q` divides `q` (`false` when the fuel runs out first).  Written with
`Nat.blt`, `Nat.beq` and the Boolean connectives, which the kernel evaluates without unfolding `Decidable` instances. -/
def noDivFrom (q : ℕ) : ℕ → ℕ → Bool
  | 0, _ => false
  | fuel + 1, d => Nat.blt q (d * d) || (!Nat.beq (q % d) 0 && noDivFrom q fuel (d + 1))

theorem noDivFrom_sound (q : ℕ) : ∀ fuel d, noDivFrom q fuel d = true → ∀ m, d ≤ m → m * m ≤ q → ¬m ∣ q
  | 0, _, h => nomatch h
  | fuel + 1, d, h => fun m hdm hmq hm => by
    simp only [noDivFrom, Bool.or_eq_true, Bool.and_eq_true, Nat.blt_eq, Bool.not_eq_true'] at h
    rcases h with h | ⟨h2, h3⟩
    · exact absurd (Nat.mul_le_mul hdm hdm) (by omega)
    · rcases Nat.eq_or_lt_of_le hdm with rfl | hlt
      · exact Nat.ne_of_beq_eq_false h2 (Nat.mod_eq_zero_of_dvd hm)
      · exact noDivFrom_sound q fuel (d + 1) h3 m hlt hmq hm

/-- Primes below `2 ^ 16` need no certificate row: `256` rounds of trial division decide them. -/
def smallPrime (q : ℕ) : Bool := decide (1 < q) && noDivFrom q 256 2

theorem prime_of_smallPrime {q : ℕ} (h : smallPrime q = true) : q.Prime := by
  simp only [smallPrime, Bool.and_eq_true, decide_eq_true_eq] at h
  exact Nat.prime_def_le_sqrt.mpr
    ⟨h.1, fun m h2 hm => noDivFrom_sound q _ _ h.2 m h2 (Nat.le_sqrt.mp hm)⟩

/-- Certificate row `(p, a, qs)`: `a` is a primitive root modulo `p`, `qs` the prime factors of `p - 1`
with repetition. -/
abbrev Row := ℕ × ℕ × List ℕ

/-- The hypotheses of `pratt_step` for one row, computed; a factor counts as prime when trial division says
so or it is in `known`.  (`Nat.beq`, which the kernel has built in, and not `==`, which it would unfold through
its instances at every element of `known`.) -/
def rowOk (known : List ℕ) (r : Row) : Bool :=
  decide (1 < r.1) && powModW r.2.1 (r.1 - 1) r.1 == 1 && r.2.2.prod == r.1 - 1 &&
    r.2.2.all fun q => (if q < 65536 then smallPrime q else known.any (Nat.beq q)) &&
      powModW r.2.1 ((r.1 - 1) / q) r.1 != 1

/-- `q ∣ p - 1` gives `q < p`, so only the smaller elements of `known` have to be prime. -/
theorem prime_of_rowOk {known : List ℕ} {r : Row} (hk : ∀ q ∈ known, q < r.1 → q.Prime)
    (h : rowOk known r = true) : r.1.Prime := by
  simp only [rowOk, Bool.and_eq_true, decide_eq_true_eq, beq_iff_eq, bne_iff_ne, List.all_eq_true,
    powModW_eq] at h
  obtain ⟨⟨⟨hp1, h1⟩, hprod⟩, hqs⟩ := h
  refine pratt_step r.1 r.2.1 (r.2.2.map (·, 1)) hp1 (by rwa [powMod_mod])
    (by simpa [Function.comp_def] using hprod) fun qe hqe => ?_
  obtain ⟨q, hq, rfl⟩ := List.mem_map.mp hqe
  have hlt : q < r.1 := by
    have := Nat.le_of_dvd (by omega) (hprod ▸ List.dvd_prod hq)
    omega
  refine ⟨?_, by rw [powMod_mod]; exact (hqs q hq).2⟩
  have hq1 := (hqs q hq).1
  split_ifs at hq1
  · exact prime_of_smallPrime hq1
  · simp only [List.any_eq_true, Nat.beq_eq, exists_eq_right'] at hq1
    exact hk q hq1 hlt

/-- Every row is checked against the primes of the whole table and `known`; the table need not be ordered. -/
def tableOk (known : List ℕ) (rows : List Row) : Bool :=
  rows.all (rowOk (rows.map Prod.fst ++ known))

theorem prime_of_tableOk {known : List ℕ} {rows : List Row} (hk : ∀ q ∈ known, q.Prime)
    (h : tableOk known rows = true) : ∀ p ∈ rows.map Prod.fst, p.Prime := by
  intro p
  induction p using Nat.strong_induction_on with
  | _ p ih =>
    intro hp
    obtain ⟨r, hr, rfl⟩ := List.mem_map.mp hp
    refine prime_of_rowOk (fun q hq hlt => ?_) (List.all_eq_true.mp h r hr)
    exact (List.mem_append.mp hq).elim (ih q hlt) (hk q)

end PyEcc.Pratt
