/-
  The coefficient-list model `PyEcc.Fqp` of `FQP`/`FQ2`/`FQ12` read in the quotient ring
  `(ZMod p)[X] / (X^d + Σ mcᵢ Xⁱ)`: `ev p l` is the polynomial `Σ lᵢ Xⁱ`, `modulus p mc = X^d + ev mc` (monic,
  `d = mc.length`), `evQ p mc l` the class of `ev p l`, `toQ x` that of an element's list.  An index loop of the model
  adds a sum of monomials to `ev` (`foldl_updAt`), so every operation is the ring operation of the quotient
  (`toQ_add … toQ_pow`); two canonical lists with the same class are equal (`evQ_inj`); products and powers are stored
  reduced whatever the operands look like (`mul_canon`, `pow_canon`).
-/
import Mathlib.RingTheory.AdjoinRoot
import Mathlib.Data.ZMod.Basic
import Mathlib.Algebra.Polynomial.Monic
import PyEcc.Lemmas.FqpList
import PyEcc.Lemmas.PowLoop

namespace PyEcc.FqpSem
open Polynomial PyEcc.Fqp

/-- `Σ lᵢ Xⁱ` over `ZMod p` (lowest degree first). -/
noncomputable def ev (p : ℕ) : List Int → (ZMod p)[X]
  | [] => 0
  | c :: cs => C (c : ZMod p) + X * ev p cs

variable {p : ℕ}

@[simp] theorem ev_nil : ev p [] = 0 := rfl
@[simp] theorem ev_cons (c : Int) (cs : List Int) : ev p (c :: cs) = C (c : ZMod p) + X * ev p cs := rfl

theorem ev_append (a b : List Int) : ev p (a ++ b) = ev p a + X ^ a.length * ev p b := by
  induction a with
  | nil => simp
  | cons x xs ih =>
    rw [List.cons_append, ev_cons, ev_cons, ih, List.length_cons, pow_succ', mul_add, add_assoc,
      mul_assoc]

theorem ev_replicate_zero (n : Nat) : ev p (List.replicate n 0) = 0 := by
  induction n with
  | zero => rfl
  | succ n ih => simp [List.replicate_succ, ih]

theorem ev_map_mod (l : List Int) : ev p (l.map (fun c => c % (p : Int))) = ev p l := by
  induction l with
  | nil => rfl
  | cons x xs ih => rw [List.map_cons, ev_cons, ev_cons, ih, ZMod.intCast_mod]

theorem ev_updAt (l : List Int) (i : Nat) (f : Int → Int) (h : i < l.length) :
    ev p (updAt l i f) = ev p l + C (((f (getI l i) - getI l i : ℤ)) : ZMod p) * X ^ i := by
  induction l generalizing i with
  | nil => simp at h
  | cons x xs ih =>
    cases i with
    | zero =>
      rw [updAt, ev_cons, ev_cons, getI_cons_zero, pow_zero, mul_one, add_right_comm, ← C_add,
        Int.cast_sub, add_sub_cancel]
    | succ i =>
      rw [updAt, ev_cons, ev_cons, getI_cons_succ, ih i (Nat.lt_of_succ_lt_succ h), mul_add,
        add_assoc, pow_succ', mul_left_comm]

theorem ev_eq_sum (l : List Int) :
    ev p l = ∑ i ∈ Finset.range l.length, C ((getI l i : ℤ) : ZMod p) * X ^ i := by
  induction l with
  | nil => rfl
  | cons x xs ih =>
    rw [List.length_cons, Finset.sum_range_succ', ev_cons, ih, Finset.mul_sum, add_comm]
    simp only [getI_cons_succ, getI_cons_zero, pow_zero, mul_one, pow_succ', mul_left_comm X]

theorem ev_eq_sum_of_le (l : List Int) (n : Nat) (h : l.length ≤ n) :
    ev p l = ∑ i ∈ Finset.range n, C ((getI l i : ℤ) : ZMod p) * X ^ i := by
  rw [ev_eq_sum]
  apply Finset.sum_subset (by simpa using h)
  intro i _ hi
  rw [getI_of_le l i (by simpa using hi), Int.cast_zero, C_0, zero_mul]

theorem coeff_ev (l : List Int) (i : Nat) : (ev p l).coeff i = ((getI l i : ℤ) : ZMod p) := by
  induction l generalizing i with
  | nil => simp [getI_nil]
  | cons x xs ih =>
    cases i with
    | zero => simp
    | succ i => rw [ev_cons, coeff_add, coeff_C_succ, coeff_X_mul, ih, zero_add, getI_cons_succ]

theorem degree_ev_lt (l : List Int) : (ev p l).degree < l.length := by
  rw [degree_lt_iff_coeff_zero]
  intro m hm
  rw [coeff_ev, getI_of_le l m (by exact_mod_cast hm), Int.cast_zero]

theorem ev_dropLast (l : List Int) (h : l ≠ []) :
    ev p l = ev p l.dropLast + C (((l.getLast?.getD 0 : ℤ)) : ZMod p) * X ^ (l.length - 1) := by
  conv_lhs => rw [← List.dropLast_append_getLast h]
  rw [ev_append, List.length_dropLast, List.getLast?_eq_some_getLast h, Option.getD_some, ev_cons,
    ev_nil, mul_zero, add_zero, mul_comm]

theorem ev_zipWith_add (a b : List Int) (h : a.length = b.length) :
    ev p (List.zipWith (· + ·) a b) = ev p a + ev p b := by
  induction a generalizing b with
  | nil => cases b <;> simp_all
  | cons x xs ih =>
    cases b with
    | nil => simp at h
    | cons y ys =>
      rw [List.zipWith_cons_cons, ev_cons, ev_cons, ev_cons, ih ys (Nat.succ_injective h),
        Int.cast_add, C_add, mul_add, add_add_add_comm]

theorem ev_map_neg (a : List Int) : ev p (a.map (fun c => -c)) = - ev p a := by
  induction a with
  | nil => simp
  | cons x xs ih => rw [List.map_cons, ev_cons, ev_cons, ih, Int.cast_neg, C_neg, mul_neg, neg_add]

theorem ev_zipWith_sub (a b : List Int) (h : a.length = b.length) :
    ev p (List.zipWith (· - ·) a b) = ev p a - ev p b := by
  rw [sub_eq_add_neg, ← ev_map_neg, ← ev_zipWith_add _ _ (h.trans (List.length_map _).symm),
    List.zipWith_map_right]
  simp only [sub_eq_add_neg]

theorem ev_map_mul (a : List Int) (k : Int) :
    ev p (a.map (fun c => c * k)) = ev p a * C ((k : ℤ) : ZMod p) := by
  induction a with
  | nil => simp
  | cons x xs ih =>
    rw [List.map_cons, ev_cons, ev_cons, ih, Int.cast_mul, C_mul, add_mul, mul_assoc]

/-- A loop `for j in js: acc[idx j] = f j (acc[idx j])` whose body adds `δ j` (modulo `p`) to the entry
    adds `Σ δ j · X^(idx j)` to the polynomial. -/
theorem foldl_updAt {α : Type} (idx : α → Nat) (f : α → Int → Int) (δ : α → ZMod p)
    (hf : ∀ j x, ((f j x : ℤ) : ZMod p) = (x : ZMod p) + δ j)
    (js : List α) (acc : List Int) (h : ∀ j ∈ js, idx j < acc.length) :
    ev p (js.foldl (fun acc j => updAt acc (idx j) (f j)) acc) =
      ev p acc + (js.map (fun j => C (δ j) * X ^ (idx j))).sum := by
  induction js generalizing acc with
  | nil => simp
  | cons j js ih =>
    rw [List.foldl_cons, ih _ fun j' hj' => by rw [length_updAt]; exact h j' (List.mem_cons_of_mem _ hj'),
      ev_updAt _ _ _ (h j List.mem_cons_self), List.map_cons, List.sum_cons, Int.cast_sub, hf,
      add_sub_cancel_left, add_assoc]

theorem sum_map_range {M : Type*} [AddCommMonoid M] (g : ℕ → M) (n : ℕ) :
    ((List.range n).map g).sum = ∑ i ∈ Finset.range n, g i := by
  induction n with
  | zero => simp
  | succ n ih => simp [List.range_succ, Finset.sum_range_succ, ih]

/-- The double loop `for i in range(n): for j in range(k i): acc[i + j] = f i j (acc[i + j])`, under the
    same hypothesis on the body. -/
theorem foldl_updAt₂ (k : ℕ → ℕ) (f : ℕ → ℕ → Int → Int) (δ : ℕ → ℕ → ZMod p)
    (hf : ∀ i j x, ((f i j x : ℤ) : ZMod p) = (x : ZMod p) + δ i j) (acc : List Int) :
    ∀ n, (∀ i < n, ∀ j < k i, i + j < acc.length) →
    ev p ((List.range n).foldl (fun acc i =>
        (List.range (k i)).foldl (fun acc j => updAt acc (i + j) (f i j)) acc) acc) =
      ev p acc + ∑ i ∈ Finset.range n, ∑ j ∈ Finset.range (k i), C (δ i j) * X ^ (i + j) := by
  intro n
  induction n with
  | zero => intro _; simp
  | succ n ih =>
    intro h
    rw [List.range_succ, List.foldl_append, List.foldl_cons, List.foldl_nil,
      foldl_updAt (fun j => n + j) (f n) (δ n) (hf n), sum_map_range,
      ih fun i hi => h i (Nat.lt_succ_of_lt hi), Finset.sum_range_succ, add_assoc]
    intro j hj
    rw [length_foldl _ fun acc i => length_foldl _ (fun acc j => length_updAt ..) ..]
    exact h n n.lt_succ_self j (List.mem_range.mp hj)

/-- the product of two coefficient lists as the double sum that the product loops build up -/
theorem ev_mul_ev (a b : List Int) (n : Nat) (ha : a.length ≤ n) (hb : b.length ≤ n) :
    ev p a * ev p b = ∑ i ∈ Finset.range n, ∑ j ∈ Finset.range n,
      C (((getI a i : ℤ) : ZMod p) * ((getI b j : ℤ) : ZMod p)) * X ^ (i + j) := by
  rw [ev_eq_sum_of_le a n ha, ev_eq_sum_of_le b n hb, Finset.sum_mul_sum]
  refine Finset.sum_congr rfl fun i _ => Finset.sum_congr rfl fun j _ => ?_
  rw [C_mul, pow_add, mul_mul_mul_comm]

theorem ev_convLoop (red : Int → Int) (hred : ∀ x, ((red x : ℤ) : ZMod p) = (x : ZMod p))
    (a b : List Int) (d : Nat) (ha : a.length ≤ d) (hb : b.length ≤ d) :
    ev p (convLoop red a b d) = ev p a * ev p b := by
  rw [convLoop, foldl_updAt₂ (fun _ => d) (fun i j x => red (x + red (getI a i * getI b j)))
      (fun i j => ((getI a i : ℤ) : ZMod p) * ((getI b j : ℤ) : ZMod p))
      (fun i j x => by rw [hred, Int.cast_add, hred, Int.cast_mul]) _ d
      (fun i hi j hj => by rw [List.length_replicate]; omega),
    ev_replicate_zero, zero_add, ev_mul_ev a b d ha hb]

/-- `X^d + Σ mcᵢ Xⁱ`, the modulus polynomial of the extension (`d = mc.length`). -/
noncomputable def modulus (p : ℕ) (mc : List Int) : (ZMod p)[X] := X ^ mc.length + ev p mc

theorem modulus_monic (mc : List Int) : (modulus p mc).Monic :=
  monic_X_pow_add (degree_ev_lt mc)

theorem natDegree_modulus [Nontrivial (ZMod p)] (mc : List Int) :
    (modulus p mc).natDegree = mc.length := by
  apply natDegree_eq_of_degree_eq_some
  unfold modulus
  rw [degree_add_eq_left_of_degree_lt (by rw [degree_X_pow]; exact degree_ev_lt mc), degree_X_pow]

/-- class of `Σ lᵢ Xⁱ` in `(ZMod p)[X] / (modulus)` -/
noncomputable def evQ (p : ℕ) (mc : List Int) (l : List Int) : AdjoinRoot (modulus p mc) :=
  AdjoinRoot.mk (modulus p mc) (ev p l)

/-- equal up to a multiple of the modulus: the same class -/
theorem evQ_eq_of_ev {mc b b' : List Int} {q : (ZMod p)[X]}
    (h : ev p b' = ev p b - q * modulus p mc) : evQ p mc b' = evQ p mc b := by
  unfold evQ
  rw [h, RingHom.map_sub, sub_eq_self, AdjoinRoot.mk_eq_zero]
  exact dvd_mul_left _ _

/-- popping the top coefficient `t` of `b` and subtracting `t·X^exp·Σ mcᵢXⁱ` subtracts `t·X^exp·m` -/
theorem ev_pop (mc : List Int) (exp : Nat) (b : List Int) (hb : b.length = exp + mc.length + 1) :
    ev p b.dropLast + -(C ((b.getLast?.getD 0 : ℤ) : ZMod p) * X ^ exp * ev p mc) =
      ev p b - C ((b.getLast?.getD 0 : ℤ) : ZMod p) * X ^ exp * modulus p mc := by
  rw [ev_dropLast b (by rintro rfl; simp at hb), hb, Nat.add_sub_cancel, modulus, pow_add, mul_add,
    ← mul_assoc, ← sub_sub, add_sub_cancel_right, sub_eq_add_neg]

theorem sum_mcRange (mc : List Int) (top : Int) (exp : Nat) :
    ∑ i ∈ Finset.range mc.length, C ((-(top * getI mc i) : ℤ) : ZMod p) * X ^ (exp + i) =
      -(C ((top : ℤ) : ZMod p) * X ^ exp * ev p mc) := by
  rw [ev_eq_sum mc, Finset.mul_sum, ← Finset.sum_neg_distrib]
  refine Finset.sum_congr rfl fun i _ => ?_
  rw [Int.cast_neg, Int.cast_mul, C_neg, C_mul, pow_add, neg_mul, mul_mul_mul_comm]

theorem sum_map_filter {α M : Type*} [AddMonoid M] (q : α → Bool) (g : α → M) (l : List α)
    (h : ∀ x ∈ l, q x = false → g x = 0) : ((l.filter q).map g).sum = (l.map g).sum := by
  induction l with
  | nil => rfl
  | cons x xs ih =>
    have ih := ih fun y hy => h y (List.mem_cons_of_mem _ hy)
    cases hq : q x
    · rw [List.filter_cons_of_neg (by rw [hq]; decide), ih, List.map_cons, List.sum_cons,
        h x List.mem_cons_self hq, zero_add]
    · rw [List.filter_cons_of_pos hq, List.map_cons, List.sum_cons, ih, List.map_cons, List.sum_cons]

/-- one round of the reference reduction: pop `top`, subtract `top·X^exp·m` -/
theorem refStep_spec (mc : List Int) (exp : Nat) (b : List Int)
    (hb : b.length = exp + mc.length + 1) :
    ev p ((List.range mc.length).foldl (fun acc i => updAt acc (exp + i) (fun x =>
        (x - (b.getLast?.getD 0 * (getI mc i % (p : Int))) % (p : Int)) % (p : Int))) b.dropLast) =
      ev p b - C ((b.getLast?.getD 0 : ℤ) : ZMod p) * X ^ exp * modulus p mc := by
  rw [foldl_updAt (fun i => exp + i) _ (fun i => ((-(b.getLast?.getD 0 * getI mc i) : ℤ) : ZMod p))
      (fun j x => by
        rw [ZMod.intCast_mod, Int.cast_sub, ZMod.intCast_mod, Int.cast_mul, ZMod.intCast_mod,
          Int.cast_neg, Int.cast_mul, sub_eq_add_neg])
      _ _ (fun j hj => by rw [List.length_dropLast]; have := List.mem_range.mp hj; omega),
    sum_map_range, sum_mcRange, ev_pop mc exp b hb]

/-- one round of the optimized reduction -/
theorem optStep_spec (mc : List Int) (exp : Nat) (b : List Int)
    (hb : b.length = exp + mc.length + 1) :
    ev p (((List.zip (List.range mc.length) mc).filter (fun ic => ic.2 ≠ 0)).foldl
        (fun acc ic => updAt acc (exp + ic.1) (fun x => x - b.getLast?.getD 0 * ic.2)) b.dropLast) =
      ev p b - C ((b.getLast?.getD 0 : ℤ) : ZMod p) * X ^ exp * modulus p mc := by
  rw [foldl_updAt (fun ic : Nat × Int => exp + ic.1) _
      (fun ic => ((-(b.getLast?.getD 0 * ic.2) : ℤ) : ZMod p))
      (fun j x => by rw [Int.cast_sub, Int.cast_neg, sub_eq_add_neg])
      _ _ (fun ic hic => by
        have h1 := List.mem_range.mp (List.of_mem_zip (List.mem_filter.mp hic).1).1
        rw [List.length_dropLast]; omega),
    sum_map_filter _ _ _ fun ic _ h => by
      rw [not_not.mp (of_decide_eq_false h), mul_zero, neg_zero, Int.cast_zero, C_0, zero_mul],
    zip_range_eq_map, List.map_map, sum_map_range]
  exact (congrArg _ (sum_mcRange mc _ exp)).trans (ev_pop mc exp b hb)

theorem evQ_refReduce (mc : List Int) : ∀ (f : Nat) (b : List Int),
    evQ p mc (refReduce p mc mc.length f b) = evQ p mc b := by
  intro f
  induction f with
  | zero => intro b; rfl
  | succ f ih =>
    intro b
    unfold refReduce
    split
    · exact (ih _).trans (evQ_eq_of_ev (refStep_spec mc _ b (by omega)))
    · rfl

theorem downTo_succ (n : Nat) : downTo (n + 1) = (n + 1) :: downTo n := by
  unfold downTo
  rw [List.range_succ, List.reverse_append]; rfl

theorem evQ_optReduce_loop (mc : List Int) : ∀ (n : Nat) (b : List Int),
    b.length = n + mc.length + 1 →
    evQ p mc ((downTo n).foldl (fun (b : List Int) (exp : Nat) =>
      ((List.zip (List.range mc.length) mc).filter (fun ic => ic.2 ≠ 0)).foldl
        (fun acc ic => updAt acc (exp + ic.1) (fun x => x - b.getLast?.getD 0 * ic.2)) b.dropLast)
      b) = evQ p mc b := by
  intro n
  induction n with
  | zero => intro b hb; exact evQ_eq_of_ev (optStep_spec mc 0 b hb)
  | succ n ih =>
    intro b hb
    rw [downTo_succ, List.foldl_cons, ih _ (by
      rw [length_foldl _ fun _ _ => length_updAt .., List.length_dropLast]; omega)]
    exact evQ_eq_of_ev (optStep_spec mc (n + 1) b hb)

theorem evQ_optReduce (mc : List Int) (b : List Int) (hb : b.length = mc.length * 2 - 1) :
    evQ p mc (optReduce mc mc.length b) = evQ p mc b := by
  unfold optReduce
  split
  · rfl
  · exact evQ_optReduce_loop mc (mc.length - 2) b (by omega)

def CanonL (p d : ℕ) (l : List Int) : Prop := l.length = d ∧ ∀ c ∈ l, 0 ≤ c ∧ c < (p : Int)

instance (p d : ℕ) (l : List Int) : Decidable (CanonL p d l) := by unfold CanonL; infer_instance

theorem canonL_map_mod (hp : 0 < p) (l : List Int) :
    CanonL p l.length (l.map (fun c => c % (p : Int))) := by
  refine ⟨by simp, ?_⟩
  intro c hc
  obtain ⟨x, _, rfl⟩ := List.mem_map.mp hc
  have : (0 : Int) < p := by exact_mod_cast hp
  exact ⟨Int.emod_nonneg _ this.ne', Int.emod_lt_of_pos _ this⟩

theorem ev_inj {d : ℕ} {a b : List Int} (ha : CanonL p d a) (hb : CanonL p d b)
    (h : ev p a = ev p b) : a = b := by
  apply List.ext_getElem (ha.1.trans hb.1.symm)
  intro i h1 h2
  have hc := congrArg (fun q => q.coeff i) h
  simp only [coeff_ev, getI, List.getD_eq_getElem?_getD, List.getElem?_eq_getElem h1,
    List.getElem?_eq_getElem h2, Option.getD_some] at hc
  rw [ZMod.intCast_eq_intCast_iff'] at hc
  have ba := ha.2 _ (List.getElem_mem h1)
  have bb := hb.2 _ (List.getElem_mem h2)
  rwa [Int.emod_eq_of_lt ba.1 ba.2, Int.emod_eq_of_lt bb.1 bb.2] at hc

/-- the power basis argument: canonical coefficient lists with the same class are equal -/
theorem evQ_inj {mc a b : List Int} (ha : CanonL p mc.length a) (hb : CanonL p mc.length b)
    (h : evQ p mc a = evQ p mc b) : a = b := by
  apply ev_inj ha hb
  rcases subsingleton_or_nontrivial (ZMod p) with hs | hn
  · exact Subsingleton.elim _ _
  · unfold evQ at h
    rw [AdjoinRoot.mk_eq_mk] at h
    by_contra hne
    have hne' : ev p a - ev p b ≠ 0 := sub_ne_zero.mpr hne
    refine (modulus_monic mc).not_dvd_of_natDegree_lt hne' ?_ h
    rw [natDegree_modulus]
    have hdeg : (ev p a - ev p b).degree < (mc.length : ℕ) := by
      refine lt_of_le_of_lt (degree_sub_le _ _) (max_lt ?_ ?_)
      · simpa [ha.1] using degree_ev_lt (p := p) a
      · simpa [hb.1] using degree_ev_lt (p := p) b
    exact (natDegree_lt_iff_degree_lt hne').mpr hdeg

section ops
variable {v : Variant} {mc : List Int}

/-- canonical element: well-formed with all coefficients in `[0, p)` (what every constructor and
    operation of the Python classes produces) -/
def Canon (x : Fqp v p mc) : Prop := CanonL p mc.length x.coeffs

/-- the value of an element in `(ZMod p)[X] / (X^d + Σ mcᵢ Xⁱ)` -/
noncomputable def toQ (x : Fqp v p mc) : AdjoinRoot (modulus p mc) := evQ p mc x.coeffs

instance (x : Fqp v p mc) : Decidable (Canon x) := by unfold Canon; infer_instance

theorem Canon.wf {x : Fqp v p mc} (h : Canon x) : WF x := h.1

theorem toQ_inj {x y : Fqp v p mc} (hx : Canon x) (hy : Canon y) (h : toQ x = toQ y) : x = y := by
  cases x; cases y
  simp only [Fqp.mk.injEq]
  exact evQ_inj hx hy h

theorem toQ_ofInts (cs : List Int) : toQ (ofInts cs : Fqp v p mc) = evQ p mc cs := by
  rw [toQ, ofInts, evQ, ev_map_mod]; rfl

theorem canon_ofInts (hp : 0 < p) {cs : List Int} (h : cs.length = mc.length) :
    Canon (ofInts cs : Fqp v p mc) := by
  have := canonL_map_mod hp cs
  rwa [h] at this

theorem toQ_zero : toQ (zero : Fqp v p mc) = 0 := by
  rw [zero, toQ_ofInts, evQ, ev_replicate_zero, RingHom.map_zero]

theorem toQ_ofIntScalar (k : Int) :
    toQ (ofIntScalar k : Fqp v p mc) = ((k : ℤ) : AdjoinRoot (modulus p mc)) := by
  rw [ofIntScalar, toQ_ofInts, evQ, ev_cons, ev_replicate_zero, mul_zero, add_zero, C_eq_intCast,
    map_intCast]

theorem toQ_one : toQ (one : Fqp v p mc) = 1 :=
  (toQ_ofIntScalar 1).trans Int.cast_one

theorem toQ_add {a b : Fqp v p mc} (ha : WF a) (hb : WF b) : toQ (add a b) = toQ a + toQ b := by
  rw [add, toQ_ofInts, evQ, ev_zipWith_add _ _ (ha.trans hb.symm), RingHom.map_add]; rfl

theorem toQ_sub {a b : Fqp v p mc} (ha : WF a) (hb : WF b) : toQ (sub a b) = toQ a - toQ b := by
  rw [sub, toQ_ofInts, evQ, ev_zipWith_sub _ _ (ha.trans hb.symm), RingHom.map_sub]; rfl

theorem toQ_neg (a : Fqp v p mc) : toQ (neg a) = - toQ a := by
  rw [neg, toQ_ofInts, evQ, ev_map_neg, RingHom.map_neg]; rfl

theorem toQ_mulInt (a : Fqp v p mc) (k : Int) :
    toQ (mulInt a k) = toQ a * ((k : ℤ) : AdjoinRoot (modulus p mc)) := by
  rw [mulInt, toQ_ofInts, evQ, ev_map_mul, RingHom.map_mul, C_eq_intCast, map_intCast]; rfl

theorem mul_canon (hp : 0 < p) (a b : Fqp v p mc) : Canon (mul a b) := by
  obtain ⟨cs, h, e⟩ := mul_eq_ofInts a b
  rw [e]; exact canon_ofInts hp h

theorem toQ_mul {a b : Fqp v p mc} (ha : WF a) (hb : WF b) : toQ (mul a b) = toQ a * toQ b := by
  cases v
  · show toQ (ofInts _) = _
    rw [toQ_ofInts, evQ_refReduce, evQ, ev_convLoop _ (fun x => ZMod.intCast_mod x p) _ _ _ ha.le hb.le,
      RingHom.map_mul]; rfl
  · show toQ (ofInts _) = _
    rw [toQ_ofInts, evQ_optReduce _ _ (length_convLoop ..), evQ,
      ev_convLoop id (fun _ => rfl) _ _ _ ha.le hb.le, RingHom.map_mul]; rfl

theorem canon_of_wf (hp : 0 < p) {cs : List Int} (h : WF (ofInts cs : Fqp v p mc)) :
    Canon (ofInts cs : Fqp v p mc) := canon_ofInts hp ((List.length_map _).symm.trans h)

theorem canon_zero (hp : 0 < p) : Canon (zero : Fqp v p mc) := canon_of_wf hp wf_zero
theorem canon_one (hp : 0 < p) (hd : 1 ≤ mc.length) : Canon (one : Fqp v p mc) :=
  canon_of_wf hp (wf_one hd)
theorem canon_ofIntScalar (hp : 0 < p) (hd : 1 ≤ mc.length) (k : Int) :
    Canon (ofIntScalar k : Fqp v p mc) := canon_of_wf hp (wf_ofIntScalar hd k)
theorem canon_add (hp : 0 < p) {a b : Fqp v p mc} (ha : WF a) (hb : WF b) : Canon (add a b) :=
  canon_of_wf hp (wf_add ha hb)
theorem canon_sub (hp : 0 < p) {a b : Fqp v p mc} (ha : WF a) (hb : WF b) : Canon (sub a b) :=
  canon_of_wf hp (wf_sub ha hb)
theorem canon_neg (hp : 0 < p) {a : Fqp v p mc} (ha : WF a) : Canon (neg a) :=
  canon_of_wf hp (wf_neg ha)
theorem canon_mulInt (hp : 0 < p) {a : Fqp v p mc} (ha : WF a) (k : Int) : Canon (mulInt a k) :=
  canon_of_wf hp (wf_mulInt ha k)

theorem pow_wf (hd : 1 ≤ mc.length) (a : Fqp v p mc) (n : Nat) : WF (pow a n) :=
  powLoop_ind (aux := powAux) (fun _ _ _ => rfl) (fun _ _ _ _ => rfl) mul_wf n one a n (wf_one hd)

theorem pow_canon (hp : 0 < p) (hd : 1 ≤ mc.length) (a : Fqp v p mc) (n : Nat) : Canon (pow a n) :=
  powLoop_ind (aux := powAux) (fun _ _ _ => rfl) (fun _ _ _ _ => rfl) (mul_canon hp) n one a n
    (canon_one hp hd)

theorem toQ_pow (hd : 1 ≤ mc.length) {a : Fqp v p mc} (ha : WF a) (n : Nat) :
    toQ (pow a n) = toQ a ^ n := by
  rw [Fqp.pow, (powLoop_spec (fun _ _ _ => rfl) (fun _ _ _ _ => rfl) toQ WF
    (fun a b ha hb => ⟨mul_wf a b, toQ_mul ha hb⟩) n one a n Nat.lt_two_pow_self (wf_one hd) ha).2,
    toQ_one, one_mul]

end ops

end PyEcc.FqpSem
