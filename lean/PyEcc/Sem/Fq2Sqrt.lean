/-
  `modular_squareroot_in_FQ2` of `py_ecc/bls/point_compression.py` is correct.

  `K2 = (ZMod p)[X]/(X² + 1)` is a field with `p²` elements; `value ^ ((p² + 7)/16)` squared and divided by
  `value` is an eighth root of unity; the table `EIGHTH_ROOTS_OF_UNITY` is `ζ⁰ … ζ⁷` for a primitive eighth
  root `ζ` (kernel evaluation in the executable model, transported through `q`); even powers give a root,
  odd powers prove that `value` is a non-square.  The returned root is the one of `y, −y` with the larger
  `(imaginary, real)` coefficient pair, equivalently the one whose ZCash sign flag is 1.
  Through the norm `x ↦ x^(p+1) = a² + b²`: `b2 = 4 + 4i` (norm 32) is not a square and `−b2` not a cube.

  Model: `PyEcc/Model/Codec.lean` (`modularSquarerootInFq2`, `EIGHTH_ROOTS_OF_UNITY`, `everyOther`).
-/
import PyEcc.Sem.Fq2K2
import PyEcc.Sem.CodecSem
import Mathlib.RingTheory.RootsOfUnity.PrimitiveRoots

namespace PyEcc.Fq2Sqrt
open PyEcc PyEcc.Fqp PyEcc.FqpSem PyEcc.CodecSem Gen.Consts Polynomial
open PyEcc.Swu2 (K2 q goodHom_q Rq i2 i2_sq i2_pow_p fermat_K2 card_K2 canon_pair neg_pair zero_pair neg_emod)

instance irr : Fact (Irreducible (modulus blsP blsMc2)) :=
  ⟨irreducible_modulus_fq2 (p := blsP) (by decide)⟩

theorem fq2_order : blsconst_FQ2_ORDER = blsP ^ 2 - 1 := by decide

theorem fermat2 {t : K2} (ht : t ≠ 0) : t ^ blsconst_FQ2_ORDER = 1 := by
  rw [fq2_order]
  exact fermat_K2 t ht

/-- `(a + b·i)^(p+1) = a² + b²`: the Frobenius `x ↦ x^p` is conjugation (`i^p = −i` as `p ≡ 3 mod 4`) -/
theorem norm_pow (a b : ℤ) : ((a : K2) + (b : K2) * i2) ^ (blsP + 1) = ((a ^ 2 + b ^ 2 : ℤ) : K2) := by
  rw [pow_succ, Swu2.frob_pair]
  push_cast
  linear_combination (-(b : K2) ^ 2) * i2_sq

/-- `ζ = EIGHTH_ROOTS_OF_UNITY[1]` -/
def zeta : F2 := EIGHTH_ROOTS_OF_UNITY.getD 1 default

/-- the table is `ζ⁰, ζ¹, …, ζ⁷` (kernel evaluation) -/
theorem table_eq : EIGHTH_ROOTS_OF_UNITY = (List.range 8).map (fun k => zeta ^ k) := by decide +kernel
theorem zeta4 : zeta ^ 4 = -(1 : F2) := by decide +kernel
theorem evens_eq : everyOther EIGHTH_ROOTS_OF_UNITY = [zeta ^ 0, zeta ^ 2, zeta ^ 4, zeta ^ 6] := by
  decide +kernel
/-- `EIGHTH_ROOTS_OF_UNITY[EIGHTH_ROOTS_OF_UNITY.index(ζ^(2k)) // 2] = ζ^k` -/
theorem idx_spec : ∀ k ∈ [0, 1, 2, 3], EIGHTH_ROOTS_OF_UNITY.getD
    ((EIGHTH_ROOTS_OF_UNITY.findIdx (· == zeta ^ (2 * k))) / 2) default = zeta ^ k := by decide +kernel
theorem canon_zeta : Canon zeta := by decide +kernel
theorem neg_one_ne_one_F2 : -(1 : F2) ≠ 1 := by decide +kernel

noncomputable def z : K2 := q zeta

theorem z_pow4 : z ^ 4 = -1 := by
  unfold z
  rw [← goodHom_q.map_pow _ canon_zeta, zeta4, goodHom_q.map_neg goodHom_q.good_one, goodHom_q.map_one]

theorem neg_one_ne_one : (-1 : K2) ≠ 1 := by
  intro h
  apply neg_one_ne_one_F2
  apply goodHom_q.inj (goodHom_q.good_neg goodHom_q.good_one) goodHom_q.good_one
  rw [goodHom_q.map_neg goodHom_q.good_one, goodHom_q.map_one, h]

theorem z_prim : IsPrimitiveRoot z 8 := by
  have h : orderOf z = 2 ^ (2 + 1) := by
    apply orderOf_eq_prime_pow
    · rw [show (2 : ℕ) ^ 2 = 4 from rfl, z_pow4]; exact neg_one_ne_one
    · rw [show (2 : ℕ) ^ (2 + 1) = 4 * 2 from rfl, pow_mul, z_pow4]; norm_num
  have := IsPrimitiveRoot.orderOf z
  rwa [h] at this

theorem z_ne_zero : z ≠ 0 := z_prim.ne_zero (by decide)

theorem z_pow_odd (k : ℕ) : (z ^ (2 * k + 1)) ^ 4 ≠ 1 := by
  rw [← pow_mul, mul_comm, pow_mul, z_pow4, pow_succ, pow_mul]
  simpa using neg_one_ne_one

/-- the comparison `x1_im > x2_im or (x1_im == x2_im and x1_re > x2_re)` -/
def lexGt (a b : F2) : Prop :=
  getI a.coeffs 1 > getI b.coeffs 1 ∨ (getI a.coeffs 1 = getI b.coeffs 1 ∧ getI a.coeffs 0 > getI b.coeffs 0)

instance (a b : F2) : Decidable (lexGt a b) :=
  inferInstanceAs (Decidable (getI a.coeffs 1 > getI b.coeffs 1 ∨
    (getI a.coeffs 1 = getI b.coeffs 1 ∧ getI a.coeffs 0 > getI b.coeffs 0)))

/-- the final choice of `modular_squareroot_in_FQ2` between `x1` and `x2 = -x1` -/
def pickLarger (x1 : F2) : F2 := if lexGt x1 (-x1) then x1 else -x1

/-- the exponent `(FQ2_ORDER + 8) // 16 = (p² + 7)/16` -/
def sqrtExp : ℕ := (blsconst_FQ2_ORDER + 8) / 16

def candOf (v : F2) : F2 := v ^ sqrtExp
def checkOf (v : F2) : F2 := (candOf v) ^ 2 / v

theorem sqrt_unfold (v : F2) : modularSquarerootInFq2 v =
    if (everyOther EIGHTH_ROOTS_OF_UNITY).contains (checkOf v) then
      some (pickLarger (candOf v / EIGHTH_ROOTS_OF_UNITY.getD
        ((EIGHTH_ROOTS_OF_UNITY.findIdx (· == checkOf v)) / 2) default))
    else none := by
  unfold modularSquarerootInFq2
  rfl

theorem rel_cand {v : F2} (hv : Canon v) : Rq (candOf v) (q v ^ sqrtExp) :=
  (Rq.of hv).pow _
theorem rel_check {v : F2} (hv : Canon v) : Rq (checkOf v) ((q v ^ sqrtExp) ^ 2 / q v) :=
  ((rel_cand hv).pow 2).div (Rq.of hv)

theorem sqrtExp_mul : sqrtExp * 2 * 8 = blsconst_FQ2_ORDER + 8 := by decide

/-- `check⁸ = 1` for `value ≠ 0` -/
theorem check_pow8 {V : K2} (hV : V ≠ 0) : ((V ^ sqrtExp) ^ 2 / V) ^ 8 = 1 := by
  rw [div_pow, ← pow_mul, ← pow_mul, ← mul_assoc, sqrtExp_mul, pow_add, fermat2 hV, one_mul,
    div_self (pow_ne_zero _ hV)]

/-- hence `check` is one of `ζ⁰ … ζ⁷` -/
theorem check_eq_pow {V : K2} (hV : V ≠ 0) : ∃ j < 8, z ^ j = (V ^ sqrtExp) ^ 2 / V :=
  z_prim.eq_pow_of_pow_eq_one (check_pow8 hV)

/-- for a non-zero square `value`, `check⁴ = 1` -/
theorem check_pow4_of_sq {W : K2} (hW : W ≠ 0) : (((W * W) ^ sqrtExp) ^ 2 / (W * W)) ^ 4 = 1 := by
  have h : ((W * W) ^ sqrtExp) ^ 2 = W ^ (sqrtExp * 2 * 2) := by
    rw [← pow_two, ← pow_mul, ← pow_mul]; congr 1
  have h2 : (W ^ (sqrtExp * 2 * 2)) ^ 4 = W ^ (blsconst_FQ2_ORDER + 8) := by
    rw [← pow_mul, ← sqrtExp_mul]; congr 1
  rw [div_pow, h, h2, pow_add, fermat2 hW, one_mul, ← pow_two, ← pow_mul,
    div_self (pow_ne_zero _ hW)]

/-- if `check = t²` with `t ≠ 0` then `candidate / t` is a square root -/
theorem root_of_even {V t : K2} (ht : t ≠ 0) (h : (V ^ sqrtExp) ^ 2 / V = t ^ 2) :
    (V ^ sqrtExp / t) ^ 2 = V := by
  have hV : V ≠ 0 := by
    intro h0
    rw [h0, div_zero] at h
    exact pow_ne_zero _ ht h.symm
  rw [div_pow, ← h]
  have hc : (V ^ sqrtExp) ^ 2 ≠ 0 := pow_ne_zero _ (pow_ne_zero _ hV)
  field_simp

theorem mem_evens {c : F2} (h : c ∈ everyOther EIGHTH_ROOTS_OF_UNITY) :
    ∃ k < 4, c = zeta ^ (2 * k) ∧ EIGHTH_ROOTS_OF_UNITY.getD
      ((EIGHTH_ROOTS_OF_UNITY.findIdx (· == c)) / 2) default = zeta ^ k := by
  rw [evens_eq] at h
  simp only [List.mem_cons, List.not_mem_nil, or_false] at h
  rcases h with rfl | rfl | rfl | rfl
  · exact ⟨0, by omega, rfl, idx_spec 0 (by simp)⟩
  · exact ⟨1, by omega, rfl, idx_spec 1 (by simp)⟩
  · exact ⟨2, by omega, rfl, idx_spec 2 (by simp)⟩
  · exact ⟨3, by omega, rfl, idx_spec 3 (by simp)⟩

theorem evens_mem (k : ℕ) (hk : k < 4) : zeta ^ (2 * k) ∈ everyOther EIGHTH_ROOTS_OF_UNITY := by
  rw [evens_eq]
  interval_cases k <;> simp

theorem pickLarger_cases (x : F2) : pickLarger x = x ∨ pickLarger x = -x := by
  unfold pickLarger; split_ifs <;> simp

/-- shape of a successful call: the result is `x1` or `-x1` for a canonical `x1` with `x1² = value` in `K2` -/
theorem sqrt_some {v y : F2} (hv : Canon v) (h : modularSquarerootInFq2 v = some y) :
    ∃ x1 : F2, Canon x1 ∧ q x1 ^ 2 = q v ∧ y = pickLarger x1 := by
  rw [sqrt_unfold] at h
  split_ifs at h with hm
  obtain ⟨k, hk, hc, hidx⟩ := mem_evens (List.contains_iff_mem.mp hm)
  rw [hidx] at h
  have hx := (rel_cand hv).div ((Rq.of canon_zeta).pow k)
  refine ⟨candOf v / zeta ^ k, hx.1, ?_, (Option.some.inj h).symm⟩
  rw [hx.2]
  apply root_of_even (pow_ne_zero k z_ne_zero)
  rw [← (rel_check hv).2, hc, goodHom_q.map_pow _ canon_zeta, pow_mul']
  rfl

/-- **`modular_squareroot_in_FQ2` returns canonical elements** -/
theorem sqrt_canon {v y : F2} (hv : Canon v) (h : modularSquarerootInFq2 v = some y) : Canon y := by
  obtain ⟨x1, hx, _, rfl⟩ := sqrt_some hv h
  rcases pickLarger_cases x1 with e | e <;> rw [e]
  · exact hx
  · exact goodHom_q.good_neg hx

/-- **`modular_squareroot_in_FQ2(value)` returns a square root**: if it returns `y` then `y * y == value`
    (for a well-formed `FQ2` object `value`, coefficients in `[0, p)`). -/
theorem sqrt_spec {v y : F2} (hv : Canon v) (h : modularSquarerootInFq2 v = some y) : y * y = v := by
  have hy := sqrt_canon hv h
  obtain ⟨x1, hx, hsq, rfl⟩ := sqrt_some hv h
  apply goodHom_q.inj (goodHom_q.good_mul hy hy) hv
  rw [goodHom_q.map_mul hy hy, ← hsq]
  rcases pickLarger_cases x1 with e | e <;> rw [e]
  · ring
  · rw [goodHom_q.map_neg hx]; ring

/-- `modular_squareroot_in_FQ2(FQ2.zero())` is `None`: `check = 0 / 0 = 0` is not in the table
    (the mathematical root `0` is not returned). -/
theorem sqrt_zero : modularSquarerootInFq2 (0 : F2) = none := by
  have h0 : checkOf 0 = 0 := by
    rw [(rel_check goodHom_q.good_zero).eq_zero_iff, goodHom_q.map_zero, div_zero]
  have hn : ¬(everyOther EIGHTH_ROOTS_OF_UNITY).contains (0 : F2) = true := by
    rw [evens_eq]
    decide +kernel
  rw [sqrt_unfold, h0, if_neg hn]

theorem sqrt_some_ne_zero {v y : F2} (h : modularSquarerootInFq2 v = some y) : v ≠ 0 := by
  rintro rfl; rw [sqrt_zero] at h; cases h

/-- **`modular_squareroot_in_FQ2(value)` returns `None` exactly for the non-squares** of `F_{p²}`
    (`value ≠ 0` well-formed; for `value = 0` see `sqrt_zero`). -/
theorem sqrt_none_iff {v : F2} (hv : Canon v) (h0 : v ≠ 0) :
    modularSquarerootInFq2 v = none ↔ ¬ IsSquare (q v) := by
  have hV : q v ≠ 0 := fun h => h0 ((Swu2.q_eq_zero hv).mp h)
  constructor
  · intro hn hsq
    rw [sqrt_unfold] at hn
    split_ifs at hn with hm
    apply hm
    rw [List.contains_iff_mem]
    obtain ⟨W, hW⟩ := hsq
    have hW0 : W ≠ 0 := by rintro rfl; apply hV; rw [hW]; ring
    obtain ⟨j, hj, hzj⟩ := check_eq_pow hV
    have h4 : (z ^ j) ^ 4 = 1 := by rw [hzj, hW]; exact check_pow4_of_sq hW0
    obtain ⟨k, rfl | rfl⟩ := Nat.even_or_odd' j
    · have : checkOf v = zeta ^ (2 * k) :=
        ((rel_check hv).eq_iff ((Rq.of canon_zeta).pow _)).mpr hzj.symm
      rw [this]
      exact evens_mem k (by omega)
    · exact absurd h4 (z_pow_odd k)
  · intro hns
    cases hr : modularSquarerootInFq2 v with
    | none => rfl
    | some y =>
      exfalso; apply hns
      have := sqrt_spec hv hr
      have hy := sqrt_canon hv hr
      exact ⟨q y, by rw [← goodHom_q.map_mul hy hy, this]⟩

/-- total version: `None` iff `value` is zero or a non-square -/
theorem sqrt_none_iff' {v : F2} (hv : Canon v) :
    modularSquarerootInFq2 v = none ↔ (v = 0 ∨ ¬ IsSquare (q v)) := by
  by_cases h0 : v = 0
  · subst h0; exact iff_of_true sqrt_zero (.inl rfl)
  · rw [sqrt_none_iff hv h0, or_iff_right h0]

theorem getI_pair0 (a b : Int) : getI [a, b] 0 = a := rfl
theorem getI_pair1 (a b : Int) : getI [a, b] 1 = b := rfl

/-- the flag of a residue `0 < c < p` is a bit, `p − c` has the other one (`p` is odd), and the flag is 1 exactly
    when `c` is the larger of the two -/
theorem flag_pair {c : Int} (h0 : 0 < c) (h : c < blsP) :
    (c * 2 / (blsP : Int) = 0 ∨ c * 2 / (blsP : Int) = 1) ∧
      ((blsP : Int) - c) * 2 / (blsP : Int) = 1 - c * 2 / (blsP : Int) ∧
      ((blsP : Int) - c < c ↔ c * 2 / (blsP : Int) = 1) ∧ c ≠ (blsP : Int) - c := by
  have f1 := flag_int h0.le h
  have f2 := flag_int (c := blsP - c) (by omega) (by omega)
  generalize c * 2 / (blsP : Int) = a at *
  generalize ((blsP : Int) - c) * 2 / (blsP : Int) = b at *
  omega

/-- for a non-zero well-formed `y`: the flag is a bit, `-y` has the opposite flag (`p` is odd), and
    `y` is lexicographically (imaginary part first) larger than `-y` exactly when its flag is 1: all three are
    `flag_pair` for the leading coefficient of `y`, which `-y` has in the same place -/
theorem flag_facts {y : F2} (hy : Canon y) (h0 : y ≠ 0) :
    (aflag y = 0 ∨ aflag y = 1) ∧ aflag (-y) = 1 - aflag y ∧ (lexGt y (-y) ↔ aflag y = 1) := by
  obtain ⟨re, im, rfl, h1, h2, h3, h4⟩ := canon_pair hy
  rw [neg_pair]
  unfold aflag lexGt
  simp only [getI_pair0, getI_pair1]
  by_cases him : im = 0
  · subst him
    have hre : 0 < re := lt_of_le_of_ne h1 fun e => h0 (e ▸ zero_pair.symm)
    obtain ⟨f1, f2, f3, -⟩ := flag_pair hre h2
    rw [show (-(0 : Int)) % (blsP : Int) = 0 from rfl, neg_emod hre h2]
    simp only [gt_iff_lt, lt_self_iff_false, if_false, false_or, true_and]
    exact ⟨f1, f2, f3⟩
  · have him' : 0 < im := lt_of_le_of_ne h3 (Ne.symm him)
    obtain ⟨f1, f2, f3, f4⟩ := flag_pair him' h4
    rw [neg_emod him' h4]
    simp only [gt_iff_lt, him', sub_pos.mpr h4, if_true, f4, false_and, or_false]
    exact ⟨f1, f2, f3⟩

theorem neg_ne_zero2 {y : F2} (hy : Canon y) (h0 : y ≠ 0) : -y ≠ 0 := fun h =>
  h0 ((Rq.of hy).eq_zero_iff.mpr (neg_eq_zero.mp ((Rq.of hy).neg.eq_zero_iff.mp h)))

theorem neg_neg2 {y : F2} (hy : Canon y) : - -y = y :=
  ((Rq.of hy).neg.neg.eq_iff (Rq.of hy)).mpr (neg_neg _)

theorem pickLarger_flag {x : F2} (hx : Canon x) (h0 : x ≠ 0) :
    aflag (pickLarger x) = 1 ∧ lexGt (pickLarger x) (-(pickLarger x)) := by
  obtain ⟨f01, fneg, fgt⟩ := flag_facts hx h0
  unfold pickLarger
  split_ifs with h
  · exact ⟨fgt.mp h, h⟩
  · have h1 : aflag x = 0 := by
      rcases f01 with e | e
      · exact e
      · exact absurd (fgt.mpr e) h
    have h2 : aflag (-x) = 1 := by rw [fneg, h1]; rfl
    exact ⟨h2, (flag_facts (goodHom_q.good_neg hx) (neg_ne_zero2 hx h0)).2.2.mpr h2⟩

/-- **Sign normalisation of `modular_squareroot_in_FQ2`.**  The returned root `y` is not zero, and of the two
    roots `y`, `-y` it is the one with the lexicographically larger coefficient pair (imaginary part first,
    then real part) — equivalently the one whose ZCash sign flag
    `(y_im * 2) // q if y_im > 0 else (y_re * 2) // q` is `1`. -/
theorem sqrt_is_larger {v y : F2} (hv : Canon v) (h : modularSquarerootInFq2 v = some y) :
    y ≠ 0 ∧ lexGt y (-y) ∧ aflag y = 1 := by
  have hv0 := sqrt_some_ne_zero h
  obtain ⟨x1, hx, hsq, rfl⟩ := sqrt_some hv h
  have hx0 : x1 ≠ 0 := by
    rintro rfl
    apply hv0
    rw [← Swu2.q_eq_zero hv, ← hsq, goodHom_q.map_zero]; ring
  obtain ⟨h1, h2⟩ := pickLarger_flag hx hx0
  refine ⟨?_, h2, h1⟩
  rcases pickLarger_cases x1 with e | e <;> rw [e]
  · exact hx0
  · exact neg_ne_zero2 hx hx0

/-- the ZCash flag is a sign bit on the well-formed `FQ2` objects, read in `K2` -/
theorem signBit_aflag : SignBit Canon q Neg.neg aflag where
  good_neg := fun hy _ => goodHom_q.good_neg hy
  map_neg := goodHom_q.map_neg
  inj := goodHom_q.inj
  flip := fun hy h0 => by
    obtain ⟨f01, fneg, _⟩ := flag_facts hy fun h => h0 ((Swu2.q_eq_zero hy).mpr h)
    omega

theorem canon_b2 : Canon blsB2 := by decide +kernel
theorem b2_ne_zero : blsB2 ≠ 0 := by decide +kernel

/-- `b2 = 4 + 4i` in `K2` -/
noncomputable def B2 : K2 := q blsB2

theorem B2_ne_zero : B2 ≠ 0 := fun h => b2_ne_zero ((Swu2.q_eq_zero canon_b2).mp h)

theorem B2_norm : B2 ^ (blsP + 1) = AdjoinRoot.of _ (32 : K) := by
  rw [show B2 = Swu2.q ⟨[4, 4]⟩ from rfl, Swu2.q_pair, norm_pow]
  norm_num
  exact (map_ofNat (AdjoinRoot.of (modulus blsP blsMc2)) 32).symm

/-- kernel computation in `F_p`: `32^((p−1)/2) = −1` (Euler's criterion) and `32^((p−1)/3) ≠ 1` -/
theorem norm_b2_kernel :
    powMod 32 ((blsP - 1) / 2) blsP = blsP - 1 ∧ powMod 32 ((blsP - 1) / 3) blsP ≠ 1 := by decide +kernel

/-- `4 + 4i` is not a square in `F_{p²}`: `b2^((p²−1)/2) = 32^((p−1)/2) = −1` -/
theorem B2_not_square : ¬ IsSquare B2 := by
  rintro ⟨w, hw⟩
  have hw0 : w ≠ 0 := by rintro rfl; exact B2_ne_zero (by rw [hw, mul_zero])
  have h1 : B2 ^ ((blsP + 1) * ((blsP - 1) / 2)) = 1 := by
    rw [hw, ← pow_two, ← pow_mul, show 2 * ((blsP + 1) * ((blsP - 1) / 2)) = blsconst_FQ2_ORDER by decide]
    exact fermat2 hw0
  have h2 : (32 : K) ^ ((blsP - 1) / 2) = -1 := by
    have := powMod_cast 32 ((blsP - 1) / 2) blsP
    rwa [norm_b2_kernel.1, natCast_p_sub (by decide), Nat.cast_one, eq_comm] at this
  rw [pow_mul, B2_norm, ← map_pow, h2, map_neg, map_one] at h1
  exact neg_one_ne_one h1

/-- **no point with `y = 0`**: `x³ + 4 + 4i` has no root in `F_{p²}`:
    `(−b2)^((p²−1)/3) = 32^((p−1)/3) ≠ 1`, so `−4−4i` is not a cube -/
theorem cube_add_B2_ne_zero (x : K2) : x ^ 3 + B2 ≠ 0 := by
  refine no_cube_root B2_ne_zero (k := (blsP + 1) * ((blsP - 1) / 3)) (by rw [card_K2]; decide) ?_ x
  rw [pow_mul, Even.neg_pow (by rw [Nat.even_iff]; decide), B2_norm, ← map_pow]
  intro h
  have h1 : 1 < blsP := by decide
  apply norm_b2_kernel.2
  rw [powMod_eq_iff blsP_pos h1, Nat.cast_one, Nat.cast_ofNat]
  rw [← map_one (AdjoinRoot.of (modulus blsP blsMc2))] at h
  exact (AdjoinRoot.of _).injective h

/-- a well-formed non-zero square (`2i = (1 + i)²`) on which a root is returned (hypotheses of `sqrt_spec`,
    `sqrt_canon`, `sqrt_is_larger`) -/
example : Canon (⟨[0, 2]⟩ : F2) ∧ (modularSquarerootInFq2 ⟨[0, 2]⟩).isSome = true := by
  have hc : Canon (⟨[0, 2]⟩ : F2) := by decide
  have hw : Canon (⟨[1, 1]⟩ : F2) := by decide
  have hsq : IsSquare (q (⟨[0, 2]⟩ : F2)) :=
    ⟨q ⟨[1, 1]⟩, by rw [← goodHom_q.map_mul hw hw]; exact congrArg q (by decide)⟩
  refine ⟨hc, Option.isSome_iff_ne_none.mpr fun hn => ?_⟩
  exact (sqrt_none_iff hc (by decide)).mp hn hsq

/-- a well-formed non-zero non-square (`b2 = 4 + 4i`): both sides of `sqrt_none_iff` are inhabited -/
example : Canon blsB2 ∧ blsB2 ≠ 0 ∧ modularSquarerootInFq2 blsB2 = none :=
  ⟨canon_b2, b2_ne_zero, (sqrt_none_iff canon_b2 b2_ne_zero).mpr B2_not_square⟩

end PyEcc.Fq2Sqrt
