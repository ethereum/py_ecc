/-
  PyEcc.Sem.Primes — the six primes of py_ecc are prime, stated about the REGENERATED constants
  (`Gen.Consts.*` are dumped from the working tree on every run, so a changed modulus/order makes
  these theorems fail).  Proofs: Pratt certificates (`Sem/PrattCerts.lean`, checked by the kernel).
-/
import PyEcc.Sem.PrattCerts
import PyEcc.Gen.Consts
import PyEcc.Gen.Secp

namespace PyEcc
open Gen.Consts

theorem prime_blsP : Nat.Prime fields_bls12_381_field_modulus := Pratt.certs_prime _ (by decide)
theorem prime_blsR : Nat.Prime bls12_381_curve_order := Pratt.certs_prime _ (by decide)
theorem prime_bnP : Nat.Prime fields_bn128_field_modulus := Pratt.certs_prime _ (by decide)
theorem prime_bnR : Nat.Prime bn128_curve_order := Pratt.certs_prime _ (by decide)
theorem prime_secpP : Nat.Prime secp256k1_P := Pratt.certs_prime _ (by decide)
theorem prime_secpN : Nat.Prime secp256k1_N := Pratt.certs_prime _ (by decide)

/-- every copy of a modulus / order in the library equals the proved-prime one -/
theorem moduli_consistent :
    bls12_381_field_modulus = fields_bls12_381_field_modulus ∧ optimized_bls12_381_field_modulus = fields_bls12_381_field_modulus ∧
    bn128_field_modulus = fields_bn128_field_modulus ∧ optimized_bn128_field_modulus = fields_bn128_field_modulus ∧
    optimized_bls12_381_curve_order = bls12_381_curve_order ∧ suites_curve_order = bls12_381_curve_order ∧
    optimized_bn128_curve_order = bn128_curve_order ∧
    Gen.Secp.P = (secp256k1_P : Int) ∧ Gen.Secp.N = (secp256k1_N : Int) := by decide

instance : Fact (Nat.Prime fields_bls12_381_field_modulus) := ⟨prime_blsP⟩
instance : Fact (Nat.Prime fields_bn128_field_modulus) := ⟨prime_bnP⟩
instance : Fact (Nat.Prime bls12_381_curve_order) := ⟨prime_blsR⟩
instance : Fact (Nat.Prime bn128_curve_order) := ⟨prime_bnR⟩
instance : Fact (Nat.Prime secp256k1_P) := ⟨prime_secpP⟩
instance : Fact (Nat.Prime secp256k1_N) := ⟨prime_secpN⟩

end PyEcc
