/-
  The field-generic curve theorems at the CONCRETE executable model type of `FQ` coordinates, `F1 = Fq blsP` (and
  `Fq bnP`).  For `F = Fq p`, `p` prime, NO morphism is needed: `Sem/FqZMod.lean` builds `Fq.instField : Field (Fq p)`
  by pull-back along `toZMod` REUSING the model's operation instances (`Function.Injective.commRing` takes the existing
  `Zero/One/Add/Mul/Neg/Sub/Pow/NatCast` instances as arguments; `inv := Fq.inv`, `div := Fq.div`).  Hence every
  operation class derived from `Fq.instField` unfolds, definitionally, to the instance of `Model/Fq.lean`
  (`instances_are_model` checks all ten of them by `rfl`), and the generic theorems apply to the model functions as they
  stand: the code-side terms (`subgroupCheck T`, `Gen.OptBls.add T₁ T₂`, …) elaborate with the model's own instances
  and are exactly the functions that the executable `Driver` runs.
  Here: the side conditions `2 ≠ 0`, `3 ≠ 0`, `b ≠ 0` in `Fq blsP` / `Fq bnP` (kernel-decided), packed as the curve
  contexts `curveF1`, `curveFbn` (`Sem/TransferRefineBls.lean`, case `φ = id`); a point is a `CurvePt blsB`, Mathlib's
  `(W blsB).Point` over the field `Fq blsP` (`Sem/CurvePt.lean`).
-/
import PyEcc.Sem.TransferRefineBls
import PyEcc.Props.C07Opt_Bn
import PyEcc.Props.C07_Facts
import PyEcc.Sem.FqZMod
import PyEcc.Sem.Primes
import PyEcc.Sem.CurvePt
import PyEcc.Model.Codec

set_option linter.unusedSectionVars false

namespace PyEcc.Transfer
open PyEcc PyEcc.Gen PyEcc.Gen.Consts WeierstrassCurve

/-- Instance audit: for prime `p` each operation class that can be derived from the Mathlib structure
    `Fq.instField` is, by definitional unfolding, the operation of the executable model
    (`Fq.add`, `Fq.mul`, `Fq.sub`, `Fq.neg`, `Fq.div`, `Fq.pow` = the square-and-multiply
    `__pow__`, `Fq.ofInt` for literals).  So it is immaterial which of the two instance paths
    elaboration picks for the generated code at `F := Fq p`. -/
theorem instances_are_model {p : ℕ} [Fact p.Prime] :
    (Fq.instField (p := p)).toZero = ⟨Fq.ofInt 0⟩
      ∧ (Fq.instField (p := p)).toOne = ⟨Fq.ofInt 1⟩
      ∧ (Fq.instField (p := p)).toAdd = ⟨Fq.add⟩
      ∧ (Fq.instField (p := p)).toSub = ⟨Fq.sub⟩
      ∧ (Fq.instField (p := p)).toMul = ⟨Fq.mul⟩
      ∧ (Fq.instField (p := p)).toNeg = ⟨Fq.neg⟩
      ∧ (Fq.instField (p := p)).toDiv = ⟨Fq.div⟩
      ∧ (Fq.instField (p := p)).toNatCast = ⟨fun k => Fq.ofInt k⟩
      ∧ (@NPow.toPow (Fq p) (Fq.instField (p := p)).toNPow : Pow (Fq p) ℕ) = ⟨Fq.pow⟩
      ∧ (Fq.instField (p := p)).toInv = ⟨Fq.inv⟩ :=
  ⟨rfl, rfl, rfl, rfl, rfl, rfl, rfl, rfl, rfl, rfl⟩

/-- numerals of the generic theorems (`(2 : F)`, `(3 : F)`) are the model's `FQ(2)`, `FQ(3)` -/
theorem numerals_are_model {p : ℕ} [Fact p.Prime] :
    (2 : Fq p) = Fq.ofInt 2 ∧ (3 : Fq p) = Fq.ofInt 3 ∧ (0 : Fq p) = Fq.ofInt 0 := ⟨rfl, rfl, rfl⟩

/-- `2 ≠ 0`, `3 ≠ 0` and `b = FQ(4) ≠ 0` in the model of the BLS12-381 base field -/
theorem f1_field_ok : (2 : F1) ≠ 0 ∧ (3 : F1) ≠ 0 ∧ (blsB : F1) ≠ 0 := by decide +kernel

/-- BLS12-381 G1: the optimized code on `FQ` triples computes in `E(Fq blsP) : y² = x³ + 4` -/
theorem curveF1 : CurveHom (fun _ : F1 => True) id blsB blsB :=
  .id f1_field_ok.1 f1_field_ok.2.1 f1_field_ok.2.2

/-- the model's `Z1 = (1, 1, 0)` -/
theorem Z1_z : Z1.2.2 = 0 := rfl

section G1
variable {T : G1Pt} {P : CurvePt (blsB : F1)}

theorem opt_double_refines_F1 (h : Represents T P) : Represents (OptBls.double T) (P + P) :=
  C07Opt.Bls.opt_double_refines curveF1.two h

end G1

/-- non-vacuity: the generator constant of the model is on the curve, hence represents a point -/
example : ∃ P : CurvePt (blsB : F1), Represents blsG1 P :=
  let ⟨P, r⟩ := curveF1.exists_rep (goodT_true blsG1) C07.Facts.bls_G1_model.1
  ⟨P, r.rep⟩

/-! ### bn128 base field `Fq bnP` (the model has no typed bn128 constants; `b = FQ(3)`) -/

/-- `optimized_bn128.b` as an `FQ` object of the model -/
def bnB : Fq bnP := Fq.ofInt optimized_bn128_b

/-- the model type of `optimized_bn128` G1 points -/
abbrev BnG1Pt : Type := Fq bnP × Fq bnP × Fq bnP

/-- `optimized_bn128.G1 = (1, 2, 1)` as a model triple -/
def bnG1 : BnG1Pt := CurveSem.ptOpt (Fq bnP) optimized_bn128_G1

/-- `2 ≠ 0`, `3 ≠ 0` and `b = FQ(3) ≠ 0` in the model of the bn128 base field -/
theorem fbn_field_ok : (2 : Fq bnP) ≠ 0 ∧ (3 : Fq bnP) ≠ 0 ∧ bnB ≠ 0 := by decide +kernel

/-- bn128 G1: the optimized code on `FQ` triples computes in `E(Fq bnP) : y² = x³ + 3` -/
theorem curveFbn : CurveHom (fun _ : Fq bnP => True) id bnB bnB :=
  .id fbn_field_ok.1 fbn_field_ok.2.1 fbn_field_ok.2.2

section BnG1
variable {T T₁ T₂ : BnG1Pt} {P Q : CurvePt bnB}

theorem opt_add_refines_Fbn (h₁ : Represents T₁ P) (h₂ : Represents T₂ Q) :
    Represents (OptBn.add T₁ T₂) (P + Q) := C07Opt.Bn.opt_add_refines fbn_field_ok.1 h₁ h₂

theorem opt_double_refines_Fbn (h : Represents T P) : Represents (OptBn.double T) (P + P) :=
  C07Opt.Bn.opt_double_refines fbn_field_ok.1 h

theorem opt_neg_refines_Fbn (h : Represents T P) : Represents (OptBn.neg T) (-P) :=
  C07Opt.Bn.opt_neg_refines h

theorem opt_eq_refines_Fbn (h₁ : Represents T₁ P) (h₂ : Represents T₂ Q) :
    OptBn.eq T₁ T₂ = true ↔ P = Q := C07Opt.Bn.opt_eq_refines h₁ h₂

end BnG1

/-- non-vacuity: `optimized_bn128.G1 = (1, 2, 1)` -/
example : ∃ P : CurvePt bnB,
    Represents ((Fq.ofInt 1 : Fq bnP), (Fq.ofInt 2 : Fq bnP), (Fq.ofInt 1 : Fq bnP)) P :=
  (C07Opt.Bn.opt_on_curve_represents curveFbn.two curveFbn.three curveFbn.b_ne _).mp (by decide +kernel)

end PyEcc.Transfer
