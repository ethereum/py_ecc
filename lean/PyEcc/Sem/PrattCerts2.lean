/-
  PyEcc.Sem.PrattCerts2 — GENERATED (tools/leangen/gen2.py from data/pratt_cert2.json): Pratt certificates for the prime
  factors of the BLS12-381 G2 cofactor h₂ and of the bn128 twist cofactor 2p − r, as a second table checked on top of `certs`
  (the prime factors of the G1 cofactor h₁ have their rows in `certs`).
-/
import PyEcc.Sem.PrattCerts
namespace PyEcc.Pratt

def certs2 : List Row := [
  ⟨262069, 6, [2, 2, 3, 21839]⟩,
  ⟨5864401, 38, [2, 2, 2, 2, 3, 3, 3, 3, 5, 5, 181]⟩,
  ⟨1875725156269, 2, [2, 2, 3, 3, 3, 17367825521]⟩,
  ⟨197620364512881247228717050342013327560683201906968909, 2, [2, 2, 3, 59, 1309000310535827101, 213235097339095295568608163219551]⟩,
  ⟨402096035359507321594726366720466575392706800671181159425656785868777272553337714697862511267018014931937703598282857976535744623203249, 13, [2, 2, 2, 2, 3, 11, 631, 4920833, 52872661, 4638704574076146691498289350639807119782054683906549022985642612861209609656189848749536921852444848596916990932297]⟩,
  ⟨68059, 2, [2, 3, 3, 19, 199]⟩,
  ⟨77339, 2, [2, 38669]⟩,
  ⟨133769, 3, [2, 2, 2, 23, 727]⟩,
  ⟨197539, 2, [2, 3, 11, 41, 73]⟩,
  ⟨225493, 2, [2, 2, 3, 19, 23, 43]⟩,
  ⟨268721, 3, [2, 2, 2, 2, 5, 3359]⟩,
  ⟨349079, 11, [2, 17, 10267]⟩,
  ⟨601379, 2, [2, 199, 1511]⟩,
  ⟨661873, 5, [2, 2, 2, 2, 3, 13789]⟩,
  ⟨1233079, 11, [2, 3, 7, 11, 17, 157]⟩,
  ⟨1367711, 7, [2, 5, 233, 587]⟩,
  ⟨1612327, 5, [2, 3, 268721]⟩,
  ⟨4920833, 3, [2, 2, 2, 2, 2, 2, 2, 2, 2, 7, 1373]⟩,
  ⟨5835139, 3, [2, 3, 61, 107, 149]⟩,
  ⟨6716327, 5, [2, 17, 197539]⟩,
  ⟨12211063, 5, [2, 3, 103, 19759]⟩,
  ⟨40297963, 2, [2, 3, 6716327]⟩,
  ⟨52872661, 2, [2, 2, 3, 3, 5, 83, 3539]⟩,
  ⟨241787779, 2, [2, 3, 40297963]⟩,
  ⟨758568071, 14, [2, 5, 13, 5835139]⟩,
  ⟨810774871, 11, [2, 3, 5, 89, 151, 2011]⟩,
  ⟨1402724681, 3, [2, 2, 2, 5, 7, 1307, 3833]⟩,
  ⟨17367825521, 3, [2, 2, 2, 2, 5, 19, 19, 601379]⟩,
  ⟨63240439939, 3, [2, 3, 13, 810774871]⟩,
  ⟨1435735831703, 5, [2, 2969, 241787779]⟩,
  ⟨1770732318293, 2, [2, 2, 7, 63240439939]⟩,
  ⟨12192593745179, 2, [2, 7, 11, 107, 541, 1367711]⟩,
  ⟨16297965815447, 5, [2, 7, 7, 7, 68059, 349079]⟩,
  ⟨512088937297519, 6, [2, 3, 7, 12192593745179]⟩,
  ⟨677736056450657, 3, [2, 2, 2, 2, 2, 7, 23, 83, 983, 1612327]⟩,
  ⟨1309000310535827101, 2, [2, 2, 3, 5, 5, 43, 133769, 758568071]⟩,
  ⟨1857858664515398933, 2, [2, 2, 907, 512088937297519]⟩,
  ⟨21561538103037546247, 5, [2, 3, 3, 3, 225493, 1770732318293]⟩,
  ⟨22294303974184787197, 14, [2, 2, 3, 1857858664515398933]⟩,
  ⟨86246152412150184989, 2, [2, 2, 21561538103037546247]⟩,
  ⟨209661715479349446893, 2, [2, 2, 77339, 677736056450657]⟩,
  ⟨19931107752921199754119, 3, [2, 3, 149, 22294303974184787197]⟩,
  ⟨3458579658547348475946929, 3, [2, 2, 2, 2, 1031, 209661715479349446893]⟩,
  ⟨213235097339095295568608163219551, 31, [2, 5, 5, 1233079, 3458579658547348475946929]⟩,
  ⟨81162125843606155545104998607900118769099783, 5, [2, 3, 3, 2731, 57697, 1435735831703, 19931107752921199754119]⟩,
  ⟨26935696298915610574513298451669528361624243820491956655650666425177, 3, [2, 2, 2, 13, 37, 86246152412150184989, 81162125843606155545104998607900118769099783]⟩,
  ⟨4638704574076146691498289350639807119782054683906549022985642612861209609656189848749536921852444848596916990932297, 3, [2, 2, 2, 373, 8329, 37501, 661873, 12211063, 1402724681, 16297965815447, 26935696298915610574513298451669528361624243820491956655650666425177]⟩]

theorem certs2_ok : tableOk (certs.map Prod.fst) certs2 = true := by decide +kernel

theorem certs2_prime : ∀ p ∈ certs2.map Prod.fst, p.Prime :=
  prime_of_tableOk certs_prime certs2_ok

theorem prime_2713 : Nat.Prime 2713 := prime_of_smallPrime (by decide +kernel)
theorem prime_11953 : Nat.Prime 11953 := prime_of_smallPrime (by decide +kernel)
theorem prime_262069 : Nat.Prime 262069 := certs2_prime _ (by decide)
theorem prime_402096035359507321594726366720466575392706800671181159425656785868777272553337714697862511267018014931937703598282857976535744623203249 : Nat.Prime 402096035359507321594726366720466575392706800671181159425656785868777272553337714697862511267018014931937703598282857976535744623203249 := certs2_prime _ (by decide)
theorem prime_10069 : Nat.Prime 10069 := prime_of_smallPrime (by decide +kernel)
theorem prime_5864401 : Nat.Prime 5864401 := certs2_prime _ (by decide)
theorem prime_1875725156269 : Nat.Prime 1875725156269 := certs2_prime _ (by decide)
theorem prime_197620364512881247228717050342013327560683201906968909 : Nat.Prime 197620364512881247228717050342013327560683201906968909 := certs2_prime _ (by decide)

end PyEcc.Pratt
