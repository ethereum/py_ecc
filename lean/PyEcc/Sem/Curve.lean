/-
  PyEcc.Sem.Curve — the Mathlib object the curve code is proved to refine:
  `W b : WeierstrassCurve.Affine F` is `y² = x³ + b`; `reprRef` maps a Mathlib point to the reference
  modules' representation (`None` = ∞, else `(x, y)`).
-/
import Mathlib.AlgebraicGeometry.EllipticCurve.Affine.Point
import PyEcc.Sem.Affine

namespace PyEcc

section
variable {F : Type} [Field F]

/-- the short Weierstrass curve `y² = x³ + b` -/
def W (b : F) : WeierstrassCurve.Affine F := { a₁ := 0, a₂ := 0, a₃ := 0, a₄ := 0, a₆ := b }

@[simp] theorem W_a₁ (b : F) : (W b).a₁ = 0 := rfl
@[simp] theorem W_a₂ (b : F) : (W b).a₂ = 0 := rfl
@[simp] theorem W_a₃ (b : F) : (W b).a₃ = 0 := rfl
@[simp] theorem W_a₄ (b : F) : (W b).a₄ = 0 := rfl
@[simp] theorem W_a₆ (b : F) : (W b).a₆ = b := rfl

end

variable {F : Type} [Field F] [DecidableEq F]

/-- reference representation of a Mathlib point -/
def reprRef {b : F} : (W b).Point → Option (F × F)
  | .zero => none
  | .some x y _ => some (x, y)

@[simp] theorem reprRef_zero {b : F} : reprRef (0 : (W b).Point) = none := rfl
@[simp] theorem reprRef_some {b : F} {x y : F} (h : (W b).Nonsingular x y) :
    reprRef (WeierstrassCurve.Affine.Point.some x y h) = some (x, y) := rfl

/-- a projective triple represents a Mathlib point (any scaling; any `z = 0` triple represents ∞) -/
def Represents {b : F} (T : F × F × F) (P : (W b).Point) : Prop := toAff T = reprRef P

end PyEcc
