/-
  Correctness of the extended-Euclid loop of `py_ecc.utils.prime_field_inv`
  (model: `PyEcc.primeFieldInv` / `PyEcc.invLoop`) for ANY prime modulus.  (`py_ecc.secp256k1.secp256k1.inv`
  runs the same loop: `Sem/SecpSem.lean`.)

  Loop invariant (state `(lm, low, hm, high)`, input `a`, modulus `p`):
    `lm * a ≡ low`, `hm * a ≡ high (mod p)`, `IsCoprime low high`, `1 ≤ low`, fuel `≥ low`.
  `low` strictly decreases; coprimality forces `low = 1` at exit, so `lm * a ≡ 1`.
-/
import PyEcc.Model.Fq
import Mathlib.Data.ZMod.Basic
import Mathlib.Algebra.Field.ZMod
import Mathlib.RingTheory.Coprime.Lemmas
import Mathlib.Tactic.Ring
import Mathlib.Tactic.LinearCombination
import Mathlib.Tactic.Linarith

namespace PyEcc.FqSem

/-- a prime is non-zero (so the `[NeZero p]` operations of the model are available under
    `[Fact p.Prime]`) -/
instance (priority := 50) neZero_of_fact_prime {p : ℕ} [h : Fact p.Prime] : NeZero p :=
  ⟨h.out.ne_zero⟩

theorem invLoop_spec {m : ℕ} (a : ZMod m) : ∀ (f : ℕ) (lm low hm high : ℤ),
    1 ≤ low → low.toNat ≤ f → IsCoprime low high →
    (lm : ZMod m) * a = (low : ZMod m) → (hm : ZMod m) * a = (high : ZMod m) →
    ((invLoop f lm low hm high : ℤ) : ZMod m) * a = 1 := by
  intro f
  induction f with
  | zero =>
    intro lm low hm high h1 hf
    omega
  | succ f ih =>
    intro lm low hm high h1 hf hc hl hh
    unfold invLoop
    by_cases hgt : low > 1
    · rw [if_pos hgt]
      have hpos : (0 : ℤ) < low := by omega
      have hmodeq : high - low * (high / low) = high % low := by rw [Int.emod_def]
      have hnn := Int.emod_nonneg high (by omega : low ≠ 0)
      have hlt := Int.emod_lt_of_pos high hpos
      have hc' : IsCoprime (high - low * (high / low)) low := by
        have := hc.symm.add_mul_left_left (-(high / low))
        rwa [mul_neg, ← sub_eq_add_neg] at this
      have hne : high % low ≠ 0 := by
        intro h0
        rw [hmodeq, h0] at hc'
        have hu : IsUnit low := isCoprime_zero_left.mp hc'
        rcases Int.isUnit_iff.mp hu with h | h <;> omega
      apply ih
      · rw [hmodeq]; omega
      · rw [hmodeq]; omega
      · exact hc'
      · rw [Int.cast_sub, Int.cast_mul, sub_mul, mul_right_comm, hh, hl, Int.cast_sub, Int.cast_mul]
      · exact hl
    · rw [if_neg hgt]
      have : low = 1 := by omega
      subst this
      rwa [Int.cast_one] at hl

theorem isCoprime_of_pos_lt_prime {p : ℕ} (hp : p.Prime) {x : ℤ} (h0 : 0 < x) (hlt : x < p) :
    IsCoprime x (p : ℤ) := by
  obtain ⟨k, rfl⟩ := Int.eq_ofNat_of_zero_le h0.le
  rw [Nat.isCoprime_iff_coprime]
  apply Nat.Coprime.symm
  rw [Nat.Prime.coprime_iff_not_dvd hp]
  apply Nat.not_dvd_of_pos_of_lt <;> omega

/-- The loop started as in `prime_field_inv` / `secp256k1.inv` (state `(1, a mod p, 0, p)` with
    `a mod p ≠ 0`) returns a left inverse of `a` modulo the prime `p`. -/
theorem invLoop_start_spec {p : ℕ} (hp : p.Prime) (a : ℤ) (ha : a % (p : ℤ) ≠ 0) :
    ((invLoop (a % (p : ℤ)).toNat 1 (a % (p : ℤ)) 0 p : ℤ) : ZMod p) * (a : ZMod p) = 1 := by
  have hppos : (0 : ℤ) < p := by exact_mod_cast hp.pos
  have hnn := Int.emod_nonneg a (by omega : (p : ℤ) ≠ 0)
  have hlt := Int.emod_lt_of_pos a hppos
  apply invLoop_spec
  · omega
  · exact le_refl _
  · exact isCoprime_of_pos_lt_prime hp (by omega) hlt
  · simp [ZMod.intCast_mod]
  · simp

/-- **`prime_field_inv` is inversion in `ZMod p`** for every prime `p` and every integer `a`
    (also negative or `≥ p`); multiples of `p` are sent to `0` (the code's `inv0` convention, which is
    Mathlib's `0⁻¹ = 0`). -/
theorem primeFieldInv_spec {p : ℕ} (hp : p.Prime) (a : ℤ) :
    ((primeFieldInv a p : ℤ) : ZMod p) = (a : ZMod p)⁻¹ := by
  have : Fact p.Prime := ⟨hp⟩
  unfold primeFieldInv
  simp only [Int.emod_emod_of_dvd _ (dvd_refl (p : ℤ))]
  by_cases ha : a % (p : ℤ) = 0
  · rw [if_pos ha]
    have : (a : ZMod p) = 0 := by
      rw [ZMod.intCast_zmod_eq_zero_iff_dvd]; exact Int.dvd_of_emod_eq_zero ha
    simp [this]
  · rw [if_neg ha, ZMod.intCast_mod]
    exact eq_inv_of_mul_eq_one_left (invLoop_start_spec hp a ha)

theorem primeFieldInv_range {p : ℕ} (hp : 0 < p) (a : ℤ) :
    0 ≤ primeFieldInv a p ∧ primeFieldInv a p < p := by
  have hppos : (0 : ℤ) < p := by exact_mod_cast hp
  unfold primeFieldInv
  dsimp only
  split
  · exact ⟨le_refl _, hppos⟩
  · exact ⟨Int.emod_nonneg _ (by omega), Int.emod_lt_of_pos _ hppos⟩

theorem primeFieldInv_mul_emod {p : ℕ} (hp : p.Prime) (a : ℤ) (ha : a % (p : ℤ) ≠ 0) :
    (primeFieldInv a p * a) % (p : ℤ) = 1 % (p : ℤ) := by
  have : Fact p.Prime := ⟨hp⟩
  have h := primeFieldInv_spec hp a
  have hne : (a : ZMod p) ≠ 0 := by
    rw [Ne, ZMod.intCast_zmod_eq_zero_iff_dvd]
    intro hd; exact ha (Int.emod_eq_zero_of_dvd hd)
  have : ((primeFieldInv a p * a : ℤ) : ZMod p) = ((1 : ℤ) : ZMod p) := by
    push_cast; rw [h, inv_mul_cancel₀ hne]
  exact (ZMod.intCast_eq_intCast_iff' _ _ _).mp this

end PyEcc.FqSem
