/-
  For C06/C19 (ECDSA entry points of `py_ecc/secp256k1/secp256k1.py`).  `jacobian_multiply`, hence `multiply`, never
  raises (from `SecpSem.jacobian_multiply_spec`).  The `y` lift of `ecdsa_raw_recover` (`liftY`) is the sign fix of
  `beta = pow(r³ + 7, (P+1)//4, P)` for the parity as sign bit (`Lemmas/SignBit.lean`), and `beta` is a root exactly when
  `r³ + 7` is a square (`P % 4 = 3`); so on every input `ecdsaRawRecover` is `ValueError` outside `Accepts` and its
  arithmetic tail `recoverCore` on the lifted point inside (`recover_cases`).
-/
import PyEcc.Lemmas.SecpRefine
import PyEcc.Lemmas.PowerResidue
import PyEcc.Lemmas.SignBit
import PyEcc.Model.Ecdsa
import PyEcc.Lemmas.Control
import Mathlib.FieldTheory.Finite.Basic
import Mathlib.Tactic.Ring
import Mathlib.Tactic.LinearCombination

namespace PyEcc.EcdsaSem
open PyEcc PyEcc.Gen.Secp PyEcc.SecpSem PyEcc.Gen.Consts

theorem N_val : N = 115792089237316195423570985008687907852837564279074904382605163141518161494337 := rfl
theorem P_val : P = 115792089237316195423570985008687907853269984665640564039457584007908834671663 := rfl

/-- **`jacobian_multiply` never raises** (`jacobian_multiply_spec` without the representation part). -/
theorem jacobian_multiply_ok (a : ℤ × ℤ × ℤ) (n : ℤ) : ∃ T, jacobian_multiply a n = .ok T :=
  (jacobian_multiply_spec a n).imp fun _ h => h.1

theorem multiply_ok (a : ℤ × ℤ) (n : ℤ) : ∃ R, multiply a n = .ok R := by
  obtain ⟨T, hT⟩ := jacobian_multiply_ok (to_jacobian a) n
  exact ⟨_, multiply_of_ok hT⟩

open PyEcc.Ecdsa

/-- `xcubedaxb = (x*x*x + A*x + B) % P` of `ecdsa_raw_recover` (with `x = r`) -/
def xcub (r : ℤ) : ℤ := (r * r * r + A * r + B) % P

/-- `beta = pow(xcubedaxb, (P+1)//4, P)` of `ecdsa_raw_recover` -/
def beta (r : ℤ) : ℤ := powModI (xcub r) ((P + 1) / 4) P

/-- `y = beta if v % 2 ^ beta % 2 else (P - beta)` of `ecdsa_raw_recover` -/
def liftY (v r : ℤ) : ℤ := if pyXor (v % 2) (beta r % 2) ≠ 0 then beta r else P - beta r

/-- the arithmetic tail of `ecdsa_raw_recover` (after both tests), on the lifted point `(x, y)` -/
def recoverCore (msghash : Bytes) (x y r s : ℤ) : Except PyErr (ℤ × ℤ) := do
  let z := bytesToInt msghash
  let Gz ← jacobian_multiply (Gx, Gy, 1) ((N - z) % N)
  let XY ← jacobian_multiply (x, y, 1) s
  let Qr := jacobian_add Gz XY
  let Q ← jacobian_multiply Qr (inv r N)
  pure (from_jacobian Q)

theorem recoverCore_of_ok {h : Bytes} {x y r s : ℤ} {Gz XY Q : ℤ × ℤ × ℤ}
    (h1 : jacobian_multiply (Gx, Gy, 1) ((N - bytesToInt h) % N) = .ok Gz)
    (h2 : jacobian_multiply (x, y, 1) s = .ok XY)
    (h3 : jacobian_multiply (jacobian_add Gz XY) (inv r N) = .ok Q) :
    recoverCore h x y r s = .ok (from_jacobian Q) := by
  unfold recoverCore
  dsimp only
  rw [h1, ok_bind, h2, ok_bind, h3, ok_bind]
  rfl

theorem recoverCore_ok (h : Bytes) (x y r s : ℤ) : ∃ Q, recoverCore h x y r s = .ok Q := by
  obtain ⟨Gz, h1⟩ := jacobian_multiply_ok (Gx, Gy, 1) ((N - bytesToInt h) % N)
  obtain ⟨XY, h2⟩ := jacobian_multiply_ok (x, y, 1) s
  obtain ⟨Q, h3⟩ := jacobian_multiply_ok (jacobian_add Gz XY) (inv r N)
  exact ⟨_, recoverCore_of_ok h1 h2 h3⟩

/-- the un-normalised `s = inv(k, N) * (z + r * d) % N` of `ecdsa_raw_sign` -/
def signS0 (msghash priv : Bytes) (k r : ℤ) : ℤ :=
  inv k N * (bytesToInt msghash + r * bytesToInt priv) % N

/-- `ecdsa_raw_sign` (nonce explicit) when `multiply(G, k)` returns `(r, y)` -/
theorem rawSignWithK_of_ok {h priv : Bytes} {k r y : ℤ} (hm : multiply G k = .ok (r, y)) :
    rawSignWithK h priv k =
      .ok (27 + pyXor (y % 2) (if signS0 h priv k r * 2 < N then 0 else 1), r,
           if signS0 h priv k r * 2 < N then signS0 h priv k r else N - signS0 h priv k r) := by
  unfold rawSignWithK
  dsimp only
  rw [hm, ok_bind]
  rfl

theorem P_toNat : P.toNat = secp256k1_P := by decide
theorem secpP_mod4 : secp256k1_P % 4 = 3 := by decide
theorem sqrtExp_toNat : ((P + 1) / 4).toNat = (secp256k1_P + 1) / 4 := by decide

theorem powModI_cast (b e : ℤ) : ((powModI b e P : ℤ) : Fp) = (b : Fp) ^ e.toNat := by
  unfold powModI
  rw [P_toNat, Int.cast_natCast, CodecSem.powMod_cast, ← Int.cast_natCast (R := Fp),
    Int.toNat_of_nonneg (mod_nonneg b), cast_mod_P]

theorem powModI_range (b e : ℤ) : 0 ≤ powModI b e P ∧ powModI b e P < P := by
  unfold powModI
  rw [P_toNat]
  have h := CodecSem.powMod_lt (b % P).toNat e.toNat secp256k1_P (by decide)
  refine ⟨Int.natCast_nonneg _, ?_⟩
  rw [P_eq]; exact_mod_cast h

theorem fermat {t : Fp} (ht : t ≠ 0) : t ^ (secp256k1_P - 1) = 1 := ZMod.pow_card_sub_one_eq_one ht

/-- `xcubedaxb ≡ r³ + 7` (the generated `A = 0`, `B = 7`) -/
theorem xcub_cast (r : ℤ) : ((xcub r : ℤ) : Fp) = (r : Fp) ^ 3 + ((B : ℤ) : Fp) := by
  unfold xcub
  rw [cast_mod_P]; push_cast; rw [A_cast]; ring

theorem beta_cast (r : ℤ) : ((beta r : ℤ) : Fp) = ((r : Fp) ^ 3 + ((B : ℤ) : Fp)) ^ ((secp256k1_P + 1) / 4) := by
  unfold beta
  rw [powModI_cast, xcub_cast, sqrtExp_toNat]

theorem beta_range (r : ℤ) : 0 ≤ beta r ∧ beta r < P := powModI_range _ _

/-- `beta` is never `0`: `r³ + 7 ≢ 0` because `−7` is not a cube mod `P` -/
theorem beta_cast_ne_zero (r : ℤ) : ((beta r : ℤ) : Fp) ≠ 0 :=
  beta_cast r ▸ pow_ne_zero _ (no_root (r : Fp))

theorem P_odd : P % 2 = 1 := by decide

theorem pyXor_bit {a : ℤ} (ha : a = 0 ∨ a = 1) : pyXor a 0 = a ∧ pyXor a 1 = 1 - a := by
  rcases ha with rfl | rfl <;> exact ⟨rfl, rfl⟩

/-- parity is a sign bit on the residues in `[0, P)`: `P` is odd, so `P - y` has the other parity -/
theorem signBit_parity : SignBit (fun y : ℤ => 0 ≤ y ∧ y < P) (fun y : ℤ => (y : Fp)) (P - ·) (· % 2) where
  good_neg := fun {y} hy h0 => by
    have : y ≠ 0 := by rintro rfl; exact h0 Int.cast_zero
    omega
  map_neg := fun _ => by push_cast; rw [cast_P, zero_sub]
  inj := fun hx hy e => by
    have := (cast_eq_iff _ _).mp e
    rwa [Int.emod_eq_of_lt hx.1 hx.2, Int.emod_eq_of_lt hy.1 hy.2] at this
  flip := fun _ _ => by have := P_odd; omega

/-- the lift is the sign fix of `beta` for the parity `(v − 27) % 2` (for every int `v`) -/
theorem liftY_eq_pick (v r : ℤ) :
    liftY v r = if beta r % 2 ≠ (v - 27) % 2 then P - beta r else beta r := by
  have hc : pyXor (v % 2) (beta r % 2) ≠ 0 ↔ ¬ beta r % 2 ≠ (v - 27) % 2 := by
    obtain ⟨x0, x1⟩ := pyXor_bit (a := v % 2) (by omega)
    rcases (by omega : beta r % 2 = 0 ∨ beta r % 2 = 1) with e | e <;> rw [e]
    · rw [x0]; omega
    · rw [x1]; omega
  rw [liftY, if_congr hc rfl rfl, ite_not]

theorem liftY_spec (v r : ℤ) : (0 ≤ liftY v r ∧ liftY v r < P) ∧
    ((liftY v r : ℤ) : Fp) ^ 2 = ((beta r : ℤ) : Fp) ^ 2 ∧ liftY v r % 2 = (v - 27) % 2 := by
  rw [liftY_eq_pick]
  exact signBit_parity.pick (beta_range r) (beta_cast_ne_zero r) fun _ _ => by have := P_odd; omega

/-- the corner `y = 0` (where the code would take `y = P`) cannot occur -/
theorem liftY_pos (v r : ℤ) : 0 < liftY v r := by
  refine lt_of_le_of_ne (liftY_spec v r).1.1 fun e => beta_cast_ne_zero r ?_
  rw [← sq_eq_zero_iff, ← (liftY_spec v r).2.1, ← e, Int.cast_zero, zero_pow two_ne_zero]

/-- the first disjunct of the acceptance test passes exactly when `y² = r³ + 7` in the field -/
theorem check_iff_field (v r : ℤ) :
    (xcub r - liftY v r * liftY v r) % P = 0 ↔ ((liftY v r : ℤ) : Fp) ^ 2 = (r : Fp) ^ 3 + ((B : ℤ) : Fp) := by
  rw [← cast_eq_zero_iff, Int.cast_sub, Int.cast_mul, xcub_cast, sub_eq_zero, pow_two, eq_comm]

/-- **the residuosity test.** The code's test `(xcubedaxb - y*y) % P != 0` passes exactly when `r³ + 7` is a
quadratic residue mod `P` (some `t` has `t² = r³ + 7` in `ZMod P`); whichever `v` is asked for. -/
theorem check_iff_isSquare (v r : ℤ) :
    (xcub r - liftY v r * liftY v r) % P = 0 ↔ IsSquare ((r : Fp) ^ 3 + ((B : ℤ) : Fp)) := by
  rw [check_iff_field, (liftY_spec v r).2.1, beta_cast, CodecSem.sqrt_check_iff_of_mod4 secpP_mod4]

theorem liftY_unique {v r y' : ℤ} (hy' : 0 ≤ y' ∧ y' < P)
    (hsq : ((y' : ℤ) : Fp) ^ 2 = (r : Fp) ^ 3 + ((B : ℤ) : Fp)) (hpar : y' % 2 = (v - 27) % 2) :
    y' = liftY v r := by
  have hl := (check_iff_field v r).mp ((check_iff_isSquare v r).mpr ⟨(y' : Fp), by rw [← hsq, pow_two]⟩)
  exact signBit_parity.unique hy' (liftY_spec v r).1 (hsq.trans hl.symm) (hpar.trans (liftY_spec v r).2.2.symm)

/-- the inputs `ecdsa_raw_recover` does not refuse -/
def Accepts (v r s : ℤ) : Prop :=
  (v = 27 ∨ v = 28) ∧ r % N ≠ 0 ∧ s % N ≠ 0 ∧ IsSquare ((r : Fp) ^ 3 + ((B : ℤ) : Fp))

/-- `ecdsa_raw_recover` raises `ValueError` on the inputs it does not accept and runs its arithmetic tail on the
lifted point on the others -/
theorem recover_cases (h : Bytes) (v r s : ℤ) :
    (¬ Accepts v r s ∧ ecdsaRawRecover h v r s = .error .value) ∨
    (Accepts v r s ∧ ecdsaRawRecover h v r s = recoverCore h r (liftY v r) r s) := by
  unfold ecdsaRawRecover
  by_cases hv : ¬ (v = 27 ∨ v = 28)
  · exact .inl ⟨fun a => hv a.1, by simp only [if_pos hv]; rfl⟩
  by_cases hb : (xcub r - liftY v r * liftY v r) % P ≠ 0 ∨ r % N = 0 ∨ s % N = 0
  · refine .inl ⟨fun a => hb.elim (· ((check_iff_isSquare v r).mpr a.2.2.2)) (·.elim a.2.1 a.2.2.1), ?_⟩
    unfold liftY beta xcub at hb
    simp only [if_neg hv, if_pos hb]; rfl
  · refine .inr ⟨⟨not_not.mp hv, fun c => hb (.inr (.inl c)), fun c => hb (.inr (.inr c)),
      (check_iff_isSquare v r).mp (not_not.mp fun c => hb (.inl c))⟩, ?_⟩
    unfold liftY beta xcub at hb
    simp only [if_neg hv, if_neg hb]; rfl

end PyEcc.EcdsaSem
