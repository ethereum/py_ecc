/-
  For the G2 half of C11 (`Props/C11_G2Full.lean`), in `K2 = F_{p²}`: an on-curve triple of the twist curve
  `y² = x³ + 4(1+i)` never has affine `x = 0` or `y = 0`; the finite branch of `decompress_G2` is a relation between
  the words and THE root of `x³ + b2` with the requested sign flag (`decompressG2_fin_iff`); `compressG2_words` says
  what `compress_G2` writes for a finite on-curve triple.  Both round trips of `Props/C11_G2Full.lean` are compositions
  of the two.
-/
import PyEcc.Sem.Fq2Sqrt
import PyEcc.Props.C11_G2
import Mathlib.Tactic.FieldSimp
import Mathlib.Tactic.LinearCombination

set_option exponentiation.threshold 400

namespace PyEcc.Fq2Sqrt
open PyEcc PyEcc.Fqp PyEcc.FqpSem PyEcc.CodecSem Gen.Consts
open PyEcc.Swu2 (q goodHom_q Rq canon_pair zero_pair)

/-- a well-formed G2 triple: three `FQ2` objects (two coefficients each, reduced mod `p`) -/
def CanonPt (P : G2Pt) : Prop := Canon P.1 ∧ Canon P.2.1 ∧ Canon P.2.2

instance (P : G2Pt) : Decidable (CanonPt P) := by unfold CanonPt; infer_instance

theorem is_on_curve_iff2 (P : G2Pt) (hc : CanonPt P) :
    Gen.OptBls.is_on_curve P blsB2 = true ↔
      (P.2.2 = 0 ∨ q P.2.1 ^ 2 * q P.2.2 - q P.1 ^ 3 = B2 * q P.2.2 ^ 3) := by
  obtain ⟨hx, hy, hz⟩ := hc
  unfold Gen.OptBls.is_on_curve Gen.OptBls.is_inf
  by_cases h0 : P.2.2 = 0
  · simp [h0]
  · simp only [h0, decide_false, Bool.false_eq_true, ↓reduceIte, decide_eq_true_eq, false_or]
    have rz := Rq.of hz
    exact ((((Rq.of hy).pow 2).mul rz).sub ((Rq.of hx).pow 3)).eq_iff
      ((Rq.of canon_b2).mul (rz.pow 3))

theorem compressG2_fin {P : G2Pt} (hon : Gen.OptBls.is_on_curve P blsB2 = true) (hz : P.2.2 ≠ 0) :
    compressG2 P = .ok ((getI (P.1 / P.2.2).coeffs 1 + aflag (P.2.1 / P.2.2) * ((2 ^ 381 : ℕ) : Int)
        + ((2 ^ 383 : ℕ) : Int)).toNat, (getI (P.1 / P.2.2).coeffs 0).toNat) := by
  rw [compressG2_eq, if_pos hon, if_neg (by simp [Gen.OptBls.is_inf, hz]), pow2_381, pow2_383]

theorem canon_encodedX2 (z1 z2 : ℕ) : Canon (encodedX2 z1 z2) := canon_ofInts blsP_pos rfl

theorem rel_rhsOf2 (z1 z2 : ℕ) : Rq (rhsOf2 z1 z2) (q (encodedX2 z1 z2) ^ 3 + B2) :=
  ((Rq.of (canon_encodedX2 z1 z2)).pow 3).add (Rq.of canon_b2)

theorem canon_rhsOf2 (z1 z2 : ℕ) : Canon (rhsOf2 z1 z2) := (rel_rhsOf2 z1 z2).1
theorem q_rhsOf2 (z1 z2 : ℕ) : q (rhsOf2 z1 z2) = q (encodedX2 z1 z2) ^ 3 + B2 := (rel_rhsOf2 z1 z2).2

theorem encodedX2_eq {x : F2} (hx : Canon x) {z1 z2 : ℕ} (h0 : (z2 : Int) = getI x.coeffs 0)
    (h1 : ((z1 % 2 ^ 381 : ℕ) : Int) = getI x.coeffs 1) : encodedX2 z1 z2 = x := by
  obtain ⟨re, im, rfl, hr0, hr1, hi0, hi1⟩ := canon_pair hx
  simp only [getI_pair0, getI_pair1] at h0 h1
  unfold encodedX2 Fqp.ofInts
  rw [pow2_381, h0, h1]
  simp only [List.map_cons, List.map_nil, Int.emod_eq_of_lt hr0 hr1, Int.emod_eq_of_lt hi0 hi1]

theorem getI_encodedX2 {z1 z2 : ℕ} (h1 : z1 % 2 ^ 381 < blsP) (h2 : z2 < blsP) :
    getI (encodedX2 z1 z2).coeffs 0 = z2 ∧ getI (encodedX2 z1 z2).coeffs 1 = ((z1 % 2 ^ 381 : ℕ) : Int) := by
  unfold encodedX2 Fqp.ofInts
  rw [pow2_381]
  simp only [List.map_cons, List.map_nil, getI_pair0, getI_pair1]
  exact ⟨Int.emod_eq_of_lt (by omega) (by exact_mod_cast h2),
    Int.emod_eq_of_lt (by omega) (by exact_mod_cast h1)⟩

theorem encodedX2_eq_zero_iff {z1 z2 : ℕ} (h1 : z1 % 2 ^ 381 < blsP) (h2 : z2 < blsP) :
    encodedX2 z1 z2 = 0 ↔ (z1 % 2 ^ 381 = 0 ∧ z2 = 0) := by
  obtain ⟨e0, e1⟩ := getI_encodedX2 h1 h2
  constructor
  · intro h
    rw [h, zero_pair] at e0 e1
    simp only [getI_pair0, getI_pair1] at e0 e1
    constructor <;> exact_mod_cast (by omega)
  · rintro ⟨a, b⟩
    unfold encodedX2
    rw [pow2_381, a, b]
    rfl

theorem ofInts_mulInt_neg_one (s : F2) : (Fqp.ofInts (Fqp.mulInt s (-1)).coeffs : F2) = -s := by
  show Fqp.ofInts (Fqp.mulInt s (-1)).coeffs = Fqp.neg s
  unfold Fqp.mulInt Fqp.neg Fqp.ofInts
  simp only [List.map_map, Fqp.mk.injEq]
  apply List.map_congr_left
  intro c _
  simp only [Function.comp_apply, Int.mul_neg_one, Int.emod_emod_of_dvd _ (dvd_refl _)]

/-- `decompress_G2` negates the root exactly when its sign flag differs from `a_flag1` -/
theorem pickY2_eq (a : Bool) {s : F2} (hs : Canon s) :
    pickY2 a s = if aflag s ≠ (if a then 1 else 0) then -s else s := by
  unfold pickY2
  rw [ofInts_mulInt_neg_one]
  obtain ⟨re, im, rfl, hr0, hr1, hi0, hi1⟩ := canon_pair hs
  unfold aflag
  simp only [getI_pair0, getI_pair1]
  by_cases him : im > 0
  · have : im ≠ 0 := by omega
    simp only [him, this, true_and, false_and, or_false, if_true]
  · have : im = 0 := by omega
    subst this
    simp only [gt_iff_lt, lt_self_iff_false, false_and, true_and, false_or, if_false]

theorem pickY2_spec (a : Bool) {s : F2} (hs : Canon s) (h0 : s ≠ 0) :
    Canon (pickY2 a s) ∧ q (pickY2 a s) ^ 2 = q s ^ 2 ∧ aflag (pickY2 a s) = (if a then 1 else 0) := by
  rw [pickY2_eq a hs]
  refine signBit_aflag.pick hs (fun h => h0 ((Swu2.q_eq_zero hs).mp h)) fun h1 h2 => ?_
  obtain ⟨f01, fneg, _⟩ := flag_facts hs h0
  cases a <;> simp only [if_true, if_false, Bool.false_eq_true] at h1 ⊢ <;> omega

/-- a normalised triple `(x, y, 1)` with `y² = x³ + b2` passes `is_on_curve` (so the decoder's final re-check never
    fails) -/
theorem on_curve_norm {x y : F2} (hx : Canon x) (hy : Canon y) (h : q y ^ 2 = q x ^ 3 + B2) :
    Gen.OptBls.is_on_curve (x, y, (1 : F2)) blsB2 = true := by
  rw [is_on_curve_iff2 _ ⟨hx, hy, goodHom_q.good_one⟩]
  right
  show q y ^ 2 * q (1 : F2) - q x ^ 3 = B2 * q (1 : F2) ^ 3
  rw [goodHom_q.map_one, h]; ring

theorem affine_of_on_curve {P : G2Pt} (hc : CanonPt P) (hon : Gen.OptBls.is_on_curve P blsB2 = true)
    (hz : P.2.2 ≠ 0) :
    Canon (P.1 / P.2.2) ∧ Canon (P.2.1 / P.2.2) ∧
      q (P.1 / P.2.2) = q P.1 / q P.2.2 ∧ q (P.2.1 / P.2.2) = q P.2.1 / q P.2.2 ∧
      q (P.2.1 / P.2.2) ^ 2 = q (P.1 / P.2.2) ^ 3 + B2 ∧ P.1 / P.2.2 ≠ 0 ∧ P.2.1 / P.2.2 ≠ 0 := by
  obtain ⟨hX, hY, hZ⟩ := hc
  obtain ⟨hcx, ex⟩ := (Rq.of hX).div (Rq.of hZ)
  obtain ⟨hcy, ey⟩ := (Rq.of hY).div (Rq.of hZ)
  have hZ0 : q P.2.2 ≠ 0 := fun h => hz ((Swu2.q_eq_zero hZ).mp h)
  have hcurve := ((is_on_curve_iff2 P ⟨hX, hY, hZ⟩).mp hon).resolve_left hz
  have hyy : q (P.2.1 / P.2.2) ^ 2 = q (P.1 / P.2.2) ^ 3 + B2 := by
    rw [ex, ey]; field_simp; linear_combination hcurve
  refine ⟨hcx, hcy, ex, ey, hyy, ?_, ?_⟩
  · intro h
    rw [(Swu2.q_eq_zero hcx).mpr h] at hyy
    exact B2_not_square ⟨q (P.2.1 / P.2.2), by rw [← pow_two, hyy]; ring⟩
  · intro h
    rw [(Swu2.q_eq_zero hcy).mpr h] at hyy
    exact cube_add_B2_ne_zero (q (P.1 / P.2.2)) (by rw [← hyy]; ring)

theorem div_one2 {x : F2} (hx : Canon x) : x / (1 : F2) = x :=
  (((Rq.of hx).div .one).eq_iff (Rq.of hx)).mpr (div_one _)

theorem one_ne_zero2 : (1 : F2) ≠ 0 := by decide

theorem rhsOf2_ne_zero (z1 z2 : ℕ) : rhsOf2 z1 z2 ≠ 0 := by
  intro h
  exact cube_add_B2_ne_zero _ ((rel_rhsOf2 z1 z2).eq_zero_iff.mp h)

theorem sqrt_rhs_isSome_iff' (z1 z2 : ℕ) :
    (∃ s, modularSquarerootInFq2 (rhsOf2 z1 z2) = some s) ↔
      IsSquare (q (encodedX2 z1 z2) ^ 3 + B2) := by
  rw [← q_rhsOf2, ← not_iff_not, ← sqrt_none_iff (canon_rhsOf2 z1 z2) (rhsOf2_ne_zero z1 z2), not_exists,
    Option.eq_none_iff_forall_ne_some]

theorem sqrt_rhs_isSome_iff (z1 z2 : ℕ) :
    (∃ s, modularSquarerootInFq2 (rhsOf2 z1 z2) = some s) ↔ ∃ w : F2, Canon w ∧ w * w = rhsOf2 z1 z2 := by
  constructor
  · rintro ⟨s, hs⟩
    exact ⟨s, sqrt_canon (canon_rhsOf2 z1 z2) hs, sqrt_spec (canon_rhsOf2 z1 z2) hs⟩
  · rintro ⟨w, hw, hww⟩
    exact (sqrt_rhs_isSome_iff' z1 z2).mpr ⟨q w, by rw [← q_rhsOf2, ← hww, goodHom_q.map_mul hw hw]⟩

/-- the decoder's `y`, once `modular_squareroot_in_FQ2(v)` has returned `s`: well-formed, a root of `v`, with the
    requested sign flag -/
theorem sqrt_pick_spec {v s : F2} (hv : Canon v) (hs : modularSquarerootInFq2 v = some s) (a : Bool) :
    Canon (pickY2 a s) ∧ q (pickY2 a s) ^ 2 = q v ∧ aflag (pickY2 a s) = (if a then 1 else 0) := by
  have hsc := sqrt_canon hv hs
  obtain ⟨p1, p3, p4⟩ := pickY2_spec a hsc (sqrt_is_larger hv hs).1
  exact ⟨p1, by rw [p3, ← sqrt_spec hv hs, goodHom_q.map_mul hsc hsc, pow_two], p4⟩

/-- **the finite branch of `decompress_G2` as a relation.**  On flags `c = 1, b = 0` and sign flag `a` the decoder
    returns `(x, y, 1)` for `x = FQ2([z2, z1 % 2^381])` and THE root `y` of `x³ + b2` with sign flag `a`, provided both
    words are reduced and there is a root; otherwise nothing (`x = 0` is among the rejected: `b2` is not a square). -/
theorem decompressG2_fin_iff {z1 z2 : ℕ} {a : Bool} (hf : getFlags z1 = (true, false, a)) {P : G2Pt} :
    decompressG2 z1 z2 = .ok P ↔ z1 % 2 ^ 381 < blsP ∧ z2 < blsP ∧ ∃ y, Canon y ∧
      q y ^ 2 = q (encodedX2 z1 z2) ^ 3 + B2 ∧ aflag y = (if a then 1 else 0) ∧ (encodedX2 z1 z2, y, 1) = P := by
  have ha : (getFlags z1).2.2 = a := by rw [hf]
  rw [decompressG2_ok_iff]
  constructor
  · rintro (⟨-, -, h1, h2, s, hs, rfl, -⟩ | ⟨hf', -⟩)
    · obtain ⟨p1, p2, p3⟩ := sqrt_pick_spec (canon_rhsOf2 z1 z2) hs a
      exact ⟨h1, h2, _, p1, p2.trans (q_rhsOf2 z1 z2), p3, by rw [decodedPt2, ha]; rfl⟩
    · cases hf'.symm.trans hf
  · rintro ⟨h1, h2, y, hcy, hyy, hfl, rfl⟩
    have hsq : IsSquare (q (encodedX2 z1 z2) ^ 3 + B2) := ⟨q y, by rw [← hyy, pow_two]⟩
    obtain ⟨s, hs⟩ := (sqrt_rhs_isSome_iff' z1 z2).mpr hsq
    obtain ⟨p1, p2, p3⟩ := sqrt_pick_spec (canon_rhsOf2 z1 z2) hs a
    have hpick : pickY2 a s = y :=
      signBit_aflag.unique p1 hcy (p2.trans ((q_rhsOf2 z1 z2).trans hyy.symm)) (p3.trans hfl.symm)
    have hdec : decodedPt2 z1 z2 s = (encodedX2 z1 z2, y, 1) := by rw [decodedPt2, ha, hpick]; rfl
    refine .inl ⟨⟨a, hf⟩, ?_, h1, h2, s, hs, hdec, hdec ▸ on_curve_norm (canon_encodedX2 z1 z2) hcy hyy⟩
    rw [← encodedX2_eq_zero_iff h1 h2]
    intro hx
    rw [(Swu2.q_eq_zero (canon_encodedX2 z1 z2)).mpr hx, zero_pow (by decide), zero_add] at hsq
    exact B2_not_square hsq

/-- **`compress_G2` on a finite on-curve triple whose `x = X/Z` is reduced**: the two words are reduced and read back as
    `x = X/Z`; the first has flags `c = 1, b = 0` and the sign flag of `y = Y/Z` -/
theorem compressG2_words {P : G2Pt} (hx : Canon (P.1 / P.2.2)) (hon : Gen.OptBls.is_on_curve P blsB2 = true)
    (hz : P.2.2 ≠ 0) :
    ∃ z1 z2 a, compressG2 P = .ok (z1, z2) ∧ getFlags z1 = (true, false, a) ∧ z1 % 2 ^ 381 < blsP ∧ z2 < blsP ∧
      encodedX2 z1 z2 = P.1 / P.2.2 ∧ aflag (P.2.1 / P.2.2) = (if a then 1 else 0) := by
  obtain ⟨r0, r1⟩ := getI_div_range P.1 P.2.2 0
  obtain ⟨i0, i1⟩ := getI_div_range P.1 P.2.2 1
  have f01 := aflag_div_range P.2.1 P.2.2
  obtain ⟨wf, w4, -⟩ := compress_word i0 i1 f01 rfl
  rw [← w4] at i1
  refine ⟨_, _, _, compressG2_fin hon hz, wf, Int.ofNat_lt.mp i1, (Int.toNat_lt r0).mpr r1,
    encodedX2_eq hx (Int.toNat_of_nonneg r0) w4, ?_⟩
  rcases f01 with e | e <;> rw [e] <;> rfl

/-- `word_recompose` in the integer arithmetic of `compress_G2` -/
theorem word_recompose2 {z : ℕ} {a : Bool} (hz : z < 2 ^ 384) (h : getFlags z = (true, false, a)) :
    (((z % 2 ^ 381 : ℕ) : Int) + (if a then 1 else 0) * ((2 ^ 381 : ℕ) : Int) + ((2 ^ 383 : ℕ) : Int)).toNat
      = z := by
  have := word_recompose hz h
  cases a <;> simp only [if_true, if_false, Bool.false_eq_true] at this ⊢ <;> omega

end PyEcc.Fq2Sqrt
