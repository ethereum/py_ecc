/-
  The transfer layer (`Sem/TransferFqp.lean`) instantiated at the degree-12 extension fields `FQ12`:

      `K12   = AdjoinRoot (modulus blsP blsMc12) = F_p[X]/(X¹² − 2X⁶ + 2)`   (BLS12-381)
      `K12bn = AdjoinRoot (modulus bnP bnMc12)   = F_p[X]/(X¹² − 18X⁶ + 82)` (bn128)

  Both are Mathlib FIELDS (`Props/C08_Fq12.lean`: the moduli are irreducible), so
  `toQ : Fqp v p mc12 → K12` is a `GoodHom` on canonical elements (12 coefficients in `[0, p)`), for the
  reference class (`v = .ref`) and the optimized class (`v = .opt`).  Side conditions of the
  field-generic curve theorems: `2 ≠ 0`, `3 ≠ 0`, `b12` canonical with non-zero value.
-/
import PyEcc.Sem.TransferFqp
import PyEcc.Props.C08_Fq12
import PyEcc.Lemmas.TransferRefLawsBls

set_option linter.unusedSectionVars false

namespace PyEcc.TwistSem
open PyEcc PyEcc.Gen PyEcc.Gen.Consts PyEcc.Fqp PyEcc.FqpSem PyEcc.Transfer PyEcc.Irred12

/-- BLS12-381: the semantic field of `FQ12` coordinates -/
abbrev K12 : Type := AdjoinRoot (modulus blsP blsMc12)
/-- bn128: the semantic field of `FQ12` coordinates -/
abbrev K12bn : Type := AdjoinRoot (modulus bnP bnMc12)

/-- model type of BLS12-381 `FQ12` elements (`v = .ref`: `py_ecc.fields.bls12_381_FQ12`,
    `v = .opt`: `py_ecc.fields.optimized_bls12_381_FQ12`) -/
abbrev F12 (v : Variant) : Type := Fqp v blsP blsMc12
/-- model type of bn128 `FQ12` elements -/
abbrev F12bn (v : Variant) : Type := Fqp v bnP bnMc12

theorem goodHom_F12 {v : Variant} : GoodHom (Canon (v := v) (p := blsP) (mc := blsMc12)) (toQ : F12 v → K12) :=
  goodHom_toQ (by decide) sane_bls12

theorem goodHom_F12bn {v : Variant} :
    GoodHom (Canon (v := v) (p := bnP) (mc := bnMc12)) (toQ : F12bn v → K12bn) :=
  goodHom_toQ (by decide) sane_bn12

/-- `optimized_bls12_381.b12` / `bls12_381.b12` (`FQ12([4, 0, …])`) as an element of the model type -/
def blsB12 (v : Variant) : F12 v :=
  match v with
  | .ref => ⟨bls12_381_b12⟩
  | .opt => ⟨optimized_bls12_381_b12⟩

/-- `optimized_bn128.b12` / `bn128.b12` (`FQ12([3, 0, …])`) as an element of the model type -/
def bnB12 (v : Variant) : F12bn v :=
  match v with
  | .ref => ⟨bn128_b12⟩
  | .opt => ⟨optimized_bn128_b12⟩

theorem blsB12_eq (v : Variant) : blsB12 v = ((4 : ℕ) : F12 v) := by cases v <;> decide
theorem bnB12_eq (v : Variant) : bnB12 v = ((3 : ℕ) : F12bn v) := by cases v <;> decide

/-- side conditions of the generic theorems in `K12`: `2 ≠ 0`, `3 ≠ 0`, `b12 = 4` canonical, non-zero -/
theorem k12_field_ok (v : Variant) :
    (2 : K12) ≠ 0 ∧ (3 : K12) ≠ 0 ∧ Canon (blsB12 v) ∧ (toQ (blsB12 v) : K12) ≠ 0 :=
  ⟨goodHom_ofNat_ne_zero (goodHom_F12 (v := .opt)) 2 (by decide),
    goodHom_ofNat_ne_zero (goodHom_F12 (v := .opt)) 3 (by decide),
    by cases v <;> decide, C08P.toQ_ne_zero (by decide) (by cases v <;> decide) (by cases v <;> decide)⟩

/-- side conditions of the generic theorems in `K12bn` -/
theorem k12bn_field_ok (v : Variant) :
    (2 : K12bn) ≠ 0 ∧ (3 : K12bn) ≠ 0 ∧ Canon (bnB12 v) ∧ (toQ (bnB12 v) : K12bn) ≠ 0 :=
  ⟨goodHom_ofNat_ne_zero (goodHom_F12bn (v := .opt)) 2 (by decide),
    goodHom_ofNat_ne_zero (goodHom_F12bn (v := .opt)) 3 (by decide),
    by cases v <;> decide, C08P.toQ_ne_zero (by decide) (by cases v <;> decide) (by cases v <;> decide)⟩

/-- BLS12-381: the curve code on canonical `FQ12` values computes in `E(K12) : y² = x³ + 4` -/
theorem curveF12 (v : Variant) : CurveHom Canon (toQ : F12 v → K12) (blsB12 v) (toQ (blsB12 v)) := .of goodHom_F12 (k12_field_ok v)

/-- bn128: the curve code on canonical `FQ12` values computes in `E(K12bn) : y² = x³ + 3` -/
theorem curveF12bn (v : Variant) : CurveHom Canon (toQ : F12bn v → K12bn) (bnB12 v) (toQ (bnB12 v)) :=
  .of goodHom_F12bn (k12bn_field_ok v)

theorem toQ_blsB12 (v : Variant) : (toQ (blsB12 v) : K12) = 4 := by
  rw [blsB12_eq, (goodHom_F12 (v := v)).map_natCast]; norm_cast

theorem toQ_bnB12 (v : Variant) : (toQ (bnB12 v) : K12bn) = 3 := by
  rw [bnB12_eq, (goodHom_F12bn (v := v)).map_natCast]; norm_cast

abbrev CanonO {v : Variant} {p : ℕ} {mc : List Int} (pt : Option (Fqp v p mc × Fqp v p mc)) : Prop :=
  GoodO Canon pt

abbrev CanonE {v : Variant} {p : ℕ} {mc : List Int}
    (r : Except PyErr (Option (Fqp v p mc × Fqp v p mc))) : Prop := GoodE Canon r

instance {v : Variant} {p : ℕ} {mc : List Int} (pt : Option (Fqp v p mc × Fqp v p mc)) :
    Decidable (CanonO pt) := by
  rcases pt with _ | ⟨x, y⟩
  · exact isTrue trivial
  · unfold CanonO GoodO GoodP; infer_instance

end PyEcc.TwistSem
