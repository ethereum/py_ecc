/-
  Order and exponent of a finite commutative group from a few of its elements (used for `E : y² = x³ + b` over an
  arbitrary finite field, without Hasse's bound; the curve enters in `Sem/GroupOrder.lean`, `Lemmas/Hb2Phi.lean`).
  A point `P` of prime order `q` and a point `R ∉ ⟨P⟩` with `q • R = 0`
  span a subgroup `≅ (Z/q)²` of exponent `q` (`exists_sq_subgroup`: `⟨P⟩ ∩ ⟨R⟩ = 0`, so the sum map on `⟨P⟩ × ⟨R⟩` is
  injective); hence `q² ∣ #G`, where `q² ∤ #G` the `q`-torsion is `⟨P⟩` (`mem_multiples_of_torsion`), and if
  `#G = q²·m` every element is killed by `q·m` (`exponent_of_sq`).  For an endomorphism `φ` with `φ³ P = P`,
  `φ P = k • P` forces `k³ ≡ 1 (mod q)`, so `φ P ∉ ⟨P⟩` follows from finitely many checks `φ P ≠ l • P`, `l` the cube
  roots of unity mod `q` (`not_mem_of_cube`, `cube_roots_of_split`, `cube_root_of_mod3`).
-/
import PyEcc.Sem.GroupOrder
import Mathlib.GroupTheory.Coset.Card
import Mathlib.GroupTheory.QuotientGroup.Basic
import Mathlib.GroupTheory.OrderOfElement
import Mathlib.GroupTheory.SpecificGroups.Cyclic
import Mathlib.Algebra.Group.Subgroup.Finite
import Mathlib.FieldTheory.Finite.Basic

namespace PyEcc.Hb2
open WeierstrassCurve PyEcc

section group
variable {G : Type*} [AddCommGroup G]

theorem exists_sq_subgroup {q : ℕ} (hq : q.Prime) (P R : G) (hP : addOrderOf P = q)
    (hR : q • R = 0) (hnot : R ∉ AddSubgroup.zmultiples P) :
    ∃ H : AddSubgroup G, Nat.card H = q ^ 2 ∧ ∀ x ∈ H, q • x = 0 := by
  have := Fact.mk hq
  have hRo : addOrderOf R = q := addOrderOf_eq_prime hR fun h => hnot (h ▸ zero_mem _)
  have kill : ∀ {S : G}, q • S = 0 → ∀ y ∈ AddSubgroup.zmultiples S, q • y = 0 := by
    intro S hS y hy
    obtain ⟨i, rfl⟩ := AddSubgroup.mem_zmultiples_iff.mp hy
    rw [smul_comm, hS, smul_zero]
  -- a common `x ≠ 0` has order `q` like `R`, so `⟨x⟩ = ⟨R⟩`, which puts `R` into `⟨P⟩`
  have hdisj : Disjoint (AddSubgroup.zmultiples P) (AddSubgroup.zmultiples R) := by
    rw [AddSubgroup.disjoint_def]
    intro x hxP hxR
    by_contra hx0
    have : Finite (AddSubgroup.zmultiples R) :=
      Nat.finite_of_card_ne_zero (by rw [Nat.card_zmultiples, hRo]; exact hq.ne_zero)
    have hxR' := AddSubgroup.eq_of_le_of_card_ge (AddSubgroup.zmultiples_le_of_mem hxR) (by
      rw [Nat.card_zmultiples, Nat.card_zmultiples, hRo, addOrderOf_eq_prime (kill hR x hxR) hx0])
    exact hnot (AddSubgroup.zmultiples_le_of_mem hxP (hxR' ▸ AddSubgroup.mem_zmultiples R))
  -- the sum map `⟨P⟩ × ⟨R⟩ → G`
  let f : (AddSubgroup.zmultiples P × AddSubgroup.zmultiples R) →+ G :=
    AddMonoidHom.coprod (AddSubgroup.zmultiples P).subtype (AddSubgroup.zmultiples R).subtype
  have hinj : Function.Injective f := AddSubgroup.add_injective_of_disjoint hdisj
  refine ⟨f.range, ?_, ?_⟩
  · rw [Nat.card_congr (AddMonoidHom.ofInjective hinj).toEquiv.symm, Nat.card_prod, Nat.card_zmultiples,
      Nat.card_zmultiples, hP, hRo, sq]
  · rintro x ⟨a, rfl⟩
    show q • ((a.1 : G) + (a.2 : G)) = 0
    rw [smul_add, kill (hP ▸ addOrderOf_nsmul_eq_zero P) _ a.1.2, kill hR _ a.2.2, add_zero]

theorem sq_dvd_card [Finite G] {q : ℕ} (H : AddSubgroup G) (hH : Nat.card H = q ^ 2) :
    q ^ 2 ∣ Nat.card G := hH ▸ AddSubgroup.card_addSubgroup_dvd_card H

/-- `G ⧸ H` has `m` elements, so `m • x ∈ H` -/
theorem exponent_of_sq [Finite G] {q m : ℕ} (hcard : Nat.card G = q ^ 2 * m) (H : AddSubgroup G)
    (hH : Nat.card H = q ^ 2) (hexp : ∀ x ∈ H, q • x = 0) (x : G) : (q * m) • x = 0 := by
  have hpos : 0 < q ^ 2 := hH ▸ Nat.card_pos
  have hq : Nat.card (G ⧸ H) = m := by
    have := AddSubgroup.card_eq_card_quotient_mul_card_addSubgroup H
    rw [hcard, hH, mul_comm] at this
    exact (Nat.eq_of_mul_eq_mul_right hpos this).symm
  have h3 : ((m • x : G) : G ⧸ H) = 0 := by
    rw [QuotientAddGroup.mk_nsmul, ← hq]; exact card_nsmul_eq_zero'
  rw [mul_smul]; exact hexp _ ((QuotientAddGroup.eq_zero_iff _).mp h3)

theorem not_mem_of_cube {q : ℕ} [Fact q.Prime] (φ : G →+ G) (P : G) (hP : addOrderOf P = q)
    (h3 : φ (φ (φ P)) = P) (l₁ l₂ : ℕ)
    (hroots : ∀ k : ZMod q, k ^ 3 = 1 → k = 1 ∨ k = (l₁ : ZMod q) ∨ k = (l₂ : ZMod q))
    (c0 : φ P ≠ P) (c1 : φ P ≠ l₁ • P) (c2 : φ P ≠ l₂ • P) :
    φ P ∉ AddSubgroup.zmultiples P := by
  intro hmem
  have hfin : IsOfFinAddOrder P := by
    rw [← addOrderOf_pos_iff, hP]; exact (Fact.out : q.Prime).pos
  obtain ⟨k, hk⟩ := (AddSubmonoid.mem_multiples_iff _ _).mp (hfin.mem_multiples_iff_mem_zmultiples.mpr hmem)
  -- multiples of `P` are compared in `ZMod q`
  have key : ∀ m n : ℕ, m • P = n • P ↔ (m : ZMod q) = n := fun m n => by
    rw [nsmul_eq_nsmul_iff_modEq, hP, ZMod.natCast_eq_natCast_iff]
  have hz : (k : ZMod q) ^ 3 = 1 := by
    rw [← Nat.cast_pow, ← Nat.cast_one, ← key, one_smul]
    conv_rhs => rw [← h3, ← hk, map_nsmul, ← hk, map_nsmul, map_nsmul, ← hk]
    rw [smul_smul, smul_smul]; congr 1; ring
  rcases hroots _ hz with h | h | h
  · exact c0 (hk.symm.trans (((key k 1).mpr (h.trans Nat.cast_one.symm)).trans (one_smul ℕ P)))
  · exact c1 (hk.symm.trans ((key k l₁).mpr h))
  · exact c2 (hk.symm.trans ((key k l₂).mpr h))

/-- cube roots of unity in `ZMod q` when `X² + X + 1 = (X − l₁)(X − l₂)` -/
theorem cube_roots_of_split {q : ℕ} [Fact q.Prime] (l₁ l₂ : ZMod q) (hs : l₁ + l₂ + 1 = 0)
    (hp : l₁ * l₂ = 1) (k : ZMod q) (hk : k ^ 3 = 1) : k = 1 ∨ k = l₁ ∨ k = l₂ := by
  have : (k - 1) * ((k - l₁) * (k - l₂)) = 0 := by
    have e : (k - 1) * ((k - l₁) * (k - l₂))
        = k ^ 3 - 1 - (k - 1) * k * (l₁ + l₂ + 1) + (k - 1) * (l₁ * l₂ - 1) := by ring
    rw [e, hk, hs, hp]; ring
  rcases mul_eq_zero.mp this with h | h
  · exact Or.inl (sub_eq_zero.mp h)
  · rcases mul_eq_zero.mp h with h | h
    · exact Or.inr (Or.inl (sub_eq_zero.mp h))
    · exact Or.inr (Or.inr (sub_eq_zero.mp h))

theorem cube_root_of_mod3 {q : ℕ} [Fact q.Prime] (h : Nat.Coprime 3 (q - 1)) (k : ZMod q)
    (hk : k ^ 3 = 1) : k = 1 := by
  have hk0 : k ≠ 0 := by
    rintro rfl
    simp at hk
  have h2 : k ^ (q - 1) = 1 := ZMod.pow_card_sub_one_eq_one hk0
  have := pow_gcd_eq_one.mpr ⟨hk, h2⟩
  rw [show Nat.gcd 3 (q - 1) = 1 from h, pow_one] at this
  exact this

end group

/-- a point killed by `r` is a multiple `k • g`, `k < r`, of any point `g` of order `r`, in a finite
    commutative group whose order is not divisible by `r²` (otherwise the two span a subgroup `≅ (Z/r)²`) -/
theorem mem_multiples_of_torsion {G : Type} [AddCommGroup G] [Finite G] {r : ℕ} (hr : r.Prime)
    (hsq : ¬ r ^ 2 ∣ Nat.card G) (g P : G) (hg : addOrderOf g = r) (hP : r • P = 0) :
    ∃ k : ℕ, k < r ∧ P = k • g := by
  classical
  have hmem : P ∈ AddSubgroup.zmultiples g := by
    by_contra hnot
    obtain ⟨H, hH, _⟩ := exists_sq_subgroup hr g P hg hP hnot
    exact hsq (sq_dvd_card H hH)
  have hfin : IsOfFinAddOrder g := by rw [← addOrderOf_pos_iff, hg]; exact hr.pos
  obtain ⟨k, hk, rfl⟩ := Finset.mem_image.mp (hfin.mem_zmultiples_iff_mem_range_addOrderOf.mp hmem)
  exact ⟨k, hg ▸ Finset.mem_range.mp hk, rfl⟩

end PyEcc.Hb2
