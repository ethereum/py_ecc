/-
  Elementary determination of the order of `E : y² = x³ + b` over a finite field, without Hasse's bound (used for
  secp256k1, bn128 G1 and, through `Sem/GroupOrderK.lean`, for the curves over `Fp²`): `#E(K) ≤ 2·#K + 1` (at most two
  `y` per `x`, plus ∞), and a divisor `n` of `#G` is `#G` when `#G < 2n`, or when `#G < 3n` and there is no element
  of order two.  Over `ZMod p` (`card_point_eq`): a point of prime order `n` with `2p + 1 < 3n`, and no root of `x³ + b`
  (no point with `y = 0`, i.e. no 2-torsion), force `#E(F_p) = n`; hence `n • Q = 0` for EVERY point.
-/
import PyEcc.Lemmas.CurveAux
import Mathlib.GroupTheory.Perm.Cycle.Type
import Mathlib.RingTheory.Polynomial.Basic
import Mathlib.Algebra.Polynomial.Roots
import Mathlib.FieldTheory.Finite.Basic
import Mathlib.Tactic.LinearCombination
import Mathlib.Tactic.Linarith

namespace PyEcc.Hb2
open WeierstrassCurve PyEcc

section bound
variable {K : Type} [Field K] [Fintype K] [DecidableEq K]

def sols (b : K) : Finset (K × K) := Finset.univ.filter (fun a => a.2 ^ 2 = a.1 ^ 3 + b)

lemma sq_fiber_le_two (c : K) : (Finset.univ.filter (fun y : K => y ^ 2 = c)).card ≤ 2 := by
  classical
  have : (Finset.univ.filter (fun y : K => y ^ 2 = c)) ⊆ (Polynomial.nthRoots 2 c).toFinset := by
    intro y hy
    simp only [Finset.mem_filter, Finset.mem_univ, true_and] at hy
    simp [Polynomial.mem_nthRoots, hy]
  calc _ ≤ (Polynomial.nthRoots 2 c).toFinset.card := Finset.card_le_card this
    _ ≤ Multiset.card (Polynomial.nthRoots 2 c) := Multiset.toFinset_card_le _
    _ ≤ 2 := Polynomial.card_nthRoots 2 c

lemma card_sols_le (b : K) : (sols b).card ≤ 2 * Fintype.card K := by
  classical
  have h := Finset.card_le_mul_card_image (f := Prod.fst) (sols b) 2 (by
    intro x _
    have : (Finset.filter (fun a => a.1 = x) (sols b)).card
        ≤ (Finset.univ.filter (fun y : K => y ^ 2 = x ^ 3 + b)).card := by
      apply Finset.card_le_card_of_injOn Prod.snd
      · intro a ha
        simp only [sols, Finset.coe_filter, Finset.mem_filter, Finset.mem_univ, true_and,
          Set.mem_ofPred_eq] at ha ⊢
        rw [← ha.2]; exact ha.1
      · intro a ha a' ha' h
        simp only [Finset.coe_filter, Set.mem_ofPred_eq] at ha ha'
        exact Prod.ext (ha.2.trans ha'.2.symm) h
    exact this.trans (sq_fiber_le_two _))
  calc (sols b).card ≤ 2 * ((sols b).image Prod.fst).card := h
    _ ≤ 2 * (Finset.univ : Finset K).card := by
        gcongr; exact Finset.subset_univ _
    _ = 2 * Fintype.card K := by simp

/-- points inject into `Option` of the solution set -/
def ptToOpt (b : K) : (W b).Point → Option {a : K × K // a ∈ sols b}
  | .zero => none
  | .some x y h => some ⟨(x, y), by
      have e := (Affine.equation_iff _ _).mp h.1
      simp only [W] at e
      simp only [sols, Finset.mem_filter, Finset.mem_univ, true_and]
      linear_combination e⟩

lemma ptToOpt_injective (b : K) : Function.Injective (ptToOpt b) := by
  intro P Q h
  rcases P with _ | ⟨x, y, hxy⟩ <;> rcases Q with _ | ⟨x', y', hxy'⟩
  · rfl
  · simp [ptToOpt] at h
  · simp [ptToOpt] at h
  · simp only [ptToOpt, Option.some.injEq, Subtype.mk.injEq, Prod.mk.injEq] at h
    obtain ⟨rfl, rfl⟩ := h
    rfl

theorem finite_point (b : K) : Finite (W b).Point := Finite.of_injective _ (ptToOpt_injective b)

theorem card_point_le (b : K) : Nat.card (W b).Point ≤ 2 * Fintype.card K + 1 := by
  classical
  calc Nat.card (W b).Point ≤ Nat.card (Option {a : K × K // a ∈ sols b}) :=
        Nat.card_le_card_of_injective _ (ptToOpt_injective b)
    _ = (sols b).card + 1 := by
        rw [Nat.card_eq_fintype_card, Fintype.card_option, Fintype.card_coe]
    _ ≤ 2 * Fintype.card K + 1 := by have := card_sols_le b; omega

end bound

instance {K : Type} [Field K] [Finite K] (b : K) : Finite (W b).Point := by
  classical
  have := Fintype.ofFinite K
  exact finite_point b

section group
variable {G : Type*} [AddCommGroup G]

theorem card_eq_of_dvd_of_le [Finite G] {n B : ℕ} (hd : n ∣ Nat.card G) (hle : Nat.card G ≤ B)
    (hB : B < 2 * n) : Nat.card G = n :=
  Nat.eq_of_dvd_of_lt_two_mul Nat.card_pos.ne' hd (hle.trans_lt hB)

/-- `#G = k·n` with `k < 3`, and Cauchy excludes `k = 2` -/
theorem card_eq_of_dvd_of_le_of_odd [Finite G] {n B : ℕ} (hd : n ∣ Nat.card G) (hle : Nat.card G ≤ B)
    (hB : B < 3 * n) (hno2 : ∀ P : G, P + P = 0 → P = 0) : Nat.card G = n := by
  by_contra hne
  obtain ⟨k, hk⟩ := hd
  have hpos : 0 < Nat.card G := Nat.card_pos
  have hk3 : k < 3 := Nat.lt_of_mul_lt_mul_left (a := n) (by omega)
  have hk2 : k = 2 := by
    have h0 : k ≠ 0 := by rintro rfl; omega
    have h1 : k ≠ 1 := by rintro rfl; omega
    omega
  have : Fact (Nat.Prime 2) := ⟨Nat.prime_two⟩
  obtain ⟨P, hP⟩ := exists_prime_addOrderOf_dvd_card' (G := G) 2 ⟨n, by rw [hk, hk2, mul_comm]⟩
  have h2P : P + P = 0 := by rw [← two_nsmul, ← hP]; exact addOrderOf_nsmul_eq_zero P
  have hP0 : P ≠ 0 := fun h => by rw [h, addOrderOf_zero] at hP; omega
  exact hP0 (hno2 P h2P)

theorem dvd_card_of_order [Finite G] {n : ℕ} (P : G) (h : addOrderOf P = n) : n ∣ Nat.card G :=
  h ▸ addOrderOf_dvd_natCard P

end group

end PyEcc.Hb2

namespace PyEcc.GroupOrder
open WeierstrassCurve PyEcc

variable {p : ℕ} [hp : Fact p.Prime]

/-- Elementary determination of the group order: a point of prime order `n` with
`2p + 1 < 3n`, and no point with `y = 0`, force `#E = n`. -/
theorem card_point_eq (b : ZMod p) (n : ℕ) (hn : n.Prime) (h2 : (2 : ZMod p) ≠ 0)
    (G : (W b).Point) (hG : G ≠ 0) (hnG : n • G = 0)
    (hbound : 2 * p + 1 < 3 * n)
    (hno2 : ∀ x : ZMod p, x ^ 3 + b ≠ 0) :
    Nat.card (W b).Point = n := by
  have : Fact n.Prime := ⟨hn⟩
  exact Hb2.card_eq_of_dvd_of_le_of_odd (Hb2.dvd_card_of_order G (addOrderOf_eq_prime hnG hG))
    ((Hb2.card_point_le b).trans_eq (by rw [ZMod.card])) hbound (CurveSem.no_two_torsion h2 hno2)

theorem nsmul_eq_zero_of_card (b : ZMod p) (n : ℕ) (hcard : Nat.card (W b).Point = n) (Q : (W b).Point) :
    n • Q = 0 := by
  rw [← hcard]; exact card_nsmul_eq_zero'

end PyEcc.GroupOrder

#print axioms PyEcc.GroupOrder.card_point_eq
