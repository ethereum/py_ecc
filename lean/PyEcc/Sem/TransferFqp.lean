/-
  The curve code on `FQ2` coordinates, `Fqp v p [1, 0]` (lists of Python ints), read in the fields
  `K2 = AdjoinRoot (modulus blsP blsMc2)` (BLS12-381) and `K2bn = AdjoinRoot (modulus bnP bnMc2)` (bn128).
  `Fqp v p mc` is not a field type: it contains non-canonical and wrong-length coefficient lists.  But `toQ` is a
  `GoodHom` on the canonical ones (`goodHom_toQ`, `Sem/FqpGoodHom.lean`), so every generated curve function run on
  canonical triples commutes with `toQ`, returns canonical triples, and inherits the refinement and group-law theorems
  proved over an arbitrary field (`Lemmas/TransferOptBls.lean`, `Sem/TransferRefineBls.lean`).  Here: `goodHom_F2`,
  `goodHom_F2bn` (either class `v`) and, with the side conditions `2 ≠ 0`, `3 ≠ 0`, `toQ b2 ≠ 0`, the curve contexts
  `curveF2v v`, `curveF2bnv v`; `curveF2`, `curveF2bn` are their optimized case, stated with the constants `blsB2`, `bnB2`.

  The target fields have no computable equality; theorems take an arbitrary `[DecidableEq K2]` instance (use
  `Classical.decEq` / `open Classical`), exactly as Mathlib's `Point` group law does.  Point types are written
  `CurvePt b` (`Sem/CurvePt.lean`) so that instance resolution and rewriting with the group lemmas work at the
  concrete field.
-/
import PyEcc.Sem.TransferRefineBls
import PyEcc.Lemmas.TwinModules
import PyEcc.Props.C08_FqpInv
import PyEcc.Sem.Primes
import PyEcc.Lemmas.CurveFactsAux
import PyEcc.Sem.CurvePt
import PyEcc.Model.Codec
import PyEcc.Sem.Fq2K2

set_option linter.unusedSectionVars false

namespace PyEcc.Transfer
open PyEcc PyEcc.Gen PyEcc.Gen.Consts PyEcc.Fqp PyEcc.FqpSem WeierstrassCurve

section goodHom
variable {A K : Type}
  [Zero A] [One A] [Add A] [Sub A] [Mul A] [Neg A] [Div A] [NatCast A] [Pow A Nat] [DecidableEq A]
  [Field K] [DecidableEq K] {Good : A → Prop} {φ : A → K} (h : GoodHom Good φ)
include h

/-- a numeral that is non-zero in `A` is non-zero in the field (for the side conditions `2 ≠ 0`, `3 ≠ 0`,
    decided by evaluation in the model type) -/
theorem goodHom_ofNat_ne_zero (n : ℕ) [n.AtLeastTwo] (hn : (n : A) ≠ 0) : (OfNat.ofNat n : K) ≠ 0 := by
  rw [← Nat.cast_ofNat, ← h.map_natCast]
  exact fun e => hn ((h.eq_zero_iff (h.good_natCast n)).mp e)

end goodHom

/-- all three coordinates canonical (exactly `d` coefficients, each in `[0, p)`) -/
abbrev CanonT {v : Variant} {p : ℕ} {mc : List Int}
    (T : Fqp v p mc × Fqp v p mc × Fqp v p mc) : Prop := GoodT Canon T

instance {v : Variant} {p : ℕ} {mc : List Int} (T : Fqp v p mc × Fqp v p mc × Fqp v p mc) :
    Decidable (CanonT T) := by unfold CanonT GoodT; infer_instance

/-- BLS12-381: the semantic field of `FQ2` coordinates -/
abbrev K2 : Type := AdjoinRoot (modulus blsP blsMc2)
/-- bn128: the semantic field of `FQ2` coordinates -/
abbrev K2bn : Type := AdjoinRoot (modulus bnP bnMc2)

instance irreducible_blsMc2 : Fact (Irreducible (modulus blsP blsMc2)) :=
  ⟨irreducible_modulus_fq2 (p := blsP) (by decide)⟩
instance irreducible_bnMc2 : Fact (Irreducible (modulus bnP bnMc2)) :=
  ⟨irreducible_modulus_fq2 (p := bnP) (by decide)⟩

theorem goodHom_F2 {v : Variant} :
    GoodHom (Canon (v := v) (p := blsP) (mc := blsMc2)) (toQ : Fqp v blsP blsMc2 → K2) :=
  @goodHom_fq2 v blsP _ irreducible_blsMc2

theorem goodHom_F2bn {v : Variant} :
    GoodHom (Canon (v := v) (p := bnP) (mc := bnMc2)) (toQ : Fqp v bnP bnMc2 → K2bn) :=
  @goodHom_fq2 v bnP _ irreducible_bnMc2

/-- `optimized_bn128.b2` as an element of the model type -/
def bnB2 : Fqp .opt bnP bnMc2 := ⟨optimized_bn128_b2⟩

end PyEcc.Transfer

namespace PyEcc.TwistSem
open PyEcc PyEcc.Gen.Consts PyEcc.Fqp
open PyEcc.Transfer (bnB2)

/-- `bls12_381.b2` / `optimized_bls12_381.b2` (`FQ2([4, 4])`) as an element of the model type -/
def blsB2v (v : Variant) : Fqp v blsP blsMc2 :=
  match v with
  | .ref => ⟨bls12_381_b2⟩
  | .opt => ⟨optimized_bls12_381_b2⟩

theorem blsB2v_opt : blsB2v .opt = blsB2 := rfl

/-- `bn128.b2` / `optimized_bn128.b2` (`FQ2([3, 0]) / FQ2([9, 1])`) as an element of the model type -/
def bnB2v (v : Variant) : Fqp v bnP bnMc2 :=
  match v with
  | .ref => ⟨bn128_b2⟩
  | .opt => ⟨optimized_bn128_b2⟩

theorem bnB2v_opt : bnB2v .opt = bnB2 := rfl

end PyEcc.TwistSem

namespace PyEcc.Transfer
open PyEcc PyEcc.Gen PyEcc.Gen.Consts PyEcc.Fqp PyEcc.FqpSem PyEcc.TwistSem WeierstrassCurve

/-- BLS12-381 `FQ2` of either class, `b2`: the curve code computes in `E'(K2) : y² = x³ + 4(1+i)`
    (`2 ≠ 0`, `3 ≠ 0`, and `b2 = 4 + 4i` is canonical with non-zero value) -/
theorem curveF2v (v : Variant) : CurveHom Canon (toQ : Fqp v blsP blsMc2 → K2) (blsB2v v) (toQ (blsB2v v)) :=
  .of goodHom_F2 ⟨goodHom_ofNat_ne_zero (goodHom_F2 (v := .opt)) 2 (by decide),
    goodHom_ofNat_ne_zero (goodHom_F2 (v := .opt)) 3 (by decide), by cases v <;> decide,
    C08P.toQ_ne_zero (by decide) (by cases v <;> decide) (by cases v <;> decide)⟩

/-- bn128 `FQ2` of either class, `b2`: the curve code computes in `E'(K2bn) : y² = x³ + 3/(9+i)` -/
theorem curveF2bnv (v : Variant) : CurveHom Canon (toQ : Fqp v bnP bnMc2 → K2bn) (bnB2v v) (toQ (bnB2v v)) :=
  .of goodHom_F2bn ⟨goodHom_ofNat_ne_zero (goodHom_F2bn (v := .opt)) 2 (by decide),
    goodHom_ofNat_ne_zero (goodHom_F2bn (v := .opt)) 3 (by decide), by cases v <;> decide,
    C08P.toQ_ne_zero (by decide) (by cases v <;> decide) (by cases v <;> decide)⟩

theorem curveF2 : CurveHom Canon (toQ : F2 → K2) blsB2 (toQ blsB2) := curveF2v .opt

theorem curveF2bn : CurveHom Canon (toQ : Fqp .opt bnP bnMc2 → K2bn) bnB2 (toQ bnB2) := curveF2bnv .opt

theorem canonT_blsG2 : CanonT blsG2 := by decide +kernel

section G2
variable [DecidableEq K2] {T₁ T₂ : G2Pt}

/-- canonical triples stay canonical under the curve operations (so canonicity is an invariant of
    every computation that starts from decoded / constant / hashed points) -/
theorem canonT_ops (c₁ : CanonT T₁) (c₂ : CanonT T₂) (n : ℕ) :
    CanonT (OptBls.add T₁ T₂) ∧ CanonT (OptBls.double T₁) ∧ CanonT (OptBls.neg T₁)
      ∧ CanonT (OptBls.multiply T₁ n) ∧ CanonT Z2 :=
  ⟨(Bls.good_add (B := K2) goodHom_F2 c₁ c₂).1, (Bls.good_double (B := K2) goodHom_F2 c₁).1,
   (Bls.good_neg (B := K2) goodHom_F2 c₁).1, (Bls.good_multiply (B := K2) goodHom_F2 c₁ n).1,
   (Bls.good_Z (B := K2) (goodHom_F2 (v := .opt))).1⟩

end G2

/-- the model type of `optimized_bn128` G2 points -/
abbrev BnG2Pt : Type := Fqp .opt bnP bnMc2 × Fqp .opt bnP bnMc2 × Fqp .opt bnP bnMc2

/-- `optimized_bn128.G2` as a model triple -/
def bnG2 : BnG2Pt := CurveSem.ptOpt2 .opt bnP bnMc2 optimized_bn128_G2

theorem canonT_bnG2 : CanonT bnG2 := by decide +kernel

/-- non-vacuity: the generator constant `G2` of the model is canonical and on the curve, hence its
    value represents a Mathlib point over `K2` -/
example [DecidableEq K2] : CanonT blsG2 ∧ ∃ P : CurvePt (toQ blsB2 : K2), Represents (mapT toQ blsG2) P :=
  let ⟨P, r⟩ := curveF2.exists_rep canonT_blsG2 (by decide +kernel)
  ⟨canonT_blsG2, P, r.rep⟩

end PyEcc.Transfer
