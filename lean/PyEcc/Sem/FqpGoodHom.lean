/-
  The transfer principle for `FQP`: when the modulus is irreducible, `Fp[X]/(modulus)` is a
  field of characteristic `p`, the model's `/` is the field's on canonical elements (`x / 0 = 0` on both sides), and
  the value map `toQ : Fqp v p mc → AdjoinRoot (modulus p mc)` (`Sem/FqpQuot.lean`) is a `GoodHom` on them
  (`goodHom_toQ`), for either class.  The case `FQ2 = Fp[X]/(X² + 1)`, `p ≡ 3 mod 4`: `goodHom_fq2`, and the value of
  a coefficient pair (`evQ_pair`, `root_fq2_sq`).
-/
import PyEcc.Lemmas.TransferBase
import PyEcc.Props.C08_FqpInv

namespace PyEcc.Transfer
open PyEcc PyEcc.Fqp PyEcc.FqpSem

section general
variable {v : Variant} {p : ℕ} {mc : List Int} [Fact p.Prime] [Fact (Irreducible (modulus p mc))]

theorem charP_field : CharP (AdjoinRoot (modulus p mc)) p :=
  charP_of_injective_ringHom (AdjoinRoot.of _).injective p

/-- `/` on canonical elements (divisor `0` included: `x / 0 = 0` on both sides): the result is
    canonical and is the field quotient of the values -/
theorem canon_div_toQ (hd : 1 ≤ mc.length) (hmc : Sane p mc) {a b : Fqp v p mc} (ha : Canon a)
    (hb : Canon b) : Canon (a / b) ∧ toQ (a / b) = toQ a / toQ b := by
  have hp : 0 < p := (Fact.out : p.Prime).pos
  by_cases hne : b = 0
  · subst hne
    have e : (a / 0 : Fqp v p mc) = Fqp.mul a Fqp.zero := by
      show Fqp.mul a (Fqp.inv 0) = _
      rw [C08P.inv_zero]; rfl
    rw [e]
    refine ⟨mul_canon hp a _, ?_⟩
    rw [toQ_mul ha.wf wf_zero]
    show toQ a * toQ Fqp.zero = toQ a / toQ Fqp.zero
    rw [toQ_zero, mul_zero, div_zero]
  · exact ⟨mul_canon hp a _, (C08P.inv_div_spec hd hmc ha hb hne).2⟩

/-- For a prime `p`, an irreducible modulus of degree `≥ 1`
    whose coefficients are reduced-or-zero (`Sane`), and either class variant, the value map `toQ`
    into the field `(ZMod p)[X]/(modulus)` preserves `0 1 + - * neg / natCast **` on canonical
    elements, these are closed under all the operations, and `toQ` is injective on them. -/
theorem goodHom_toQ (hd : 1 ≤ mc.length) (hmc : Sane p mc) :
    GoodHom (Canon (v := v) (p := p) (mc := mc)) toQ where
  good_zero := canon_zero (Fact.out : p.Prime).pos
  good_one := canon_one (Fact.out : p.Prime).pos hd
  good_add := fun ha hb => canon_add (Fact.out : p.Prime).pos ha.wf hb.wf
  good_sub := fun ha hb => canon_sub (Fact.out : p.Prime).pos ha.wf hb.wf
  good_mul := fun _ _ => mul_canon (Fact.out : p.Prime).pos _ _
  good_neg := fun ha => canon_neg (Fact.out : p.Prime).pos ha.wf
  good_div := fun ha hb => (canon_div_toQ hd hmc ha hb).1
  good_natCast := fun n => canon_ofIntScalar (Fact.out : p.Prime).pos hd n
  good_pow := fun n _ => pow_canon (Fact.out : p.Prime).pos hd _ n
  map_zero := toQ_zero
  map_one := toQ_one
  map_add := fun ha hb => toQ_add ha.wf hb.wf
  map_sub := fun ha hb => toQ_sub ha.wf hb.wf
  map_mul := fun ha hb => toQ_mul ha.wf hb.wf
  map_neg := fun {a} _ => toQ_neg a
  map_div := fun ha hb => (canon_div_toQ hd hmc ha hb).2
  map_natCast := fun n => by
    show toQ (ofIntScalar (n : ℤ)) = _
    rw [toQ_ofIntScalar, Int.cast_natCast]
  map_pow := fun n ha => toQ_pow hd ha.wf n
  inj := toQ_inj

end general

theorem goodHom_fq2 {v : Variant} {p : ℕ} [Fact p.Prime] [Fact (Irreducible (modulus p [1, 0]))] :
    GoodHom (Canon (v := v) (p := p) (mc := [1, 0])) toQ :=
  goodHom_toQ (by decide) sane_fq2

end PyEcc.Transfer

namespace PyEcc.FqpSem
open PyEcc.Fqp Polynomial
variable {p : ℕ}

theorem root_fq2_sq : AdjoinRoot.root (modulus p [1, 0]) ^ 2 = -1 := by
  have h : AdjoinRoot.mk (modulus p [1, 0]) (X ^ 2 + 1) = 0 := by
    rw [← modulus_fq2]; exact AdjoinRoot.mk_self
  rw [map_add, map_pow, AdjoinRoot.mk_X, map_one] at h
  exact eq_neg_of_add_eq_zero_left h

theorem evQ_pair (mc : List Int) (a b : ℤ) :
    evQ p mc [a, b] = AdjoinRoot.of _ (a : ZMod p) + AdjoinRoot.of _ (b : ZMod p) * AdjoinRoot.root _ := by
  rw [evQ, ev_cons, ev_cons, ev_nil, mul_zero, add_zero, RingHom.map_add, RingHom.map_mul, AdjoinRoot.mk_C,
    AdjoinRoot.mk_C, AdjoinRoot.mk_X, mul_comm]

end PyEcc.FqpSem
