/-
  `(X − a)² + 1` (`Irred12.quad`) is irreducible over `ZMod p` for every prime `p ≡ 3 (mod 4)`, since `−1` is not a
  square there.  The FQ2 modulus `X² + 1` (`modulus_coeffs = (1, 0)`) is the case `a = 0`; so `FQ2.inv` is covered by
  `toQ_inv_mul`.  The degree-12 moduli rest on the other cases (`Lemmas/Irred12.lean`).
-/
import PyEcc.Sem.FqpInv
import Mathlib.NumberTheory.LegendreSymbol.Basic
import Mathlib.Algebra.Polynomial.SpecificDegree

namespace PyEcc.Irred12
open Polynomial

variable {p : ℕ}

noncomputable def quad (p : ℕ) (a : ℕ) : (ZMod p)[X] := (X - C (a : ZMod p)) ^ 2 + 1

theorem quad_natDegree (a : ℕ) [Fact p.Prime] : (quad p a).natDegree = 2 := by
  unfold quad
  rw [← C_1, natDegree_add_C, natDegree_pow, natDegree_X_sub_C]

theorem irreducible_quad [Fact p.Prime] (h : p % 4 = 3) (a : ℕ) : Irreducible (quad p a) := by
  apply irreducible_of_degree_le_three_of_not_isRoot
  · rw [quad_natDegree]; decide
  · intro x hx
    simp only [quad, IsRoot, eval_add, eval_pow, eval_sub, eval_X, eval_C, eval_one] at hx
    have : IsSquare (-1 : ZMod p) := ⟨x - a, by linear_combination (-1 : ZMod p) * hx⟩
    exact (ZMod.exists_sq_eq_neg_one_iff.mp this) h

end PyEcc.Irred12

namespace PyEcc.FqpSem
open Polynomial PyEcc.Fqp

variable {p : ℕ}

theorem modulus_fq2 : modulus p [1, 0] = X ^ 2 + 1 := by simp [modulus]

theorem irreducible_modulus_fq2 [Fact p.Prime] (h : p % 4 = 3) : Irreducible (modulus p [1, 0]) := by
  have := Irred12.irreducible_quad h 0
  rwa [Irred12.quad, Nat.cast_zero, C_0, sub_zero, ← modulus_fq2] at this

theorem sane_fq2 [Fact p.Prime] : Sane p [1, 0] := by
  intro i hi
  match i with
  | 0 => simp at hi
  | 1 => rfl
  | (n + 2) => rfl

end PyEcc.FqpSem
