/-
  List-level lemmas for the `FQP.inv` loop: `deg`, `poly_rounded_div`
  (only its leading coefficient is meaningful), and what the truncated double loop
  `for i in range(d+1): for j in range(d+1-i): nm[i+j] -= lm[i]*r[j]` (`truncLoop`) does to the polynomial.
-/
import PyEcc.Sem.FqpQuot
import PyEcc.Sem.InvLoop

namespace PyEcc.FqpSem
open Polynomial PyEcc.Fqp

variable {p : ℕ}

theorem getI_replicate_zero (n i : Nat) : getI (List.replicate n 0) i = 0 := by
  unfold getI
  rw [List.getD_eq_getElem?_getD]
  by_cases h : i < n
  · simp [h]
  · simp [h]

theorem getI_map_mod (l : List Int) (i : Nat) :
    getI (l.map (fun c => c % (p : Int))) i = getI l i % (p : Int) := by
  unfold getI
  rw [List.getD_eq_getElem?_getD, List.getD_eq_getElem?_getD, List.getElem?_map]
  cases l[i]? <;> simp

theorem getI_take (l : List Int) (n i : Nat) : getI (l.take n) i = if i < n then getI l i else 0 := by
  unfold getI
  rw [List.getD_eq_getElem?_getD, List.getD_eq_getElem?_getD, List.getElem?_take]
  split <;> simp

theorem getI_append (l l' : List Int) (i : Nat) :
    getI (l ++ l') i = if i < l.length then getI l i else getI l' (i - l.length) := by
  unfold getI
  rw [List.getD_eq_getElem?_getD, List.getD_eq_getElem?_getD, List.getD_eq_getElem?_getD, List.getElem?_append]
  split <;> rfl

/-- every entry is `0` or not divisible by `p`, so that `== 0` on raw ints is `= 0` in `ZMod p` -/
def Sane (p : ℕ) (l : List Int) : Prop := ∀ i, ((getI l i : ℤ) : ZMod p) = 0 → getI l i = 0

theorem sane_of_range {x : Int} (h0 : 0 ≤ x) (h1 : x < (p : Int)) (h : ((x : ℤ) : ZMod p) = 0) :
    x = 0 := by
  rw [ZMod.intCast_zmod_eq_zero_iff_dvd] at h
  exact Int.eq_zero_of_dvd_of_nonneg_of_lt h0 h1 h

theorem sane_mod (hp : 0 < p) (x : Int) (h : (((x % (p : Int)) : ℤ) : ZMod p) = 0) :
    x % (p : Int) = 0 := by
  have : (0 : Int) < p := by exact_mod_cast hp
  exact sane_of_range (Int.emod_nonneg _ this.ne') (Int.emod_lt_of_pos _ this) h

theorem sane_map_mod (hp : 0 < p) (l : List Int) : Sane p (l.map (fun c => c % (p : Int))) := by
  intro i h
  rw [getI_map_mod] at h ⊢
  exact sane_mod hp _ h

theorem sane_of_forall_mem {l : List Int} (h : ∀ c ∈ l, ((c : ℤ) : ZMod p) = 0 → c = 0) : Sane p l := by
  intro i hi
  by_cases hlt : i < l.length
  · refine h _ ?_ hi
    unfold getI
    rw [List.getD_eq_getElem?_getD, List.getElem?_eq_getElem hlt]
    exact List.getElem_mem hlt
  · exact getI_of_le l i (Nat.le_of_not_lt hlt)

theorem sane_of_canonL {d : ℕ} {l : List Int} (h : CanonL p d l) : Sane p l :=
  sane_of_forall_mem fun c hc => sane_of_range (h.2 c hc).1 (h.2 c hc).2

/-- decidable sufficient condition: all entries are smaller than `p` in absolute value -/
theorem sane_of_natAbs_lt {l : List Int} (h : ∀ c ∈ l, c.natAbs < p) : Sane p l :=
  sane_of_forall_mem fun c hc hi => by
    rw [ZMod.intCast_zmod_eq_zero_iff_dvd] at hi
    apply Int.eq_zero_of_abs_lt_dvd hi
    rw [Int.abs_eq_natAbs]
    exact_mod_cast h c hc

theorem sane_updAt {l : List Int} (hl : Sane p l) (i : Nat) (f : Int → Int)
    (hf : ∀ x, ((f x : ℤ) : ZMod p) = 0 → f x = 0) : Sane p (updAt l i f) := by
  intro j hj
  rw [getI_updAt] at hj ⊢
  split
  · rename_i h; rw [if_pos h] at hj; exact hf _ hj
  · rename_i h; rw [if_neg h] at hj; exact hl j hj

theorem sane_append {l l' : List Int} (hl : Sane p l) (hl' : Sane p l') : Sane p (l ++ l') := by
  intro i hi
  rw [getI_append] at hi ⊢
  split
  · rename_i h; rw [if_pos h] at hi; exact hl i hi
  · rename_i h; rw [if_neg h] at hi; exact hl' _ hi

theorem natDegree_ev_le {l : List Int} {n : Nat} (h : ∀ k, n < k → getI l k = 0) :
    (ev p l).natDegree ≤ n := by
  rw [natDegree_le_iff_coeff_eq_zero]
  intro N hN
  rw [coeff_ev, h N hN, Int.cast_zero]

theorem natDegree_ev_eq_deg {l : List Int} (hl : Sane p l) : (ev p l).natDegree = deg l := by
  apply le_antisymm (natDegree_ev_le (getI_of_deg_lt l))
  by_cases h : deg l = 0
  · omega
  · apply le_natDegree_of_ne_zero
    rw [coeff_ev]
    exact fun h0 => getI_deg_ne_zero l h (hl _ h0)

theorem leadingCoeff_ev {l : List Int} (hl : Sane p l) :
    (ev p l).leadingCoeff = ((getI l (deg l) : ℤ) : ZMod p) := by
  rw [leadingCoeff, natDegree_ev_eq_deg hl, coeff_ev]

theorem ev_take {l : List Int} {n : Nat} (h : ∀ i, n ≤ i → ((getI l i : ℤ) : ZMod p) = 0) :
    ev p (l.take n) = ev p l := by
  ext i
  rw [coeff_ev, coeff_ev, getI_take]
  split
  · rfl
  · rw [h i (Nat.le_of_not_lt ‹_›), Int.cast_zero]

theorem mem_downTo (n j : Nat) : j ∈ downTo n ↔ j ≤ n := by
  simp [downTo, List.mem_range]

theorem downTo_eq_cons (n : Nat) : ∃ t, downTo n = n :: t ∧ ∀ j ∈ t, j < n := by
  cases n with
  | zero => exact ⟨[], rfl, by simp⟩
  | succ n =>
    refine ⟨downTo n, downTo_succ n, ?_⟩
    intro j hj
    rw [mem_downTo] at hj; omega

theorem deg_replicate_zero (n : Nat) : deg (List.replicate n 0) = 0 :=
  deg_unique _ 0 (fun j _ => getI_replicate_zero n j) (fun h => absurd rfl h)

/-! ### `poly_rounded_div`: read as a polynomial the result is the list `o` of the loop, of which only the top
coefficient is meaningful -/

/-- the "quotient digit" computed in round `i` -/
def prdQ (v : Variant) (p : Nat) (b temp : List Int) (i : Nat) : Int :=
  match v with
  | .ref => (getI temp (deg b + i) * primeFieldInv (getI b (deg b)) p) % (p : Int)
  | .opt => getI temp (deg b + i) * primeFieldInv (getI b (deg b)) p

/-- one round of the loop of `poly_rounded_div` on the state `(temp, o)` -/
def prdStep (v : Variant) (p : Nat) (b : List Int) (st : List Int × List Int) (i : Nat) :
    List Int × List Int :=
  ((List.range (deg b + 1)).foldl (fun t c => updAt t (c + i)
      (fun x => x - getI (updAt st.2 i (fun x => x + prdQ v p b st.1 i)) c)) st.1,
   updAt st.2 i (fun x => x + prdQ v p b st.1 i))

/-- the list `o` when the loop of `poly_rounded_div` ends -/
def prdOut (v : Variant) (p : Nat) (a b : List Int) : List Int :=
  ((if deg a < deg b then [] else downTo (deg a - deg b)).foldl (prdStep v p b)
    (a, List.replicate a.length 0)).2

theorem polyRoundedDiv_eq (v : Variant) (a b : List Int) :
    polyRoundedDiv v p a b =
      match v with
      | .ref => (prdOut v p a b).take (deg (prdOut v p a b) + 1)
      | .opt => ((prdOut v p a b).take (deg (prdOut v p a b) + 1)).map (fun x => x % (p : Int)) := by
  cases v <;> rfl

theorem prd_foldl_snd (v : Variant) (b : List Int) (is : List Nat) (st : List Int × List Int) :
    (is.foldl (prdStep v p b) st).2.length = st.2.length ∧
    ∀ k, k ∉ is → getI (is.foldl (prdStep v p b) st).2 k = getI st.2 k := by
  induction is generalizing st with
  | nil => simp
  | cons i is ih =>
    obtain ⟨h1, h2⟩ := ih (prdStep v p b st i)
    rw [List.foldl_cons]
    refine ⟨by rw [h1]; simp [prdStep], ?_⟩
    intro k hk
    rw [List.mem_cons, not_or] at hk
    rw [h2 k hk.2]
    simp only [prdStep]
    exact getI_updAt_ne _ _ _ _ hk.1

/-- trimming at `deg o` drops zeros only (and the optimized class reduces the entries) -/
theorem ev_polyRoundedDiv (v : Variant) (a b : List Int) :
    ev p (polyRoundedDiv v p a b) = ev p (prdOut v p a b) := by
  have h : ev p ((prdOut v p a b).take (deg (prdOut v p a b) + 1)) = ev p (prdOut v p a b) :=
    ev_take fun i hi => by rw [getI_of_deg_lt _ i hi, Int.cast_zero]
  rw [polyRoundedDiv_eq]
  cases v
  · exact h
  · exact (ev_map_mod _).trans h

theorem length_polyRoundedDiv_le (v : Variant) (a b : List Int) :
    (polyRoundedDiv v p a b).length ≤ a.length := by
  have h : (prdOut v p a b).length = a.length :=
    (prd_foldl_snd v b _ _).1.trans (List.length_replicate ..)
  rw [polyRoundedDiv_eq]
  cases v
  · exact (List.length_take_le' ..).trans_eq h
  · exact (List.length_map _).trans_le ((List.length_take_le' ..).trans_eq h)

/-- `deg b ≤ deg a`: the first round stores its quotient digit at `deg a - deg b`, the later rounds write below, and
    nothing is written above -/
theorem prdOut_top (v : Variant) {a b : List Int} (ha : a ≠ []) (hab : deg b ≤ deg a) :
    getI (prdOut v p a b) (deg a - deg b) = prdQ v p b a (deg a - deg b) ∧
    ∀ k, deg a - deg b < k → getI (prdOut v p a b) k = 0 := by
  obtain ⟨t, ht, hlt⟩ := downTo_eq_cons (deg a - deg b)
  have h2 := (prd_foldl_snd (p := p) v b t
    (prdStep v p b (a, List.replicate a.length 0) (deg a - deg b))).2
  have hlen : deg a - deg b < (List.replicate a.length (0 : Int)).length := by
    have := deg_le a
    have := List.length_pos_iff.mpr ha
    rw [List.length_replicate]
    omega
  rw [prdOut, if_neg (Nat.not_lt.mpr hab), ht, List.foldl_cons]
  constructor
  · rw [h2 _ fun hm => Nat.lt_irrefl _ (hlt _ hm)]
    simp only [prdStep]
    rw [getI_updAt_self _ _ _ hlen, getI_replicate_zero, zero_add]
  · intro k hk
    rw [h2 _ fun hm => Nat.lt_asymm hk (hlt _ hm)]
    simp only [prdStep]
    rw [getI_updAt_ne _ _ _ _ (Nat.ne_of_gt hk), getI_replicate_zero]

theorem prdQ_cast (hp : p.Prime) (v : Variant) (b temp : List Int) (i : Nat) :
    ((prdQ v p b temp i : ℤ) : ZMod p) =
      ((getI temp (deg b + i) : ℤ) : ZMod p) * (((getI b (deg b) : ℤ) : ZMod p))⁻¹ := by
  cases v <;> simp [prdQ, ZMod.intCast_mod, FqSem.primeFieldInv_spec hp]

/-- the loop subtracts the product `l·r` truncated at `X^n`, which is the whole product when the
    degrees add up to less than `n` -/
theorem ev_truncLoop (f : Nat → Nat → Int → Int) (l r : List Int)
    (hf : ∀ i j x, ((f i j x : ℤ) : ZMod p) =
      (x : ZMod p) - ((getI l i : ℤ) : ZMod p) * ((getI r j : ℤ) : ZMod p))
    (n : Nat) (acc : List Int) (hacc : acc.length = n) (hl : l.length ≤ n) (hr : r.length ≤ n)
    (hdeg : (ev p l).natDegree + (ev p r).natDegree < n) :
    ev p (truncLoop n f acc) = ev p acc - ev p l * ev p r := by
  -- a term beyond the truncation has `l_i = 0` or `r_j = 0`
  have vanish : ∀ i j, n ≤ i + j → ((getI l i : ℤ) : ZMod p) * ((getI r j : ℤ) : ZMod p) = 0 := by
    intro i j hij
    rcases Nat.lt_or_ge (ev p l).natDegree i with hi | hi
    · rw [← coeff_ev l i, coeff_eq_zero_of_natDegree_lt hi, zero_mul]
    · rw [← coeff_ev r j, coeff_eq_zero_of_natDegree_lt (by omega), mul_zero]
  rw [truncLoop, foldl_updAt₂ (fun i => n - i) f _ (fun i j x => by rw [hf, sub_eq_add_neg]) acc n
      (fun i hi j hj => by omega), ev_mul_ev l r n hl hr, sub_eq_add_neg, ← Finset.sum_neg_distrib]
  refine congrArg _ (Finset.sum_congr rfl fun i hi => ?_)
  rw [← Finset.sum_neg_distrib]
  refine (Finset.sum_congr rfl fun j _ => by rw [C_neg, neg_mul]).trans
    (Finset.sum_subset (fun j => by simp only [Finset.mem_range]; omega) fun j hj hj' => ?_)
  rw [Finset.mem_range] at hj hj'
  rw [vanish i j (by omega), C_0, zero_mul, neg_zero]

theorem sane_truncLoop (f : Nat → Nat → Int → Int)
    (hf : ∀ i j x, ((f i j x : ℤ) : ZMod p) = 0 → f i j x = 0) (n : Nat) (acc : List Int)
    (hacc : Sane p acc) : Sane p (truncLoop n f acc) :=
  foldl_inv (P := Sane p) hacc fun _ i h => foldl_inv (P := Sane p) h fun _ j h => sane_updAt h _ _ (hf i j)

end PyEcc.FqpSem
