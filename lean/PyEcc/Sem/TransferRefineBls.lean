/-
  The generated optimized curve code `Gen.OptBls`, run on ANY coordinate type `A` that maps into a field `K` by a good
  homomorphism (`Lemmas/TransferBase.lean`), computes in Mathlib's group of points of `y² = x³ + bK` over `K`
  (`CurveHom Good φ b bK`: the assumptions; `Rep c T P`: the good triple `T` represents the point `P`). `A` is NOT assumed
  to be a field: the intended instance is the executable model `A = Fqp v p mc`, `K = AdjoinRoot (modulus p mc)`,
  `φ = toQ`, `Good = Canon` (`Sem/TransferFqp.lean`); a field itself is `φ = id`. The `Rep` lemmas, one per generated
  function, compose C13 (`toAff`), C07 (`reprRef`) and the transfer lemmas `good_*`; the group laws hold up to the
  library's projective equality `eq`. `via_*`: the laws that hold of all good triples, on the curve or not, pushed
  through `φ` from the field. (`Gen.OptBn` is the same module under another name: `Lemmas/TwinModules.lean`.)
-/
import PyEcc.Lemmas.TransferOptBls
import PyEcc.Props.C07Opt_Bls
import PyEcc.Lemmas.TwinModules

set_option linter.unusedSectionVars false
set_option linter.unusedVariables false

namespace PyEcc.Transfer
open PyEcc PyEcc.Gen WeierstrassCurve

section
variable {A K : Type}
  [Zero A] [One A] [Add A] [Sub A] [Mul A] [Neg A] [Div A] [NatCast A] [Pow A Nat] [DecidableEq A]
  [Field K] {Good : A → Prop} {φ : A → K} {b : A} {bK : K}

/-- What the curve theorems ask of a coordinate type `A`: a good homomorphism `φ` into a field in which
    `2, 3 ≠ 0`, and a good coefficient `b` of non-zero value `bK`, so that `y² = x³ + bK` is an elliptic curve
    over `K` every solution of which is a point.  (`bK` is an index of its own so that two coordinate types
    whose coefficients have the same value share the type of points.)  A field itself is the case `φ = id`
    (`CurveHom.id`). -/
structure CurveHom (Good : A → Prop) (φ : A → K) (b : A) (bK : K) : Prop where
  hom : GoodHom Good φ
  two : (2 : K) ≠ 0
  three : (3 : K) ≠ 0
  good_b : Good b
  b_eq : φ b = bK
  b_ne : bK ≠ 0

theorem goodHom_id {F : Type} [Field F] : GoodHom (fun _ : F => True) id :=
  OpHom.toGoodHom ⟨rfl, rfl, fun _ _ => rfl, fun _ _ => rfl, fun _ _ => rfl, fun _ => rfl, fun _ _ => rfl,
    fun _ => rfl, fun _ _ => rfl, fun _ _ e => e⟩

theorem goodT_true {F : Type} (T : F × F × F) : GoodT (fun _ => True) T := ⟨trivial, trivial, trivial⟩

theorem CurveHom.id {F : Type} [Field F] {b : F} (h2 : (2 : F) ≠ 0) (h3 : (3 : F) ≠ 0) (hb : b ≠ 0) :
    CurveHom (fun _ : F => True) id b b := ⟨goodHom_id, h2, h3, trivial, rfl, hb⟩

theorem CurveHom.of (h : GoodHom Good φ) (hK : (2 : K) ≠ 0 ∧ (3 : K) ≠ 0 ∧ Good b ∧ φ b ≠ 0) :
    CurveHom Good φ b (φ b) := ⟨h, hK.1, hK.2.1, hK.2.2.1, rfl, hK.2.2.2⟩

end

/- From here on the operations of `A` and the field structure of `K` are those in the type of the context `c`:
   implicit arguments, fixed by unification with `c`, not instance arguments synthesised again at every use. -/
variable {A K : Type}
  {_ : Zero A} {_ : One A} {_ : Add A} {_ : Sub A} {_ : Mul A} {_ : Neg A} {_ : Div A} {_ : NatCast A}
  {_ : Pow A Nat} {_ : Field K} [DecidableEq A] [DecidableEq K]
  {Good : A → Prop} {φ : A → K} {b : A} {bK : K}

structure Rep (c : CurveHom Good φ b bK) (T : A × A × A) (P : (W bK).Point) : Prop where
  good : GoodT Good T
  rep : Represents (mapT φ T) P

variable {c : CurveHom Good φ b bK} {T T₁ T₂ : A × A × A} {P Q : (W bK).Point}

theorem Rep.add (r₁ : Rep c T₁ P) (r₂ : Rep c T₂ Q) : Rep c (OptBls.add T₁ T₂) (P + Q) :=
  have g := Bls.good_add c.hom r₁.good r₂.good
  ⟨g.1, g.2 ▸ C07Opt.Bls.opt_add_refines c.two r₁.rep r₂.rep⟩

theorem Rep.double (r : Rep c T P) : Rep c (OptBls.double T) (P + P) :=
  have g := Bls.good_double c.hom r.good
  ⟨g.1, g.2 ▸ C07Opt.Bls.opt_double_refines c.two r.rep⟩

theorem Rep.neg (r : Rep c T P) : Rep c (OptBls.neg T) (-P) :=
  have g := Bls.good_neg c.hom r.good
  ⟨g.1, g.2 ▸ C07Opt.Bls.opt_neg_refines r.rep⟩

theorem Rep.multiply (r : Rep c T P) (n : ℕ) : Rep c (OptBls.multiply T n) (n • P) :=
  have g := Bls.good_multiply c.hom r.good n
  ⟨g.1, g.2 ▸ C07Opt.Bls.opt_multiply_refines c.two r.rep n⟩

theorem Rep.eq_iff (r₁ : Rep c T₁ P) (r₂ : Rep c T₂ Q) : OptBls.eq T₁ T₂ = true ↔ P = Q :=
  Bls.good_eq c.hom r₁.good r₂.good ▸ C07Opt.Bls.opt_eq_refines r₁.rep r₂.rep

theorem Rep.is_inf_iff (r : Rep c T P) : OptBls.is_inf T = true ↔ P = 0 :=
  Bls.good_is_inf c.hom r.good ▸ C07Opt.Bls.opt_is_inf_refines r.rep

theorem Rep.on_curve (r : Rep c T P) : OptBls.is_on_curve T b = true := by
  obtain rfl := c.b_eq
  exact Bls.good_is_on_curve c.hom r.good c.good_b ▸ C07Opt.Bls.opt_on_curve_of_represents r.rep

theorem Rep.zero (c : CurveHom Good φ b bK) (g : GoodT Good T) (hz : T.2.2 = 0) : Rep c T 0 :=
  ⟨g, C07Opt.Bls.represents_zero (by rw [mapT_snd_snd, hz, c.hom.map_zero])⟩

theorem CurveHom.exists_rep (c : CurveHom Good φ b bK) (g : GoodT Good T)
    (h : OptBls.is_on_curve T b = true) : ∃ P, Rep c T P := by
  obtain rfl := c.b_eq
  rw [← Bls.good_is_on_curve c.hom g c.good_b] at h
  obtain ⟨P, r⟩ := (C07Opt.Bls.opt_on_curve_represents c.two c.three c.b_ne _).mp h
  exact ⟨P, g, r⟩

/-! The group laws for good on-curve triples, up to the library's `eq`: each is Mathlib's law for the represented points.
  Take the points (`exists_rep`), follow both sides of the equation with the lemmas above, and compare with
  `Rep.eq_iff`. -/

namespace CurveHom
variable (c) {X Y Z : A × A × A}
include c

theorem add_comm_eq (gX : GoodT Good X) (gY : GoodT Good Y)
    (hX : OptBls.is_on_curve X b = true) (hY : OptBls.is_on_curve Y b = true) :
    OptBls.eq (OptBls.add X Y) (OptBls.add Y X) = true := by
  obtain ⟨P, p⟩ := c.exists_rep gX hX
  obtain ⟨Q, q⟩ := c.exists_rep gY hY
  exact ((p.add q).eq_iff (q.add p)).mpr (add_comm P Q)

theorem add_assoc_eq (gX : GoodT Good X) (gY : GoodT Good Y) (gZ : GoodT Good Z)
    (hX : OptBls.is_on_curve X b = true) (hY : OptBls.is_on_curve Y b = true)
    (hZ : OptBls.is_on_curve Z b = true) :
    OptBls.eq (OptBls.add (OptBls.add X Y) Z) (OptBls.add X (OptBls.add Y Z)) = true := by
  obtain ⟨P, p⟩ := c.exists_rep gX hX
  obtain ⟨Q, q⟩ := c.exists_rep gY hY
  obtain ⟨R, r⟩ := c.exists_rep gZ hZ
  exact (((p.add q).add r).eq_iff (p.add (q.add r))).mpr (add_assoc P Q R)

theorem closed (gX : GoodT Good X) (gY : GoodT Good Y) (hX : OptBls.is_on_curve X b = true)
    (hY : OptBls.is_on_curve Y b = true) (n : ℕ) :
    (GoodT Good (OptBls.add X Y) ∧ OptBls.is_on_curve (OptBls.add X Y) b = true)
      ∧ (GoodT Good (OptBls.double X) ∧ OptBls.is_on_curve (OptBls.double X) b = true)
      ∧ (GoodT Good (OptBls.neg X) ∧ OptBls.is_on_curve (OptBls.neg X) b = true)
      ∧ (GoodT Good (OptBls.multiply X n) ∧ OptBls.is_on_curve (OptBls.multiply X n) b = true) := by
  obtain ⟨P, p⟩ := c.exists_rep gX hX
  obtain ⟨Q, q⟩ := c.exists_rep gY hY
  exact ⟨⟨(p.add q).good, (p.add q).on_curve⟩, ⟨p.double.good, p.double.on_curve⟩,
    ⟨p.neg.good, p.neg.on_curve⟩, ⟨(p.multiply n).good, (p.multiply n).on_curve⟩⟩

theorem multiply_add_eq (gX : GoodT Good X) (hX : OptBls.is_on_curve X b = true) (m n : ℕ) :
    OptBls.eq (OptBls.multiply X (m + n))
      (OptBls.add (OptBls.multiply X m) (OptBls.multiply X n)) = true := by
  obtain ⟨P, p⟩ := c.exists_rep gX hX
  exact ((p.multiply (m + n)).eq_iff ((p.multiply m).add (p.multiply n))).mpr (add_smul m n P)

theorem multiply_mul_eq (gX : GoodT Good X) (hX : OptBls.is_on_curve X b = true) (m n : ℕ) :
    OptBls.eq (OptBls.multiply (OptBls.multiply X m) n) (OptBls.multiply X (m * n)) = true := by
  obtain ⟨P, p⟩ := c.exists_rep gX hX
  exact (((p.multiply m).multiply n).eq_iff (p.multiply (m * n))).mpr (by rw [mul_comm, mul_smul])

theorem multiply_mod_eq (gX : GoodT Good X) (hX : OptBls.is_on_curve X b = true) (r : ℕ)
    (hr : OptBls.is_inf (OptBls.multiply X r) = true) (n : ℕ) :
    OptBls.eq (OptBls.multiply X n) (OptBls.multiply X (n % r)) = true := by
  obtain ⟨P, p⟩ := c.exists_rep gX hX
  exact ((p.multiply n).eq_iff (p.multiply (n % r))).mpr
    (nsmul_eq_mod_nsmul n ((p.multiply r).is_inf_iff.mp hr))

theorem multiply_neg_eq (gX : GoodT Good X) (hX : OptBls.is_on_curve X b = true) (n : ℕ) :
    OptBls.eq (OptBls.multiply (OptBls.neg X) n) (OptBls.neg (OptBls.multiply X n)) = true := by
  obtain ⟨P, p⟩ := c.exists_rep gX hX
  exact ((p.neg.multiply n).eq_iff (p.multiply n).neg).mpr (smul_neg n P)

/-- from three evaluations of the code on a good triple `T` — on the curve, not ∞, `multiply(T, q)` is ∞ —
    the triple represents a non-zero point killed by `q` -/
theorem point_of_facts (g : GoodT Good T) {q : ℕ} (hon : OptBls.is_on_curve T b = true)
    (hinf : OptBls.is_inf T = false) (hq : OptBls.is_inf (OptBls.multiply T q) = true) :
    ∃ P, Rep c T P ∧ P ≠ 0 ∧ q • P = 0 := by
  obtain ⟨P, p⟩ := c.exists_rep g hon
  exact ⟨P, p, fun e => Bool.false_ne_true (hinf.symm.trans (p.is_inf_iff.mpr e)),
    (p.multiply q).is_inf_iff.mp hq⟩

end CurveHom

/-! non-vacuity: the laws at points of `y² = x³ + 1` over `ℚ` (all hypotheses discharged), for both modules -/

private theorem curveQ : CurveHom (fun _ : ℚ => True) id 1 1 := .id (by norm_num) (by norm_num) (by norm_num)

/-- the corollaries instantiated at these points (all hypotheses discharged) -/
example : OptBls.eq (OptBls.add ((0 : ℚ), (2 : ℚ), (2 : ℚ)) (4, 6, 2))
    (OptBls.add ((4 : ℚ), (6 : ℚ), (2 : ℚ)) (0, 2, 2)) = true :=
  curveQ.add_comm_eq (goodT_true _) (goodT_true _)
    (by simp [OptBls.is_on_curve, OptBls.is_inf]; norm_num)
    (by simp [OptBls.is_on_curve, OptBls.is_inf]; norm_num)

example (n : Nat) : OptBls.eq (OptBls.multiply ((-1 : ℚ), (0 : ℚ), (1 : ℚ)) n)
    (OptBls.multiply ((-1 : ℚ), (0 : ℚ), (1 : ℚ)) (n % 2)) = true :=
  curveQ.multiply_mod_eq (goodT_true _)
    (by simp [OptBls.is_on_curve, OptBls.is_inf]; norm_num) 2
    (by simp [OptBls.multiply, OptBls.multiplyAux, OptBls.double, OptBls.is_inf]) n

/-- the corollaries instantiated at these points (all hypotheses discharged) -/
example : OptBn.eq (OptBn.add ((0 : ℚ), (2 : ℚ), (2 : ℚ)) (4, 6, 2))
    (OptBn.add ((4 : ℚ), (6 : ℚ), (2 : ℚ)) (0, 2, 2)) = true :=
  curveQ.add_comm_eq (goodT_true _) (goodT_true _)
    (by simp [OptBls.is_on_curve, OptBls.is_inf]; norm_num)
    (by simp [OptBls.is_on_curve, OptBls.is_inf]; norm_num)

example (n : Nat) : OptBn.eq (OptBn.multiply ((-1 : ℚ), (0 : ℚ), (1 : ℚ)) n)
    (OptBn.multiply ((-1 : ℚ), (0 : ℚ), (1 : ℚ)) (n % 2)) = true :=
  OptBn.multiply_eq ▸ curveQ.multiply_mod_eq (goodT_true _)
    (by simp [OptBls.is_on_curve, OptBls.is_inf]; norm_num) 2
    (by simp [OptBls.multiply, OptBls.multiplyAux, OptBls.double, OptBls.is_inf]) n

end PyEcc.Transfer

namespace PyEcc.Transfer.Bls
open PyEcc PyEcc.Gen PyEcc.Transfer WeierstrassCurve

variable {A K : Type}
  [Zero A] [One A] [Add A] [Sub A] [Mul A] [Neg A] [Div A] [NatCast A] [Pow A Nat] [DecidableEq A]
  [Field K] [DecidableEq K] {Good : A → Prop} {φ : A → K} (h : GoodHom Good φ)
include h

/-! laws that need no curve membership -/

theorem via_add_zero_eq {X Z : A × A × A} (gX : GoodT Good X) (gZ : GoodT Good Z)
    (hZ : Z.2.2 = 0) :
    OptBls.eq (OptBls.add X Z) X = true ∧ OptBls.eq (OptBls.add Z X) X = true := by
  have hZ' : (mapT φ Z).2.2 = 0 := by rw [mapT_snd_snd, hZ, h.map_zero]
  have k := C07Opt.Bls.opt_add_zero_eq (mapT φ X) (mapT φ Z) hZ'
  rw [← (good_add h gX gZ).2, ← (good_add h gZ gX).2, good_eq h (good_add h gX gZ).1 gX,
    good_eq h (good_add h gZ gX).1 gX] at k
  exact k

theorem via_add_neg (h2 : (2 : K) ≠ 0) {X : A × A × A} (gX : GoodT Good X) :
    OptBls.is_inf (OptBls.add X (OptBls.neg X)) = true
      ∧ OptBls.is_inf (OptBls.add (OptBls.neg X) X) = true := by
  have gn := good_neg h gX
  have k := C07Opt.Bls.opt_add_neg h2 (mapT φ X)
  rw [← gn.2, ← (good_add h gX gn.1).2, ← (good_add h gn.1 gX).2,
    good_is_inf h (good_add h gX gn.1).1, good_is_inf h (good_add h gn.1 gX).1] at k
  exact k

theorem via_add_self_eq {X : A × A × A} (gX : GoodT Good X) :
    OptBls.eq (OptBls.add X X) (OptBls.double X) = true := by
  rw [← good_eq h (good_add h gX gX).1 (good_double h gX).1, (good_add h gX gX).2,
    (good_double h gX).2]
  exact C07Opt.Bls.opt_add_self_eq _

theorem via_add_congr (h2 : (2 : K) ≠ 0) {X X' Y Y' : A × A × A} (gX : GoodT Good X)
    (gX' : GoodT Good X') (gY : GoodT Good Y) (gY' : GoodT Good Y')
    (eX : OptBls.eq X X' = true) (eY : OptBls.eq Y Y' = true) :
    OptBls.eq (OptBls.add X Y) (OptBls.add X' Y') = true := by
  rw [← good_eq h (good_add h gX gY).1 (good_add h gX' gY').1, (good_add h gX gY).2,
    (good_add h gX' gY').2]
  refine C07Opt.Bls.opt_add_congr h2 ?_ ?_
  · rw [good_eq h gX gX']; exact eX
  · rw [good_eq h gY gY']; exact eY

/-- any two triples with `z = 0` are `eq` (the guard of the `fix:` commit for defect F4), so `eq` is an equivalence
    on all good triples -/
theorem via_eq_equiv {X Y Z : A × A × A} (gX : GoodT Good X) (gY : GoodT Good Y)
    (gZ : GoodT Good Z) :
    OptBls.eq X X = true ∧ (OptBls.eq X Y = true → OptBls.eq Y X = true)
      ∧ (OptBls.eq X Y = true → OptBls.eq Y Z = true → OptBls.eq X Z = true) := by
  rw [← good_eq h gX gX, ← good_eq h gX gY, ← good_eq h gY gX, ← good_eq h gY gZ,
    ← good_eq h gX gZ]
  simp only [C13.Bls.opt_eq_iff]
  exact ⟨trivial, Eq.symm, Eq.trans⟩

theorem via_multiply_congr (h2 : (2 : K) ≠ 0) {X X' : A × A × A} (gX : GoodT Good X)
    (gX' : GoodT Good X') (eX : OptBls.eq X X' = true) (n : ℕ) :
    OptBls.eq (OptBls.multiply X n) (OptBls.multiply X' n) = true := by
  rw [← good_eq h (good_multiply h gX n).1 (good_multiply h gX' n).1, (good_multiply h gX n).2,
    (good_multiply h gX' n).2]
  refine C07Opt.Bls.opt_multiply_congr h2 ?_ n
  rw [good_eq h gX gX']; exact eX

end PyEcc.Transfer.Bls
