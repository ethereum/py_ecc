/-
  PyEcc.Sem.PrattCerts — GENERATED (tools/leangen/gen_pratt_lean.py from data/pratt_cert.json): the Pratt certificates of the
  six moduli / orders of py_ecc and of the prime factors 859267, 52437899 of the BLS12-381 G1 cofactor h₁ (used by name in
  `Lemmas/Hb2G1.lean`, like 10177, which trial division decides) as one table of rows `⟨p, a, prime factors of p - 1⟩`
  (these eight primes first, then the others in ascending order; the primes below 2¹⁶ have no row: `Pratt.smallPrime`).
  The table is data; `certs_ok` has the kernel run `tableOk` (`Sem/Pratt.lean`) over it once.
-/
import PyEcc.Sem.Pratt
namespace PyEcc.Pratt

def certs : List Row := [
  ⟨859267, 2, [2, 3, 3, 47737]⟩,
  ⟨52437899, 2, [2, 43, 609743]⟩,
  ⟨21888242871839275222246405745257275088548364400416034343698204186575808495617, 5, [2, 2, 2, 2, 2, 2, 2, 2, 2, 2, 2, 2, 2, 2, 2, 2, 2, 2, 2, 2, 2, 2, 2, 2, 2, 2, 2, 2, 3, 3, 13, 29, 983, 11003, 237073, 405928799, 1670836401704629, 13818364434197438864469338081]⟩,
  ⟨21888242871839275222246405745257275088696311157297823662689037894645226208583, 3, [2, 3, 3, 13, 29, 67, 229, 311, 983, 11003, 405928799, 11465965001, 13427688667394608761327070753331941386769]⟩,
  ⟨52435875175126190479447740508185965837690552500527637822603658699938581184513, 7, [2, 2, 2, 2, 2, 2, 2, 2, 2, 2, 2, 2, 2, 2, 2, 2, 2, 2, 2, 2, 2, 2, 2, 2, 2, 2, 2, 2, 2, 2, 2, 2, 3, 11, 19, 10177, 125527, 859267, 906349, 906349, 2508409, 2529403, 52437899, 254760293, 254760293]⟩,
  ⟨115792089237316195423570985008687907852837564279074904382605163141518161494337, 7, [2, 2, 2, 2, 2, 2, 3, 149, 631, 107361793816595537, 174723607534414371449, 341948486974166000522343609283189]⟩,
  ⟨115792089237316195423570985008687907853269984665640564039457584007908834671663, 3, [2, 3, 7, 13441, 205115282021455665897114700593932402728804164701536103180137503955397371]⟩,
  ⟨4002409555221667393417789825735904156556882819939007885332058136124031650490837864442687629129015664037894272559787, 2, [2, 3, 3, 11, 23, 47, 10177, 859267, 52437899, 2584487767265781317813, 15778400344354997994418419698270088123916926905054652752758194827714659]⟩,
  ⟨85831, 3, [2, 3, 5, 2861]⟩,
  ⟨93001, 14, [2, 2, 2, 3, 5, 5, 5, 31]⟩,
  ⟨96557, 2, [2, 2, 101, 239]⟩,
  ⟨110573, 3, [2, 2, 7, 11, 359]⟩,
  ⟨120233, 3, [2, 2, 2, 7, 19, 113]⟩,
  ⟨125527, 5, [2, 3, 20921]⟩,
  ⟨237073, 15, [2, 2, 2, 2, 3, 11, 449]⟩,
  ⟨305873, 3, [2, 2, 2, 2, 7, 2731]⟩,
  ⟨327599, 19, [2, 19, 37, 233]⟩,
  ⟨421987, 2, [2, 3, 53, 1327]⟩,
  ⟨582767, 5, [2, 67, 4349]⟩,
  ⟨609743, 5, [2, 7, 97, 449]⟩,
  ⟨755057, 3, [2, 2, 2, 2, 41, 1151]⟩,
  ⟨906349, 2, [2, 2, 3, 47, 1607]⟩,
  ⟨1206781, 10, [2, 2, 3, 5, 20113]⟩,
  ⟨1593227, 2, [2, 19, 41927]⟩,
  ⟨1627771, 3, [2, 3, 5, 29, 1871]⟩,
  ⟨1686913, 10, [2, 2, 2, 2, 2, 2, 2, 3, 23, 191]⟩,
  ⟨1853641, 17, [2, 2, 2, 3, 3, 5, 19, 271]⟩,
  ⟨2508409, 11, [2, 2, 2, 3, 3, 3, 3, 7, 7, 79]⟩,
  ⟨2529403, 2, [2, 3, 23, 18329]⟩,
  ⟨2653753, 5, [2, 2, 2, 3, 110573]⟩,
  ⟨4562087, 5, [2, 17, 109, 1231]⟩,
  ⟨4681609, 23, [2, 2, 2, 3, 97, 2011]⟩,
  ⟨7240687, 3, [2, 3, 1206781]⟩,
  ⟨13331831, 13, [2, 5, 971, 1373]⟩,
  ⟨44706919, 6, [2, 3, 797, 9349]⟩,
  ⟨51376543, 3, [2, 3, 7, 151, 8101]⟩,
  ⟨63690073, 7, [2, 2, 2, 3, 2653753]⟩,
  ⟨107590001, 3, [2, 2, 2, 2, 5, 5, 5, 5, 7, 29, 53]⟩,
  ⟨173171039, 13, [2, 73, 89, 13327]⟩,
  ⟨254760293, 2, [2, 2, 63690073]⟩,
  ⟨405928799, 22, [2, 11, 3691, 4999]⟩,
  ⟨475709467, 2, [2, 3, 47, 1686913]⟩,
  ⟨545358713, 5, [2, 2, 2, 41, 59, 28181]⟩,
  ⟨639533339, 2, [2, 229, 853, 1637]⟩,
  ⟨927093389, 3, [2, 2, 13, 409, 43591]⟩,
  ⟨1263766531, 10, [2, 3, 5, 13, 911, 3557]⟩,
  ⟨11465965001, 3, [2, 2, 2, 5, 5, 5, 5, 7, 327599]⟩,
  ⟨12048837557, 2, [2, 2, 7, 7, 661, 93001]⟩,
  ⟨13090036741, 10, [2, 2, 3, 5, 11, 47, 421987]⟩,
  ⟨35385462869, 2, [2, 2, 7, 1263766531]⟩,
  ⟨43670061551, 7, [2, 5, 5, 17, 51376543]⟩,
  ⟨297159362677, 2, [2, 2, 3, 3, 11, 461, 1627771]⟩,
  ⟨5156902474397, 2, [2, 2, 107, 12048837557]⟩,
  ⟨9272813673901, 2, [2, 2, 3, 5, 5, 7, 7577, 582767]⟩,
  ⟨64881703735777, 5, [2, 2, 2, 2, 2, 3, 3, 3, 3, 3, 3, 3, 927093389]⟩,
  ⟨1670836401704629, 2, [2, 2, 3, 3, 3, 3, 5156902474397]⟩,
  ⟨1928745244171409, 3, [2, 2, 2, 2, 13, 9272813673901]⟩,
  ⟨2480874801745591, 6, [2, 3, 3, 5, 19, 41, 35385462869]⟩,
  ⟨65865678001877903, 5, [2, 83, 379, 1637, 639533339]⟩,
  ⟨107361793816595537, 3, [2, 2, 2, 2, 16699, 85831, 4681609]⟩,
  ⟨173378833005251801, 6, [2, 2, 2, 5, 5, 2621, 24809, 13331831]⟩,
  ⟨7259797099061183477, 2, [2, 2, 941, 1928745244171409]⟩,
  ⟨174723607534414371449, 3, [2, 2, 2, 17, 59, 4051, 120233, 44706919]⟩,
  ⟨2584487767265781317813, 2, [2, 2, 89, 7259797099061183477]⟩,
  ⟨3819663927398918131021, 6, [2, 2, 3, 3, 5, 19, 113, 755057, 13090036741]⟩,
  ⟨22149492674086928081353, 5, [2, 2, 2, 3, 5323, 173378833005251801]⟩,
  ⟨92691255082156974996979, 3, [2, 3, 31, 467, 16447, 64881703735777]⟩,
  ⟨132896956044521568488119, 6, [2, 3, 22149492674086928081353]⟩,
  ⟨13818364434197438864469338081, 3, [2, 2, 2, 2, 2, 5, 823, 1593227, 65865678001877903]⟩,
  ⟨29047611873442575647497758179, 2, [2, 293, 305873, 545358713, 297159362677]⟩,
  ⟨341948486974166000522343609283189, 2, [2, 2, 3, 3, 3, 109, 29047611873442575647497758179]⟩,
  ⟨1125266252156850182658904441386709967, 5, [2, 3373, 43670061551, 3819663927398918131021]⟩,
  ⟨255515944373312847190720520512484175977, 3, [2, 2, 2, 7, 7, 11, 1627, 2657, 4423, 41201, 96557, 7240687, 107590001]⟩,
  ⟨13427688667394608761327070753331941386769, 17, [2, 2, 2, 2, 3, 7, 11, 1853641, 4562087, 173171039, 2480874801745591]⟩,
  ⟨15778400344354997994418419698270088123916926905054652752758194827714659, 2, [2, 3, 53, 475709467, 92691255082156974996979, 1125266252156850182658904441386709967]⟩,
  ⟨205115282021455665897114700593932402728804164701536103180137503955397371, 10, [2, 3, 5, 29, 29, 31, 7723, 132896956044521568488119, 255515944373312847190720520512484175977]⟩]

theorem certs_ok : tableOk [] certs = true := by decide +kernel

theorem certs_prime : ∀ p ∈ certs.map Prod.fst, p.Prime :=
  prime_of_tableOk (List.forall_mem_nil _) certs_ok

theorem prime_10177 : Nat.Prime 10177 := prime_of_smallPrime (by decide +kernel)
theorem prime_859267 : Nat.Prime 859267 := certs_prime _ (by decide)
theorem prime_52437899 : Nat.Prime 52437899 := certs_prime _ (by decide)

end PyEcc.Pratt
