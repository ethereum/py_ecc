/-
  For C11 (ZCash point compression), over the power tests of `Lemmas/PowerResidue.lean`: in the BLS12-381 base field the
  decoder's square-root test accepts exactly the squares and `x³ + 4` never vanishes, so the finite branch of
  `decompress_G1` is a relation between the word and THE root of `x³ + 4` with the requested sign flag
  (`decompressG1_fin_iff`).
-/
import PyEcc.Lemmas.PowerResidue
import PyEcc.Sem.FqZMod
import PyEcc.Sem.Primes
import PyEcc.Sem.CodecCtl
import PyEcc.Lemmas.SignBit
import Mathlib.FieldTheory.Finite.Basic
import Mathlib.Tactic.Ring
import Mathlib.Tactic.LinearCombination

set_option exponentiation.threshold 400

namespace PyEcc.CodecSem
open PyEcc Gen.Consts

abbrev K := ZMod blsP

theorem blsP_pos : 0 < blsP := by decide
theorem blsP_mod4 : blsP % 4 = 3 := by decide
theorem blsP_mod3 : blsP % 3 = 1 := by decide
theorem blsB_n : (blsB).n = 4 := by decide

theorem fermat {t : K} (ht : t ≠ 0) : t ^ (blsP - 1) = 1 := ZMod.pow_card_sub_one_eq_one ht

/-- the decoder's acceptance test `pow(y, 2, q) == rhs` succeeds exactly on squares -/
theorem sqrt_check_iff (r : K) : (r ^ ((blsP + 1) / 4)) ^ 2 = r ↔ IsSquare r :=
  sqrt_check_iff_of_mod4 blsP_mod4 r

/-- kernel computation: `(-4)^((p-1)/3) ≠ 1 mod p`, i.e. `-4` is not a cube -/
theorem minus4_not_cube_kernel : powMod (blsP - 4) ((blsP - 1) / 3) blsP ≠ 1 := by decide +kernel

theorem four_ne_zero : (4 : K) ≠ 0 := by
  have h : ((4 : ℕ) : K) ≠ 0 := by
    rw [Ne, ZMod.natCast_eq_zero_iff]
    intro hd
    have := Nat.le_of_dvd (by decide) hd
    exact absurd this (by decide)
  simpa using h

theorem two_ne_zero : (2 : K) ≠ 0 := by
  intro h
  apply four_ne_zero
  have : (4 : K) = 2 * 2 := by norm_num
  rw [this, h, zero_mul]

/-- **no point with `y = 0`**: `x³ + 4` has no root mod `p` (`-4` is not a cube) -/
theorem cube_add_four_ne_zero (x : K) : x ^ 3 + 4 ≠ 0 := by
  refine no_cube_root four_ne_zero (k := (blsP - 1) / 3) (by rw [ZMod.card]; decide) ?_ x
  intro hk
  apply minus4_not_cube_kernel
  apply natCast_inj_of_lt (powMod_lt _ _ _ blsP_pos) (by decide : 1 < blsP)
  rw [powMod_cast, Nat.cast_sub (by decide), ZMod.natCast_self, zero_sub, Nat.cast_one]
  exact_mod_cast hk

theorem n_ofInt_nat {x : ℕ} (h : x < blsP) : (Fq.ofInt (x : ℤ) : F1).n = x := by
  have := Fq.n_ofInt (p := blsP) (x : ℤ)
  rw [Int.emod_eq_of_lt (by omega) (by exact_mod_cast h)] at this
  exact_mod_cast this

theorem ofInt_n (a : F1) : (Fq.ofInt (a.n : ℤ) : F1) = a := Fq.ext (n_ofInt_nat a.lt)

theorem toZMod_ofInt_nat (x : ℕ) : Fq.toZMod (Fq.ofInt (x : ℤ) : F1) = (x : K) := by
  rw [Fq.toZMod_ofInt]; simp

theorem n_eq_zero_iff (a : F1) : a.n = 0 ↔ a = 0 := by
  constructor
  · intro h; apply Fq.ext; rw [h]; rfl
  · intro h; rw [h]; rfl

theorem toZMod_blsB : Fq.toZMod blsB = (4 : K) := by
  show ((blsB.n : ℕ) : K) = 4
  rw [blsB_n]; norm_num

theorem is_on_curve_iff (P : G1Pt) :
    Gen.OptBls.is_on_curve P blsB = true ↔
      (P.2.2 = 0 ∨ (Fq.toZMod P.2.1) ^ 2 * Fq.toZMod P.2.2 - (Fq.toZMod P.1) ^ 3
        = 4 * (Fq.toZMod P.2.2) ^ 3) := by
  unfold Gen.OptBls.is_on_curve Gen.OptBls.is_inf
  by_cases hz : P.2.2 = 0
  · simp [hz]
  · simp only [hz, decide_false, Bool.false_eq_true, ↓reduceIte, decide_eq_true_eq, false_or]
    rw [← Fq.toZMod_inj]
    simp only [Fq.toZMod_sub, Fq.toZMod_mul, Fq.toZMod_pow, toZMod_blsB]

theorem on_curve_affine (P : G1Pt) (hz : P.2.2 ≠ 0) : Gen.OptBls.is_on_curve P blsB = true ↔
    Fq.toZMod (P.2.1 / P.2.2) ^ 2 = Fq.toZMod (P.1 / P.2.2) ^ 3 + 4 := by
  have hZ : Fq.toZMod P.2.2 ≠ 0 := fun h => hz (Fq.toZMod_eq_zero.mp h)
  rw [is_on_curve_iff, or_iff_right hz, Fq.toZMod_div, Fq.toZMod_div]
  constructor
  · intro h; field_simp; linear_combination h
  · intro h; field_simp at h; linear_combination h

/-- the flag `(y * 2) // q` is 1 exactly for the "larger" residues `y > (p-1)/2` -/
theorem flag_eq_one_iff {y : ℕ} (h : y < blsP) : y * 2 / blsP = 1 ↔ blsP ≤ y * 2 := by
  rw [blsP_val] at *; omega

theorem natCast_p_sub {y : ℕ} (h : y ≤ blsP) : ((blsP - y : ℕ) : K) = -(y : K) := by
  rw [Nat.cast_sub h, ZMod.natCast_self, zero_sub]

/-- the flag is a sign bit on the residues in `[0, p)`: `p - y` has the opposite flag (`p` is odd, `y ≠ 0`) -/
theorem signBit_flag : SignBit (· < blsP) (Nat.cast : ℕ → K) (blsP - ·) (· * 2 / blsP) where
  good_neg := fun {y} hy h0 => by
    have : y ≠ 0 := by rintro rfl; exact h0 Nat.cast_zero
    omega
  map_neg := fun hy => natCast_p_sub (le_of_lt hy)
  inj := natCast_inj_of_lt
  flip := fun {y} hy h0 => by
    have : y ≠ 0 := by rintro rfl; exact h0 Nat.cast_zero
    rcases Nat.le_one_iff_eq_zero_or_eq_one.mp (flag_le_one hy) with e | e <;> rw [e] <;>
      rw [blsP_val] at * <;> omega

theorem isSquare_nat_iff (r : ℕ) : IsSquare ((r : ℕ) : K) ↔ ∃ y : ℕ, y * y % blsP = r % blsP := by
  constructor
  · rintro ⟨t, ht⟩
    refine ⟨t.val, ?_⟩
    apply (ZMod.natCast_eq_natCast_iff' _ _ _).mp
    rw [Nat.cast_mul, ZMod.natCast_zmod_val, ht]
  · rintro ⟨y, hy⟩
    refine ⟨(y : K), ?_⟩
    have := (ZMod.natCast_eq_natCast_iff' (y * y) r blsP).mpr hy
    rw [← this, Nat.cast_mul]

theorem rhsOf_eq (x : ℕ) : rhsOf x = (x ^ 3 + 4) % blsP := by rw [rhsOf, blsB_n]
theorem rhsOf_lt (x : ℕ) : rhsOf x < blsP := Nat.mod_lt _ blsP_pos
theorem rootOf_lt (x : ℕ) : rootOf x < blsP := powMod_lt _ _ _ blsP_pos

theorem rhsOf_cast (x : ℕ) : ((rhsOf x : ℕ) : K) = (x : K) ^ 3 + 4 := by
  rw [rhsOf_eq, ZMod.natCast_mod, Nat.cast_add, Nat.cast_pow]; rfl

theorem rootOf_cast (x : ℕ) : ((rootOf x : ℕ) : K) = ((x : K) ^ 3 + 4) ^ ((blsP + 1) / 4) := by
  rw [rootOf, powMod_cast, rhsOf_cast]

theorem sqrtCheck_iff_sq (x : ℕ) : sqrtCheck x ↔ ((rootOf x : ℕ) : K) ^ 2 = (x : K) ^ 3 + 4 := by
  unfold sqrtCheck
  rw [powMod_eq_iff blsP_pos (rhsOf_lt x), rhsOf_cast]

/-- the test passes exactly when `x³ + 4` is a square mod `p` (Euler/Fermat, `p ≡ 3 mod 4`) -/
theorem sqrtCheck_iff (x : ℕ) : sqrtCheck x ↔ IsSquare ((x : K) ^ 3 + 4) := by
  rw [sqrtCheck_iff_sq, rootOf_cast, sqrt_check_iff]

theorem sqrtCheck_iff_nat (x : ℕ) : sqrtCheck x ↔ ∃ y : ℕ, y * y % blsP = (x ^ 3 + 4) % blsP := by
  rw [sqrtCheck_iff, ← isSquare_nat_iff]; push_cast; rfl

/-- the decoder's `y` when the test passes: in range, a root of `x³ + 4` (never `0`: `−4` is not a cube), with the
    requested flag -/
theorem pickY_rootOf {x a : ℕ} (h : sqrtCheck x) (ha : a ≤ 1) : pickY (rootOf x) a < blsP ∧
    (pickY (rootOf x) a : K) ^ 2 = (x : K) ^ 3 + 4 ∧ pickY (rootOf x) a * 2 / blsP = a := by
  have hsq := (sqrtCheck_iff_sq x).mp h
  have h0 : (rootOf x : K) ≠ 0 := fun h0 => cube_add_four_ne_zero (x : K) (by rw [← hsq, h0]; ring)
  have hs := rootOf_lt x
  rw [← hsq]
  exact signBit_flag.pick hs h0 fun h1 h2 => by
    have h3 := flag_le_one hs
    have h4 := flag_le_one (signBit_flag.good_neg hs h0)
    generalize rootOf x * 2 / blsP = e at *
    generalize (blsP - rootOf x) * 2 / blsP = f at *
    omega

/-- **the finite branch of `decompress_G1` as a relation.**  On flags `c = 1, b = 0` and sign flag `a` the decoder
    returns `(x, y, 1)` for `x = z % 2^381` and THE root `y` of `x³ + 4` with sign flag `a`, provided `0 < x < p` and
    there is a root; otherwise nothing. -/
theorem decompressG1_fin_iff {z : ℕ} {a : Bool} (hf : getFlags z = (true, false, a)) {P : G1Pt} :
    decompressG1 z = .ok P ↔ z % 2 ^ 381 ≠ 0 ∧ z % 2 ^ 381 < blsP ∧ ∃ y, y < blsP ∧
      (y : K) ^ 2 = ((z % 2 ^ 381 : ℕ) : K) ^ 3 + 4 ∧ y * 2 / blsP = (if a then 1 else 0) ∧
      (Fq.ofInt ((z % 2 ^ 381 : ℕ) : ℤ), Fq.ofInt (y : ℤ), Fq.ofInt 1) = P := by
  have ha : (getFlags z).2.2 = a := by rw [hf]
  have h01 : (if a then 1 else 0) ≤ 1 := by cases a <;> decide
  rw [decompressG1_ok_iff, ha]
  constructor
  · rintro (⟨-, hx0, hxlt, hchk, rfl⟩ | ⟨hf', -⟩)
    · obtain ⟨hylt, hysq, hyf⟩ := pickY_rootOf hchk h01
      exact ⟨hx0, hxlt, _, hylt, hysq, hyf, rfl⟩
    · cases hf'.symm.trans hf
  · rintro ⟨hx0, hxlt, y, hylt, hysq, hyf, rfl⟩
    have hchk : sqrtCheck (z % 2 ^ 381) := (sqrtCheck_iff _).mpr ⟨(y : K), by rw [← hysq, pow_two]⟩
    obtain ⟨hlt, hsq, hf'⟩ := pickY_rootOf hchk h01
    have hpick := signBit_flag.unique hlt hylt (hsq.trans hysq.symm) (hf'.trans hyf.symm)
    exact .inl ⟨⟨a, hf⟩, hx0, hxlt, hchk, by rw [decodedPt, hpick]⟩

theorem getI_map_emod_range (cs : List Int) (i : ℕ) :
    0 ≤ getI (cs.map (fun c => c % (blsP : Int))) i ∧ getI (cs.map (fun c => c % (blsP : Int))) i < (blsP : Int) := by
  have hp : (0 : Int) < (blsP : Int) := by exact_mod_cast blsP_pos
  induction cs generalizing i with
  | nil => exact ⟨le_refl _, hp⟩
  | cons c cs ih =>
    cases i with
    | zero => exact ⟨Int.emod_nonneg _ (ne_of_gt hp), Int.emod_lt_of_pos _ hp⟩
    | succ i => exact ih i

theorem getI_ofInts_range (cs : List Int) (i : ℕ) :
    0 ≤ getI (Fqp.ofInts (v := .opt) (p := blsP) (mc := blsMc2) cs).coeffs i ∧
      getI (Fqp.ofInts (v := .opt) (p := blsP) (mc := blsMc2) cs).coeffs i < (blsP : Int) :=
  getI_map_emod_range cs i

/-- every coefficient of a quotient `a / b` in the optimized `FQ2` is in `[0, p)`
    (`__truediv__` is `__mul__` with the inverse, and `__mul__` ends with `% field_modulus`) -/
theorem getI_div_range (a b : F2) (i : ℕ) :
    0 ≤ getI (a / b).coeffs i ∧ getI (a / b).coeffs i < (blsP : Int) :=
  getI_map_emod_range _ i

theorem flag_int {c : Int} (h0 : 0 ≤ c) (h : c < blsP) :
    (c * 2 / (blsP : Int) = 0 ∧ c * 2 < blsP) ∨ (c * 2 / (blsP : Int) = 1 ∧ (blsP : Int) < c * 2) := by
  rw [blsP_val] at *
  omega

/-- the first word written by `compress_G2` for a finite point is the word `x + a·2^381 + 2^383` of
    `getFlags_word` -/
theorem compress_word {xi fl : Int} (h0 : 0 ≤ xi) (h1 : xi < blsP) (hf : fl = 0 ∨ fl = 1) {z : ℕ}
    (hz : z = (xi + fl * ((2 ^ 381 : ℕ) : Int) + ((2 ^ 383 : ℕ) : Int)).toNat) :
    getFlags z = (true, false, fl.toNat == 1) ∧ ((z % 2 ^ 381 : ℕ) : Int) = xi ∧ z < 2 ^ 384 := by
  have hp := blsP_lt
  have e : z = xi.toNat + fl.toNat * 2 ^ 381 + 2 ^ 383 := by omega
  obtain ⟨w1, w2, w3⟩ := getFlags_word (x := xi.toNat) (a := fl.toNat) (by omega) (by omega)
  rw [e, w2]
  exact ⟨w1, by omega, w3⟩

theorem aflag_div_range (a b : F2) : Fq2Sqrt.aflag (a / b) = 0 ∨ Fq2Sqrt.aflag (a / b) = 1 := by
  obtain ⟨h0, h0'⟩ := getI_div_range a b 0
  obtain ⟨h1, h1'⟩ := getI_div_range a b 1
  have f0 := flag_int h0 h0'
  have f1 := flag_int h1 h1'
  unfold Fq2Sqrt.aflag
  split <;> omega

end PyEcc.CodecSem
