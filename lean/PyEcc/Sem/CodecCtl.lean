/-
  `decompress_G1` and `decompress_G2` of `py_ecc/bls/point_compression.py` share one
  control skeleton: flag checks, the infinity case, the range check of the first coordinate word, then a
  curve-specific tail.  Both look at `z` only through `get_flags(z)` and `z % 2^381`.  Core Lean only.
-/
import PyEcc.Model.Codec

namespace PyEcc.CodecSem
open PyEcc Gen.Consts

theorem pow2_381 : POW_2_381 = 2 ^ 381 := by decide +kernel
theorem pow2_382 : POW_2_382 = 2 ^ 382 := by decide +kernel
theorem pow2_383 : POW_2_383 = 2 ^ 383 := by decide +kernel
theorem pow256_48 : 256 ^ 48 = 2 ^ 384 := by decide +kernel

theorem blsP_val : blsP = 4002409555221667393417789825735904156556882819939007885332058136124031650490837864442687629129015664037894272559787 := rfl

theorem blsP_lt : blsP < 2 ^ 381 := by decide +kernel

/-- The flag handling that `decompress_G1` and `decompress_G2` share.  `fl = (c, b, a)` are the flag bits
    (compression, infinity, sign) as `getFlags` returns them; `isInf`: the remaining bits are the pattern of
    the point at infinity; `bad`: the range test `x ≥ q`.  Outcomes: `ValueError` (`c` clear, `b ≠ isInf`,
    `a` set at infinity, or `bad`), `inf` (the point at infinity), or `fin` (the decoding of a finite point
    from `x` and the sign flag). -/
def ctlG {α : Type} (fl : Bool × Bool × Bool) (isInf : Bool) (bad : Prop) [Decidable bad] (inf : α)
    (fin : Except PyErr α) : Except PyErr α :=
  if !fl.1 then .error .value else
  if fl.2.1 != isInf then .error .value else
  if isInf then (if fl.2.2 then .error .value else .ok inf) else
  if bad then .error .value else fin

section
variable {α : Type} {fl : Bool × Bool × Bool} {isInf : Bool} {bad : Prop} [Decidable bad] {inf : α}
  {fin : Except PyErr α}

theorem ctlG_ok_iff {P : α} : ctlG fl isInf bad inf fin = .ok P ↔
    ((∃ a, fl = (true, false, a)) ∧ isInf = false ∧ ¬bad ∧ fin = .ok P) ∨
      (fl = (true, true, false) ∧ isInf = true ∧ inf = P) := by
  obtain ⟨c, b, a⟩ := fl
  unfold ctlG
  cases c <;> cases b <;> cases isInf <;> try simp
  · split <;> simp [*]
  · cases a <;> simp

theorem ctlG_error_kind (hfin : ∀ e, fin = .error e → e = .value) {e : PyErr}
    (h : ctlG fl isInf bad inf fin = .error e) : e = .value := by
  obtain ⟨c, b, a⟩ := fl
  unfold ctlG at h
  cases c <;> cases b <;> cases isInf <;> simp at h
  any_goals exact h.symm
  · split at h
    · cases h; rfl
    · exact hfin e h
  · cases a <;> simp at h
    exact h.symm

/-- the tail of `decompress_G2` in the abstract: one more range check, an optional root `r`, and a final
    re-check `chk` of the point `k y` built from the root -/
def tailG (bad : Prop) [Decidable bad] (r : Option F2) (chk : F2 → Bool) (k : F2 → α) :
    Except PyErr α :=
  if bad then .error .value else
  match r with
  | none => .error .value
  | some y => if !(chk y) then .error .value else .ok (k y)

theorem tailG_ok_iff {r : Option F2} {chk : F2 → Bool} {k : F2 → α} {P : α} :
    tailG bad r chk k = .ok P ↔ ¬bad ∧ ∃ y, r = some y ∧ k y = P ∧ chk y = true := by
  unfold tailG
  split
  · simp [*]
  · cases r with
    | none => simp
    | some y => cases h : chk y <;> simp [*]

theorem tailG_error_kind {r : Option F2} {chk : F2 → Bool} {k : F2 → α} (e : PyErr)
    (h : tailG bad r chk k = .error e) : e = .value := by
  unfold tailG at h
  repeat' split at h
  all_goals cases h
  all_goals rfl

end

/-! ### what the decoders read of `z` -/

theorem getFlags_add_mul (z k : Nat) : getFlags (z + k * 2 ^ 384) = getFlags z := by
  have h1 : (z + k * 2 ^ 384) / 2 ^ 383 % 2 = z / 2 ^ 383 % 2 := by omega
  have h2 : (z + k * 2 ^ 384) / 2 ^ 382 % 2 = z / 2 ^ 382 % 2 := by omega
  have h3 : (z + k * 2 ^ 384) / 2 ^ 381 % 2 = z / 2 ^ 381 % 2 := by omega
  unfold getFlags
  rw [h1, h2, h3]

theorem mod_add_mul (z k : Nat) : (z + k * 2 ^ 384) % POW_2_381 = z % POW_2_381 := by
  rw [pow2_381]; omega

theorem isPointAtInfinity_add_mul (z k : Nat) (o : Option Nat) :
    isPointAtInfinity (z + k * 2 ^ 384) o = isPointAtInfinity z o := by
  unfold isPointAtInfinity
  rw [mod_add_mul]

/-! ### the words written by `compress_G1` / `compress_G2`, as the decoders read them -/

/-- the word `x + a·2^381 + 2^383` of a finite point: flags `c = 1, b = 0`, sign bit `a`, coordinate `x` -/
theorem getFlags_word {x a : Nat} (hx : x < 2 ^ 381) (ha : a ≤ 1) :
    getFlags (x + a * 2 ^ 381 + 2 ^ 383) = (true, false, a == 1) ∧
      (x + a * 2 ^ 381 + 2 ^ 383) % 2 ^ 381 = x ∧ x + a * 2 ^ 381 + 2 ^ 383 < 2 ^ 384 := by
  have h1 : (x + a * 2 ^ 381 + 2 ^ 383) / 2 ^ 383 % 2 = 1 := by omega
  have h2 : (x + a * 2 ^ 381 + 2 ^ 383) / 2 ^ 382 % 2 = 0 := by omega
  have h3 : (x + a * 2 ^ 381 + 2 ^ 383) / 2 ^ 381 % 2 = a := by omega
  unfold getFlags
  rw [h1, h2, h3]
  exact ⟨rfl, by omega, by omega⟩

/-- the word `2^383 + 2^382` of infinity: flags `c = 1, b = 1, a = 0`, coordinate `0` -/
theorem getFlags_inf : getFlags (2 ^ 383 + 2 ^ 382) = (true, true, false) ∧ (2 ^ 383 + 2 ^ 382) % 2 ^ 381 = 0 := by
  have h1 : (2 ^ 383 + 2 ^ 382) / 2 ^ 383 % 2 = 1 := by omega
  have h2 : (2 ^ 383 + 2 ^ 382) / 2 ^ 382 % 2 = 1 := by omega
  have h3 : (2 ^ 383 + 2 ^ 382) / 2 ^ 381 % 2 = 0 := by omega
  unfold getFlags
  rw [h1, h2, h3]
  exact ⟨rfl, by omega⟩

theorem ite_beq_one {n : Nat} (h : n ≤ 1) : (if (n == 1) = true then 1 else 0) = n := by
  rcases Nat.le_one_iff_eq_zero_or_eq_one.mp h with rfl | rfl <;> rfl

theorem word_recompose {z : Nat} {a : Bool} (hz : z < 2 ^ 384) (h : getFlags z = (true, false, a)) :
    z % 2 ^ 381 + (if a then 1 else 0) * 2 ^ 381 + 2 ^ 383 = z := by
  unfold getFlags at h
  simp only [Prod.mk.injEq, beq_iff_eq, beq_eq_false_iff_ne] at h
  obtain ⟨h1, h2, rfl⟩ := h
  by_cases h3 : z / 2 ^ 381 % 2 = 1 <;> simp only [beq_iff_eq, h3, if_true, if_false] <;> omega

theorem word_inf {z : Nat} (hz : z < 2 ^ 384) (h : getFlags z = (true, true, false)) (hx : z % 2 ^ 381 = 0) :
    z = 2 ^ 383 + 2 ^ 382 := by
  unfold getFlags at h
  simp only [Prod.mk.injEq, beq_iff_eq, beq_eq_false_iff_ne] at h
  omega

theorem flag_le_one {y : Nat} (h : y < blsP) : y * 2 / blsP ≤ 1 := by
  rw [blsP_val] at *; omega

theorem compressG1_inf {P : G1Pt} (h : P.2.2 = 0) : compressG1 P = 2 ^ 383 + 2 ^ 382 := by
  unfold compressG1 Gen.OptBls.is_inf
  rw [if_pos (by simpa using h), pow2_383, pow2_382]

theorem compressG1_fin {P : G1Pt} (h : P.2.2 ≠ 0) :
    compressG1 P = (P.1 / P.2.2).n + ((P.2.1 / P.2.2).n * 2 / blsP) * 2 ^ 381 + 2 ^ 383 := by
  unfold compressG1 Gen.OptBls.is_inf
  rw [if_neg (by simpa using h), pow2_383, pow2_381]
  rfl

/-- `compress_G1(pt)` is a 384-bit word for every triple `pt`, on the curve or not -/
theorem compressG1_lt (P : G1Pt) : compressG1 P < 2 ^ 384 := by
  by_cases h : P.2.2 = 0
  · rw [compressG1_inf h]; omega
  · rw [compressG1_fin h]
    exact (getFlags_word (Nat.lt_trans (P.1 / P.2.2).lt blsP_lt) (flag_le_one (P.2.1 / P.2.2).lt)).2.2

/-- so it fits 48 bytes: `G1_to_pubkey` cannot raise `OverflowError` -/
theorem compressG1_lt_bytes (P : G1Pt) : compressG1 P < 256 ^ 48 := by
  rw [pow256_48]; exact compressG1_lt P

/-- the decoder's choice between `y` and `q - y` according to the sign flag -/
def pickY (s : Nat) (a : Nat) : Nat := if s * 2 / blsP ≠ a then blsP - s else s

/-- right-hand side `(x**3 + b.n) % q` computed by the decoder -/
def rhsOf (x : Nat) : Nat := (x ^ 3 + blsB.n) % blsP
/-- the decoder's candidate root `pow(rhs, (q + 1) // 4, q)` -/
def rootOf (x : Nat) : Nat := powMod (rhsOf x) ((blsP + 1) / 4) blsP

/-- the decoder's test `pow(y, 2, q) == (x**3 + b.n) % q` -/
def sqrtCheck (x : Nat) : Prop := powMod (rootOf x) 2 blsP = rhsOf x
instance (x : Nat) : Decidable (sqrtCheck x) :=
  inferInstanceAs (Decidable (powMod (rootOf x) 2 blsP = rhsOf x))

/-- the point produced by the decoder for sign flag `a` and `x = z % 2^381` -/
def decodedPt (a : Bool) (x : Nat) : G1Pt :=
  (Fq.ofInt x, Fq.ofInt (pickY (rootOf x) (if a then 1 else 0) : Nat), Fq.ofInt 1)

/-- the tail of `decompress_G1`: the square-root test, then the choice of sign -/
def finG1 (a : Bool) (x : Nat) : Except PyErr G1Pt :=
  if ¬ sqrtCheck x then .error .value else .ok (decodedPt a x)

theorem decompressG1_ctl (z : Nat) : decompressG1 z =
    ctlG (getFlags z) (isPointAtInfinity z none) (z % POW_2_381 ≥ blsP) Z1
      (finG1 (getFlags z).2.2 (z % POW_2_381)) := by
  unfold decompressG1
  generalize getFlags z = fl
  obtain ⟨c, b, a⟩ := fl
  rfl

theorem finG1_ok_iff {a : Bool} {x : Nat} {P : G1Pt} :
    finG1 a x = .ok P ↔ sqrtCheck x ∧ decodedPt a x = P := by
  by_cases h : sqrtCheck x <;> simp [finG1, h]

theorem finG1_error_kind {a : Bool} {x : Nat} (e : PyErr) (h : finG1 a x = .error e) : e = .value := by
  unfold finG1 at h
  split at h <;> cases h
  rfl

theorem isPointAtInfinity_none (z : Nat) : isPointAtInfinity z none = true ↔ z % 2 ^ 381 = 0 := by
  unfold isPointAtInfinity
  rw [pow2_381, Bool.and_true, beq_iff_eq]

/-- **`decompress_G1` as a relation** between the flags, `x = z % 2^381` and the result -/
theorem decompressG1_ok_iff {z : Nat} {P : G1Pt} : decompressG1 z = .ok P ↔
    ((∃ a, getFlags z = (true, false, a)) ∧ z % 2 ^ 381 ≠ 0 ∧ z % 2 ^ 381 < blsP ∧
        sqrtCheck (z % 2 ^ 381) ∧ decodedPt (getFlags z).2.2 (z % 2 ^ 381) = P) ∨
      (getFlags z = (true, true, false) ∧ z % 2 ^ 381 = 0 ∧ Z1 = P) := by
  rw [decompressG1_ctl, ctlG_ok_iff, finG1_ok_iff, ← Bool.not_eq_true, isPointAtInfinity_none, pow2_381,
    ge_iff_le, Nat.not_le]

theorem decompressG1_error_kind {z : Nat} {e : PyErr} (h : decompressG1 z = .error e) : e = .value :=
  ctlG_error_kind finG1_error_kind (decompressG1_ctl z ▸ h)

/-- a decoder whose only error is `ValueError` raises it on whatever it does not decode -/
theorem rejects_of_error_kind {α} {x : Except PyErr α} (hk : ∀ {e}, x = .error e → e = .value)
    (h : ∀ P, x ≠ .ok P) : x = .error .value := by
  cases x with
  | ok P => exact absurd rfl (h P)
  | error e => rw [hk rfl]

/-- the decoder's choice between `y` and `-y` according to the sign flag -/
def pickY2 (a : Bool) (y : F2) : F2 :=
  if (getI y.coeffs 1 > 0 ∧ (getI y.coeffs 1 * 2) / (blsP : Int) ≠ (if a then 1 else 0)) ∨
     (getI y.coeffs 1 = 0 ∧ (getI y.coeffs 0 * 2) / (blsP : Int) ≠ (if a then 1 else 0))
  then Fqp.ofInts (Fqp.mulInt y (-1)).coeffs else y

/-- the `x` coordinate `FQ2([z2, z1 % 2^381])` read off the two words -/
def encodedX2 (z1 z2 : Nat) : F2 := Fqp.ofInts [(z2 : Int), ((z1 % POW_2_381 : Nat) : Int)]

/-- the curve right-hand side `x ** 3 + b2` of the decoder, with the model's `**` on `FQ2` (instance spelled
    out: where Mathlib is imported, the notation `x ^ 3` would elaborate through `Monoid.npow`) -/
def rhsOf2 (z1 z2 : Nat) : F2 :=
  @HPow.hPow F2 Nat F2 (@instHPow F2 Nat Fqp.instPowNat) (encodedX2 z1 z2) 3 + blsB2

/-- the triple returned by `decompress_G2` for encoded `x` and chosen root `y` -/
def decodedPt2 (z1 z2 : Nat) (y : F2) : G2Pt :=
  (encodedX2 z1 z2, pickY2 (getFlags z1).2.2 y, Fqp.ofInts [1, 0])

/-- the tail of `decompress_G2` for sign flag `a`, `x1 = z1 % 2^381` and `z2` -/
def finG2 (a : Bool) (x1 z2 : Nat) : Except PyErr G2Pt :=
  let x : F2 := Fqp.ofInts [(z2 : Int), (x1 : Int)]
  tailG (z2 ≥ blsP) (modularSquarerootInFq2 (x ^ 3 + blsB2))
    (fun y => Gen.OptBls.is_on_curve (x, pickY2 a y, Fqp.ofInts [1, 0]) blsB2)
    (fun y => (x, pickY2 a y, Fqp.ofInts [1, 0]))

/- The kernel compares the two `match`es on `modular_squareroot_in_FQ2(…)` by evaluating the discriminant as
   far as it goes; the discriminant of `finG2` is spelt exactly as in the model, so this happens once. -/
theorem decompressG2_ctl (z1 z2 : Nat) : decompressG2 z1 z2 =
    ctlG (getFlags z1) (isPointAtInfinity z1 (some z2)) (z1 % POW_2_381 ≥ blsP) Z2
      (finG2 (getFlags z1).2.2 (z1 % POW_2_381) z2) := by
  unfold decompressG2 finG2 tailG
  generalize modularSquarerootInFq2 = f
  generalize getFlags z1 = fl
  obtain ⟨c, b, a⟩ := fl
  rfl

theorem finG2_ok_iff {z1 z2 : Nat} {P : G2Pt} : finG2 (getFlags z1).2.2 (z1 % POW_2_381) z2 = .ok P ↔
    z2 < blsP ∧ ∃ y, modularSquarerootInFq2 (rhsOf2 z1 z2) = some y ∧ decodedPt2 z1 z2 y = P ∧
      Gen.OptBls.is_on_curve (decodedPt2 z1 z2 y) blsB2 = true := by
  unfold finG2
  rw [tailG_ok_iff, ge_iff_le, Nat.not_le]
  exact Iff.rfl

theorem isPointAtInfinity_some (z1 z2 : Nat) :
    isPointAtInfinity z1 (some z2) = true ↔ (z1 % 2 ^ 381 = 0 ∧ z2 = 0) := by
  unfold isPointAtInfinity
  rw [pow2_381, Bool.and_eq_true, beq_iff_eq, beq_iff_eq]

/-- **`decompress_G2` as a relation** between the flags of `z1`, `x1 = z1 % 2^381`, `z2` and the result -/
theorem decompressG2_ok_iff {z1 z2 : Nat} {P : G2Pt} : decompressG2 z1 z2 = .ok P ↔
    ((∃ a, getFlags z1 = (true, false, a)) ∧ ¬(z1 % 2 ^ 381 = 0 ∧ z2 = 0) ∧ z1 % 2 ^ 381 < blsP ∧ z2 < blsP ∧
        ∃ y, modularSquarerootInFq2 (rhsOf2 z1 z2) = some y ∧ decodedPt2 z1 z2 y = P ∧
          Gen.OptBls.is_on_curve (decodedPt2 z1 z2 y) blsB2 = true) ∨
      (getFlags z1 = (true, true, false) ∧ (z1 % 2 ^ 381 = 0 ∧ z2 = 0) ∧ Z2 = P) := by
  rw [decompressG2_ctl, ctlG_ok_iff, finG2_ok_iff, ← Bool.not_eq_true, isPointAtInfinity_some, pow2_381,
    ge_iff_le, Nat.not_le]

/-- whatever `decompress_G2` returns it has itself checked with `is_on_curve(…, b2)`, or is `Z2` -/
theorem decompressG2_on_curve {z1 z2 : Nat} {P : G2Pt} (h : decompressG2 z1 z2 = .ok P) :
    Gen.OptBls.is_on_curve P blsB2 = true := by
  rcases decompressG2_ok_iff.mp h with ⟨_, _, _, _, y, _, rfl, hy⟩ | ⟨_, _, rfl⟩
  · exact hy
  · simp [Gen.OptBls.is_on_curve, Gen.OptBls.is_inf, Z2]

theorem decompressG2_error_kind {z1 z2 : Nat} {e : PyErr} (h : decompressG2 z1 z2 = .error e) :
    e = .value := by
  rw [decompressG2_ctl] at h
  exact ctlG_error_kind (fun e h => tailG_error_kind e (by unfold finG2 at h; exact h)) h

-- in namespace `Fq2Sqrt`: `Sem/Fq2Sqrt.lean` uses it and proves its properties (`flag_facts`)
/-- the ZCash sign flag of an `FQ2` value, as computed by `compress_G2`:
    `(y_im * 2) // q if y_im > 0 else (y_re * 2) // q` -/
def _root_.PyEcc.Fq2Sqrt.aflag (y : F2) : Int :=
  if getI y.coeffs 1 > 0 then getI y.coeffs 1 * 2 / (blsP : Int) else getI y.coeffs 0 * 2 / (blsP : Int)

/-- **`compress_G2` unfolded**: `ValueError` off the curve, the word of infinity, or the two words of the affine
    coordinates with the sign flag of `y` -/
theorem compressG2_eq (P : G2Pt) : compressG2 P =
    if Gen.OptBls.is_on_curve P blsB2 = true then
      if Gen.OptBls.is_inf P = true then .ok (POW_2_383 + POW_2_382, 0)
      else .ok ((getI (P.1 / P.2.2).coeffs 1 + Fq2Sqrt.aflag (P.2.1 / P.2.2) * (POW_2_381 : Int)
          + (POW_2_383 : Int)).toNat, (getI (P.1 / P.2.2).coeffs 0).toNat)
    else .error .value := by
  unfold compressG2
  cases Gen.OptBls.is_on_curve P blsB2
  · rfl
  · cases Gen.OptBls.is_inf P <;> rfl

end PyEcc.CodecSem
