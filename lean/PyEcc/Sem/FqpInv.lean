/-
  Correctness of `FQP.inv` (the extended-Euclid loop over coefficient lists) for ANY
  irreducible modulus, both variants.

  `poly_rounded_div` is not polynomial division (only its top coefficient is right), so the proof does
  not assume a quotient.  Invariant on the state `(lm, low, hm, high)` (as polynomials over `ZMod p`):
    `lm·a ≡ low`, `hm·a ≡ high (mod m)`, `IsCoprime low high`, `low ≠ 0`,
    `deg lm + deg high ≤ d`, `deg hm + deg low ≤ d`, `1 ≤ deg high`,
  preserved by `(lm, low, hm, high) ← (hm − lm·r, high − low·r, lm, low)` for the `r` the code computes
  (either `r = 0` when `deg high < deg low`, or `deg r = deg high − deg low` with the right leading
  coefficient).  Measure `2(deg low + deg high) + [deg high < deg low]` strictly decreases.
-/
import PyEcc.Sem.FqpInvAux
import Mathlib.RingTheory.PrincipalIdealDomain
import Mathlib.Algebra.Polynomial.FieldDivision
import Mathlib.Algebra.Polynomial.Degree.Units
import Mathlib.Algebra.Polynomial.Degree.Domain
import Mathlib.Algebra.Field.ZMod

namespace PyEcc.FqpSem
open Polynomial PyEcc.Fqp

section polydefs
variable {F : Type} [CommRing F]

/-- the loop invariant, on polynomials -/
structure PInv (M A LM LOW HM HIGH : F[X]) (d : ℕ) : Prop where
  elow : M ∣ LM * A - LOW
  ehigh : M ∣ HM * A - HIGH
  cop : IsCoprime LOW HIGH
  ne : LOW ≠ 0
  d1 : LM.natDegree + HIGH.natDegree ≤ d
  d2 : HM.natDegree + LOW.natDegree ≤ d
  hpos : 1 ≤ HIGH.natDegree

/-- termination measure -/
noncomputable def mu (LOW HIGH : F[X]) : ℕ :=
  2 * (LOW.natDegree + HIGH.natDegree) + if HIGH.natDegree < LOW.natDegree then 1 else 0

/-- what the code's `r` satisfies -/
def RSpec (LOW HIGH R : F[X]) : Prop :=
  (R = 0 ∧ HIGH.natDegree < LOW.natDegree) ∨
  (LOW.natDegree ≤ HIGH.natDegree ∧ R.natDegree = HIGH.natDegree - LOW.natDegree ∧
    R.leadingCoeff * LOW.leadingCoeff = HIGH.leadingCoeff)

theorem PInv.high_ne {M A LM LOW HM HIGH : F[X]} {d : ℕ} (h : PInv M A LM LOW HM HIGH d) : HIGH ≠ 0 :=
  fun h0 => absurd h.hpos (by rw [h0, natDegree_zero]; decide)

end polydefs

section poly
variable {F : Type} [Field F]

theorem pinv_step {M A LM LOW HM HIGH R : F[X]} {d : ℕ} (h : PInv M A LM LOW HM HIGH d)
    (hlow : LOW.natDegree ≠ 0) (hR : RSpec LOW HIGH R) :
    PInv M A (HM - LM * R) (HIGH - LOW * R) LM LOW d ∧ mu (HIGH - LOW * R) LOW < mu LOW HIGH := by
  have hHIGH := h.high_ne
  have e1 : M ∣ (HM - LM * R) * A - (HIGH - LOW * R) := by
    rw [sub_mul, sub_sub_sub_comm, mul_right_comm, mul_comm (LM * A), mul_comm LOW, ← mul_sub]
    exact dvd_sub h.ehigh (h.elow.mul_left R)
  have cop' : IsCoprime (HIGH - LOW * R) LOW := by
    have := h.cop.symm.add_mul_left_left (-R)
    rwa [mul_neg, ← sub_eq_add_neg] at this
  rcases hR with ⟨rfl, hlt⟩ | ⟨hle, hdeg, hlc⟩
  · -- r = 0 : swap
    simp only [mul_zero, sub_zero] at e1 cop' ⊢
    refine ⟨⟨e1, h.elow, cop', hHIGH, h.d2, h.d1, by omega⟩, ?_⟩
    unfold mu
    rw [if_pos hlt, if_neg (by omega)]
    omega
  · have hlcL : LOW.leadingCoeff ≠ 0 := leadingCoeff_ne_zero.mpr h.ne
    have hlcH : HIGH.leadingCoeff ≠ 0 := leadingCoeff_ne_zero.mpr hHIGH
    have hRne : R ≠ 0 := by
      intro h0; rw [h0, leadingCoeff_zero, zero_mul] at hlc
      exact hlcH hlc.symm
    have hmuldeg : (LOW * R).natDegree = HIGH.natDegree := by
      rw [natDegree_mul h.ne hRne, hdeg]; omega
    have hmullc : (LOW * R).leadingCoeff = HIGH.leadingCoeff := by
      rw [leadingCoeff_mul, mul_comm, hlc]
    have hNEWne : HIGH - LOW * R ≠ 0 := by
      intro h0
      have hdvd : LOW ∣ HIGH := ⟨R, (sub_eq_zero.mp h0)⟩
      have := h.cop.isUnit_of_dvd' dvd_rfl hdvd
      exact hlow (natDegree_eq_zero_of_isUnit this)
    have hlt : (HIGH - LOW * R).natDegree < HIGH.natDegree := by
      apply natDegree_lt_natDegree hNEWne
      apply degree_sub_lt_left _ hHIGH hmullc.symm
      rw [degree_eq_natDegree hHIGH, degree_eq_natDegree (mul_ne_zero h.ne hRne), hmuldeg]
    have hd1 := h.d1
    have hd2 := h.d2
    have hpos := h.hpos
    refine ⟨⟨e1, h.elow, cop', hNEWne, ?_, by omega, by omega⟩, ?_⟩
    · have := (natDegree_sub_le HM (LM * R)).trans (max_le_max le_rfl natDegree_mul_le)
      omega
    · unfold mu
      have : (if LOW.natDegree < (HIGH - LOW * R).natDegree then 1 else 0) ≤ 1 := by split <;> omega
      omega

end poly

section lists
variable {p : ℕ}

/-- the loop invariant on the list state -/
structure LInv (mc : List Int) (A : (ZMod p)[X]) (lm low hm high : List Int) : Prop where
  llm : lm.length = mc.length + 1
  llow : low.length = mc.length + 1
  lhm : hm.length = mc.length + 1
  lhigh : high.length = mc.length + 1
  slow : Sane p low
  shigh : Sane p high
  pinv : PInv (modulus p mc) A (ev p lm) (ev p low) (ev p hm) (ev p high) mc.length

/-- the `r` of one round: `0` when `deg high < deg low`, else of degree `deg high − deg low` with the leading
    coefficient of the quotient -/
theorem padR_spec [Fact p.Prime] (v : Variant) {d : Nat} {low high : List Int} (lhigh : high.length = d + 1)
    (slow : Sane p low) (shigh : Sane p high) (hl : ev p low ≠ 0) (hh : ev p high ≠ 0) :
    (padR v p d high low).length = d + 1 ∧
      RSpec (ev p low) (ev p high) (ev p (padR v p d high low)) := by
  have hlen := length_polyRoundedDiv_le (p := p) v high low
  refine ⟨by rw [List.length_append, List.length_replicate]; omega, ?_⟩
  rw [ev_append, ev_replicate_zero, mul_zero, add_zero, ev_polyRoundedDiv, RSpec, natDegree_ev_eq_deg slow,
    natDegree_ev_eq_deg shigh, leadingCoeff_ev slow, leadingCoeff_ev shigh]
  by_cases h : deg high < deg low
  · refine Or.inl ⟨?_, h⟩
    rw [prdOut, if_pos h]
    exact ev_replicate_zero _
  · have hle : deg low ≤ deg high := Nat.le_of_not_lt h
    have hlcH : ((getI high (deg high) : ℤ) : ZMod p) ≠ 0 := by
      rw [← leadingCoeff_ev shigh]; exact leadingCoeff_ne_zero.mpr hh
    have hlcL : ((getI low (deg low) : ℤ) : ZMod p) ≠ 0 := by
      rw [← leadingCoeff_ev slow]; exact leadingCoeff_ne_zero.mpr hl
    obtain ⟨htop, habove⟩ := prdOut_top (p := p) v (by rintro rfl; exact hh rfl) hle
    have hq := prdQ_cast (p := p) Fact.out v low high (deg high - deg low)
    rw [Nat.add_sub_cancel' hle, ← htop, ← coeff_ev] at hq
    have hnd : (ev p (prdOut v p high low)).natDegree = deg high - deg low :=
      le_antisymm (natDegree_ev_le habove)
        (le_natDegree_of_ne_zero (by rw [hq]; exact mul_ne_zero hlcH (inv_ne_zero hlcL)))
    refine Or.inr ⟨hle, hnd, ?_⟩
    rw [leadingCoeff, hnd, hq, mul_assoc, inv_mul_cancel₀ hlcL, mul_one]

theorem nmF_cast (l r : List Int) (i j : Nat) (x : Int) :
    ((nmF l r i j x : ℤ) : ZMod p) =
      (x : ZMod p) - ((getI l i : ℤ) : ZMod p) * ((getI r j : ℤ) : ZMod p) := by
  simp [nmF]

theorem newFref_cast (l r : List Int) (i j : Nat) (x : Int) :
    ((newFref p l r i j x : ℤ) : ZMod p) =
      (x : ZMod p) - ((getI l i : ℤ) : ZMod p) * ((getI r j : ℤ) : ZMod p) := by
  simp [newFref, ZMod.intCast_mod]

/-- what one round computes, for both classes: `(hm − lm·r, high − low·r)` with `r = padR …`, as long as neither product
    is cut off by the truncation -/
theorem invRound_spec (hp : 0 < p) (v : Variant) {mc : List Int} {A : (ZMod p)[X]} {lm low hm high : List Int}
    (h : LInv mc A lm low hm high) (rlen : (padR v p mc.length high low).length = mc.length + 1)
    (hLM : (ev p lm).natDegree + (ev p (padR v p mc.length high low)).natDegree ≤ mc.length)
    (hLOW : (ev p low).natDegree + (ev p (padR v p mc.length high low)).natDegree ≤ mc.length) :
    (invRound v p mc.length lm low hm high).1.length = mc.length + 1 ∧
    (invRound v p mc.length lm low hm high).2.length = mc.length + 1 ∧
    Sane p (invRound v p mc.length lm low hm high).2 ∧
    ev p (invRound v p mc.length lm low hm high).1 = ev p hm - ev p lm * ev p (padR v p mc.length high low) ∧
    ev p (invRound v p mc.length lm low hm high).2 =
      ev p high - ev p low * ev p (padR v p mc.length high low) := by
  have e1 := fun f hf => ev_truncLoop f lm (padR v p mc.length high low) hf _ hm h.lhm h.llm.le rlen.le
    (Nat.lt_succ_of_le hLM)
  have e2 := fun f hf => ev_truncLoop f low (padR v p mc.length high low) hf _ high h.lhigh h.llow.le rlen.le
    (Nat.lt_succ_of_le hLOW)
  cases v
  · exact ⟨(length_truncLoop ..).trans h.lhm, (length_truncLoop ..).trans h.lhigh,
      sane_truncLoop _ (fun i j x hx => sane_mod hp _ hx) _ _ h.shigh, e1 _ (nmF_cast _ _),
      e2 _ (newFref_cast _ _)⟩
  · exact ⟨(List.length_map _).trans ((length_truncLoop ..).trans h.lhm),
      (List.length_map _).trans ((length_truncLoop ..).trans h.lhigh), sane_map_mod hp _,
      (ev_map_mod _).trans (e1 _ (nmF_cast _ _)), (ev_map_mod _).trans (e2 _ (nmF_cast _ _))⟩

theorem linv_round [Fact p.Prime] (v : Variant) {mc : List Int} {A : (ZMod p)[X]}
    {lm low hm high : List Int} (h : LInv mc A lm low hm high) (hdeg : deg low ≠ 0) :
    LInv mc A (invRound v p mc.length lm low hm high).1 (invRound v p mc.length lm low hm high).2
      lm low ∧
    mu (ev p (invRound v p mc.length lm low hm high).2) (ev p low) < mu (ev p low) (ev p high) := by
  obtain ⟨rlen, rspec⟩ := padR_spec v h.lhigh h.slow h.shigh h.pinv.ne h.pinv.high_ne
  have hd1 := h.pinv.d1
  have hd2 := h.pinv.d2
  -- neither product is cut off by the truncation
  have hfit : (ev p lm).natDegree + (ev p (padR v p mc.length high low)).natDegree ≤ mc.length ∧
      (ev p low).natDegree + (ev p (padR v p mc.length high low)).natDegree ≤ mc.length := by
    rcases rspec with ⟨h0, _⟩ | ⟨_, h2, _⟩
    · rw [h0, natDegree_zero]; omega
    · rw [h2]; omega
  obtain ⟨l1, l2, s2, e1, e2⟩ := invRound_spec (Fact.out : p.Prime).pos v h rlen hfit.1 hfit.2
  obtain ⟨ps, pm⟩ := pinv_step h.pinv (natDegree_ev_eq_deg h.slow ▸ hdeg) rspec
  rw [← e1, ← e2] at ps
  rw [← e2] at pm
  exact ⟨⟨l1, l2, h.llm, h.llow, s2, h.slow, ps⟩, pm⟩

/-- the loop terminates within the fuel and returns `(lm, low)` with `low` a non-zero constant,
    `lm·a ≡ low (mod m)` and `deg lm < d` -/
theorem invLoopP_spec [Fact p.Prime] (v : Variant) {mc : List Int} {A : (ZMod p)[X]} :
    ∀ (f : Nat) (lm low hm high : List Int), LInv mc A lm low hm high →
      mu (ev p low) (ev p high) < f →
      (ev p (invLoopP v p mc.length f lm low hm high).2).natDegree = 0 ∧
      ev p (invLoopP v p mc.length f lm low hm high).2 ≠ 0 ∧
      modulus p mc ∣ ev p (invLoopP v p mc.length f lm low hm high).1 * A -
        ev p (invLoopP v p mc.length f lm low hm high).2 ∧
      (ev p (invLoopP v p mc.length f lm low hm high).1).natDegree < mc.length := by
  intro f
  induction f with
  | zero => intro lm low hm high _ h; omega
  | succ f ih =>
    intro lm low hm high h hmu
    rw [invLoopP_succ]
    by_cases hdeg : deg low ≠ 0
    · rw [if_pos hdeg]
      obtain ⟨h', hmu'⟩ := linv_round v h hdeg
      exact ih _ _ _ _ h' (by omega)
    · rw [if_neg hdeg]
      have hd1 := h.pinv.d1
      have hpos := h.pinv.hpos
      refine ⟨?_, h.pinv.ne, h.pinv.elow, ?_⟩
      · show (ev p low).natDegree = 0
        rw [natDegree_ev_eq_deg h.slow]; omega
      · show (ev p lm).natDegree < mc.length
        omega

/-- the initial state of `FQP.inv` satisfies the invariant -/
theorem linv_init [Fact p.Prime] {mc a : List Int} (hd : 1 ≤ mc.length) (ha : a.length = mc.length)
    (hirr : Irreducible (modulus p mc)) (hmc : Sane p mc) (hsa : Sane p a) (hne : ev p a ≠ 0) :
    LInv mc (ev p a) (1 :: List.replicate mc.length 0) (a ++ [0])
      (List.replicate (mc.length + 1) 0) (mc ++ [1]) ∧
    mu (ev p (a ++ [0])) (ev p (mc ++ [1])) < 4 * mc.length + 4 := by
  have hlow : ev p (a ++ [0]) = ev p a := by
    rw [ev_append, ev_cons, ev_nil, Int.cast_zero, C_0, mul_zero, add_zero, mul_zero, add_zero]
  have hhigh : ev p (mc ++ [1]) = modulus p mc := by
    rw [ev_append, ev_cons, ev_nil, Int.cast_one, C_1, mul_zero, add_zero, mul_one, add_comm, modulus]
  have hlm : ev p (1 :: List.replicate mc.length 0) = 1 := by
    rw [ev_cons, ev_replicate_zero, Int.cast_one, C_1, mul_zero, add_zero]
  have hdegM : (modulus p mc).natDegree = mc.length := natDegree_modulus mc
  have hdegA : (ev p a).natDegree < mc.length :=
    (natDegree_lt_iff_degree_lt hne).mpr (ha ▸ degree_ev_lt a)
  refine ⟨⟨by rw [List.length_cons, List.length_replicate],
    by rw [List.length_append, List.length_singleton, ha], List.length_replicate ..,
    by rw [List.length_append, List.length_singleton], sane_append hsa (sane_of_forall_mem (by simp)),
    sane_append hmc (sane_of_natAbs_lt (by simpa using (Fact.out : p.Prime).one_lt)), ?_⟩, ?_⟩
  · rw [hlow, hhigh, hlm, ev_replicate_zero]
    exact ⟨by rw [one_mul, sub_self]; exact dvd_zero _, by rw [zero_mul, zero_sub, dvd_neg],
      (hirr.coprime_iff_not_dvd.mpr
        ((modulus_monic mc).not_dvd_of_natDegree_lt hne (hdegA.trans_eq hdegM.symm))).symm, hne,
      by rw [natDegree_one, zero_add, hdegM], by rw [natDegree_zero, zero_add]; exact hdegA.le,
      hdegM ▸ hd⟩
  · rw [hlow, hhigh]
    unfold mu
    rw [hdegM, if_neg (by omega)]
    omega

end lists

section inv
variable {p : ℕ} {v : Variant} {mc : List Int}

theorem inv_canon (hp : 0 < p) (a : Fqp v p mc) : Canon (Fqp.inv a) := by
  obtain ⟨x, k, hx, e⟩ := inv_eq_mulInt a
  rw [e]; exact canon_mulInt hp hx k

/-- **`FQP.inv` computes the inverse modulo any irreducible modulus**: `inv a · a = 1` in
    `(ZMod p)[X]/(m)`.  Hypotheses: `p` prime, `m` irreducible, every supplied modulus coefficient is
    `0` or not divisible by `p` (`Sane p mc`), the same for the coefficients of `a` (true for every
    reduced element), and `a` is not zero in the quotient. -/
theorem toQ_inv_mul [Fact p.Prime] (hd : 1 ≤ mc.length) (hirr : Irreducible (modulus p mc))
    (hmc : Sane p mc) {a : Fqp v p mc} (ha : WF a) (hsa : Sane p a.coeffs) (hne : toQ a ≠ 0) :
    toQ (Fqp.inv a) * toQ a = 1 := by
  have hp : p.Prime := Fact.out
  have hA : ev p a.coeffs ≠ 0 := by
    intro h0; apply hne; simp [toQ, evQ, h0]
  obtain ⟨hinit, hmu⟩ := linv_init hd ha hirr hmc hsa hA
  obtain ⟨r2, r3, r4, r5⟩ := invLoopP_spec v _ _ _ _ _ hinit hmu
  rw [inv_eq]
  set res := invLoopP v p mc.length (4 * mc.length + 4)
        (1 :: List.replicate mc.length 0) (a.coeffs ++ [0]) (List.replicate (mc.length + 1) 0)
        (mc ++ [1]) with hres
  have hC : ev p res.2 = C ((getI res.2 0 : ℤ) : ZMod p) := by
    rw [eq_C_of_natDegree_eq_zero r2, coeff_ev]
  have hc : ((getI res.2 0 : ℤ) : ZMod p) ≠ 0 := by
    intro h0; rw [h0, C_0] at hC; exact r3 hC
  have hk : ((primeFieldInv (getI res.2 0) p : ℤ) : ZMod p) * ((getI res.2 0 : ℤ) : ZMod p) = 1 := by
    rw [FqSem.primeFieldInv_spec hp, inv_mul_cancel₀ hc]
  show toQ (mulInt (ofInts (res.1.take mc.length)) (primeFieldInv (getI res.2 0) p)) * toQ a = 1
  -- `lm·a ≡ low = c` and `k·c = 1`
  rw [toQ_mulInt, toQ_ofInts, evQ,
    ev_take fun i hi => by rw [← coeff_ev]; exact coeff_eq_zero_of_natDegree_lt (r5.trans_le hi),
    toQ, evQ, mul_right_comm, ← RingHom.map_mul, AdjoinRoot.mk_eq_mk.mpr r4, hC, ← map_intCast (AdjoinRoot.mk (modulus p mc)), ← C_eq_intCast,
    ← RingHom.map_mul, ← C_mul, mul_comm, hk, C_1, RingHom.map_one]

/-- `inv` of the all-zero element is the all-zero element (`prime_field_inv(0) = 0`). -/
theorem inv_zero_coeffs :
    (Fqp.inv (zero : Fqp v p mc)).coeffs = (zero : Fqp v p mc).coeffs := by
  have hz : (zero : Fqp v p mc).coeffs = List.replicate mc.length 0 := by
    simp [zero, ofInts]
  have hdeg : deg ((zero : Fqp v p mc).coeffs ++ [0]) = 0 := by
    rw [hz, show ([0] : List Int) = List.replicate 1 0 from rfl, ← List.replicate_add]
    exact deg_replicate_zero _
  have hpi : primeFieldInv 0 (p : Int) = 0 := by simp [primeFieldInv]
  rw [inv_eq, show 4 * mc.length + 4 = (4 * mc.length + 3) + 1 from rfl, invLoopP_succ,
    if_neg (by rw [hdeg]; simp)]
  simp only [divInt, ofInts]
  have hg : getI (List.replicate mc.length 0 ++ [0]) 0 = 0 := by
    rw [show ([0] : List Int) = List.replicate 1 0 from rfl, ← List.replicate_add]
    exact getI_replicate_zero _ _
  rw [hz, hg, hpi, List.eq_replicate_iff]
  refine ⟨by simp, ?_⟩
  intro b hb
  simp only [mul_zero, List.map_map, List.mem_map, Function.comp] at hb
  obtain ⟨_, _, rfl⟩ := hb
  simp

end inv

end PyEcc.FqpSem
