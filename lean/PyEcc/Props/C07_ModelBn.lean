/-
  PyEcc.Props.C07_ModelBn — property C07 for the executable model types, `optimized_bn128` curve
  functions (`Gen.OptBn.{add, double, neg, multiply, eq, is_on_curve}`, generated from
  `py_ecc/optimized_bn128/optimized_curve.py`) run on
      G1 : `BnG1Pt = Fq bnP × Fq bnP × Fq bnP`                    (Python `FQ` objects), `b = bnB = FQ(3)`
      G2 : `BnG2Pt = (Fqp .opt bnP bnMc2)³`   (Python optimized `FQ2` objects), `b2 = bnB2`.
  Same structure as `Props/C07_Model.lean` (BLS12-381): the laws of `Sem/TransferRefineBls.lean` at the contexts
  `curveFbn` (`Sem/TransferFq.lean`) and `curveF2bn` (`Sem/TransferFqp.lean`: through
  `toQ : Fqp .opt bnP bnMc2 → K2bn = F_p[X]/(X²+1)` on canonical elements), `Gen.OptBn` being `Gen.OptBls` under
  another name (`Lemmas/TwinModules.lean`); the laws that hold of all triples are those of `Props/C07Opt_Bn.lean`.
  "Equal" is the library's projective equality `eq`; G2 triples are required to be canonical (`CanonT`).
-/
import PyEcc.Sem.TransferFq
import PyEcc.Lemmas.TransferOptBn
import PyEcc.Sem.TransferFqp
import PyEcc.Props.C07_FactsG2

set_option linter.unusedSectionVars false

namespace PyEcc.C07M.Bn
open PyEcc PyEcc.Gen PyEcc.Gen.Consts PyEcc.FqpSem PyEcc.Transfer WeierstrassCurve

/-! ## bn128 G1: laws for on-curve `FQ` triples -/

section G1
variable {X Y Z X' Y' : BnG1Pt}

private theorem f2 : (2 : Fq bnP) ≠ 0 := fbn_field_ok.1

/-- bn128 G1 commutativity up to `eq`. -/
theorem g1_add_comm (hX : OptBn.is_on_curve X bnB = true) (hY : OptBn.is_on_curve Y bnB = true) :
    OptBn.eq (OptBn.add X Y) (OptBn.add Y X) = true := by
  rw [OptBn.add_eq]; exact curveFbn.add_comm_eq (goodT_true X) (goodT_true Y) hX hY

/-- bn128 G1 associativity up to `eq` (every degenerate configuration included). -/
theorem g1_add_assoc (hX : OptBn.is_on_curve X bnB = true) (hY : OptBn.is_on_curve Y bnB = true)
    (hZ : OptBn.is_on_curve Z bnB = true) :
    OptBn.eq (OptBn.add (OptBn.add X Y) Z) (OptBn.add X (OptBn.add Y Z)) = true := by
  rw [OptBn.add_eq]; exact curveFbn.add_assoc_eq (goodT_true X) (goodT_true Y) (goodT_true Z) hX hY hZ

/-- bn128 G1 identity: any `z = 0` triple (e.g. `Z1 = (1, 1, 0)`) is neutral on both sides, for ALL `X`. -/
theorem g1_add_zero (X Z : BnG1Pt) (hZ : Z.2.2 = 0) :
    OptBn.eq (OptBn.add X Z) X = true ∧ OptBn.eq (OptBn.add Z X) X = true :=
  C07Opt.Bn.opt_add_zero_eq X Z hZ

/-- bn128 G1 inverse: `add(X, neg(X))` and `add(neg(X), X)` are ∞, for ALL triples `X`. -/
theorem g1_add_neg (X : BnG1Pt) :
    OptBn.is_inf (OptBn.add X (OptBn.neg X)) = true ∧ OptBn.is_inf (OptBn.add (OptBn.neg X) X) = true :=
  C07Opt.Bn.opt_add_neg f2 X

/-- bn128 G1 closure of the on-curve triples under `add`, `double`, `neg`, `multiply(·, n)`. -/
theorem g1_closed (hX : OptBn.is_on_curve X bnB = true) (hY : OptBn.is_on_curve Y bnB = true) (n : ℕ) :
    OptBn.is_on_curve (OptBn.add X Y) bnB = true ∧ OptBn.is_on_curve (OptBn.double X) bnB = true
      ∧ OptBn.is_on_curve (OptBn.neg X) bnB = true ∧ OptBn.is_on_curve (OptBn.multiply X n) bnB = true := by
  rw [OptBn.add_eq, OptBn.double_eq, OptBn.neg_eq, OptBn.multiply_eq]
  have k := curveFbn.closed (goodT_true X) (goodT_true Y) hX hY n
  exact ⟨k.1.2, k.2.1.2, k.2.2.1.2, k.2.2.2.2⟩

/-- bn128 G1: `multiply` is additive and multiplicative in the scalar, up to `eq`. -/
theorem g1_multiply_add_mul (hX : OptBn.is_on_curve X bnB = true) (m n : ℕ) :
    OptBn.eq (OptBn.multiply X (m + n)) (OptBn.add (OptBn.multiply X m) (OptBn.multiply X n)) = true
      ∧ OptBn.eq (OptBn.multiply (OptBn.multiply X m) n) (OptBn.multiply X (m * n)) = true := by
  rw [OptBn.multiply_eq, OptBn.add_eq]
  exact ⟨curveFbn.multiply_add_eq (goodT_true X) hX m n, curveFbn.multiply_mul_eq (goodT_true X) hX m n⟩

/-- bn128 G1: scalars act modulo any `r` with `multiply(X, r) = ∞`. -/
theorem g1_multiply_mod (hX : OptBn.is_on_curve X bnB = true) (r : ℕ)
    (hr : OptBn.is_inf (OptBn.multiply X r) = true) (n : ℕ) :
    OptBn.eq (OptBn.multiply X n) (OptBn.multiply X (n % r)) = true := by
  rw [OptBn.multiply_eq] at hr ⊢; exact curveFbn.multiply_mod_eq (goodT_true X) hX r hr n

/-- bn128 G1: `add` and `multiply` respect `eq` (ALL triples). -/
theorem g1_congr (eX : OptBn.eq X X' = true) (eY : OptBn.eq Y Y' = true) (n : ℕ) :
    OptBn.eq (OptBn.add X Y) (OptBn.add X' Y') = true
      ∧ OptBn.eq (OptBn.multiply X n) (OptBn.multiply X' n) = true :=
  ⟨C07Opt.Bn.opt_add_congr f2 eX eY, C07Opt.Bn.opt_multiply_congr f2 eX n⟩

end G1

/-! ## bn128 G2: laws for canonical on-curve `FQ2` triples -/

section G2
variable {X Y Z X' Y' : BnG2Pt}

private theorem k2 : (2 : K2bn) ≠ 0 := curveF2bn.two

/-- bn128 G2 commutativity up to `eq`. -/
theorem g2_add_comm (cX : CanonT X) (cY : CanonT Y) (hX : OptBn.is_on_curve X bnB2 = true)
    (hY : OptBn.is_on_curve Y bnB2 = true) : OptBn.eq (OptBn.add X Y) (OptBn.add Y X) = true := by
  classical rw [OptBn.add_eq]; exact curveF2bn.add_comm_eq cX cY hX hY

/-- bn128 G2 associativity up to `eq` (every degenerate configuration included). -/
theorem g2_add_assoc (cX : CanonT X) (cY : CanonT Y) (cZ : CanonT Z)
    (hX : OptBn.is_on_curve X bnB2 = true) (hY : OptBn.is_on_curve Y bnB2 = true)
    (hZ : OptBn.is_on_curve Z bnB2 = true) :
    OptBn.eq (OptBn.add (OptBn.add X Y) Z) (OptBn.add X (OptBn.add Y Z)) = true := by
  classical rw [OptBn.add_eq]; exact curveF2bn.add_assoc_eq cX cY cZ hX hY hZ

/-- bn128 G2 identity: any canonical `z = 0` triple (e.g. `Z2`) is neutral on both sides. -/
theorem g2_add_zero (cX : CanonT X) (cZ : CanonT Z) (hZ : Z.2.2 = 0) :
    OptBn.eq (OptBn.add X Z) X = true ∧ OptBn.eq (OptBn.add Z X) X = true := by
  classical rw [OptBn.add_eq]; exact Bls.via_add_zero_eq (K := K2bn) goodHom_F2bn cX cZ hZ

/-- bn128 G2 inverse: `add(X, neg(X))` and `add(neg(X), X)` are ∞, for all canonical triples. -/
theorem g2_add_neg (cX : CanonT X) :
    OptBn.is_inf (OptBn.add X (OptBn.neg X)) = true ∧ OptBn.is_inf (OptBn.add (OptBn.neg X) X) = true := by
  classical rw [OptBn.add_eq, OptBn.neg_eq]; exact Bls.via_add_neg (K := K2bn) goodHom_F2bn k2 cX

/-- bn128 G2 closure of the canonical on-curve triples under `add`, `double`, `neg`, `multiply(·, n)`. -/
theorem g2_closed (cX : CanonT X) (cY : CanonT Y) (hX : OptBn.is_on_curve X bnB2 = true)
    (hY : OptBn.is_on_curve Y bnB2 = true) (n : ℕ) :
    (CanonT (OptBn.add X Y) ∧ OptBn.is_on_curve (OptBn.add X Y) bnB2 = true)
      ∧ (CanonT (OptBn.double X) ∧ OptBn.is_on_curve (OptBn.double X) bnB2 = true)
      ∧ (CanonT (OptBn.neg X) ∧ OptBn.is_on_curve (OptBn.neg X) bnB2 = true)
      ∧ (CanonT (OptBn.multiply X n) ∧ OptBn.is_on_curve (OptBn.multiply X n) bnB2 = true) := by
  classical
  rw [OptBn.add_eq, OptBn.double_eq, OptBn.neg_eq, OptBn.multiply_eq]
  exact curveF2bn.closed cX cY hX hY n

/-- bn128 G2: `multiply` is additive and multiplicative in the scalar, up to `eq`. -/
theorem g2_multiply_add_mul (cX : CanonT X) (hX : OptBn.is_on_curve X bnB2 = true) (m n : ℕ) :
    OptBn.eq (OptBn.multiply X (m + n)) (OptBn.add (OptBn.multiply X m) (OptBn.multiply X n)) = true
      ∧ OptBn.eq (OptBn.multiply (OptBn.multiply X m) n) (OptBn.multiply X (m * n)) = true := by
  classical
  rw [OptBn.multiply_eq, OptBn.add_eq]
  exact ⟨curveF2bn.multiply_add_eq cX hX m n,
    curveF2bn.multiply_mul_eq cX hX m n⟩

/-- bn128 G2: scalars act modulo any `r` with `multiply(X, r) = ∞`. -/
theorem g2_multiply_mod (cX : CanonT X) (hX : OptBn.is_on_curve X bnB2 = true) (r : ℕ)
    (hr : OptBn.is_inf (OptBn.multiply X r) = true) (n : ℕ) :
    OptBn.eq (OptBn.multiply X n) (OptBn.multiply X (n % r)) = true := by
  classical rw [OptBn.multiply_eq] at hr ⊢; exact curveF2bn.multiply_mod_eq cX hX r hr n

/-- bn128 G2: `add` and `multiply` respect `eq` (canonical triples). -/
theorem g2_congr (cX : CanonT X) (cY : CanonT Y) (cX' : CanonT X') (cY' : CanonT Y')
    (eX : OptBn.eq X X' = true) (eY : OptBn.eq Y Y' = true) (n : ℕ) :
    OptBn.eq (OptBn.add X Y) (OptBn.add X' Y') = true
      ∧ OptBn.eq (OptBn.multiply X n) (OptBn.multiply X' n) = true := by
  classical
  rw [OptBn.add_eq, OptBn.multiply_eq]
  exact ⟨Bls.via_add_congr (K := K2bn) goodHom_F2bn k2 cX cX' cY cY' eX eY,
    Bls.via_multiply_congr (K := K2bn) goodHom_F2bn k2 cX cX' eX n⟩

end G2

/-! ## the generators of `optimized_bn128` at the model types -/

/-- with the modelled `FQ` arithmetic `G1` is on the curve, is not ∞, and `multiply(G1, curve_order)` is ∞:
    the code commutes with `toZMod`, and over `ZMod bnP` these are the evaluations `C07.Facts.bn_*` -/
theorem bnG1_facts : OptBn.is_on_curve bnG1 bnB = true ∧ OptBn.is_inf bnG1 = false
    ∧ OptBn.is_inf (OptBn.multiply bnG1 optimized_bn128_curve_order) = true := by
  have e : mapT Fq.toZMod bnG1 = CurveSem.ptOpt (ZMod bnP) optimized_bn128_G1 := by
    simp only [bnG1, CurveSem.ptOpt, mapT, Fq.toZMod_intCast]
  have eb : Fq.toZMod bnB = ((optimized_bn128_b : ℕ) : ZMod bnP) := Fq.toZMod_ofInt _
  rw [OptBn.is_on_curve_eq, OptBn.is_inf_eq, ← Bls.is_on_curve_map opHom_toZMod,
    ← Bls.is_inf_map opHom_toZMod bnG1, ← Bls.is_inf_map opHom_toZMod (OptBn.multiply _ _),
    Bn.multiply_map opHom_toZMod, e, eb]
  exact ⟨C07.Facts.bn_G1_on_curve_opt, C07.Facts.bn_G1_ne_inf.2.1, C07.Facts.bn_r_G1_opt⟩

/-- **bn128 G1 generator**: represents a Mathlib point of `y² = x³ + 3` over `Fq bnP` with
    `G ≠ 0`, `curve_order • G = 0`. -/
theorem bnG1_point : ∃ G : CurvePt bnB,
    Represents bnG1 G ∧ G ≠ 0 ∧ optimized_bn128_curve_order • G = 0 := by
  have f := bnG1_facts
  rw [OptBn.is_on_curve_eq, OptBn.is_inf_eq, OptBn.multiply_eq] at f
  obtain ⟨G, r, k⟩ := curveFbn.point_of_facts (goodT_true _) f.1 f.2.1 f.2.2
  exact ⟨G, r.rep, k⟩

/-- **bn128 G2 generator**: canonical, on the curve, and its value represents a Mathlib point over
    `K2bn` with `G ≠ 0`, `curve_order • G = 0`. -/
theorem bnG2_point [DecidableEq K2bn] : CanonT bnG2 ∧ OptBn.is_on_curve bnG2 bnB2 = true ∧
    ∃ G : CurvePt (toQ bnB2 : K2bn),
      Represents (mapT toQ bnG2) G ∧ G ≠ 0 ∧ optimized_bn128_curve_order • G = 0 := by
  have f := C07.Facts.bn_G2_opt
  refine ⟨canonT_bnG2, f.1, ?_⟩
  rw [OptBn.is_on_curve_eq, OptBn.is_inf_eq, OptBn.multiply_eq] at f
  obtain ⟨G, r, k⟩ := curveF2bn.point_of_facts canonT_bnG2 f.1 f.2.1 f.2.2
  exact ⟨G, r.rep, k⟩

/-! ### non-vacuity: the laws at the generators -/

example : OptBn.eq (OptBn.add bnG1 (OptBn.double bnG1)) (OptBn.add (OptBn.double bnG1) bnG1) = true :=
  g1_add_comm bnG1_facts.1 (g1_closed bnG1_facts.1 bnG1_facts.1 0).2.1

example : OptBn.eq (OptBn.add bnG2 (OptBn.double bnG2)) (OptBn.add (OptBn.double bnG2) bnG2) = true :=
  have c := canonT_bnG2
  have h := C07.Facts.bn_G2_opt.1
  have k := g2_closed c c h h 0
  g2_add_comm c k.2.1.1 h k.2.1.2

end PyEcc.C07M.Bn
