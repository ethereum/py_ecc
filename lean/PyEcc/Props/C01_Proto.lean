/-
  PyEcc.Props.C01_Proto — property C01, headline clause: **honest signatures and possession proofs verify**
  (`py_ecc/bls/ciphersuites.py`: `SkToPk`, `Sign`, `Verify`, `PopProve`, `PopVerify`; all three suites).

  The theorems are about the model functions of `PyEcc/Model/Bls.lean` exactly as they are, for ALL secret
  keys `1 ≤ sk < r`, all messages, all three suites and an arbitrary hash function `H`.

  They are CONDITIONAL on the explicit hypothesis `PairingFacts e` (`Lemmas/BlsProto.lean`; a
  `structure … : Prop`, not an axiom), which bundles only
      HB1  bilinearity of the reduced pairing `e` on `r`-torsion points,
      ND   non-degeneracy against the generator,
      HB1′ "the model's Miller value after final exponentiation is that pairing, independent of the
           projective representative",
      HT6  "`hash_to_G2` returns a canonical point of the twist curve that passes `subgroup_check`".
  ND and HT6 are theorems, and HB1′ holds by definition for the value the code computes (the docstring of
  `PairingFacts` says where); `Props/C01_ProtoModel.lean` states these theorems under bilinearity of the code's
  `pairing` alone (`ModelBilinearCode`), a closed mathematical statement (standard, but it needs divisors on curves,
  which Mathlib does not have); "an instance" would be its proof, so no `example` of it is given.  Everything else —
  key and signature encodings (C11), subgroup checks (C17), the group law (C07/C13), the control flow of the suites
  (C04, C09) — is proved.

  The hypothesis-free part of C01 (`sk_rejected`, `keyGen_range`, …) is in `Props/C01_Logic.lean`.
-/
import PyEcc.Lemmas.BlsProtoMiller
import PyEcc.Props.C09
import PyEcc.Props.C04_Total

set_option linter.unusedSectionVars false

namespace PyEcc.C01
open PyEcc PyEcc.Gen.Consts PyEcc.Transfer PyEcc.BlsSem PyEcc.BlsProto

variable [DecidableEq K2] {GT : Type} [CommGroup GT] {e : E2 → E1 → GT}

/-- **`SkToPk` never fails on a valid key** (no hypothesis): for every `int` `1 ≤ sk < r` it returns a
    48-byte string, the encoding of the point `sk • G1`. -/
theorem skToPk_returns (sk : ℤ) (hsk : 1 ≤ sk ∧ sk < (curveOrder : ℤ)) :
    ∃ pk, skToPk (.int sk) = .ok pk ∧ pk.length = 48 := by
  obtain ⟨pk, h, enc⟩ := skToPk_ok (validPrivkey_int hsk)
  exact ⟨pk, h, enc.1⟩

/-- **Honest signatures verify.**  For every suite, every hash function, every `int` secret key
    `1 ≤ sk < r` and every message: if `SkToPk(sk)` returned `pk` and `Sign(sk, m)` returned `sig`, then
    `Verify(pk, m, sig)` returns `True`.  (`SkToPk` always returns — `skToPk_returns`; `Sign` returns
    unless `hash_to_G2` raises.) -/
theorem sign_verify (pf : PairingFacts e) (H : HashFn) (s : Suite) (sk : ℤ)
    (hsk : 1 ≤ sk ∧ sk < (curveOrder : ℤ)) (m pk sig : Bytes) (hpk : skToPk (.int sk) = .ok pk)
    (hsig : sign H s (.int sk) m = .ok sig) : verify H s pk m sig = .returned true := by
  rw [verify_eq, coreVerify_iff_coreSign pf H s (validPrivkey_int hsk) hpk, ← sign_eq_coreSign H s hpk]
  exact hsig

/-- **Honest possession proofs verify.**  If `SkToPk(sk)` returned `pk` and `PopProve(sk)` returned
    `proof` then `PopVerify(pk, proof)` returns `True`. -/
theorem popProve_popVerify (pf : PairingFacts e) (H : HashFn) (sk : ℤ)
    (hsk : 1 ≤ sk ∧ sk < (curveOrder : ℤ)) (pk proof : Bytes) (hpk : skToPk (.int sk) = .ok pk)
    (hproof : popProve H (.int sk) = .ok proof) : popVerify H pk proof = .returned true := by
  unfold popVerify
  rw [coreVerify_iff_coreSign pf H .pop (validPrivkey_int hsk) hpk, ← popProve_eq_coreSign H hpk]
  exact hproof

/-- **Signing can only fail in `hash_to_G2`.**  On a valid key `Sign(sk, m)` returns a 96-byte signature
    whenever `hash_to_G2` of the (suite-augmented) message returns (HT6 part of `PairingFacts` is used to
    know that the hash point is on the curve, so that `G2_to_signature` does not raise). -/
theorem sign_returns (pf : PairingFacts e) (H : HashFn) (s : Suite) (sk : ℤ)
    (hsk : 1 ≤ sk ∧ sk < (curveOrder : ℤ)) (m pk : Bytes) (hpk : skToPk (.int sk) = .ok pk) (mp : G2Pt)
    (hmp : hashToG2 H (vmsg s pk m) s.dst = .ok mp) :
    ∃ sig, sign H s (.int sk) m = .ok sig ∧ sig.length = 96 := by
  obtain ⟨hq, rh, _⟩ := pf.hash_rep hmp
  rw [sign_eq_coreSign H s hpk]
  exact coreSign_returns (validPrivkey_int hsk) hmp rh

/-! ### existence form (uses C10: `optimized_swu_G2` never raises) -/

/-- **Honest signatures exist and verify** (DESIGN's form of C01).  For every hash function whose digest
    has at least 2 bytes (SHA-256: 32; needed only so that `expand_message_xmd` does not raise its
    `ell > 255` `ValueError`), every suite, every `int` secret key `1 ≤ sk < r` and every message:
    `SkToPk(sk)` returns some `pk`, `Sign(sk, m)` returns some `sig`, and `Verify(pk, m, sig)` is `True`. -/
theorem sign_verify_exists (pf : PairingFacts e) (H : HashFn) (hd : 2 ≤ H.digestSize) (s : Suite)
    (sk : ℤ) (hsk : 1 ≤ sk ∧ sk < (curveOrder : ℤ)) (m : Bytes) :
    ∃ pk sig, skToPk (.int sk) = .ok pk ∧ sign H s (.int sk) m = .ok sig ∧
      verify H s pk m sig = .returned true := by
  obtain ⟨pk, hpk, _⟩ := skToPk_ok (validPrivkey_int hsk)
  obtain ⟨mp, hmp⟩ := C04.hashToG2_returns H hd (vmsg s pk m) (suite_dst_le s)
  obtain ⟨sig, hsig, _⟩ := sign_returns pf H s sk hsk m pk hpk mp hmp
  exact ⟨pk, sig, hpk, hsig, sign_verify pf H s sk hsk m pk sig hpk hsig⟩

/-- **Honest possession proofs exist and verify** (same digest-size proviso). -/
theorem popProve_popVerify_exists (pf : PairingFacts e) (H : HashFn) (hd : 2 ≤ H.digestSize)
    (sk : ℤ) (hsk : 1 ≤ sk ∧ sk < (curveOrder : ℤ)) :
    ∃ pk proof, skToPk (.int sk) = .ok pk ∧ popProve H (.int sk) = .ok proof ∧
      popVerify H pk proof = .returned true := by
  have hv := validPrivkey_int hsk
  obtain ⟨pk, hpk, _⟩ := skToPk_ok hv
  obtain ⟨mp, hmp⟩ := C04.hashToG2_returns H hd pk popTag_le
  obtain ⟨hq, rh, _⟩ := pf.hash_rep hmp
  obtain ⟨bs, hbs, _⟩ := coreSign_returns hv hmp rh
  rw [← popProve_eq_coreSign H hpk] at hbs
  exact ⟨pk, bs, hpk, hbs, popProve_popVerify pf H sk hsk pk bs hpk hbs⟩

example : 2 ≤ sha256Fn.digestSize := by decide

/-! ### under the smaller hypothesis bundle `PairingValueFacts` (`Lemmas/BlsProtoMiller.lean`)

  There the assumption about the model is one statement per pairing call ("the final-exponentiated Miller
  value is `e q p`"); multiplicativity of the final exponentiation is the theorem C12. -/

/-- `sign_verify` under `PairingValueFacts` (fields: HB1, ND, HB1′ per call, HT6). -/
theorem sign_verify' {e : E2 → E1 → K12ˣ} (pv : PairingValueFacts e) (H : HashFn) (s : Suite) (sk : ℤ)
    (hsk : 1 ≤ sk ∧ sk < (curveOrder : ℤ)) (m pk sig : Bytes) (hpk : skToPk (.int sk) = .ok pk)
    (hsig : sign H s (.int sk) m = .ok sig) : verify H s pk m sig = .returned true :=
  sign_verify pv.toPairingFacts H s sk hsk m pk sig hpk hsig

/-- `popProve_popVerify` under `PairingValueFacts`. -/
theorem popProve_popVerify' {e : E2 → E1 → K12ˣ} (pv : PairingValueFacts e) (H : HashFn) (sk : ℤ)
    (hsk : 1 ≤ sk ∧ sk < (curveOrder : ℤ)) (pk proof : Bytes) (hpk : skToPk (.int sk) = .ok pk)
    (hproof : popProve H (.int sk) = .ok proof) : popVerify H pk proof = .returned true :=
  popProve_popVerify pv.toPairingFacts H sk hsk pk proof hpk hproof

/-! ### non-vacuity of the key hypotheses -/

/-- `sk = 1` is a valid key, and `SkToPk(1)` returns the compressed generator (kernel evaluation, C09) -/
example : (1 ≤ (1 : ℤ) ∧ (1 : ℤ) < (curveOrder : ℤ)) ∧ skToPk (.int 1) = .ok C09.compressedG1 :=
  ⟨by decide, C09.skToPk_one⟩

end PyEcc.C01
