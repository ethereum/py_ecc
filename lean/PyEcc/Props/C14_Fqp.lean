/-
  C14 (extension-field part): the optimized `FQP`/`FQ2`/`FQ12` classes compute the same coefficient
  lists as the reference classes.  Corollary of C08: both denote the same element of
  `(ZMod p)[X] / (X^d + Σ mcᵢ Xⁱ)` and both store reduced coefficients.
  Operands are plain coefficient lists of length `d = mc.length` (any ints: the statements do not even
  need the operands reduced), any `p > 0`, any `mc`.
-/
import PyEcc.Sem.FqpQuot
import PyEcc.Model.Curve

namespace PyEcc.C14P
open PyEcc PyEcc.Fqp PyEcc.FqpSem

variable {p : ℕ} {mc : List Int}

/-- the class in the quotient ring does not depend on which Python class holds the coefficients -/
theorem toQ_variant (a : List Int) :
    toQ (⟨a⟩ : Fqp .opt p mc) = toQ (⟨a⟩ : Fqp .ref p mc) := rfl

/-- two reduced elements, one of each class, denoting the same ring element have the same coefficients -/
theorem coeffs_eq_of_toQ_eq {x : Fqp .opt p mc} {y : Fqp .ref p mc} (hx : Canon x) (hy : Canon y)
    (h : toQ x = toQ y) : x.coeffs = y.coeffs := evQ_inj hx hy h

/-- **optimized `*` = reference `*`**: the optimized product loop (no intermediate reduction, sparse
modulus table `mc_tuples`, `range(d-2,-1,-1)` pops) and the reference one (`FQ` entries reduced after
every step, `while len(b) > d`) return the same coefficients. -/
theorem mul_opt_eq_ref (hp : 0 < p) {a b : List Int} (ha : a.length = mc.length)
    (hb : b.length = mc.length) :
    (Fqp.mul (⟨a⟩ : Fqp .opt p mc) ⟨b⟩).coeffs = (Fqp.mul (⟨a⟩ : Fqp .ref p mc) ⟨b⟩).coeffs := by
  apply coeffs_eq_of_toQ_eq (mul_canon hp _ _) (mul_canon hp _ _)
  rw [toQ_mul (v := .opt) ha hb, toQ_mul (v := .ref) ha hb]; rfl

/-- optimized `**` = reference `**` for every exponent -/
theorem pow_opt_eq_ref (hp : 0 < p) (hd : 1 ≤ mc.length) {a : List Int} (ha : a.length = mc.length)
    (n : Nat) :
    (Fqp.pow (⟨a⟩ : Fqp .opt p mc) n).coeffs = (Fqp.pow (⟨a⟩ : Fqp .ref p mc) n).coeffs := by
  apply coeffs_eq_of_toQ_eq (pow_canon hp hd _ n) (pow_canon hp hd _ n)
  rw [toQ_pow (v := .opt) hd ha, toQ_pow (v := .ref) hd ha]; rfl

/-- optimized `+ - neg`, int scaling, int division, constructors = reference ones (the two classes run
the same coefficient-wise code; holds for all operand lists) -/
theorem linear_opt_eq_ref (a b : List Int) (k : Int) :
    (Fqp.add (⟨a⟩ : Fqp .opt p mc) ⟨b⟩).coeffs = (Fqp.add (⟨a⟩ : Fqp .ref p mc) ⟨b⟩).coeffs ∧
    (Fqp.sub (⟨a⟩ : Fqp .opt p mc) ⟨b⟩).coeffs = (Fqp.sub (⟨a⟩ : Fqp .ref p mc) ⟨b⟩).coeffs ∧
    (Fqp.neg (⟨a⟩ : Fqp .opt p mc)).coeffs = (Fqp.neg (⟨a⟩ : Fqp .ref p mc)).coeffs ∧
    (Fqp.mulInt (⟨a⟩ : Fqp .opt p mc) k).coeffs = (Fqp.mulInt (⟨a⟩ : Fqp .ref p mc) k).coeffs ∧
    (Fqp.divInt (⟨a⟩ : Fqp .opt p mc) k).coeffs = (Fqp.divInt (⟨a⟩ : Fqp .ref p mc) k).coeffs ∧
    (Fqp.ofInts a : Fqp .opt p mc).coeffs = (Fqp.ofInts a : Fqp .ref p mc).coeffs ∧
    (Fqp.ofIntScalar k : Fqp .opt p mc).coeffs = (Fqp.ofIntScalar k : Fqp .ref p mc).coeffs ∧
    (Fqp.zero : Fqp .opt p mc).coeffs = (Fqp.zero : Fqp .ref p mc).coeffs ∧
    (Fqp.one : Fqp .opt p mc).coeffs = (Fqp.one : Fqp .ref p mc).coeffs ∧
    Fqp.beq (⟨a⟩ : Fqp .opt p mc) ⟨b⟩ = Fqp.beq (⟨a⟩ : Fqp .ref p mc) ⟨b⟩ :=
  ⟨rfl, rfl, rfl, rfl, rfl, rfl, rfl, rfl, rfl, rfl⟩

/-- Any expression built from `+ - neg * **` and int scaling evaluates to the same coefficients in both
classes: stated as a congruence — if the operands agree, so do the results of `*` (the other cases are
`linear_opt_eq_ref`). -/
theorem mul_congr_opt_ref (hp : 0 < p) {x x' : Fqp .opt p mc} {y y' : Fqp .ref p mc}
    (hx : WF x) (hx' : WF x') (h : x.coeffs = y.coeffs) (h' : x'.coeffs = y'.coeffs) :
    (x * x').coeffs = (y * y').coeffs := by
  cases x; cases x'; cases y; cases y'
  simp only at h h'
  subst h h'
  exact mul_opt_eq_ref hp hx hx'

/-! ### non-vacuity -/

example : (0 : ℕ) < 7 ∧ ([3, 5] : List Int).length = ([1, 0] : List Int).length := by decide
example : (Fqp.mul (⟨[3, 5]⟩ : Fqp .opt 7 [1, 0]) ⟨[2, 6]⟩).coeffs = [4, 0] ∧
    (Fqp.mul (⟨[3, 5]⟩ : Fqp .ref 7 [1, 0]) ⟨[2, 6]⟩).coeffs = [4, 0] := by decide
example : 0 < blsP ∧ 1 ≤ blsMc12.length ∧
    (List.replicate 12 (5 : Int)).length = blsMc12.length := by decide

end PyEcc.C14P
