/-
  PyEcc.Props.C07_Twist — property C07, BLS12-381: **`twist` is an injective group homomorphism
  from the curve `E'(Fp²) : y² = x³ + 4(1+i)` into the curve `E(Fp¹²) : y² = x³ + 4`**, for the executable
  model of both modules:

    * `twistOptBls` (`py_ecc/optimized_bls12_381/optimized_pairing.py::twist`, projective:
      `(x : y : z) ↦ (ψ(x)·w : ψ(y) : ψ(z)·w³)`, coefficients placed at shifted positions), and
    * `twistRefBls` (`py_ecc/bls12_381/bls12_381_pairing.py::twist`, affine: `(x, y) ↦ (ψ(x)/w², ψ(y)/w³)`).

  (a) the "field isomorphism" lines are the ring embedding `ψ : Fp² → Fp¹²`, `a₀ + a₁·i ↦ (a₀ − a₁) + a₁·w⁶`
      (`psi_*`); (b) the image of a curve point is a curve point (`*_on_curve`); (c) `twist` commutes with
      `add`, `double`, `neg`, `multiply`, `∞` (`*_add`, …), and is the Mathlib-level homomorphism
      `blsTwist` (`*_refines`); (d) `twist` is injective, on coordinates and on points (`*_injective`,
      `*_eq_iff`).

  Inputs are canonical (`CanonT` / `CanonO`: coefficient lists of the right length with entries in `[0, p)`,
  as every value constructed by the library), on-curve where the group law is involved; optimized
  statements hold for every projective representative and are up to the library's `eq`.
  Supporting material: `Lemmas/TwistField.lean` (ψ), `Lemmas/TwistPoint.lean` (field-generic twist),
  `Lemmas/TwistBls.lean` (values of the model functions), `Lemmas/TwistLaws.lean` ((b), (c), (d) for any
  coordinate map that refines a homomorphism of the point groups; its hypothesis is `rep_twistOptBls`,
  `rep_twistRefBls`, which the `*_refines` theorems below restate).  That `G12 = twist(G2)` for the module constants
  is `C07.Consts.bls_G12_opt / bls_G12_ref`.
-/
import PyEcc.Lemmas.TwistBls
import PyEcc.Lemmas.TwistLaws
import PyEcc.Props.C07_FactsG2

set_option linter.unusedSectionVars false

namespace PyEcc.C07T
open PyEcc PyEcc.Gen PyEcc.Gen.Consts PyEcc.Fqp PyEcc.FqpSem PyEcc.Transfer PyEcc.TwistSem
  PyEcc.CurveSem WeierstrassCurve

/-! ## (a) the field embedding `ψ` -/

/-- **ψ is a ring homomorphism with `ψ(a₀ + a₁·i) = (a₀ − a₁) + a₁·w⁶`, and it is injective.**  It exists
    because `(w⁶ − 1)² = −1` in `FQ12 = Fp[w]/(w¹² − 2w⁶ + 2)`. -/
theorem psi_bls :
    (wQ blsP blsMc12 ^ 6 - 1) ^ 2 = -1 ∧
    (∀ a₀ a₁ : ZMod blsP, psiBls (AdjoinRoot.of _ a₀ + AdjoinRoot.of _ a₁ * AdjoinRoot.root _)
        = AdjoinRoot.of _ (a₀ - a₁) + AdjoinRoot.of _ a₁ * wQ blsP blsMc12 ^ 6) ∧
    Function.Injective psiBls := ⟨bls_w6_sq, psiBls_apply, psiBls_injective⟩

/-- **The coefficient shuffling of `twist` implements ψ** (either class `v`): for every well-formed `FQ2`
    element `x`, `FQ12([c0 − c1, 0,0,0,0,0, c1, 0,…])` has the value `ψ(x)`, is canonical, and the shifted
    placements of the optimized `twist` (positions 1, 7 and 3, 9) have the values `ψ(x)·w` and `ψ(x)·w³`. -/
theorem embed12_bls {v : Variant} {x : Fqp v blsP blsMc2} (hx : WF x) :
    (toQ (embed12 1 0 6 x : F12 v) = psiBls (toQ x) ∧ Canon (embed12 1 0 6 x : F12 v)) ∧
    (toQ (embed12 1 1 7 x : F12 v) = psiBls (toQ x) * wQ blsP blsMc12 ∧ Canon (embed12 1 1 7 x : F12 v)) ∧
    (toQ (embed12 1 3 9 x : F12 v) = psiBls (toQ x) * wQ blsP blsMc12 ^ 3
      ∧ Canon (embed12 1 3 9 x : F12 v)) :=
  ⟨⟨toQ_embed_bls hx, canon_embed_bls _ _ _ _⟩, ⟨toQ_embed_bls_w hx, canon_embed_bls _ _ _ _⟩,
    ⟨toQ_embed_bls_w3 hx, canon_embed_bls _ _ _ _⟩⟩

example : WF (blsG2.1) := by decide

/-- **`b2` is mapped to `b12`**: `ψ(b2)·(w⁻¹)⁶ = b12` in `K12` (`4(1+i) ↦ 4w⁶`), either class. -/
theorem twist_b_bls (v : Variant) :
    psiBls (toQ (blsB2v v)) * ((wQ blsP blsMc12)⁻¹) ^ 6 = toQ (blsB12 v) := bls_b_twist v

/-! ## the Mathlib-level statement -/

section mathlib
variable [DecidableEq K2] [DecidableEq K12]

/-- **The twist of Mathlib points `(x, y) ↦ (ψ(x)/w², ψ(y)/w³)`, `0 ↦ 0`, is an injective homomorphism**
    `E'(K2) : y² = x³ + b2 → E(K12) : y² = x³ + b12` of Mathlib's point groups (`blsTwist v` is an
    `AddMonoidHom`, so `blsTwist (P + Q) = blsTwist P + blsTwist Q`, `blsTwist (-P) = -blsTwist P`,
    `blsTwist (n • P) = n • blsTwist P` are Mathlib's `map_add`, `map_neg`, `map_nsmul`). -/
theorem blsTwist_spec (v : Variant) :
    Function.Injective (blsTwist v) ∧
    (∀ P, reprRef (blsTwist v P)
      = (reprRef P).map fun q => (psiBls q.1 * ((wQ blsP blsMc12)⁻¹) ^ 2,
          psiBls q.2 * ((wQ blsP blsMc12)⁻¹) ^ 3)) :=
  ⟨blsTwist_injective v, fun P => reprRef_blsTwist v P⟩

/-- **Optimized `twist` refines the Mathlib twist**: if the value of a canonical triple `T` represents the
    point `P` of `E'(K2)` (any projective representative; `z = 0` for `P = 0`), then `twist(T)` is canonical
    and its value represents `blsTwistOpt P` on `E(K12)`. -/
theorem twist_opt_refines {T : G2Pt} {P : CurvePt (toQ blsB2 : K2)} (c : CanonT T)
    (r : Represents (mapT toQ T) P) :
    CanonT (twistOptBls (mc12 := blsMc12) T)
      ∧ Represents (mapT (toQ : F12 .opt → K12) (twistOptBls T)) (blsTwistOpt P) :=
  have k := rep_twistOptBls ⟨c, r⟩
  ⟨k.good, k.rep⟩

/-- **Reference `twist` refines the Mathlib twist**: if the value of a canonical point `p` is the
    representation of `P` then `twist(p)` is canonical and its value is the representation of
    `blsTwist .ref P`. -/
theorem twist_ref_refines {p : Option (Fqp .ref blsP blsMc2 × Fqp .ref blsP blsMc2)}
    {P : CurvePt (toQ (blsB2v .ref) : K2)} (c : CanonO p) (r : reprRef P = mapO toQ p) :
    CanonO (twistRefBls (mc12 := blsMc12) p)
      ∧ reprRef (blsTwist .ref P) = mapO (toQ : F12 .ref → K12) (twistRefBls p) :=
  have k := rep_twistRefBls ⟨c, r⟩
  ⟨k.good, k.rep⟩

end mathlib

/-! ## optimized module: `twistOptBls` on canonical `FQ2` triples -/

section opt
variable {S T T₁ T₂ : G2Pt}

private theorem k3 : (3 : K12) ≠ 0 := (k12_field_ok .opt).2.1
private theorem kb : (toQ (blsB12 .opt) : K12) ≠ 0 := (k12_field_ok .opt).2.2.2

/-- the output of the optimized `twist` is always canonical -/
theorem twist_opt_canon (T : G2Pt) : CanonT (twistOptBls (mc12 := blsMc12) T) := canonT_twistOptBls T

/-- **(b) optimized `twist` maps curve points to curve points**: if the canonical triple `T` passes
    `is_on_curve(T, b2)` then `twist(T)` passes `is_on_curve(·, b12)`. -/
theorem twist_opt_on_curve (c : CanonT T) (h : OptBls.is_on_curve T blsB2 = true) :
    OptBls.is_on_curve (twistOptBls T) (blsB12 .opt) = true := by
  classical
  exact tw_opt_on_curve curveF2 (curveF12 .opt) rep_twistOptBls c h

/-- **(c) optimized `twist` commutes with `add`**: `twist(add(T₁, T₂))` and `add(twist(T₁), twist(T₂))`
    are `eq`, for canonical on-curve triples (every configuration: ∞, doubling, inverse points). -/
theorem twist_opt_add (c₁ : CanonT T₁) (c₂ : CanonT T₂) (h₁ : OptBls.is_on_curve T₁ blsB2 = true)
    (h₂ : OptBls.is_on_curve T₂ blsB2 = true) :
    OptBls.eq (twistOptBls (mc12 := blsMc12) (OptBls.add T₁ T₂))
      (OptBls.add (twistOptBls T₁) (twistOptBls T₂)) = true := by
  classical
  exact tw_opt_add curveF2 (curveF12 .opt) rep_twistOptBls c₁ c₂ h₁ h₂

/-- **(c) optimized `twist` commutes with `double`**, up to `eq`. -/
theorem twist_opt_double (c : CanonT T) (h : OptBls.is_on_curve T blsB2 = true) :
    OptBls.eq (twistOptBls (mc12 := blsMc12) (OptBls.double T)) (OptBls.double (twistOptBls T)) = true := by
  classical
  exact tw_opt_double curveF2 (curveF12 .opt) rep_twistOptBls c h

/-- **(c) optimized `twist` commutes with `neg`**, up to `eq`. -/
theorem twist_opt_neg (c : CanonT T) (h : OptBls.is_on_curve T blsB2 = true) :
    OptBls.eq (twistOptBls (mc12 := blsMc12) (OptBls.neg T)) (OptBls.neg (twistOptBls T)) = true := by
  classical
  exact tw_opt_neg curveF2 (curveF12 .opt) rep_twistOptBls c h

/-- **(c) optimized `twist` commutes with `multiply(·, n)`**, every `n`, up to `eq`. -/
theorem twist_opt_multiply (c : CanonT T) (h : OptBls.is_on_curve T blsB2 = true) (n : ℕ) :
    OptBls.eq (twistOptBls (mc12 := blsMc12) (OptBls.multiply T n))
      (OptBls.multiply (twistOptBls T) n) = true := by
  classical
  exact tw_opt_multiply curveF2 (curveF12 .opt) rep_twistOptBls c h n

/-- **(c) optimized `twist` maps ∞ to ∞ and only ∞**: `is_inf(twist(T)) = is_inf(T)` for canonical `T`. -/
theorem twist_opt_is_inf (c : CanonT T) :
    OptBls.is_inf (twistOptBls (mc12 := blsMc12) T) = OptBls.is_inf T := by
  obtain ⟨x, y, z⟩ := T
  have g2 := goodHom_F2 (v := .opt)
  have g := goodHom_F12 (v := .opt)
  have e : (embed12 1 3 9 z : F12 .opt) = 0 ↔ z = 0 := by
    rw [← g.eq_zero_iff (canon_embed_bls _ _ _ _), toQ_embed_bls_w3 c.2.2.wf, mul_eq_zero,
      or_iff_left (pow_ne_zero _ wQ_bls_ne_zero), map_eq_zero, g2.eq_zero_iff c.2.2]
  simp only [OptBls.is_inf, twistOptBls, e]

/-- **(d) optimized `twist` is injective on canonical triples** (coordinate-wise). -/
theorem twist_opt_injective (cS : CanonT S) (cT : CanonT T)
    (e : twistOptBls (mc12 := blsMc12) S = twistOptBls T) : S = T :=
  tw_opt_injective psiBls goodHom_F2 wQ_bls_ne_zero one_ne_zero (pow_ne_zero 3 wQ_bls_ne_zero)
    (fun c => by rw [mapT_twistOptBls c, mul_one]) cS cT e

/-- **(d) optimized `twist` is injective on points**: for canonical on-curve triples, `twist(S)` and
    `twist(T)` are `eq` exactly when `S` and `T` are `eq` (any projective representatives). -/
theorem twist_opt_eq_iff (cS : CanonT S) (cT : CanonT T) (hS : OptBls.is_on_curve S blsB2 = true)
    (hT : OptBls.is_on_curve T blsB2 = true) :
    OptBls.eq (twistOptBls (mc12 := blsMc12) S) (twistOptBls T) = true ↔ OptBls.eq S T = true := by
  classical
  exact tw_opt_eq_iff curveF2 (curveF12 .opt) rep_twistOptBls
    (blsTwist_injective .opt) cS cT hS hT

/-- non-vacuity: the generator `G2` of the optimized module is canonical and on the curve (and
    `twist(G2) = G12`, `C07.Consts.bls_G12_opt`) -/
example : CanonT blsG2 ∧ OptBls.is_on_curve blsG2 blsB2 = true :=
  ⟨canonT_blsG2, C07.Facts.bls_G2_opt.1⟩

end opt

/-! ## reference module: `twistRefBls` on canonical `FQ2` points -/

section ref
variable {p q : Option (Fqp .ref blsP blsMc2 × Fqp .ref blsP blsMc2)}

/-- the output of the reference `twist` is always canonical -/
theorem twist_ref_canon (p : Option (Fqp .ref blsP blsMc2 × Fqp .ref blsP blsMc2)) :
    CanonO (twistRefBls (mc12 := blsMc12) p) := canonO_twistRefBls

/-- **(b) reference `twist` maps curve points to curve points.** -/
theorem twist_ref_on_curve (c : CanonO p) (h : RefBls.is_on_curve p (blsB2v .ref) = true) :
    RefBls.is_on_curve (twistRefBls p) (blsB12 .ref) = true := by
  classical
  exact tw_ref_on_curve (curveF2v .ref) (curveF12 .ref) rep_twistRefBls c h

/-- **(c) reference `twist` commutes with `add`**: `add(twist(p), twist(q)) = twist(add(p, q))` (in the
    exception monad; neither side raises), for canonical on-curve points, every configuration. -/
theorem twist_ref_add (cp : CanonO p) (cq : CanonO q)
    (hp : RefBls.is_on_curve p (blsB2v .ref) = true) (hq : RefBls.is_on_curve q (blsB2v .ref) = true) :
    RefBls.add (twistRefBls (mc12 := blsMc12) p) (twistRefBls q)
      = (RefBls.add p q).map twistRefBls := by
  classical
  exact tw_ref_add (curveF2v .ref) (curveF12 .ref) rep_twistRefBls cp cq hp hq

/-- **(c) reference `twist` commutes with `double`.** -/
theorem twist_ref_double (cp : CanonO p) (hp : RefBls.is_on_curve p (blsB2v .ref) = true) :
    RefBls.double (twistRefBls (mc12 := blsMc12) p) = twistRefBls (RefBls.double p) := by
  classical
  exact tw_ref_double (curveF2v .ref) (curveF12 .ref) rep_twistRefBls cp hp

/-- **(c) reference `twist` commutes with `neg`.** -/
theorem twist_ref_neg (cp : CanonO p) (hp : RefBls.is_on_curve p (blsB2v .ref) = true) :
    RefBls.neg (twistRefBls (mc12 := blsMc12) p) = twistRefBls (RefBls.neg p) := by
  classical
  exact tw_ref_neg (curveF2v .ref) (curveF12 .ref) rep_twistRefBls cp hp

/-- **(c) reference `twist` commutes with `multiply(·, n)`**, every `n` (neither side raises). -/
theorem twist_ref_multiply (cp : CanonO p) (hp : RefBls.is_on_curve p (blsB2v .ref) = true) (n : ℕ) :
    RefBls.multiply (twistRefBls (mc12 := blsMc12) p) n = (RefBls.multiply p n).map twistRefBls := by
  classical
  exact tw_ref_multiply (curveF2v .ref) (curveF12 .ref) rep_twistRefBls cp hp n

/-- **(c) reference `twist` maps ∞ to ∞ and only ∞.** -/
theorem twist_ref_none : twistRefBls (mc12 := blsMc12) p = none ↔ p = none := by
  rcases p with _ | ⟨x, y⟩ <;> simp [twistRefBls]

/-- **(d) reference `twist` is injective on canonical points.** -/
theorem twist_ref_injective (cp : CanonO p) (cq : CanonO q)
    (e : twistRefBls (mc12 := blsMc12) p = twistRefBls q) : p = q := by
  classical
  exact tw_ref_injective psiBls cBls_ne_zero (goodHom_F2 (v := .ref)) mapO_twistRefBls cp cq e

/-- non-vacuity: the generator `G2` of the reference module is canonical and on the curve (and
    `twist(G2) = G12`, `C07.Consts.bls_G12_ref`) -/
example : CanonO (some ((⟨bls12_381_G2.getD 0 []⟩ : Fqp .ref blsP blsMc2), ⟨bls12_381_G2.getD 1 []⟩)) ∧
    RefBls.is_on_curve (some ((⟨bls12_381_G2.getD 0 []⟩ : Fqp .ref blsP blsMc2), ⟨bls12_381_G2.getD 1 []⟩))
      (blsB2v .ref) = true := by decide +kernel

end ref

end PyEcc.C07T
