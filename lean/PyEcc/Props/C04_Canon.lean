/-
  PyEcc.Props.C04_Canon — property C04, the concrete witnesses: the generator's public key is a canonical key, the
  encoding of ∞ is a canonical signature, and the fixed pairing arguments `G1`, `−G1` are on the curve and in the
  subgroup.  `genPk_canon` follows from the encoding theorems of `Lemmas/BlsProtoCodec.lean` and one evaluation of
  `G1_to_pubkey`; `infSig_canon` is one evaluation of the decoder plus `C17M.subgroupCheck_G2_accepts_inf`;
  `generator_args_safe` uses `C17M.blsG1_passes` and the refinement of `neg` (`Rep.neg`).
-/
import PyEcc.Lemmas.BlsProtoCodec

namespace PyEcc.C04
open PyEcc PyEcc.BlsSem Gen.Consts
open PyEcc.Gen PyEcc.Transfer PyEcc.BlsProto

/-- non-vacuity of `CanonPk`: `genPk` is what `G1_to_pubkey(G1)` returns (evaluated), hence the encoding
    of a non-zero `r`-torsion point -/
theorem genPk_canon : ∃ P, CanonPk genPk P := by
  obtain ⟨g, r⟩ := curveF1.exists_rep (goodT_true blsG1) C17M.blsG1_passes.1
  have ht := (C17Sub.rep_iff r).mp C17M.blsG1_passes.2
  obtain ⟨bs, hbs, henc⟩ := encG1_of_rep r.rep ht
  have hg : g1ToPubkey blsG1 = .ok genPk := by decide +kernel
  rw [show bs = genPk from Except.ok.inj (hbs.symm.trans hg)] at henc
  have h0 : g ≠ 0 := fun h0 => by
    have := r.is_inf_iff.mpr h0
    rw [C07.Facts.bls_G1_model.2.1] at this
    cases this
  obtain ⟨P, hP, _⟩ := canonPk_of_enc henc h0 ht
  exact ⟨P, hP⟩

/-- non-vacuity of `CanonSig`: `infSig` decodes to `Z2` (evaluated), and `∞` passes `subgroup_check` -/
theorem infSig_canon : ∃ S, CanonSig infSig S :=
  ⟨Z2, by decide, by decide +kernel, C17M.subgroupCheck_G2_accepts_inf (by decide) rfl⟩

/-- **The fixed G1 arguments are sound too**: the generator `G1` and `−G1` are on the curve
    `y² = x³ + 4`, are not the identity, and pass `subgroup_check`. -/
theorem generator_args_safe :
    Gen.OptBls.is_on_curve blsG1 (Fq.ofInt optimized_bls12_381_b : Fq blsP) = true ∧
    Gen.OptBls.is_inf blsG1 = false ∧ subgroupCheck blsG1 = true ∧
    Gen.OptBls.is_on_curve (Gen.OptBls.neg blsG1) (Fq.ofInt optimized_bls12_381_b : Fq blsP) = true ∧
    Gen.OptBls.is_inf (Gen.OptBls.neg blsG1) = false ∧ subgroupCheck (Gen.OptBls.neg blsG1) = true := by
  obtain ⟨g, r⟩ := curveF1.exists_rep (goodT_true blsG1) C17M.blsG1_passes.1
  have ht := (C17Sub.rep_iff r).mp C17M.blsG1_passes.2
  exact ⟨blsG1_on_curve.1, by decide, C17M.blsG1_passes.2, blsG1_on_curve.2, by decide,
    (C17Sub.rep_iff r.neg).mpr (by rw [smul_neg, ht, neg_zero])⟩

end PyEcc.C04
