/-
  PyEcc.Props.C13_Secp — property C13 (secp256k1 part): the Jacobian formulas of
  `py_ecc/secp256k1/secp256k1.py` (`jacobian_double`, `jacobian_add`, `from_jacobian`), as GENERATED into
  `PyEcc.Gen.Secp` on Python ints with explicit `% P`, compute the affine chord/tangent law on
  `(x/z², y/z³)` in `ZMod P`, on every control path, for arbitrary representatives.

  Statements are at coordinate level (`z' ≠ 0 ∧ x'/z'² = X₃ ∧ y'/z'³ = Y₃`): the Python code uses the raw int
  `y = 0` as identity marker, so marker-level refinement (against Mathlib's group) lives in C18.
  `A` is never unfolded (the theorems hold for the generated `A`, whatever its value); of `P` only
  "`P` is the proved prime `secp256k1_P`" and `2 ≠ 0` are used.
-/
import PyEcc.Sem.SecpSem

namespace PyEcc.C13.Secp
open PyEcc.Gen.Consts PyEcc.SecpSem
open PyEcc.Gen.Secp (jacobian_double jacobian_add from_jacobian to_jacobian A P)

/-- `jacobian_double` on a triple whose `y` is the int `0` (the identity marker; Python tests `not p[1]`)
returns the degenerate triple `(0, 0, 0)`. -/
theorem jacobian_double_identity (p : ℤ × ℤ × ℤ) (hy : p.2.1 = 0) : jacobian_double p = (0, 0, 0) := by
  simp [jacobian_double, hy]

/-- On the non-identity path (`y` is not the int `0`) `jacobian_double` returns reduced residues, which read
in `ZMod P` are `(M² − 8xy², M(12xy² − M²) − 8y⁴, 2yz)` with `M = 3x² + A·z⁴`. -/
theorem jacobian_double_cast (x y z : ℤ) (hy0 : y ≠ 0) :
    let T := jacobian_double (x, y, z)
    let M : Fp := 3 * x ^ 2 + A * z ^ 4
    (T.1 : Fp) = M ^ 2 - 8 * x * y ^ 2 ∧ (T.2.1 : Fp) = M * (12 * x * y ^ 2 - M ^ 2) - 8 * y ^ 4 ∧
      (T.2.2 : Fp) = 2 * y * z ∧ Reduced T := by
  simp only [jacobian_double, hy0, if_false]
  push_cast [cast_mod_P]
  exact ⟨by ring, by ring, by ring, ⟨mod_nonneg _, mod_lt _⟩, ⟨mod_nonneg _, mod_lt _⟩, ⟨mod_nonneg _, mod_lt _⟩⟩

/-- On the non-identity path (`y` is not the int `0`) `jacobian_double` returns reduced residues and
`z' ≡ 2·y·z (mod P)`. -/
theorem jacobian_double_z (x y z : ℤ) (hy0 : y ≠ 0) :
    ((jacobian_double (x, y, z)).2.2 : Fp) = 2 * (y : Fp) * (z : Fp) ∧ Reduced (jacobian_double (x, y, z)) :=
  (jacobian_double_cast x y z hy0).2.2

/-- **Tangent law.** For a Jacobian triple `(x, y, z)` of Python ints with `y ≢ 0` and `z ≢ 0 (mod P)`,
`jacobian_double` returns `(x', y', z')` with `z' ≢ 0` and `(x'/z'², y'/z'³)` equal to the affine doubling of
`(X, Y) = (x/z², y/z³)` with tangent slope `m = (3X² + A)/(2Y)`: `X₃ = m² − 2X`, `Y₃ = m(X − X₃) − Y`. -/
theorem jacobian_double_coord (x y z : ℤ) (hy : (y : Fp) ≠ 0) (hz : (z : Fp) ≠ 0) :
    let T := jacobian_double (x, y, z)
    let X := affX (x, y, z)
    let Y := affY (x, y, z)
    let m := (3 * X ^ 2 + (A : Fp)) / (2 * Y)
    (T.2.2 : Fp) ≠ 0 ∧ affX T = m ^ 2 - 2 * X ∧ affY T = m * (X - (m ^ 2 - 2 * X)) - Y := by
  have hy0 : y ≠ 0 := by rintro rfl; exact hy (by simp)
  obtain ⟨hx', hy', hz', -⟩ := jacobian_double_cast x y z hy0
  have h2 := fp_two_ne_zero
  have h2yz : (2 : Fp) * (y : Fp) * (z : Fp) ≠ 0 := mul_ne_zero (mul_ne_zero h2 hy) hz
  simp only [affX, affY, hx', hy', hz']
  refine ⟨h2yz, ?_, ?_⟩
  · field_simp
    ring
  · field_simp
    ring

example : ((Gen.Secp.Gy : ℤ) : Fp) ≠ 0 ∧ ((1 : ℤ) : Fp) ≠ 0 := by
  constructor
  · intro h; exact absurd ((cast_eq_zero_iff _).mp h) (by decide)
  · simp

/-- The honest corner: if `y` is a NON-ZERO int multiple of `P` (so `y ≡ 0` but Python's `not p[1]` is false),
`jacobian_double` does not return the marker `(0,0,0)` but `(M², −M³, 0)` (mod `P`) with `M = 3x² + A·z⁴`:
`z' = 0` exactly, while `y'` is in general non-zero. (Unreachable from reduced inputs.) -/
theorem jacobian_double_y_multiple (x y z : ℤ) (hy0 : y ≠ 0) (hy : (y : Fp) = 0) :
    let T := jacobian_double (x, y, z)
    let M : Fp := 3 * (x : Fp) ^ 2 + (A : Fp) * (z : Fp) ^ 4
    T.2.2 = 0 ∧ (T.1 : Fp) = M ^ 2 ∧ (T.2.1 : Fp) = - M ^ 3 := by
  obtain ⟨hx', hy', hz', r⟩ := jacobian_double_cast x y z hy0
  refine ⟨eq_zero_of_cast_eq_zero r.2.2.1 r.2.2.2 ?_, ?_, ?_⟩
  · rw [hz', hy]; ring
  · rw [hx', hy]; ring
  · rw [hy', hy]; ring

example : (Gen.Secp.P : ℤ) ≠ 0 ∧ ((Gen.Secp.P : ℤ) : Fp) = 0 := ⟨by decide, cast_P⟩

/-- `jacobian_add p q` returns `q` unchanged when `p` carries the identity marker (`p.y` is the int `0`). -/
theorem jacobian_add_left_identity (p q : ℤ × ℤ × ℤ) (hp : p.2.1 = 0) : jacobian_add p q = q := by
  simp [jacobian_add, hp]

/-- `jacobian_add p q` returns `p` unchanged when `q` carries the identity marker and `p` does not. -/
theorem jacobian_add_right_identity (p q : ℤ × ℤ × ℤ) (hp : p.2.1 ≠ 0) (hq : q.2.1 = 0) :
    jacobian_add p q = p := by
  simp [jacobian_add, hp, hq]

/-- On the chord path (no identity marker, `U1 ≢ U2`) `jacobian_add` returns reduced residues, which read in
`ZMod P` are `(R² − H³ − 2·U1·H², R(U1·H² − x') − S1·H³, H·z₁·z₂)` with `H = U2 − U1`, `R = S2 − S1`. -/
theorem jacobian_add_chord_cast {p q : ℤ × ℤ × ℤ} (hy1 : p.2.1 ≠ 0) (hy2 : q.2.1 ≠ 0) (hU : jU p q ≠ jU q p) :
    let T := jacobian_add p q
    let H := jU q p - jU p q
    let R := jS q p - jS p q
    (T.1 : Fp) = R ^ 2 - H ^ 3 - 2 * jU p q * H ^ 2 ∧ (T.2.1 : Fp) = R * (jU p q * H ^ 2 - T.1) - jS p q * H ^ 3 ∧
      (T.2.2 : Fp) = H * p.2.2 * q.2.2 ∧ Reduced T := by
  have hU' : ¬ (p.1 * q.2.2 ^ 2 % P = q.1 * p.2.2 ^ 2 % P) := by
    rw [← cast_eq_iff]; push_cast; exact hU
  simp only [jacobian_add, hy1, hy2, hU', if_false]
  push_cast [cast_mod_P]
  rw [← jU, ← jU, ← jS, ← jS]
  exact ⟨by ring, by ring, by ring, ⟨mod_nonneg _, mod_lt _⟩, ⟨mod_nonneg _, mod_lt _⟩, ⟨mod_nonneg _, mod_lt _⟩⟩

/-- **Chord law.** For two triples without identity marker whose `U1 = x₁z₂²`, `U2 = x₂z₁²` differ mod `P`,
`jacobian_add` returns reduced `(x', y', z')` with `z' ≡ (U2 − U1)·z₁·z₂`; and when `z₁, z₂ ≢ 0` then `z' ≢ 0`,
`X₁ ≠ X₂` and `(x'/z'², y'/z'³)` is the affine chord addition of `(X₁,Y₁)`, `(X₂,Y₂)` with slope
`m = (Y₂ − Y₁)/(X₂ − X₁)`: `X₃ = m² − X₁ − X₂`, `Y₃ = m(X₁ − X₃) − Y₁`. -/
theorem jacobian_add_chord_coord {p q : ℤ × ℤ × ℤ} (hy1 : p.2.1 ≠ 0) (hy2 : q.2.1 ≠ 0) (hU : jU p q ≠ jU q p) :
    let T := jacobian_add p q
    let m := (affY q - affY p) / (affX q - affX p)
    Reduced T ∧ (T.2.2 : Fp) = (jU q p - jU p q) * p.2.2 * q.2.2 ∧
    ((p.2.2 : Fp) ≠ 0 → (q.2.2 : Fp) ≠ 0 →
      affX p ≠ affX q ∧ (T.2.2 : Fp) ≠ 0 ∧ affX T = m ^ 2 - affX p - affX q ∧
        affY T = m * (affX p - (m ^ 2 - affX p - affX q)) - affY p) := by
  obtain ⟨ex, ey, ez, r⟩ := jacobian_add_chord_cast hy1 hy2 hU
  refine ⟨r, ez, fun hz1 hz2 => ?_⟩
  have hX : affX p ≠ affX q := mt (jU_eq_iff hz1 hz2).mpr hU
  have hH := sub_ne_zero.mpr hU.symm
  -- `H = U2 − U1` and `R = S2 − S1` are kept as variables while denominators are cleared
  generalize hHdef : jU q p - jU p q = H at ex ey ez hH
  generalize hRdef : jS q p - jS p q = R at ex ey
  have hz' := mul_ne_zero (mul_ne_zero hH hz1) hz2
  have hm : (affY q - affY p) / (affX q - affX p) = R / (H * p.2.2 * q.2.2) := by
    rw [div_eq_div_iff (sub_ne_zero.mpr hX.symm) hz', ← hHdef, ← hRdef]
    simp only [affX, affY, jU, jS]
    field_simp
  simp only [hm]
  simp only [affX, affY, jU, jS, ex, ey, ez] at hX hHdef ⊢
  refine ⟨hX, hz', ?_, ?_⟩
  · field_simp
    subst hHdef
    ring
  · field_simp
    subst hHdef
    ring

example : ((1 : ℤ) : Fp) * ((1 : ℤ) : Fp) ^ 2 ≠ ((2 : ℤ) : Fp) * ((1 : ℤ) : Fp) ^ 2 := by
  intro h; exact absurd ((cast_eq_iff (1 * 1 ^ 2) (2 * 1 ^ 2)).mp (by push_cast; exact h)) (by decide)

/-- **Inverse operands.** Two triples without identity marker with `U1 ≡ U2` and `S1 ≢ S2 (mod P)`
(for `z₁, z₂ ≢ 0`: same affine `x`, different affine `y`) add to the identity triple `(0, 0, 1)`. -/
theorem jacobian_add_inverse {p q : ℤ × ℤ × ℤ} (hy1 : p.2.1 ≠ 0) (hy2 : q.2.1 ≠ 0) (hU : jU p q = jU q p)
    (hS : jS p q ≠ jS q p) : jacobian_add p q = (0, 0, 1) := by
  simp only [jU, jS] at hU hS
  simp [jacobian_add, hy1, hy2, ← cast_eq_iff, hU, hS]

/-- **Equal operands.** Two triples without identity marker with `U1 ≡ U2` and `S1 ≡ S2 (mod P)`
(for `z₁, z₂ ≢ 0`: the same affine point) are added by `jacobian_double` of the first. -/
theorem jacobian_add_double {p q : ℤ × ℤ × ℤ} (hy1 : p.2.1 ≠ 0) (hy2 : q.2.1 ≠ 0) (hU : jU p q = jU q p)
    (hS : jS p q = jS q p) : jacobian_add p q = jacobian_double p := by
  simp only [jU, jS] at hU hS
  simp [jacobian_add, hy1, hy2, ← cast_eq_iff, hU, hS]

/-- **`jacobian_add`, all paths, in affine terms.** For triples `p = (x₁,y₁,z₁)`, `q = (x₂,y₂,z₂)` of Python ints
with `z₁, z₂ ≢ 0 (mod P)` and affine readings `(Xᵢ, Yᵢ) = (xᵢ/zᵢ², yᵢ/zᵢ³)`:
* `y₁ = 0` (int) → result is `q`; `y₁ ≠ 0`, `y₂ = 0` → result is `p`;
* otherwise, `X₁ ≠ X₂` → chord law (with `z' ≢ 0`); `X₁ = X₂ ∧ Y₁ ≠ Y₂` → `(0,0,1)`;
  `X₁ = X₂ ∧ Y₁ = Y₂` → `jacobian_double p` (whose affine reading is given by `jacobian_double_coord`). -/
theorem jacobian_add_coord {p q : ℤ × ℤ × ℤ} (hz1 : (p.2.2 : Fp) ≠ 0) (hz2 : (q.2.2 : Fp) ≠ 0) :
    let T := jacobian_add p q
    let m := (affY q - affY p) / (affX q - affX p)
    (p.2.1 = 0 → T = q) ∧ (p.2.1 ≠ 0 → q.2.1 = 0 → T = p) ∧
    (p.2.1 ≠ 0 → q.2.1 ≠ 0 → affX p ≠ affX q →
      (T.2.2 : Fp) ≠ 0 ∧ affX T = m ^ 2 - affX p - affX q ∧
        affY T = m * (affX p - (m ^ 2 - affX p - affX q)) - affY p) ∧
    (p.2.1 ≠ 0 → q.2.1 ≠ 0 → affX p = affX q → affY p ≠ affY q → T = (0, 0, 1)) ∧
    (p.2.1 ≠ 0 → q.2.1 ≠ 0 → affX p = affX q → affY p = affY q → T = jacobian_double p) :=
  have tU := jU_eq_iff hz1 hz2
  have tS := jS_eq_iff hz1 hz2
  ⟨jacobian_add_left_identity p q, jacobian_add_right_identity p q,
    fun hy1 hy2 hX => ((jacobian_add_chord_coord hy1 hy2 (mt tU.mp hX)).2.2 hz1 hz2).2,
    fun hy1 hy2 hX hY => jacobian_add_inverse hy1 hy2 (tU.mpr hX) (mt tS.mp hY),
    fun hy1 hy2 hX hY => jacobian_add_double hy1 hy2 (tU.mpr hX) (tS.mpr hY)⟩

/-- `from_jacobian` of a triple whose `z` is the int `0` is the affine identity marker `(0, 0)`
(because `inv(0, P) = 0`). -/
theorem from_jacobian_z_zero (x y : ℤ) : from_jacobian (x, y, 0) = (0, 0) := by
  simp [from_jacobian, inv_zero]

/-- **`from_jacobian`.** For `z ≢ 0 (mod P)` (or `z` the int `0`) `from_jacobian (x, y, z)` is the pair of canonical
residues in `[0, P)` of `x/z²` and `y/z³` computed in `ZMod P`. -/
theorem from_jacobian_coord (x y z : ℤ) (hz : z = 0 ∨ (z : Fp) ≠ 0) :
    from_jacobian (x, y, z) = (((affX (x, y, z)).val : ℤ), ((affY (x, y, z)).val : ℤ)) := by
  simp only [from_jacobian, affX, affY, ← val_cast, Int.cast_mul, Int.cast_pow, cast_inv z hz, div_eq_mul_inv,
    inv_pow]

/-- The honest corner: for `z` a NON-ZERO int multiple of `P`, `inv(z, P)` is `1` (not `0`) and `from_jacobian`
returns `(x % P, y % P)` rather than `(0, 0)`. (Unreachable: every `z` produced by the library is reduced.) -/
theorem from_jacobian_z_multiple (x y z : ℤ) (hz0 : z ≠ 0) (hz : (z : Fp) = 0) :
    from_jacobian (x, y, z) = (x % P, y % P) := by
  have h1 : Gen.Secp.inv z P = 1 := by
    rw [P_eq]
    exact Gen.Secp.inv_of_dvd prime_secpP.one_lt z hz0 ((cast_eq_zero_iff_mod rfl z).mp hz)
  simp [from_jacobian, h1]

/-- the output of `from_jacobian` is always a pair of reduced residues -/
theorem from_jacobian_reduced (T : ℤ × ℤ × ℤ) :
    (0 ≤ (from_jacobian T).1 ∧ (from_jacobian T).1 < P) ∧ (0 ≤ (from_jacobian T).2 ∧ (from_jacobian T).2 < P) :=
  ⟨⟨mod_nonneg _, mod_lt _⟩, ⟨mod_nonneg _, mod_lt _⟩⟩

/-! ### representative independence -/

/-- **`from_jacobian` is independent of the representative**: rescaled triples (scale `l ≢ 0`) have the same
`from_jacobian`. -/
theorem from_jacobian_scale {l : Fp} (hl : l ≠ 0) {p p' : ℤ × ℤ × ℤ} (h : Scaled l p p')
    (hz : ZOk p) (hz' : ZOk p') : from_jacobian p' = from_jacobian p := by
  obtain ⟨x, y, z⟩ := p
  obtain ⟨x', y', z'⟩ := p'
  obtain ⟨hx, hy, hzz, _⟩ := h
  rw [from_jacobian_coord x y z hz, from_jacobian_coord x' y' z' hz', affX, affY, hx, hy, hzz, mul_pow, mul_pow,
    mul_div_mul_left _ _ (pow_ne_zero 2 hl), mul_div_mul_left _ _ (pow_ne_zero 3 hl)]
  rfl

/-- **`jacobian_double` commutes with rescaling**: if `p'` is `p` rescaled by `l ≢ 0` then
`jacobian_double p'` is `jacobian_double p` rescaled by `l⁴` (all paths, no condition on `z`). -/
theorem jacobian_double_scaled {l : Fp} (hl : l ≠ 0) {p p' : ℤ × ℤ × ℤ} (h : Scaled l p p') :
    Scaled (l ^ 4) (jacobian_double p) (jacobian_double p') := by
  obtain ⟨x, y, z⟩ := p
  obtain ⟨x', y', z'⟩ := p'
  obtain ⟨hx, hy, hz, hm⟩ := h
  by_cases hy0 : y = 0
  · have hy0' : y' = 0 := hm.mpr hy0
    rw [jacobian_double_identity _ hy0, jacobian_double_identity _ hy0']
    exact ⟨by simp, by simp, by simp, Iff.rfl⟩
  · have hy0' : y' ≠ 0 := fun e => hy0 (hm.mp e)
    obtain ⟨ex, ey, ez, r⟩ := jacobian_double_cast x y z hy0
    obtain ⟨ex', ey', ez', r'⟩ := jacobian_double_cast x' y' z' hy0'
    have e : ((jacobian_double (x', y', z')).2.1 : Fp) = (l ^ 4) ^ 3 * ((jacobian_double (x, y, z)).2.1 : Fp) := by
      rw [ey', ey, hx, hy, hz]; ring
    refine ⟨?_, e, ?_, marker_of_reduced r r' (pow_ne_zero 3 (pow_ne_zero 4 hl)) e⟩
    · rw [ex', ex, hx, hy, hz]; ring
    · rw [ez', ez, hy, hz]; ring

/-- **`jacobian_add` commutes with rescaling** of either operand (scales `l, m ≢ 0`): the result is a
rescaling, by some unit `k`, of the original result — on every path (identity operands, chord, inverse,
doubling). -/
theorem jacobian_add_scaled {l m : Fp} (hl : l ≠ 0) (hm : m ≠ 0) {p p' q q' : ℤ × ℤ × ℤ}
    (hp : Scaled l p p') (hq : Scaled m q q') :
    ∃ k : Fp, k ≠ 0 ∧ Scaled k (jacobian_add p q) (jacobian_add p' q') := by
  by_cases hy1 : p.2.1 = 0
  · rw [jacobian_add_left_identity _ _ hy1, jacobian_add_left_identity _ _ (hp.marker.mpr hy1)]
    exact ⟨m, hm, hq⟩
  have hy1' := mt hp.marker.mp hy1
  by_cases hy2 : q.2.1 = 0
  · rw [jacobian_add_right_identity _ _ hy1 hy2, jacobian_add_right_identity _ _ hy1' (hq.marker.mpr hy2)]
    exact ⟨l, hl, hp⟩
  have hy2' := mt hq.marker.mp hy2
  -- the same tests succeed on both sides, since `U1, U2` scale by `(lm)²` and `S1, S2` by `(lm)³`
  have ha : l * m ≠ 0 := mul_ne_zero hl hm
  have eU1 := hp.jU hq
  have eU2 := mul_comm m l ▸ hq.jU hp
  have eS1 := hp.jS hq
  have eS2 := mul_comm m l ▸ hq.jS hp
  have tU : jU p' q' = jU q' p' ↔ jU p q = jU q p := by rw [eU1, eU2, mul_right_inj' (pow_ne_zero 2 ha)]
  have tS : jS p' q' = jS q' p' ↔ jS p q = jS q p := by rw [eS1, eS2, mul_right_inj' (pow_ne_zero 3 ha)]
  by_cases hU : jU p q = jU q p
  · by_cases hS : jS p q = jS q p
    · rw [jacobian_add_double hy1 hy2 hU hS, jacobian_add_double hy1' hy2' (tU.mpr hU) (tS.mpr hS)]
      exact ⟨l ^ 4, pow_ne_zero 4 hl, jacobian_double_scaled hl hp⟩
    · rw [jacobian_add_inverse hy1 hy2 hU hS, jacobian_add_inverse hy1' hy2' (tU.mpr hU) (mt tS.mp hS)]
      exact ⟨1, one_ne_zero, Scaled.refl _⟩
  · obtain ⟨ex, ey, ez, r⟩ := jacobian_add_chord_cast hy1 hy2 hU
    obtain ⟨ex', ey', ez', r'⟩ := jacobian_add_chord_cast hy1' hy2' (mt tU.mp hU)
    rw [eU1, eU2, eS1, eS2] at ex' ey'
    have e1 : ((jacobian_add p' q').1 : Fp) = ((l * m) ^ 3) ^ 2 * ((jacobian_add p q).1 : Fp) := by
      rw [ex', ex]; ring
    have e2 : ((jacobian_add p' q').2.1 : Fp) = ((l * m) ^ 3) ^ 3 * ((jacobian_add p q).2.1 : Fp) := by
      rw [ey', ey, e1]; ring
    have hk := pow_ne_zero 3 ha
    refine ⟨(l * m) ^ 3, hk, e1, e2, ?_, marker_of_reduced r r' (pow_ne_zero 3 hk) e2⟩
    rw [ez', ez, eU1, eU2, hp.z, hq.z]; ring

theorem jacobian_double_zok (p : ℤ × ℤ × ℤ) : ZOk (jacobian_double p) := by
  obtain ⟨x, y, z⟩ := p
  by_cases hy : y = 0
  · rw [jacobian_double_identity _ hy]; exact Or.inl rfl
  · exact (jacobian_double_z x y z hy).2.zok

theorem jacobian_add_zok (p q : ℤ × ℤ × ℤ) (hp : ZOk p) (hq : ZOk q) : ZOk (jacobian_add p q) := by
  by_cases hy1 : p.2.1 = 0
  · rwa [jacobian_add_left_identity _ _ hy1]
  by_cases hy2 : q.2.1 = 0
  · rwa [jacobian_add_right_identity _ _ hy1 hy2]
  by_cases hU : jU p q = jU q p
  · by_cases hS : jS p q = jS q p
    · rw [jacobian_add_double hy1 hy2 hU hS]; exact jacobian_double_zok _
    · rw [jacobian_add_inverse hy1 hy2 hU hS]; exact Or.inr (by simp)
  · exact (jacobian_add_chord_cast hy1 hy2 hU).2.2.2.zok

/-- **Representative independence of doubling**: `from_jacobian ∘ jacobian_double` gives the same affine pair
on `(x, y, z)` and on any rescaling `(l²x, l³y, l·z)`, `l ≢ 0`. -/
theorem from_jacobian_double_scale (hinv : InvSpec) {l : Fp} (hl : l ≠ 0) {p p' : ℤ × ℤ × ℤ}
    (h : Scaled l p p') : from_jacobian (jacobian_double p') = from_jacobian (jacobian_double p) :=
  from_jacobian_scale (pow_ne_zero 4 hl) (jacobian_double_scaled hl h)
    (jacobian_double_zok _) (jacobian_double_zok _)

/-- **Representative independence of addition**: `from_jacobian ∘ jacobian_add` gives the same affine pair when
either operand is replaced by a rescaling (scales `l, m ≢ 0`; `z`-coordinates `0` or units mod `P`). -/
theorem from_jacobian_add_scale (hinv : InvSpec) {l m : Fp} (hl : l ≠ 0) (hm : m ≠ 0) {p p' q q' : ℤ × ℤ × ℤ}
    (hp : Scaled l p p') (hq : Scaled m q q') (zp : ZOk p) (zp' : ZOk p') (zq : ZOk q) (zq' : ZOk q') :
    from_jacobian (jacobian_add p' q') = from_jacobian (jacobian_add p q) := by
  obtain ⟨k, hk, hs⟩ := jacobian_add_scaled hl hm hp hq
  exact from_jacobian_scale hk hs (jacobian_add_zok _ _ zp zq) (jacobian_add_zok _ _ zp' zq')

/-- non-vacuity of `Scaled`/`ZOk`: `(4·Gx, 8·Gy, 2)` is `to_jacobian G` rescaled by `2` -/
example : Scaled (2 : Fp) (to_jacobian Gen.Secp.G) (4 * Gen.Secp.Gx, 8 * Gen.Secp.Gy, 2) ∧
    ZOk (to_jacobian Gen.Secp.G) ∧ ZOk (4 * Gen.Secp.Gx, 8 * Gen.Secp.Gy, 2) := by
  simp only [to_jacobian, Gen.Secp.G]
  refine ⟨⟨?_, ?_, ?_, by decide⟩, Or.inr ?_, Or.inr ?_⟩
  · push_cast; ring
  · push_cast; ring
  · push_cast; ring
  · simp
  · exact (Int.cast_ofNat 2).trans_ne fp_two_ne_zero

end PyEcc.C13.Secp

section AxiomAudit
open PyEcc.C13.Secp
#print axioms jacobian_double_identity
#print axioms jacobian_double_z
#print axioms jacobian_double_coord
#print axioms jacobian_double_y_multiple
#print axioms jacobian_add_left_identity
#print axioms jacobian_add_right_identity
#print axioms jacobian_add_chord_coord
#print axioms jacobian_add_inverse
#print axioms jacobian_add_double
#print axioms jacobian_add_coord
#print axioms from_jacobian_z_zero
#print axioms from_jacobian_coord
#print axioms from_jacobian_z_multiple
#print axioms from_jacobian_scale
#print axioms jacobian_double_scaled
#print axioms jacobian_add_scaled
#print axioms from_jacobian_double_scale
#print axioms from_jacobian_add_scale
end AxiomAudit
