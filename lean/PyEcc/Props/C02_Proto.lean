/-
  PyEcc.Props.C02_Proto — property C02, headline clause: **`Verify` accepts EXACTLY the canonical
  signature** (`py_ecc/bls/ciphersuites.py`: `Verify`, `PopVerify`; all three suites).

  All theorems are about the model functions of `PyEcc/Model/Bls.lean` as they are, for ALL secret keys
  `1 ≤ sk < r`, all messages, all candidate byte strings of ANY length, all three suites, any hash
  function `H`.  They are conditional on `PairingFacts e` only (HB1 bilinearity, ND non-degeneracy,
  HB1′ model-pairing compatibility, HT6 hash-to-curve lands in the subgroup) — the docstring of `PairingFacts`
  (`Lemmas/BlsProto.lean`) says what each field means and which are theorems; it is a hypothesis, not an axiom, and
  being a closed mathematical statement it has no `example`.

  Why `⇒` holds (the proof is `BlsProto.coreVerify_sem` and `BlsAbs.abs_verify_iff`): `Verify = True` forces a canonical
  96-byte candidate that decodes into the `r`-torsion (C04 accept set, C11 canonicity, C17 subgroup check); the pairing
  equation then gives `e(S − sk·H(m), G1) = 1`, hence `S = sk·H(m)` by ND; equal points have equal encodings (C11).
  No group-order hypothesis (HB2) is used.
-/
import PyEcc.Lemmas.BlsProtoMiller
import PyEcc.Props.C09
import PyEcc.Props.C04_Total

set_option linter.unusedSectionVars false

namespace PyEcc.C02
open PyEcc PyEcc.Gen PyEcc.Gen.Consts PyEcc.Transfer PyEcc.BlsSem PyEcc.BlsProto

variable [DecidableEq K2] {GT : Type} [CommGroup GT] {e : E2 → E1 → GT}

/-- **`Verify` accepts exactly the canonical signature.**  For every suite, hash function, `int` secret
    key `1 ≤ sk < r` with `pk = SkToPk(sk)`, message `m` and candidate byte string `cand` (of any length: both
    sides force `cand.length = 96`):
    `Verify(pk, m, cand) = True  ↔  Sign(sk, m) = cand`. -/
theorem verify_iff (pf : PairingFacts e) (H : HashFn) (s : Suite) (sk : ℤ)
    (hsk : 1 ≤ sk ∧ sk < (curveOrder : ℤ)) (m pk cand : Bytes) (hpk : skToPk (.int sk) = .ok pk) :
    verify H s pk m cand = .returned true ↔ sign H s (.int sk) m = .ok cand := by
  rw [verify_eq, coreVerify_iff_coreSign pf H s (validPrivkey_int hsk) hpk, ← sign_eq_coreSign H s hpk]

/-- **`PopVerify` accepts exactly the canonical proof**: `PopVerify(pk, cand) = True ↔ PopProve(sk) = cand`. -/
theorem popVerify_iff (pf : PairingFacts e) (H : HashFn) (sk : ℤ)
    (hsk : 1 ≤ sk ∧ sk < (curveOrder : ℤ)) (pk cand : Bytes) (hpk : skToPk (.int sk) = .ok pk) :
    popVerify H pk cand = .returned true ↔ popProve H (.int sk) = .ok cand := by
  unfold popVerify
  rw [coreVerify_iff_coreSign pf H .pop (validPrivkey_int hsk) hpk, ← popProve_eq_coreSign H hpk]

/-! ### corollaries: every class of wrong candidate -/

/-- a verification that does not return `True` returns `False`: it never raises (`Props/C04_Total.lean`) -/
theorem false_of_not_true {o : Outcome} (ht : ∃ b, o = .returned b) (h : o ≠ .returned true) :
    o = .returned false := by
  obtain ⟨b, rfl⟩ := ht
  cases b
  · rfl
  · exact (h rfl).elim

/-- **Any string other than the canonical signature is rejected** — single-bit flips anywhere (data or
    flag bits), truncations, extensions, re-encodings: if `Sign(sk, m)` returned `sig` and `cand ≠ sig`
    then `Verify(pk, m, cand)` returns `False` (it does not raise). -/
theorem verify_rejects_ne (pf : PairingFacts e) (H : HashFn) (s : Suite) (sk : ℤ)
    (hsk : 1 ≤ sk ∧ sk < (curveOrder : ℤ)) (m pk sig cand : Bytes) (hpk : skToPk (.int sk) = .ok pk)
    (hsig : sign H s (.int sk) m = .ok sig) (hne : cand ≠ sig) :
    verify H s pk m cand = .returned false := by
  apply false_of_not_true (C04.verify_total' H s pk m cand)
  rw [Ne, verify_iff pf H s sk hsk m pk cand hpk, hsig]
  intro h; cases h; exact hne rfl

/-- same for possession proofs -/
theorem popVerify_rejects_ne (pf : PairingFacts e) (H : HashFn) (sk : ℤ)
    (hsk : 1 ≤ sk ∧ sk < (curveOrder : ℤ)) (pk proof cand : Bytes) (hpk : skToPk (.int sk) = .ok pk)
    (hproof : popProve H (.int sk) = .ok proof) (hne : cand ≠ proof) :
    popVerify H pk cand = .returned false := by
  apply false_of_not_true (C04.popVerify_total' H pk cand)
  rw [Ne, popVerify_iff pf H sk hsk pk cand hpk, hproof]
  intro h; cases h; exact hne rfl

/-! Candidates given as points.  `coreVerify_enc_iff` reads `Verify` on the encoding of a point as `BlsAbs.verify`; each
    theorem below is then the theorem of `Lemmas/BlsAbstract.lean` about that candidate. -/

/-- **`−S` is rejected.**  With `mp = hash_to_G2(m')` (`m'` the suite-augmented message) not the identity,
    the encoding of `neg(multiply(mp, sk))` makes `Verify` return `False`. -/
theorem verify_rejects_neg (pf : PairingFacts e) (H : HashFn) (s : Suite) (sk : ℤ)
    (hsk : 1 ≤ sk ∧ sk < (curveOrder : ℤ)) (m pk cand : Bytes) (hpk : skToPk (.int sk) = .ok pk)
    (mp : G2Pt) (hmp : hashToG2 H (vmsg s pk m) s.dst = .ok mp) (hinf : OptBls.is_inf mp = false)
    (hc : g2ToSignature (OptBls.neg (OptBls.multiply mp sk.toNat)) = .ok cand) :
    verify H s pk m cand = .returned false := by
  have hv := validPrivkey_int hsk
  obtain ⟨h0, hk⟩ := validPrivkey_range hv
  have rh := hashG2_rep pf hmp
  have hH := hashG2_torsion pf H s.dst
  apply false_of_not_true (C04.verify_total' H s pk m cand)
  rw [Ne, verify_eq, coreVerify_enc_iff pf H s hv hpk hmp ((g2ToSignature_eq_iff (rh.multiply _).neg _).mp hc)]
  exact fun h => BlsAbs.nsmul_ne_zero_of_lt prime_r h0 hk (hH _) (rh.ne_zero hinf)
    ((BlsAbs.abs_verify_neg_iff pf.isPairing prime_r r_ne_two g1_torsion hH _ _).mp h.2)

/-- **`2S` is rejected** (hash point not the identity). -/
theorem verify_rejects_double (pf : PairingFacts e) (H : HashFn) (s : Suite) (sk : ℤ)
    (hsk : 1 ≤ sk ∧ sk < (curveOrder : ℤ)) (m pk cand : Bytes) (hpk : skToPk (.int sk) = .ok pk)
    (mp : G2Pt) (hmp : hashToG2 H (vmsg s pk m) s.dst = .ok mp) (hinf : OptBls.is_inf mp = false)
    (hc : g2ToSignature (OptBls.double (OptBls.multiply mp sk.toNat)) = .ok cand) :
    verify H s pk m cand = .returned false := by
  have hv := validPrivkey_int hsk
  obtain ⟨h0, hk⟩ := validPrivkey_range hv
  have rh := hashG2_rep pf hmp
  have hH := hashG2_torsion pf H s.dst
  apply false_of_not_true (C04.verify_total' H s pk m cand)
  rw [Ne, verify_eq, coreVerify_enc_iff pf H s hv hpk hmp ((g2ToSignature_eq_iff (rh.multiply _).double _).mp hc),
    ← two_nsmul]
  exact fun h => BlsAbs.nsmul_ne_zero_of_lt prime_r h0 hk (hH _) (rh.ne_zero hinf)
    ((BlsAbs.abs_verify_double_iff pf.isPairing g1_torsion hH _ _).mp h.2)

/-- **`S + T` is rejected for every point `T ≠ ∞` of the twist curve** (a well-formed triple `T` passing
    `is_on_curve`): whether `T` lies in the `r`-torsion (then the pairing equation fails) or not (e.g.
    cofactor torsion: then the candidate fails `subgroup_check`). -/
theorem verify_rejects_add (pf : PairingFacts e) (H : HashFn) (s : Suite) (sk : ℤ)
    (hsk : 1 ≤ sk ∧ sk < (curveOrder : ℤ)) (m pk cand : Bytes) (hpk : skToPk (.int sk) = .ok pk)
    (mp : G2Pt) (hmp : hashToG2 H (vmsg s pk m) s.dst = .ok mp) (T : G2Pt) (cT : CanonT T)
    (honT : OptBls.is_on_curve T blsB2 = true) (hT : OptBls.is_inf T = false)
    (hc : g2ToSignature (OptBls.add (OptBls.multiply mp sk.toNat) T) = .ok cand) :
    verify H s pk m cand = .returned false := by
  have rh := hashG2_rep pf hmp
  have hH := hashG2_torsion pf H s.dst
  obtain ⟨t, rt⟩ := repG2_of_on_curve cT honT
  apply false_of_not_true (C04.verify_total' H s pk m cand)
  rw [Ne, verify_eq, coreVerify_enc_iff pf H s (validPrivkey_int hsk) hpk hmp
    ((g2ToSignature_eq_iff ((rh.multiply _).add rt) _).mp hc), smul_add, nsmul_torsion (hH _) _, zero_add]
  exact fun h => rt.ne_zero hT ((BlsAbs.abs_verify_add_iff pf.isPairing g1_torsion hH _ _ h.1).mp h.2)

/-- **The identity encoding** `0xc0 00 … 00` (what `G2_to_signature(Z2)` returns) is accepted iff the hash
    point itself is the identity — so it is rejected for every message whose hash is not `∞`. -/
theorem verify_identity_iff (pf : PairingFacts e) (H : HashFn) (s : Suite) (sk : ℤ)
    (hsk : 1 ≤ sk ∧ sk < (curveOrder : ℤ)) (m pk cand : Bytes) (hpk : skToPk (.int sk) = .ok pk)
    (mp : G2Pt) (hmp : hashToG2 H (vmsg s pk m) s.dst = .ok mp) (hc : g2ToSignature Z2 = .ok cand) :
    verify H s pk m cand = .returned true ↔ OptBls.is_inf mp = true := by
  have hv := validPrivkey_int hsk
  obtain ⟨h0, hk⟩ := validPrivkey_range hv
  have hH := hashG2_torsion pf H s.dst
  rw [verify_eq, coreVerify_enc_iff pf H s hv hpk hmp ((g2ToSignature_eq_iff .zero _).mp hc),
    and_iff_right (smul_zero _), BlsAbs.abs_verify_zero_iff pf.isPairing g1_torsion hH, (hashG2_rep pf hmp).is_inf_iff]
  exact ⟨fun h => by_contra fun hne => BlsAbs.nsmul_ne_zero_of_lt prime_r h0 hk (hH _) hne h,
    fun h => by rw [BlsAbs.sign, h, smul_zero]⟩

/-- **Other key** (suites that hash the bare message: basic and POP).  A signature of `m` under `sk`,
    presented with the public key of `sk'`, is accepted iff `sk = sk'` — provided the hash point of `m` is
    not the identity. -/
theorem verify_other_key_iff (pf : PairingFacts e) (H : HashFn) (s : Suite) (hs : s ≠ .aug) (sk sk' : ℤ)
    (hsk : 1 ≤ sk ∧ sk < (curveOrder : ℤ)) (hsk' : 1 ≤ sk' ∧ sk' < (curveOrder : ℤ))
    (m pk pk' sig : Bytes) (hpk : skToPk (.int sk) = .ok pk) (hpk' : skToPk (.int sk') = .ok pk')
    (mp : G2Pt) (hmp : hashToG2 H m s.dst = .ok mp) (hinf : OptBls.is_inf mp = false)
    (hsig : sign H s (.int sk) m = .ok sig) :
    verify H s pk' m sig = .returned true ↔ sk = sk' := by
  have hm : ∀ k, vmsg s k m = m := fun k => by cases s <;> first | rfl | exact (hs rfl).elim
  have hv := validPrivkey_int hsk
  have hv' := validPrivkey_int hsk'
  have rh := hashG2_rep pf hmp
  have hH := hashG2_torsion pf H s.dst
  rw [sign_eq_coreSign H s hpk, hm] at hsig
  rw [verify_eq, hm, coreVerify_enc_iff pf H s hv' hpk' hmp ((coreSign_enc hv hmp rh sig).mp hsig),
    and_iff_right (nsmul_torsion (hH m) _)]
  refine (BlsAbs.abs_verify_other_key_iff pf.isPairing prime_r g1_torsion hH _ _ m (rh.ne_zero hinf)).trans ?_
  rw [Nat.ModEq, Nat.mod_eq_of_lt (validPrivkey_range hv).2, Nat.mod_eq_of_lt (validPrivkey_range hv').2]
  omega

/-- **Cross acceptance, general form** (other key and/or other message, other suite, signature used as
    possession proof, …).  `sig = Sign_s(sk, m)` presented to `Verify_{s'}(pk', m', ·)` is accepted iff
    the two signature POINTS coincide: `multiply(H_s(m), sk) = multiply(H_{s'}(m'), sk')` as projective
    points (`eq`).  Whether two hash points coincide is the random-oracle question and stays a
    hypothesis of the corollaries below. -/
theorem verify_cross_iff (pf : PairingFacts e) (H : HashFn) (s s' : Suite) (sk sk' : ℤ)
    (hsk : 1 ≤ sk ∧ sk < (curveOrder : ℤ)) (hsk' : 1 ≤ sk' ∧ sk' < (curveOrder : ℤ))
    (m m' pk pk' sig : Bytes) (hpk : skToPk (.int sk) = .ok pk) (hpk' : skToPk (.int sk') = .ok pk')
    (mp mp' : G2Pt) (hmp : hashToG2 H (vmsg s pk m) s.dst = .ok mp)
    (hmp' : hashToG2 H (vmsg s' pk' m') s'.dst = .ok mp') (hsig : sign H s (.int sk) m = .ok sig) :
    verify H s' pk' m' sig = .returned true ↔
      OptBls.eq (OptBls.multiply mp sk.toNat) (OptBls.multiply mp' sk'.toNat) = true := by
  have rh := hashG2_rep pf hmp
  have rh' := hashG2_rep pf hmp'
  rw [sign_eq_coreSign H s hpk] at hsig
  have enc := (coreSign_enc (validPrivkey_int hsk) hmp rh sig).mp hsig
  rw [verify_eq, coreVerify_iff_coreSign pf H s' (validPrivkey_int hsk') hpk', coreSign_enc (validPrivkey_int hsk') hmp' rh',
    (rh.multiply _).eq_iff (rh'.multiply _)]
  exact ⟨fun h => enc.point_unique h, fun h => h ▸ enc⟩

/-- **Other message / other suite, same key.**  `Sign_s(sk, m)` presented to `Verify_{s'}(pk, m', ·)` is
    accepted iff the two hash points are equal (`eq`); so under the hash-inequality hypothesis
    `eq(H_s(m), H_{s'}(m')) = False` it is rejected. -/
theorem verify_other_msg_iff (pf : PairingFacts e) (H : HashFn) (s s' : Suite) (sk : ℤ)
    (hsk : 1 ≤ sk ∧ sk < (curveOrder : ℤ)) (m m' pk sig : Bytes) (hpk : skToPk (.int sk) = .ok pk)
    (mp mp' : G2Pt) (hmp : hashToG2 H (vmsg s pk m) s.dst = .ok mp)
    (hmp' : hashToG2 H (vmsg s' pk m') s'.dst = .ok mp') (hsig : sign H s (.int sk) m = .ok sig) :
    verify H s' pk m' sig = .returned true ↔ OptBls.eq mp mp' = true := by
  rw [sign_eq_coreSign H s hpk] at hsig
  rw [verify_eq]
  exact coreVerify_other_msg_iff pf H s' (validPrivkey_int hsk) hpk hmp hmp' hsig

/-- rejection form of `verify_other_msg_iff`: different hash points ⇒ `Verify` returns `False` -/
theorem verify_rejects_other_msg (pf : PairingFacts e) (H : HashFn) (s s' : Suite) (sk : ℤ)
    (hsk : 1 ≤ sk ∧ sk < (curveOrder : ℤ)) (m m' pk sig : Bytes) (hpk : skToPk (.int sk) = .ok pk)
    (mp mp' : G2Pt) (hmp : hashToG2 H (vmsg s pk m) s.dst = .ok mp)
    (hmp' : hashToG2 H (vmsg s' pk m') s'.dst = .ok mp') (hsig : sign H s (.int sk) m = .ok sig)
    (hne : OptBls.eq mp mp' = false) : verify H s' pk m' sig = .returned false := by
  apply false_of_not_true (C04.verify_total' H s' pk m' sig)
  rw [Ne, verify_other_msg_iff pf H s s' sk hsk m m' pk sig hpk mp mp' hmp hmp' hsig, hne]
  exact Bool.false_ne_true

/-- **A signature is not a possession proof** (POP suite): `Sign(sk, m)` presented to `PopVerify(pk, ·)` is
    accepted iff `hash_to_G2(m, DST) = hash_to_G2(pk, POP_TAG)` as points. -/
theorem popVerify_of_sig_iff (pf : PairingFacts e) (H : HashFn) (s : Suite) (sk : ℤ)
    (hsk : 1 ≤ sk ∧ sk < (curveOrder : ℤ)) (m pk sig : Bytes) (hpk : skToPk (.int sk) = .ok pk)
    (mp mp' : G2Pt) (hmp : hashToG2 H (vmsg s pk m) s.dst = .ok mp)
    (hmp' : hashToG2 H pk popTag = .ok mp') (hsig : sign H s (.int sk) m = .ok sig) :
    popVerify H pk sig = .returned true ↔ OptBls.eq mp mp' = true := by
  rw [sign_eq_coreSign H s hpk] at hsig
  exact coreVerify_other_msg_iff pf H .pop (validPrivkey_int hsk) hpk hmp hmp' hsig

/-- **A possession proof is not a signature**: `PopProve(sk)` presented to `Verify_s(pk, m, ·)` is
    accepted iff `hash_to_G2(pk, POP_TAG) = hash_to_G2(m', DST_s)` as points. -/
theorem verify_of_proof_iff (pf : PairingFacts e) (H : HashFn) (s : Suite) (sk : ℤ)
    (hsk : 1 ≤ sk ∧ sk < (curveOrder : ℤ)) (m pk proof : Bytes) (hpk : skToPk (.int sk) = .ok pk)
    (mp mp' : G2Pt) (hmp : hashToG2 H pk popTag = .ok mp)
    (hmp' : hashToG2 H (vmsg s pk m) s.dst = .ok mp') (hproof : popProve H (.int sk) = .ok proof) :
    verify H s pk m proof = .returned true ↔ OptBls.eq mp mp' = true := by
  rw [popProve_eq_coreSign H hpk] at hproof
  rw [verify_eq]
  exact coreVerify_other_msg_iff pf H s (validPrivkey_int hsk) hpk hmp hmp' hproof

/-! ### under the smaller hypothesis bundle `PairingValueFacts` (`Lemmas/BlsProtoMiller.lean`) -/

/-- `verify_iff` under `PairingValueFacts` (fields: HB1, ND, HB1′ per pairing call, HT6); every other
    theorem of this file transfers the same way through `PairingValueFacts.toPairingFacts`. -/
theorem verify_iff' {e : E2 → E1 → K12ˣ} (pv : PairingValueFacts e) (H : HashFn) (s : Suite) (sk : ℤ)
    (hsk : 1 ≤ sk ∧ sk < (curveOrder : ℤ)) (m pk cand : Bytes) (hpk : skToPk (.int sk) = .ok pk) :
    verify H s pk m cand = .returned true ↔ sign H s (.int sk) m = .ok cand :=
  verify_iff pv.toPairingFacts H s sk hsk m pk cand hpk

/-- `popVerify_iff` under `PairingValueFacts`. -/
theorem popVerify_iff' {e : E2 → E1 → K12ˣ} (pv : PairingValueFacts e) (H : HashFn) (sk : ℤ)
    (hsk : 1 ≤ sk ∧ sk < (curveOrder : ℤ)) (pk cand : Bytes) (hpk : skToPk (.int sk) = .ok pk) :
    popVerify H pk cand = .returned true ↔ popProve H (.int sk) = .ok cand :=
  popVerify_iff pv.toPairingFacts H sk hsk pk cand hpk

/-! ### non-vacuity of the key hypotheses -/

/-- `sk = 1` is a valid key and `SkToPk(1)` returns the compressed generator (kernel evaluation, C09);
    the identity candidate of `verify_identity_iff` exists: `G2_to_signature(Z2)` returns `0xc0 00 … 00`. -/
example : (1 ≤ (1 : ℤ) ∧ (1 : ℤ) < (curveOrder : ℤ)) ∧ skToPk (.int 1) = .ok C09.compressedG1 ∧
    ∃ cand, g2ToSignature Z2 = .ok cand :=
  ⟨by decide, C09.skToPk_one, by
    obtain ⟨bs, h, _⟩ := C11.signatureToG2_g2ToSignature_roundtrip Z2 (by decide) (by decide)
    exact ⟨bs, h⟩⟩

end PyEcc.C02
