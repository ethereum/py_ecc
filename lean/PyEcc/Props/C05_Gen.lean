/-
  PyEcc.Props.C05_Gen — property C05 (pairings: unit on ∞, refusal of off-curve input, values are r-th roots of unity,
  negation inverts) restated about the GENERATED code.  Every py_ecc function in a statement below is a `PyEcc.Gen.*`
  definition, i.e. Lean code the translator produced from the Python source of this run:
    `Gen.ExtraPairing.{OptBls,OptBn,RefBls,RefBn}.pairing`      the four `pairing` functions
    `Gen.ExtraMiller.{…}.miller_loop`                            the four `miller_loop` functions
    `Gen.ExtraHashCurve.{…}.twist`, `.cast_point_to_fq12`        the helpers they call
    `Gen.{OptBls,OptBn,RefBls,RefBn}.is_on_curve / neg / multiply / is_inf / normalize`   the curve modules
    `Gen.ExtraCodec.subgroup_check`                              `py_ecc.bls.g2_primitives.subgroup_check`
  (points are tuples of the model field types `Fq p`, `Fqp v p mc`, whose arithmetic is tied to the generated field
  classes in `Props/TieFields*.lean` / `C08_Gen`, `C14_Gen`).
  Proofs: the tie theorems `Props/TiePairing.lean`, `TieMiller.lean`, `TieHashCurve.lean`, `TieCofactor.lean` composed
  with the model theorems of `Props/C05.lean`, `C05_Order.lean`, `C05_Neg.lean`, `C05_NegBn.lean`.

  NOT in this file: the bilinearity clause.  In `Props/C05.lean` it is the abstract derivation from the hypothesis
  `HB1` (no py_ecc function occurs in it); its code-level form (`ModelBilinearCode`) and non-degeneracy live in
  `Lemmas/ModelPairing.lean` / `PropsHeavy/C05_Nondeg*.lean`, which are heavy to build.  The restatement of the
  bilinearity hypothesis and of the scalar form `pairing(b·Q, a·P) == pairing(Q, P) ** (a·b)` on the generated functions
  is in the separate file `PropsHeavy/C05_GenBilinear.lean`.
-/
import PyEcc.Props.C05
import PyEcc.Props.C05_Order
import PyEcc.Props.C05_Neg
import PyEcc.Props.C05_NegBn
import PyEcc.Props.TiePairing
import PyEcc.Props.TieHashCurve
import PyEcc.Props.TieCofactor

set_option linter.unusedSectionVars false

namespace PyEcc.C05.Gen
open Polynomial PyEcc PyEcc.Gen.Consts PyEcc.Fqp PyEcc.FqpSem PyEcc.Transfer PyEcc.PairingSem PyEcc.MillerSem

/-! ## the generated `pairing` is built from the generated `miller_loop`, `twist`, `cast_point_to_fq12` -/

/-- optimized bls12_381 `pairing(Q, P, fe)`: `ValueError` when `Q` or `P` fails `is_on_curve`, `FQ12.one()` when a `z`
    coordinate is zero, otherwise the generated `miller_loop(Q, P, fe)`. -/
theorem pairing_optBls_unfold (Q : OBls2 × OBls2 × OBls2) (P : Fq blsP × Fq blsP × Fq blsP) (fe : Bool) :
    Gen.ExtraPairing.OptBls.pairing Q P fe =
      if Gen.OptBls.is_on_curve Q (⟨optimized_bls12_381_b2⟩ : OBls2) = false then .error .value
      else if Gen.OptBls.is_on_curve P (Fq.ofInt optimized_bls12_381_b : Fq blsP) = false then .error .value
      else if P.2.2 = 0 ∨ Q.2.2 = 0 then .ok 1
      else .ok (Gen.ExtraMiller.OptBls.miller_loop Q P fe) := by
  rw [Tie.pairing_optBls_eq, pairingOptBls_eq, Tie.miller_loop_optBls_eq]

/-- optimized bn128 `pairing(Q, P, fe)`: the same guards, then the generated
    `miller_loop(twist(Q), cast_point_to_fq12(P), fe)` with the generated `twist` and `cast_point_to_fq12`. -/
theorem pairing_optBn_unfold (Q : OBn2 × OBn2 × OBn2) (P : Fq bnP × Fq bnP × Fq bnP) (fe : Bool) :
    Gen.ExtraPairing.OptBn.pairing Q P fe =
      if Gen.OptBn.is_on_curve Q (⟨optimized_bn128_b2⟩ : OBn2) = false then .error .value
      else if Gen.OptBn.is_on_curve P (Fq.ofInt optimized_bn128_b : Fq bnP) = false then .error .value
      else if P.2.2 = 0 ∨ Q.2.2 = 0 then .ok 1
      else .ok (Gen.ExtraMiller.OptBn.miller_loop (Gen.ExtraHashCurve.OptBn.twist Q)
        (Gen.ExtraHashCurve.OptBn.cast_point_to_fq12 P) fe) := by
  rw [Tie.pairing_optBn_eq, pairingOptBn_eq, Tie.miller_loop_optBn_eq, Tie.twist_optbn_eq,
    Tie.cast_point_to_fq12_optbn_eq]

/-- reference bls12_381 `pairing(Q, P)`: `ValueError` when `Q` or `P` fails `is_on_curve`, otherwise the generated
    `miller_loop(twist(Q), cast_point_to_fq12(P))` (which returns `FQ12.one()` for `None`). -/
theorem pairing_refBls_unfold (Q : Option (RBls2 × RBls2)) (P : Option (Fq blsP × Fq blsP)) :
    Gen.ExtraPairing.RefBls.pairing Q P =
      if Gen.RefBls.is_on_curve Q (⟨bls12_381_b2⟩ : RBls2) = false then .error .value
      else if Gen.RefBls.is_on_curve P (Fq.ofInt bls12_381_b : Fq blsP) = false then .error .value
      else Gen.ExtraMiller.RefBls.miller_loop (Gen.ExtraHashCurve.RefBls.twist Q)
        (Gen.ExtraHashCurve.RefBls.cast_point_to_fq12 P) := by
  rw [Tie.pairing_refBls_eq, MillerSem.pairingRefBls_eq, Tie.miller_loop_refBls_eq, Tie.twist_refbls_eq,
    Tie.cast_point_to_fq12_refbls_eq]
  rfl

/-- reference bn128 `pairing(Q, P)`: the same with the bn128 functions. -/
theorem pairing_refBn_unfold (Q : Option (RBn2 × RBn2)) (P : Option (Fq bnP × Fq bnP)) :
    Gen.ExtraPairing.RefBn.pairing Q P =
      if Gen.RefBn.is_on_curve Q (⟨bn128_b2⟩ : RBn2) = false then .error .value
      else if Gen.RefBn.is_on_curve P (Fq.ofInt bn128_b : Fq bnP) = false then .error .value
      else Gen.ExtraMiller.RefBn.miller_loop (Gen.ExtraHashCurve.RefBn.twist Q)
        (Gen.ExtraHashCurve.RefBn.cast_point_to_fq12 P) := by
  rw [Tie.pairing_refBn_eq, MillerBnSem.pairingRefBn_eq, Tie.miller_loop_refBn_eq, Tie.twist_refbn_eq,
    Tie.cast_point_to_fq12_refbn_eq]
  rfl

/-! ## unit on ∞, refusal of off-curve arguments (unconditional, all four implementations) -/

/-- **Unit on ∞, left argument.**  Reference modules: the generated `pairing(None, P)` returns `FQ12.one()` for every
    `P` that passes `is_on_curve`.  Optimized modules: every triple `Q` with `z = 0` (ANY representative of infinity)
    paired with an on-curve `P` gives `FQ12.one()`, with and without final exponentiation. -/
theorem pairing_inf_left :
    (∀ P, Gen.RefBls.is_on_curve P (Fq.ofInt bls12_381_b : Fq blsP) = true →
      Gen.ExtraPairing.RefBls.pairing none P = .ok 1) ∧
    (∀ P, Gen.RefBn.is_on_curve P (Fq.ofInt bn128_b : Fq bnP) = true →
      Gen.ExtraPairing.RefBn.pairing none P = .ok 1) ∧
    (∀ Q P fe, Q.2.2 = 0 → Gen.OptBls.is_on_curve P (Fq.ofInt optimized_bls12_381_b : Fq blsP) = true →
      Gen.ExtraPairing.OptBls.pairing Q P fe = .ok 1) ∧
    (∀ Q P fe, Q.2.2 = 0 → Gen.OptBn.is_on_curve P (Fq.ofInt optimized_bn128_b : Fq bnP) = true →
      Gen.ExtraPairing.OptBn.pairing Q P fe = .ok 1) := by
  obtain ⟨h1, h2, h3, h4⟩ := C05.pairing_inf_left
  exact ⟨fun P h => by rw [Tie.pairing_refBls_eq]; exact h1 P h, fun P h => by rw [Tie.pairing_refBn_eq]; exact h2 P h,
    fun Q P fe hz h => by rw [Tie.pairing_optBls_eq]; exact h3 Q P fe hz h,
    fun Q P fe hz h => by rw [Tie.pairing_optBn_eq]; exact h4 Q P fe hz h⟩

/-- **Unit on ∞, right argument**, all four generated `pairing` functions. -/
theorem pairing_inf_right :
    (∀ Q, Gen.RefBls.is_on_curve Q (⟨bls12_381_b2⟩ : RBls2) = true →
      Gen.ExtraPairing.RefBls.pairing Q none = .ok 1) ∧
    (∀ Q, Gen.RefBn.is_on_curve Q (⟨bn128_b2⟩ : RBn2) = true →
      Gen.ExtraPairing.RefBn.pairing Q none = .ok 1) ∧
    (∀ Q P fe, P.2.2 = 0 → Gen.OptBls.is_on_curve Q (⟨optimized_bls12_381_b2⟩ : OBls2) = true →
      Gen.ExtraPairing.OptBls.pairing Q P fe = .ok 1) ∧
    (∀ Q P fe, P.2.2 = 0 → Gen.OptBn.is_on_curve Q (⟨optimized_bn128_b2⟩ : OBn2) = true →
      Gen.ExtraPairing.OptBn.pairing Q P fe = .ok 1) := by
  obtain ⟨h1, h2, h3, h4⟩ := C05.pairing_inf_right
  exact ⟨fun Q h => by rw [Tie.pairing_refBls_eq]; exact h1 Q h, fun Q h => by rw [Tie.pairing_refBn_eq]; exact h2 Q h,
    fun Q P fe hz h => by rw [Tie.pairing_optBls_eq]; exact h3 Q P fe hz h,
    fun Q P fe hz h => by rw [Tie.pairing_optBn_eq]; exact h4 Q P fe hz h⟩

/-- **Refusal of off-curve arguments**, all four generated `pairing` functions: if either argument fails the module's
    `is_on_curve`, `pairing` raises `ValueError` — the arguments are refused instead of being paired. -/
theorem pairing_offcurve :
    (∀ Q P, (Gen.RefBls.is_on_curve Q (⟨bls12_381_b2⟩ : RBls2) = false ∨
             Gen.RefBls.is_on_curve P (Fq.ofInt bls12_381_b : Fq blsP) = false) →
      Gen.ExtraPairing.RefBls.pairing Q P = .error .value) ∧
    (∀ Q P, (Gen.RefBn.is_on_curve Q (⟨bn128_b2⟩ : RBn2) = false ∨
             Gen.RefBn.is_on_curve P (Fq.ofInt bn128_b : Fq bnP) = false) →
      Gen.ExtraPairing.RefBn.pairing Q P = .error .value) ∧
    (∀ Q P fe, (Gen.OptBls.is_on_curve Q (⟨optimized_bls12_381_b2⟩ : OBls2) = false ∨
                Gen.OptBls.is_on_curve P (Fq.ofInt optimized_bls12_381_b : Fq blsP) = false) →
      Gen.ExtraPairing.OptBls.pairing Q P fe = .error .value) ∧
    (∀ Q P fe, (Gen.OptBn.is_on_curve Q (⟨optimized_bn128_b2⟩ : OBn2) = false ∨
                Gen.OptBn.is_on_curve P (Fq.ofInt optimized_bn128_b : Fq bnP) = false) →
      Gen.ExtraPairing.OptBn.pairing Q P fe = .error .value) := by
  obtain ⟨h1, h2, h3, h4⟩ := C05.pairing_offcurve
  exact ⟨fun Q P h => by rw [Tie.pairing_refBls_eq]; exact h1 Q P h,
    fun Q P h => by rw [Tie.pairing_refBn_eq]; exact h2 Q P h,
    fun Q P fe h => by rw [Tie.pairing_optBls_eq]; exact h3 Q P fe h,
    fun Q P fe h => by rw [Tie.pairing_optBn_eq]; exact h4 Q P fe h⟩

/-- **The optimized pairings raise exactly on off-curve input**: the generated optimized bls12_381 and bn128
    `pairing(Q, P, fe)` raise an exception IFF `Q` or `P` fails `is_on_curve`, and the exception is then `ValueError`
    (there is no other way for them to fail). -/
theorem pairing_opt_error_iff :
    (∀ (Q : OBls2 × OBls2 × OBls2) (P : Fq blsP × Fq blsP × Fq blsP) (fe : Bool) (e : PyErr),
      Gen.ExtraPairing.OptBls.pairing Q P fe = .error e ↔
        (Gen.OptBls.is_on_curve Q (⟨optimized_bls12_381_b2⟩ : OBls2) = false ∨
         Gen.OptBls.is_on_curve P (Fq.ofInt optimized_bls12_381_b) = false) ∧ e = .value) ∧
    (∀ (Q : OBn2 × OBn2 × OBn2) (P : Fq bnP × Fq bnP × Fq bnP) (fe : Bool) (e : PyErr),
      Gen.ExtraPairing.OptBn.pairing Q P fe = .error e ↔
        (Gen.OptBn.is_on_curve Q (⟨optimized_bn128_b2⟩ : OBn2) = false ∨
         Gen.OptBn.is_on_curve P (Fq.ofInt optimized_bn128_b) = false) ∧ e = .value) :=
  ⟨fun Q P fe e => by rw [Tie.pairing_optBls_eq]; exact C05.pairingOptBls_error_iff Q P fe e,
   fun Q P fe e => by rw [Tie.pairing_optBn_eq]; exact C05.pairingOptBn_error_iff Q P fe e⟩

/-! ## every pairing value is an `r`-th root of unity (unconditional, all four implementations) -/

/-- **`pairing(Q, P) ** curve_order == FQ12.one()`**: every value `v` returned by any of the four generated `pairing`
    functions (on ANY arguments on which it returns) satisfies `v ** curve_order == FQ12.one()` as FQ12 coefficient
    lists, or `v == FQ12.zero()` (the alternative is excluded for subgroup arguments below). -/
theorem pairing_pow_r :
    (∀ Q P v, Gen.ExtraPairing.OptBls.pairing Q P true = .ok v → v ^ optimized_bls12_381_curve_order = 1 ∨ v = 0) ∧
    (∀ Q P v, Gen.ExtraPairing.OptBn.pairing Q P true = .ok v → v ^ optimized_bn128_curve_order = 1 ∨ v = 0) ∧
    (∀ Q P v, Gen.ExtraPairing.RefBls.pairing Q P = .ok v → v ^ bls12_381_curve_order = 1 ∨ v = 0) ∧
    (∀ Q P v, Gen.ExtraPairing.RefBn.pairing Q P = .ok v → v ^ bn128_curve_order = 1 ∨ v = 0) :=
  ⟨fun Q P v h => C05N.pairingOptBls_pow_r Q P v (by rwa [Tie.pairing_optBls_eq] at h),
   fun Q P v h => C05N.pairingOptBn_pow_r Q P v (by rwa [Tie.pairing_optBn_eq] at h),
   fun Q P v h => C05N.pairingRefBls_pow_r Q P v (by rwa [Tie.pairing_refBls_eq] at h),
   fun Q P v h => C05N.pairingRefBn_pow_r Q P v (by rwa [Tie.pairing_refBn_eq] at h)⟩

/-- **Order exactly `r`**: a value `v` returned by any of the four generated `pairing` functions that is neither
    `FQ12.one()` nor `FQ12.zero()` has multiplicative order exactly `curve_order` in the field
    `FQ12 = Fp[w]/(modulus)` (`toQ v`: the element of the quotient field denoted by the coefficient list). -/
theorem pairing_orderOf :
    (∀ Q P v, Gen.ExtraPairing.OptBls.pairing Q P true = .ok v → v ≠ 1 → v ≠ 0 →
      orderOf (toQ v) = optimized_bls12_381_curve_order) ∧
    (∀ Q P v, Gen.ExtraPairing.OptBn.pairing Q P true = .ok v → v ≠ 1 → v ≠ 0 →
      orderOf (toQ v) = optimized_bn128_curve_order) ∧
    (∀ Q P v, Gen.ExtraPairing.RefBls.pairing Q P = .ok v → v ≠ 1 → v ≠ 0 →
      orderOf (toQ v) = bls12_381_curve_order) ∧
    (∀ Q P v, Gen.ExtraPairing.RefBn.pairing Q P = .ok v → v ≠ 1 → v ≠ 0 →
      orderOf (toQ v) = bn128_curve_order) :=
  ⟨fun Q P v h => C05N.pairingOptBls_orderOf Q P v (by rwa [Tie.pairing_optBls_eq] at h),
   fun Q P v h => C05N.pairingOptBn_orderOf Q P v (by rwa [Tie.pairing_optBn_eq] at h),
   fun Q P v h => C05N.pairingRefBls_orderOf Q P v (by rwa [Tie.pairing_refBls_eq] at h),
   fun Q P v h => C05N.pairingRefBn_orderOf Q P v (by rwa [Tie.pairing_refBn_eq] at h)⟩

/-! ## negating either argument inverts the value (unconditional — no bilinearity hypothesis) -/

/-- **Negation inverts the pairing, optimized bls12_381.**  For every reduced FQ2 triple `Q` (`CanonT`: coefficients in
    `[0, p)`) on the twist curve that passes the generated `subgroup_check` and every FQ triple `P` on the G1 curve (ANY
    projective representatives; `P` need not be in the subgroup; ∞ allowed): the generated `pairing(Q, P)`,
    `pairing(Q, neg(P))`, `pairing(neg(Q), P)` all return, with values `v`, `v'`, `v''` such that
    `v * v' == FQ12.one()` and `v * v'' == FQ12.one()`; `v` is never `FQ12.zero()`, so `v ** curve_order == FQ12.one()`
    with no exceptional case, and if `v ≠ 1` its order is exactly `curve_order`. -/
theorem pairing_neg_optBls (Q : OBls2 × OBls2 × OBls2) (P : Fq blsP × Fq blsP × Fq blsP) (cQ : CanonT Q)
    (honQ : Gen.OptBls.is_on_curve Q blsB2 = true)
    (honP : Gen.OptBls.is_on_curve P (Fq.ofInt optimized_bls12_381_b : Fq blsP) = true)
    (hsub : Gen.ExtraCodec.subgroup_check Q = true) :
    ∃ v v' v'' : OBls12, Gen.ExtraPairing.OptBls.pairing Q P true = .ok v ∧
      Gen.ExtraPairing.OptBls.pairing Q (Gen.OptBls.neg P) true = .ok v' ∧
      Gen.ExtraPairing.OptBls.pairing (Gen.OptBls.neg Q) P true = .ok v'' ∧
      v * v' = 1 ∧ v * v'' = 1 ∧ v ≠ 0 ∧ v ^ optimized_bls12_381_curve_order = 1 ∧
      (v ≠ 1 → orderOf (toQ v : K12) = optimized_bls12_381_curve_order) := by
  rw [Tie.subgroup_check_eq] at hsub
  simp only [Tie.pairing_optBls_eq]
  obtain ⟨v, v', e, e', h⟩ := C05Neg.pairing_neg_right Q P cQ honQ honP hsub
  obtain ⟨v1, v'', e1, e'', h'⟩ := C05Neg.pairing_neg_left Q P cQ honQ honP hsub
  obtain ⟨v2, e2, h0⟩ := C05Neg.pairing_ne_zero Q P cQ honQ honP hsub
  obtain ⟨v3, e3, hr, ho⟩ := C05Neg.pairing_pow_r Q P cQ honQ honP hsub
  rw [e] at e1 e2 e3; cases e1; cases e2; cases e3
  exact ⟨v, v', v'', e, e', e'', h, h', h0, hr, ho⟩

/-- **The Miller-loop form** (no guards), generated optimized bls12_381 `miller_loop`: for a reduced finite on-curve
    `Q` passing `subgroup_check` and a finite on-curve `P`,
    `miller_loop(Q, P) * miller_loop(Q, neg(P)) == FQ12.one()` (both with `final_exponentiate=True`). -/
theorem miller_loop_neg_optBls {Q : OBls2 × OBls2 × OBls2} {P : Fq blsP × Fq blsP × Fq blsP} (cQ : CanonT Q)
    (hQz : Q.2.2 ≠ 0) (hPz : P.2.2 ≠ 0) (honQ : Gen.OptBls.is_on_curve Q blsB2 = true)
    (hsub : Gen.ExtraCodec.subgroup_check Q = true)
    (honP : Gen.OptBls.is_on_curve P (Fq.ofInt optimized_bls12_381_b : Fq blsP) = true) :
    Gen.ExtraMiller.OptBls.miller_loop Q P true * Gen.ExtraMiller.OptBls.miller_loop Q (Gen.OptBls.neg P) true = 1 := by
  rw [Tie.subgroup_check_eq] at hsub
  rw [Tie.miller_loop_optBls_eq, Tie.miller_loop_optBls_eq]
  exact C05Neg.millerLoop_neg_right cQ hQz hPz (C12M.millerRegular_of_subgroup cQ honQ hQz hsub) honP

/-- **Negation inverts the pairing, reference bls12_381.**  Let `q : Optional[(FQ2, FQ2)]` (reduced coefficients) and
    `p : Optional[(FQ, FQ)]` be the reference-module points of which the triples `Q`, `P` are projective representatives
    (`hQ`, `hP`; e.g. `q = normalize(Q)`), `Q`, `P` on their curves and `Q` passing `subgroup_check`.  Then the generated
    reference `pairing(q, p)`, `pairing(q, neg(p))`, `pairing(neg(q), p)` all return, with values `u`, `u'`, `u''` such
    that `u * u' == FQ12.one()` and `u * u'' == FQ12.one()`. -/
theorem pairing_neg_refBls [DecidableEq K2] (Q : OBls2 × OBls2 × OBls2) (P : Fq blsP × Fq blsP × Fq blsP)
    (q : Option (RBls2 × RBls2)) (p : Option (Fq blsP × Fq blsP)) (cQ : CanonT Q) (cq : MillerSem.GoodO Canon q)
    (hQ : toAff (mapT toQ Q) = MillerSem.mapO (toQ : RBls2 → K2) q) (hP : toAff P = p)
    (honQ : Gen.OptBls.is_on_curve Q blsB2 = true)
    (honP : Gen.OptBls.is_on_curve P (Fq.ofInt optimized_bls12_381_b : Fq blsP) = true)
    (hsub : Gen.ExtraCodec.subgroup_check Q = true) :
    ∃ u u' u'' : RBls12, Gen.ExtraPairing.RefBls.pairing q p = .ok u ∧
      Gen.ExtraPairing.RefBls.pairing q (Gen.RefBls.neg p) = .ok u' ∧
      Gen.ExtraPairing.RefBls.pairing (Gen.RefBls.neg q) p = .ok u'' ∧ u * u' = 1 ∧ u * u'' = 1 := by
  rw [Tie.subgroup_check_eq] at hsub
  simp only [Tie.pairing_refBls_eq]
  obtain ⟨u, u', e, e', h⟩ := C05Neg.pairingRefBls_neg_right Q P q p cQ cq hQ hP honQ honP hsub
  obtain ⟨u1, u'', e1, e'', h'⟩ := C05Neg.pairingRefBls_neg_left Q P q p cQ cq hQ hP honQ honP hsub
  rw [e] at e1; cases e1
  exact ⟨u, u', u'', e, e', e'', h, h'⟩

/-- **Negation inverts the pairing, optimized bn128.**  For every reduced FQ2 triple `Q` on the twist curve with
    `multiply(Q, curve_order)` infinite and every FQ triple `P` on the G1 curve (any projective representatives; ∞
    allowed): the generated `pairing(Q, P)`, `pairing(Q, neg(P))`, `pairing(neg(Q), P)` all return, with values `v`,
    `v'`, `v''` such that `v * v' == FQ12.one()` and `v * v'' == FQ12.one()`, and `v` is not `FQ12.zero()` — hence
    `v ** curve_order == FQ12.one()`. -/
theorem pairing_neg_optBn (Q : OBn2 × OBn2 × OBn2) (P : Fq bnP × Fq bnP × Fq bnP) (cQ : CanonT Q)
    (honQ : Gen.OptBn.is_on_curve Q bnB2 = true)
    (honP : Gen.OptBn.is_on_curve P (Fq.ofInt optimized_bn128_b : Fq bnP) = true)
    (hsub : Gen.OptBn.is_inf (Gen.OptBn.multiply Q optimized_bn128_curve_order) = true) :
    ∃ v v' v'' : OBn12, Gen.ExtraPairing.OptBn.pairing Q P true = .ok v ∧
      Gen.ExtraPairing.OptBn.pairing Q (Gen.OptBn.neg P) true = .ok v' ∧
      Gen.ExtraPairing.OptBn.pairing (Gen.OptBn.neg Q) P true = .ok v'' ∧
      v * v' = 1 ∧ v * v'' = 1 ∧ v ≠ 0 ∧ v ^ optimized_bn128_curve_order = 1 := by
  simp only [Tie.pairing_optBn_eq]
  obtain ⟨v, v', e, e', h0, h⟩ := C05NegBn.pairingOptBn_neg_right Q P cQ honQ honP hsub
  obtain ⟨v1, v'', e1, e'', h'⟩ := C05NegBn.pairingOptBn_neg_left Q P cQ honQ honP hsub
  rw [e] at e1; cases e1
  exact ⟨v, v', v'', e, e', e'', h, h', h0, (C05N.pairingOptBn_pow_r Q P v e).resolve_right h0⟩

/-- **Negation inverts the pairing, reference bn128**: as for bls12_381, with `Q`, `P` projective representatives of the
    reference-module points `q`, `p` and `multiply(Q, curve_order)` infinite. -/
theorem pairing_neg_refBn [DecidableEq K2bn] (Q : OBn2 × OBn2 × OBn2) (P : Fq bnP × Fq bnP × Fq bnP)
    (q : Option (RBn2 × RBn2)) (p : Option (Fq bnP × Fq bnP)) (cQ : CanonT Q) (cq : Transfer.GoodO Canon q)
    (hQ : toAff (mapT toQ Q) = Transfer.mapO (toQ : RBn2 → K2bn) q) (hP : toAff P = p)
    (honQ : Gen.OptBn.is_on_curve Q bnB2 = true)
    (honP : Gen.OptBn.is_on_curve P (Fq.ofInt optimized_bn128_b : Fq bnP) = true)
    (hsub : Gen.OptBn.is_inf (Gen.OptBn.multiply Q optimized_bn128_curve_order) = true) :
    ∃ u u' u'' : RBn12, Gen.ExtraPairing.RefBn.pairing q p = .ok u ∧
      Gen.ExtraPairing.RefBn.pairing q (Gen.RefBn.neg p) = .ok u' ∧
      Gen.ExtraPairing.RefBn.pairing (Gen.RefBn.neg q) p = .ok u'' ∧ u * u' = 1 ∧ u * u'' = 1 := by
  simp only [Tie.pairing_refBn_eq]
  obtain ⟨u, u', e, e', h⟩ := C05NegBn.pairingRefBn_neg_right Q P q p cQ cq hQ hP honQ honP hsub
  obtain ⟨u1, u'', e1, e'', h'⟩ := C05NegBn.pairingRefBn_neg_left Q P q p cQ cq hQ hP honQ honP hsub
  rw [e] at e1; cases e1
  exact ⟨u, u', u'', e, e', e'', h, h'⟩

/-! ## non-vacuity: the hypotheses above are satisfied by concrete points -/

/-- the optimized generators pass the guards; `(1, 1, 0)` has `z = 0`; `(0, 0, 1)` and `(0, 0)` fail the guards -/
example : Gen.OptBls.is_on_curve blsG1 (Fq.ofInt optimized_bls12_381_b) = true ∧
    Gen.OptBls.is_on_curve blsG2 (⟨optimized_bls12_381_b2⟩ : OBls2) = true ∧
    ((1, 1, 0) : OBls2 × OBls2 × OBls2).2.2 = 0 ∧
    Gen.OptBls.is_on_curve ((0, 0, 1) : Fq blsP × Fq blsP × Fq blsP) (Fq.ofInt optimized_bls12_381_b) = false ∧
    Gen.RefBn.is_on_curve (some (0, 0) : Option (Fq bnP × Fq bnP)) (Fq.ofInt bn128_b) = false := by
  decide +kernel
/-- concrete instances on the generated code: `e(∞, G1) = 1`, `e(G2, ∞) = 1`, and `(0,0,1)` is refused -/
example : Gen.ExtraPairing.OptBls.pairing (1, 1, 0) blsG1 true = .ok 1 ∧
    Gen.ExtraPairing.OptBls.pairing blsG2 (1, 1, 0) false = .ok 1 ∧
    Gen.ExtraPairing.OptBls.pairing blsG2 (0, 0, 1) true = .error .value :=
  ⟨pairing_inf_left.2.2.1 _ _ _ rfl (by decide +kernel), pairing_inf_right.2.2.1 _ _ _ rfl (by decide +kernel),
   pairing_offcurve.2.2.1 _ _ _ (Or.inr (by decide +kernel))⟩
/-- the generators satisfy the hypotheses of `pairing_neg_optBls` / `miller_loop_neg_optBls` -/
example : CanonT blsG2 ∧ Gen.OptBls.is_on_curve blsG2 blsB2 = true
    ∧ Gen.OptBls.is_on_curve blsG1 (Fq.ofInt optimized_bls12_381_b : Fq blsP) = true
    ∧ Gen.ExtraCodec.subgroup_check blsG2 = true ∧ blsG2.2.2 ≠ 0 ∧ blsG1.2.2 ≠ 0 :=
  ⟨C17M.blsG2_passes.1, C17M.blsG2_passes.2.1, C07.Facts.bls_G1_model.1,
    by rw [Tie.subgroup_check_eq]; exact C17M.blsG2_passes.2.2, by decide, by decide⟩
/-- … and those of the reference form, with `q := refOfOptG2 G2` (`normalize(G2)`), `p := refOfOptG1 G1` -/
example [DecidableEq K2] : MillerSem.GoodO Canon (C12M.refOfOptG2 blsG2)
    ∧ toAff (mapT toQ blsG2) = MillerSem.mapO (toQ : RBls2 → K2) (C12M.refOfOptG2 blsG2)
    ∧ toAff blsG1 = C12M.refOfOptG1 blsG1 :=
  ⟨(C12M.refOfOptG2_repr C17M.blsG2_passes.1).1, (C12M.refOfOptG2_repr C17M.blsG2_passes.1).2,
    C12M.refOfOptG1_repr blsG1⟩
/-- the bn128 generators satisfy the hypotheses of `pairing_neg_optBn`, `pairing_neg_refBn` -/
example : CanonT bnG2 ∧ Gen.OptBn.is_on_curve bnG2 bnB2 = true
    ∧ Gen.OptBn.is_on_curve bnG1 (Fq.ofInt optimized_bn128_b : Fq bnP) = true
    ∧ Gen.OptBn.is_inf (Gen.OptBn.multiply bnG2 optimized_bn128_curve_order) = true
    ∧ Transfer.GoodO Canon (C12MB.refOfOptG2 bnG2)
    ∧ toAff (mapT toQ bnG2) = Transfer.mapO (toQ : RBn2 → K2bn) (C12MB.refOfOptG2 bnG2)
    ∧ toAff bnG1 = C12MB.refOfOptG1 bnG1 :=
  ⟨by decide +kernel, C07.Facts.bn_G2_opt.1, C07M.Bn.bnG1_facts.1, C07.Facts.bn_G2_opt.2.2,
    (C12MB.refOfOptG2_repr (Q := bnG2) (by decide +kernel)).1,
    (C12MB.refOfOptG2_repr (Q := bnG2) (by decide +kernel)).2,
    C12MB.refOfOptG1_repr bnG1⟩

end PyEcc.C05.Gen
