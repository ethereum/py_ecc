/-
  The BLS protocol theorems (C01, C02, C03) without the field `hash_good` (HT6) of `BlsProto.PairingFacts`.

  `hash_good` ("`hash_to_G2` returns a canonical point of the twist curve that passes `subgroup_check`") is the theorem
  `C17O.hash_good_proved` (`Props/C17_Order.lean`, from the group order `#E'(Fp²) = h₂·r`).  `PairingFacts' e` is
  `PairingFacts e` without it (fields: HB1, ND, HB1′ in product form), `PairingValueFacts' e` is `PairingValueFacts e`
  without it (HB1, ND, HB1′ per call); each is equivalent to the bundle it shortens (`pairingFacts'_iff`,
  `pairingValueFacts'_iff`), and the theorems of `Props/C0{1,2,3}_Proto.lean` are restated under them.  With NO pairing
  hypothesis at all, `Sign` / `PopProve` on a valid key always return (`sign_total`, `popProve_total`): the pairing is
  only needed for `Verify`.  ND is discharged in turn in `Lemmas/NdFromModel.lean`; the docstring of
  `BlsProto.PairingFacts` tells the whole chain.
-/
import PyEcc.Props.C17_Order
import PyEcc.Props.C01_Proto
import PyEcc.Props.C02_Proto
import PyEcc.Props.C03_Proto

set_option linter.unusedSectionVars false

namespace PyEcc.C17O
open PyEcc PyEcc.Gen PyEcc.Gen.Consts PyEcc.Fqp PyEcc.FqpSem PyEcc.Transfer PyEcc.BlsSem PyEcc.BlsProto

/-- **`PairingFacts' e`**: `BlsProto.PairingFacts e` without its field `hash_good` (HT6), which is the theorem
    `hash_good_proved`.  `e : E2 → E1 → GT` is "the reduced pairing" on Mathlib's point groups:
    * `add_left`, `add_right` — HB1, bilinearity on `r`-torsion points;
    * `nondeg` — ND, non-degeneracy against the generator `G1`;
    * `miller` — HB1′, the final exponentiation of the product of the model's Miller values is `1` exactly
      when the product of the `e`-values of the represented points is `1`. -/
structure PairingFacts' [DecidableEq K2] {GT : Type} [CommGroup GT] (e : E2 → E1 → GT) : Prop where
  add_left : ∀ {q q' : E2} {p : E1}, blsR • q = 0 → blsR • q' = 0 → blsR • p = 0 →
    e (q + q') p = e q p * e q' p
  add_right : ∀ {q : E2} {p p' : E1}, blsR • q = 0 → blsR • p = 0 → blsR • p' = 0 →
    e q (p + p') = e q p * e q p'
  nondeg : ∀ {g : E1}, Represents blsG1 g → ∀ {q : E2}, blsR • q = 0 → e q g = 1 → q = 0
  miller : ∀ l : List Arg, l ≠ [] → (∀ a ∈ l, a.Good) →
    (finalExponentiateOptBls (mprod (l.map Arg.m)) = (1 : OBls12) ↔
      (l.map fun a => e a.q a.p).prod = 1)

/-- **`PairingValueFacts' e`** — `BlsProto.PairingValueFacts e` without `hash_good`: HB1, ND and, per pairing
    call on canonical on-curve `r`-torsion arguments, "the value of `final_exponentiate(miller value)` in
    `F_{p¹²}` is `e q p`". -/
structure PairingValueFacts' [DecidableEq K2] (e : E2 → E1 → K12ˣ) : Prop where
  add_left : ∀ {q q' : E2} {p : E1}, blsR • q = 0 → blsR • q' = 0 → blsR • p = 0 →
    e (q + q') p = e q p * e q' p
  add_right : ∀ {q : E2} {p p' : E1}, blsR • q = 0 → blsR • p = 0 → blsR • p' = 0 →
    e q (p + p') = e q p * e q p'
  nondeg : ∀ {g : E1}, Represents blsG1 g → ∀ {q : E2}, blsR • q = 0 → e q g = 1 → q = 0
  value : ∀ a : Arg, a.Good → (toQ (finalExponentiateOptBls a.m) : K12) = ((e a.q a.p : K12ˣ) : K12)

section
variable [DecidableEq K2] {GT : Type} [CommGroup GT] {e : E2 → E1 → GT}

/-- **The reduced bundle implies the full one**: the missing field is `hash_good_proved`. -/
theorem PairingFacts'.toPairingFacts (pf : PairingFacts' e) : PairingFacts e where
  add_left := pf.add_left
  add_right := pf.add_right
  nondeg := pf.nondeg
  miller := pf.miller
  hash_good := hash_good_proved

theorem pairingFacts'_iff : PairingFacts' e ↔ PairingFacts e :=
  ⟨PairingFacts'.toPairingFacts, fun pf => ⟨pf.add_left, pf.add_right, pf.nondeg, pf.miller⟩⟩

theorem PairingValueFacts'.toPairingValueFacts {e : E2 → E1 → K12ˣ} (pv : PairingValueFacts' e) :
    PairingValueFacts e where
  add_left := pv.add_left
  add_right := pv.add_right
  nondeg := pv.nondeg
  value := pv.value
  hash_good := hash_good_proved

theorem pairingValueFacts'_iff {e : E2 → E1 → K12ˣ} : PairingValueFacts' e ↔ PairingValueFacts e :=
  ⟨PairingValueFacts'.toPairingValueFacts, fun pv => ⟨pv.add_left, pv.add_right, pv.nondeg, pv.value⟩⟩

theorem PairingValueFacts'.toPairingFacts {e : E2 → E1 → K12ˣ} (pv : PairingValueFacts' e) :
    PairingFacts e := pv.toPairingValueFacts.toPairingFacts

/-! ## unconditional: signing never fails -/

/-- HT6 read semantically, unconditional: the hash point represents an `r`-torsion point of the twist -/
theorem hash_rep {H : HashFn} {msg dst : Bytes} {mp : G2Pt} (h : hashToG2 H msg dst = .ok mp) :
    ∃ hq : E2, RepG2 mp hq ∧ blsR • hq = 0 := by
  obtain ⟨c, hon, hs⟩ := hash_good_proved H msg dst mp h
  obtain ⟨hq, r⟩ := repG2_of_on_curve c hon
  exact ⟨hq, r, r.subgroupCheck_iff.mp hs⟩

/-- **`Sign` is total on valid keys — no hypothesis about pairings.**  For every hash function whose digest
    has at least 2 bytes, every suite, every `int` secret key `1 ≤ sk < r` and every message, `Sign(sk, m)`
    returns a 96-byte string. -/
theorem sign_total (H : HashFn) (hd : 2 ≤ H.digestSize) (s : Suite) (sk : ℤ)
    (hsk : 1 ≤ sk ∧ sk < (curveOrder : ℤ)) (m : Bytes) :
    ∃ sig, sign H s (.int sk) m = .ok sig ∧ sig.length = 96 := by
  have hv := validPrivkey_int hsk
  obtain ⟨pk, hpk, _⟩ := skToPk_ok hv
  obtain ⟨mp, hmp⟩ := C04.hashToG2_returns H hd (vmsg s pk m) (suite_dst_le s)
  obtain ⟨hq, rh, _⟩ := hash_rep hmp
  rw [sign_eq_coreSign H s hpk]
  exact coreSign_returns hv hmp rh

/-- **`PopProve` is total on valid keys — no hypothesis about pairings.** -/
theorem popProve_total (H : HashFn) (hd : 2 ≤ H.digestSize) (sk : ℤ)
    (hsk : 1 ≤ sk ∧ sk < (curveOrder : ℤ)) :
    ∃ proof, popProve H (.int sk) = .ok proof ∧ proof.length = 96 := by
  have hv := validPrivkey_int hsk
  obtain ⟨pk, hpk, _⟩ := skToPk_ok hv
  obtain ⟨mp, hmp⟩ := C04.hashToG2_returns H hd pk popTag_le
  obtain ⟨hq, rh, _⟩ := hash_rep hmp
  rw [popProve_eq_coreSign H hpk]
  exact coreSign_returns hv hmp rh

example : 2 ≤ sha256Fn.digestSize := by decide

/-! ## C01 without HT6 -/

/-- **Honest signatures verify** (C01), assuming only HB1, ND, HB1′: if `SkToPk(sk)` returned `pk` and
    `Sign(sk, m)` returned `sig`, then `Verify(pk, m, sig)` returns `True`. -/
theorem sign_verify (pf : PairingFacts' e) (H : HashFn) (s : Suite) (sk : ℤ)
    (hsk : 1 ≤ sk ∧ sk < (curveOrder : ℤ)) (m pk sig : Bytes) (hpk : skToPk (.int sk) = .ok pk)
    (hsig : sign H s (.int sk) m = .ok sig) : verify H s pk m sig = .returned true :=
  C01.sign_verify pf.toPairingFacts H s sk hsk m pk sig hpk hsig

/-- **Honest possession proofs verify** (C01), assuming only HB1, ND, HB1′. -/
theorem popProve_popVerify (pf : PairingFacts' e) (H : HashFn) (sk : ℤ)
    (hsk : 1 ≤ sk ∧ sk < (curveOrder : ℤ)) (pk proof : Bytes) (hpk : skToPk (.int sk) = .ok pk)
    (hproof : popProve H (.int sk) = .ok proof) : popVerify H pk proof = .returned true :=
  C01.popProve_popVerify pf.toPairingFacts H sk hsk pk proof hpk hproof

/-- **Honest signatures exist and verify** (DESIGN's form of C01), assuming only HB1, ND, HB1′. -/
theorem sign_verify_exists (pf : PairingFacts' e) (H : HashFn) (hd : 2 ≤ H.digestSize) (s : Suite)
    (sk : ℤ) (hsk : 1 ≤ sk ∧ sk < (curveOrder : ℤ)) (m : Bytes) :
    ∃ pk sig, skToPk (.int sk) = .ok pk ∧ sign H s (.int sk) m = .ok sig ∧
      verify H s pk m sig = .returned true :=
  C01.sign_verify_exists pf.toPairingFacts H hd s sk hsk m

/-- **Honest possession proofs exist and verify**, assuming only HB1, ND, HB1′. -/
theorem popProve_popVerify_exists (pf : PairingFacts' e) (H : HashFn) (hd : 2 ≤ H.digestSize)
    (sk : ℤ) (hsk : 1 ≤ sk ∧ sk < (curveOrder : ℤ)) :
    ∃ pk proof, skToPk (.int sk) = .ok pk ∧ popProve H (.int sk) = .ok proof ∧
      popVerify H pk proof = .returned true :=
  C01.popProve_popVerify_exists pf.toPairingFacts H hd sk hsk

/-! ## C02 without HT6 -/

/-- **`Verify` accepts exactly the canonical signature** (C02), assuming only HB1, ND, HB1′:
    `Verify(pk, m, cand) = True ↔ Sign(sk, m) = cand`. -/
theorem verify_iff (pf : PairingFacts' e) (H : HashFn) (s : Suite) (sk : ℤ)
    (hsk : 1 ≤ sk ∧ sk < (curveOrder : ℤ)) (m pk cand : Bytes) (hpk : skToPk (.int sk) = .ok pk) :
    verify H s pk m cand = .returned true ↔ sign H s (.int sk) m = .ok cand :=
  C02.verify_iff pf.toPairingFacts H s sk hsk m pk cand hpk

/-- **`PopVerify` accepts exactly the canonical proof** (C02), assuming only HB1, ND, HB1′. -/
theorem popVerify_iff (pf : PairingFacts' e) (H : HashFn) (sk : ℤ)
    (hsk : 1 ≤ sk ∧ sk < (curveOrder : ℤ)) (pk cand : Bytes) (hpk : skToPk (.int sk) = .ok pk) :
    popVerify H pk cand = .returned true ↔ popProve H (.int sk) = .ok cand :=
  C02.popVerify_iff pf.toPairingFacts H sk hsk pk cand hpk

/-! ## C03 without HT6 -/

/-- **`AggregateVerify` accepts exactly `Aggregate` of the honest signatures** (C03, all suites), assuming
    only HB1, ND, HB1′. -/
theorem aggregateVerify_iff_aggregate_sign (pf : PairingFacts' e) (H : HashFn) (s : Suite) (sks : List ℤ)
    (hsks : ∀ sk ∈ sks, 1 ≤ sk ∧ sk < (curveOrder : ℤ)) (pks msgs : List Bytes) (sig : Bytes)
    (hpks : List.Forall₂ (fun sk pk => skToPk (.int sk) = .ok pk) sks pks) :
    aggregateVerify H s pks msgs sig = .returned true ↔
      1 ≤ pks.length ∧ pks.length = msgs.length ∧ (s = .basic → msgs.Nodup) ∧
        ∃ sigs, List.Forall₂ (fun (x : ℤ × Bytes) sg => sign H s (.int x.1) x.2 = .ok sg)
          (sks.zip msgs) sigs ∧ aggregate sigs = .ok sig :=
  C03.aggregateVerify_iff_aggregate_sign pf.toPairingFacts H s sks hsks pks msgs sig hpks

/-- **`FastAggregateVerify` accepts exactly `Aggregate` of the honest signatures of the shared message**
    (C03), provided the aggregate key is not the identity; assuming only HB1, ND, HB1′. -/
theorem fastAggregateVerify_iff_aggregate_sign (pf : PairingFacts' e) (H : HashFn) (sks : List ℤ)
    (hsks : ∀ sk ∈ sks, 1 ≤ sk ∧ sk < (curveOrder : ℤ)) (pks : List Bytes) (msg sig : Bytes)
    (hpks : List.Forall₂ (fun sk pk => skToPk (.int sk) = .ok pk) sks pks) :
    fastAggregateVerify H pks msg sig = .returned true ↔
      1 ≤ pks.length ∧ ¬ (blsR ∣ (sks.map Int.toNat).sum) ∧
        ∃ sigs, List.Forall₂ (fun sk sg => sign H .pop (.int sk) msg = .ok sg) sks sigs ∧
          aggregate sigs = .ok sig :=
  C03.fastAggregateVerify_iff_aggregate_sign pf.toPairingFacts H sks hsks pks msg sig hpks

end

/-! ## under the per-call bundle `PairingValueFacts'` (HB1, ND, HB1′ per pairing call) -/

section
variable [DecidableEq K2] {e : E2 → E1 → K12ˣ}

/-- `sign_verify` assuming only HB1, ND and the per-call value identification. -/
theorem sign_verify' (pv : PairingValueFacts' e) (H : HashFn) (s : Suite) (sk : ℤ)
    (hsk : 1 ≤ sk ∧ sk < (curveOrder : ℤ)) (m pk sig : Bytes) (hpk : skToPk (.int sk) = .ok pk)
    (hsig : sign H s (.int sk) m = .ok sig) : verify H s pk m sig = .returned true :=
  C01.sign_verify pv.toPairingFacts H s sk hsk m pk sig hpk hsig

/-- `verify_iff` assuming only HB1, ND and the per-call value identification. -/
theorem verify_iff' (pv : PairingValueFacts' e) (H : HashFn) (s : Suite) (sk : ℤ)
    (hsk : 1 ≤ sk ∧ sk < (curveOrder : ℤ)) (m pk cand : Bytes) (hpk : skToPk (.int sk) = .ok pk) :
    verify H s pk m cand = .returned true ↔ sign H s (.int sk) m = .ok cand :=
  C02.verify_iff pv.toPairingFacts H s sk hsk m pk cand hpk

/-- `aggregateVerify_iff_aggregate_sign` assuming only HB1, ND and the per-call value identification. -/
theorem aggregateVerify_iff_aggregate_sign' (pv : PairingValueFacts' e) (H : HashFn) (s : Suite)
    (sks : List ℤ) (hsks : ∀ sk ∈ sks, 1 ≤ sk ∧ sk < (curveOrder : ℤ)) (pks msgs : List Bytes)
    (sig : Bytes) (hpks : List.Forall₂ (fun sk pk => skToPk (.int sk) = .ok pk) sks pks) :
    aggregateVerify H s pks msgs sig = .returned true ↔
      1 ≤ pks.length ∧ pks.length = msgs.length ∧ (s = .basic → msgs.Nodup) ∧
        ∃ sigs, List.Forall₂ (fun (x : ℤ × Bytes) sg => sign H s (.int x.1) x.2 = .ok sg)
          (sks.zip msgs) sigs ∧ aggregate sigs = .ok sig :=
  C03.aggregateVerify_iff_aggregate_sign pv.toPairingFacts H s sks hsks pks msgs sig hpks

/-- `fastAggregateVerify_iff_aggregate_sign` assuming only HB1, ND and the per-call value identification. -/
theorem fastAggregateVerify_iff_aggregate_sign' (pv : PairingValueFacts' e) (H : HashFn) (sks : List ℤ)
    (hsks : ∀ sk ∈ sks, 1 ≤ sk ∧ sk < (curveOrder : ℤ)) (pks : List Bytes) (msg sig : Bytes)
    (hpks : List.Forall₂ (fun sk pk => skToPk (.int sk) = .ok pk) sks pks) :
    fastAggregateVerify H pks msg sig = .returned true ↔
      1 ≤ pks.length ∧ ¬ (blsR ∣ (sks.map Int.toNat).sum) ∧
        ∃ sigs, List.Forall₂ (fun sk sg => sign H .pop (.int sk) msg = .ok sg) sks sigs ∧
          aggregate sigs = .ok sig :=
  C03.fastAggregateVerify_iff_aggregate_sign pv.toPairingFacts H sks hsks pks msg sig hpks

end

/-! ### non-vacuity of the key hypotheses -/

/-- `sk = 1` is a valid key, and `SkToPk(1)` returns the compressed generator (kernel evaluation, C09) -/
example : (1 ≤ (1 : ℤ) ∧ (1 : ℤ) < (curveOrder : ℤ)) ∧ skToPk (.int 1) = .ok C09.compressedG1 :=
  ⟨by decide, C09.skToPk_one⟩

end PyEcc.C17O
