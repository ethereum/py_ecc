/-
  PyEcc.Props.C16_Gen — property C16 restated about the GENERATED code: `hkdf_extract`, `hkdf_expand` of `py_ecc/bls/hash.py`
  (`PyEcc.Gen.ExtraHash.hkdf_extract`, `.hkdf_expand`) and `KeyGen` of `py_ecc/bls/ciphersuites.py` (`PyEcc.Gen.ExtraBls.KeyGen`), as
  translated from the Python source on this run, are RFC 5869 (over RFC 2104 HMAC) and the KeyGen of
  draft-irtf-cfrg-bls-signature-04 §2.3 (`PyEcc.Spec.hkdfExtract`, `.hkdfExpand`, `.keyGen`, `.IsKeyGen`), and a returned secret key
  lies in `[1, r-1]`.
  Every theorem is the model theorem of `Props/C16.lean` composed with the tie theorems of `Props/TieHash.lean`
  (`hkdf_extract_eq`, `hkdf_expand_eq`) and `Props/TieBlsAgg.lean` (`Bls.KeyGen_fuel_eq`, `Bls.KeyGen_eq`).  No hypothesis is added.

  `KeyGen`'s unbounded `while SK == 0` loop is translated as a recursion on an explicit `fuel` argument (out of fuel =
  `PyErr.other`; the Python loop would continue).  The theorems below hold for EVERY fuel.
  Determinism needs no theorem: every generated function is a pure Lean function of its arguments and of the hash function `H`.
  (Core Lean only.)
-/
import PyEcc.Props.C16
import PyEcc.Props.TieHash
import PyEcc.Props.TieBlsAgg

namespace PyEcc.C16.Gen
open PyEcc PyEcc.C15 PyEcc.Gen.Consts

/-! ### HKDF-Extract -/

/-- **C16, generated code (HKDF-Extract = RFC 5869 §2.2).**  The function translated from `hkdf_extract(salt, ikm)` is
    `HMAC-Hash(salt, IKM)` with HMAC as specified in RFC 2104 (salt is the key) — for every hash function and every salt for which
    the RFC's block-sized key exists (`HmacKeyOk`: the salt, or else its digest, is at most one block long; automatic when
    `digest_size ≤ block_size`, e.g. SHA-256). -/
theorem hkdf_extract_eq_spec (H : HashFn) (salt ikm : Bytes) (h : HmacKeyOk H salt) :
    PyEcc.Gen.ExtraHash.hkdf_extract salt ikm H = Spec.hkdfExtract H salt ikm := by
  rw [Tie.hkdf_extract_eq]
  exact C16.hkdfExtract_eq_spec H salt ikm h

/-- the hypothesis holds for every key when the hash function is well-formed, e.g. for SHA-256 -/
example (key : Bytes) : HmacKeyOk sha256Fn key := hmacKeyOk_of_WF sha256Fn_WF key

/-- **C16, generated code (RFC 5869 §2.2 default salt).**  "salt: if not provided, it is set to a string of HashLen zeros": for
    the translated function, `hkdf_extract(b"", ikm) = hkdf_extract(b"\x00" * HashLen, ikm)`. -/
theorem hkdf_extract_empty_salt (H : HashFn) (hle : H.digestSize ≤ H.blockSize) (ikm : Bytes) :
    PyEcc.Gen.ExtraHash.hkdf_extract [] ikm H = PyEcc.Gen.ExtraHash.hkdf_extract (List.replicate H.digestSize 0) ikm H := by
  rw [Tie.hkdf_extract_eq, Tie.hkdf_extract_eq]
  exact C16.hkdfExtract_empty_salt H hle ikm

example : sha256Fn.digestSize ≤ sha256Fn.blockSize := by decide

/-! ### HKDF-Expand -/

/-- **C16, generated code (HKDF-Expand = RFC 5869 §2.3, for HashLen = 32).**  The source hard-codes `n = ceil(length / 32)`, so the
    statement is for hash functions with `digest_size = 32` (SHA-256 is what the code uses): for every `prk` (with
    RFC-2104-representable key), `info` and `length`, the function translated from `hkdf_expand(prk, info, length)` returns the
    first `length` bytes of `T(1) ‖ … ‖ T(N)` if `length ≤ 255·32 = 8160`, and raises `ValueError` (`bytes([256])`) otherwise —
    exactly the RFC's domain `L ≤ 255·HashLen`. -/
theorem hkdf_expand_eq_spec (H : HashFn) (h32 : H.digestSize = 32) (prk info : Bytes) (hk : HmacKeyOk H prk) (L : Nat) :
    PyEcc.Gen.ExtraHash.hkdf_expand prk info L H =
      match Spec.hkdfExpand H prk info L with
      | some okm => .ok okm
      | none => .error .value := by
  rw [Tie.hkdf_expand_eq]
  exact C16.hkdfExpand_eq_spec H h32 prk info hk L

example : sha256Fn.digestSize = 32 := rfl

/-- **C16, generated code (HKDF-Expand, explicit form).**  The same with the domain condition spelled out: the translated
    `hkdf_expand(prk, info, L)` is `OKM = first L bytes of T(1) ‖ T(2) ‖ …` for `L ≤ 8160` and `ValueError` above. -/
theorem hkdf_expand_eq (H : HashFn) (h32 : H.digestSize = 32) (prk info : Bytes) (hk : HmacKeyOk H prk) (L : Nat) :
    PyEcc.Gen.ExtraHash.hkdf_expand prk info L H =
      if L ≤ 255 * 32 then .ok (Spec.hkdfOkm H prk info L) else .error .value := by
  rw [Tie.hkdf_expand_eq]
  exact C16.hkdfExpand_eq H h32 prk info hk L

/-- **C16, generated code (HKDF-Expand raises iff `length > 8160`)** — for *any* hash function and key, no hypotheses: the only
    failure of the translated `hkdf_expand` is `bytes([256])` in the 256th iteration. -/
theorem hkdf_expand_error_iff (H : HashFn) (prk info : Bytes) (L : Nat) :
    (∃ e, PyEcc.Gen.ExtraHash.hkdf_expand prk info L H = .error e) ↔ L > 255 * 32 := by
  rw [Tie.hkdf_expand_eq]
  exact C16.hkdfExpand_error_iff H prk info L

/-- **C16, generated code (output length).**  For a well-formed hash function with 32-byte digests, a successful call of the
    translated `hkdf_expand(prk, info, length)` returns exactly `length` bytes. -/
theorem hkdf_expand_length (H : HashFn) (hw : H.WF) (h32 : H.digestSize = 32) (prk info : Bytes) (L : Nat) (okm : Bytes)
    (h : PyEcc.Gen.ExtraHash.hkdf_expand prk info L H = .ok okm) : okm.length = L := by
  rw [Tie.hkdf_expand_eq] at h
  exact C16.hkdfExpand_length H hw h32 prk info L okm h

example : sha256Fn.WF ∧ sha256Fn.digestSize = 32 := ⟨sha256Fn_WF, rfl⟩

/-- non-vacuity of `hkdf_expand_length`: the generated `hkdf_expand` returns a value for `length = 42` -/
example : ∃ okm, PyEcc.Gen.ExtraHash.hkdf_expand [] [] 42 sha256Fn = .ok okm := by
  rw [hkdf_expand_eq sha256Fn rfl [] [] (hmacKeyOk_of_WF sha256Fn_WF _) 42, if_pos (by decide)]
  exact ⟨_, rfl⟩

/-! ### KeyGen -/

/-- **C16, generated code (the constants of KeyGen).**  The generated `l = ceil((1.5 * ceil(log2(curve_order))) / 8)` is 48, the
    draft's `L = ceil((3 * ceil(log2(r))) / 16)` for `ceil(log2 r) = 255`; and the generated `curve_order` lies between
    `2^254` and `2^255`. -/
theorem keygen_L : suites_keygen_L = 48 ∧ Spec.keyGenL = 48 ∧
    2 ^ 254 < suites_curve_order ∧ suites_curve_order < 2 ^ 255 := by
  decide

/-- **C16, generated code (KeyGen = draft v4 KeyGen, for every fuel).**  For every well-formed hash function with 32-byte digests
    (SHA-256 is what the code uses), all `IKM`, `key_info` and every bound `fuel` on the number of passes through the
    `while SK == 0` loop, the function translated from `KeyGen(IKM, key_info)` computes the draft's KeyGen limited to the same
    number of passes — salt `"BLS-SIG-KEYGEN-SALT-"` re-hashed before each attempt, `PRK = HKDF-Extract(salt, IKM ‖ 0x00)`,
    `OKM = HKDF-Expand(PRK, key_info ‖ I2OSP(48, 2), 48)`, `SK = OS2IP(OKM) mod r`, `r = curve_order`, first non-zero `SK` wins;
    running out of fuel is `.error .other` (the Python loop would simply continue). -/
theorem KeyGen_eq_spec (H : HashFn) (hw : H.WF) (h32 : H.digestSize = 32) (ikm info : Bytes) (fuel : Nat) :
    PyEcc.Gen.ExtraBls.KeyGen H fuel ikm info =
      match Spec.keyGen H suites_curve_order ikm info fuel with
      | some sk => .ok sk
      | none => .error .other := by
  rw [Tie.Bls.KeyGen_fuel_eq, keyGenSalt_eq]
  exact C16.keyGenLoop_eq_spec H hw h32 ikm info fuel

/-- **C16, generated code (KeyGen soundness, every fuel).**  If the translated `KeyGen(IKM, key_info)`, run with any bound on the
    number of loop passes, returns `sk`, then `sk` is THE result of the draft's KeyGen (`Spec.IsKeyGen`): the first non-zero
    candidate `OS2IP(OKM) mod r` in the sequence of attempts. -/
theorem KeyGen_sound (H : HashFn) (hw : H.WF) (h32 : H.digestSize = 32) (ikm info : Bytes) (fuel sk : Nat)
    (h : PyEcc.Gen.ExtraBls.KeyGen H fuel ikm info = .ok sk) : Spec.IsKeyGen H suites_curve_order ikm info sk := by
  rw [Tie.Bls.KeyGen_fuel_eq, keyGenSalt_eq] at h
  exact C16.keyGenLoop_sound H hw h32 ikm info fuel sk h

/- non-vacuity: a (toy) well-formed 32-byte hash function for which the generated `KeyGen` returns a key; for SHA-256 the
   hypotheses `sha256Fn.WF`, `digestSize = 32` are shown above (evaluating SHA-256 in the kernel is avoided on purpose) -/
set_option maxRecDepth 100000 in
example : ∃ H : HashFn, H.WF ∧ H.digestSize = 32 ∧ ∃ sk, PyEcc.Gen.ExtraBls.KeyGen H 64 [] [] = .ok sk :=
  ⟨toyHash, toyHash_WF, rfl, _, rfl⟩

/-- **C16, generated code (KeyGen completeness up to the fuel).**  If the draft's KeyGen terminates at attempt `n` with result
    `sk`, the translated `KeyGen` run with any `fuel > n` returns `sk`; and the artificial failure of the translation
    (`.error .other`, out of fuel) is the ONLY way it raises, and occurs only when the first `fuel` candidates are all zero —
    for SHA-256 and `fuel = 64` an event of probability about `2^(-255·64)`, in which the Python code would keep looping. -/
theorem KeyGen_complete (H : HashFn) (hw : H.WF) (h32 : H.digestSize = 32) (ikm info : Bytes) (fuel : Nat) :
    (∀ sk n, n < fuel → Spec.keyGenCandidate H suites_curve_order ikm info n = sk → sk ≠ 0 →
        (∀ m, m < n → Spec.keyGenCandidate H suites_curve_order ikm info m = 0) →
        PyEcc.Gen.ExtraBls.KeyGen H fuel ikm info = .ok sk) ∧
    (∀ e, PyEcc.Gen.ExtraBls.KeyGen H fuel ikm info = .error e →
        e = .other ∧ ∀ n, n < fuel → Spec.keyGenCandidate H suites_curve_order ikm info n = 0) := by
  rw [Tie.Bls.KeyGen_fuel_eq, keyGenSalt_eq]
  exact C16.keyGenLoop_complete H hw h32 ikm info fuel

/-- **C16, generated code (range).**  Whatever the hash function and the bound on the number of loop passes, a secret key returned
    by the translated `KeyGen` satisfies `1 ≤ SK < r = curve_order`, i.e. `SK ∈ [1, r-1]`: it is a valid private key. -/
theorem KeyGen_range (H : HashFn) (fuel : Nat) (ikm info : Bytes) (sk : Nat)
    (h : PyEcc.Gen.ExtraBls.KeyGen H fuel ikm info = .ok sk) : 1 ≤ sk ∧ sk < suites_curve_order := by
  rw [Tie.Bls.KeyGen_fuel_eq] at h
  exact C01.keyGenLoop_range H ikm info fuel _ sk h

/-- **C16, generated code (the fuel does not influence the result).**  Two runs of the translated `KeyGen` on the same inputs
    with different bounds on the number of loop passes that both return a key return the SAME key (for a well-formed 32-byte hash
    function): the fuel argument only decides between "returns" and "out of fuel", never the value. -/
theorem KeyGen_fuel_irrelevant (H : HashFn) (hw : H.WF) (h32 : H.digestSize = 32) (ikm info : Bytes) (f₁ f₂ sk₁ sk₂ : Nat)
    (h₁ : PyEcc.Gen.ExtraBls.KeyGen H f₁ ikm info = .ok sk₁) (h₂ : PyEcc.Gen.ExtraBls.KeyGen H f₂ ikm info = .ok sk₂) :
    sk₁ = sk₂ := by
  obtain ⟨n₁, hc₁, hne₁, hz₁⟩ := KeyGen_sound H hw h32 ikm info f₁ sk₁ h₁
  obtain ⟨n₂, hc₂, hne₂, hz₂⟩ := KeyGen_sound H hw h32 ikm info f₂ sk₂ h₂
  rcases Nat.lt_trichotomy n₁ n₂ with hlt | heq | hgt
  · exact absurd (hc₁.symm.trans (hz₂ n₁ hlt)) hne₁
  · rw [← hc₁, ← hc₂, heq]
  · exact absurd (hc₂.symm.trans (hz₁ n₂ hgt)) hne₂

end PyEcc.C16.Gen

section AxiomAudit
open PyEcc.C16.Gen
#print axioms hkdf_extract_eq_spec
#print axioms hkdf_extract_empty_salt
#print axioms hkdf_expand_eq_spec
#print axioms hkdf_expand_eq
#print axioms hkdf_expand_error_iff
#print axioms hkdf_expand_length
#print axioms keygen_L
#print axioms KeyGen_eq_spec
#print axioms KeyGen_sound
#print axioms KeyGen_complete
#print axioms KeyGen_range
#print axioms KeyGen_fuel_irrelevant
end AxiomAudit
