/-
  PyEcc.Props.TieFieldsPoly — TIE theorems ("generated = hand-written model") for the FIELD layer, part 4:
  `py_ecc.utils.deg`, and of the OPTIMIZED class (`py_ecc/fields/optimized_field_elements.py`)
  `FQP.optimized_poly_rounded_div`, `FQP.inv` (extended Euclid on coefficient lists, `while deg(low)`), and the `FQP`
  branches of `__div__` / `__truediv__` (`self * other.inv()`).

  `Gen/ExtraFieldsPoly.lean` is re-generated from the Python source on every run (tools/translate/gen_fields.py).
  The generated loops carry their state in the order in which the function first binds the variables (`(temp, o)`,
  `(nm, v_new)` for the Python `nm`, `new`, `(lm, hm, low, high)`); the model's `invLoopP` takes `lm low hm high`, the
  order of the swap `lm, low, hm, high = nm, new, lm, low`, and returns `(lm, low)`.  List item assignment `l[k] = e` is
  `updAt l k (fun _ => e)` in the generated code; once `l[k] = l[k] ± y` is read as `l[k] ±= y` the generated loop bodies
  are the model's up to where the `let`s stand, which `rfl` decides.

  (The REFERENCE `poly_rounded_div` / `FQP.inv` operate on lists that mix ints and `FQ` objects, the kind of an entry
  changing from round to round; they are translated with a tagged int-or-`FQ` value type, `Gen/ExtraFieldsInv.lean`, and
  tied in `Props/TieFieldsInv.lean`.)
-/
import PyEcc.Gen.ExtraFieldsPoly
import PyEcc.Props.TieFieldsMul

namespace PyEcc.Tie
open PyEcc

/-! ### list lemmas -/

/-- `l[i] = g(l[i])` written with a read of `l[i]` is the in-place update by `g` -/
theorem updAt_set (l : List Int) (i : Nat) (g : Int → Int) : updAt l i (fun _ => g (getI l i)) = updAt l i g := by
  induction l generalizing i with
  | nil => rfl
  | cons x xs ih =>
    cases i with
    | zero => rfl
    | succ i => exact congrArg (x :: ·) (ih i)

/-- `l[i] = l[i] + y` is `l[i] += y` -/
theorem updAt_set_add (l : List Int) (i : Nat) (y : Int) :
    updAt l i (fun _ => getI l i + y) = updAt l i (fun x => x + y) := updAt_set l i (· + y)

/-- `l[i] = l[i] - y` is `l[i] -= y` -/
theorem updAt_set_sub (l : List Int) (i : Nat) (y : Int) :
    updAt l i (fun _ => getI l i - y) = updAt l i (fun x => x - y) := updAt_set l i (· - y)

/-! ### py_ecc/utils.py: `deg` -/

/-- the `while p[d] == 0 and d` loop of `deg` (state `d`) over any test `z d` for `p[d] == 0`; the loops generated for
    lists of ints and for lists of int-or-FQ values are this loop -/
def degLoop (z : Nat → Prop) [DecidablePred z] : Nat → Nat → Nat
  | 0, d => d
  | fuel+1, d => if z d ∧ d ≠ 0 then degLoop z fuel (d - 1) else d

/-- when `z d` says that entry `d` of the model's list is `0`, the loop is the model's `degAux` (any fuel `≥ d`) -/
theorem degLoop_eq (z : Nat → Prop) [DecidablePred z] (l : List Int) (hz : ∀ d, z d ↔ getI l d = 0) :
    ∀ (f d : Nat), d ≤ f → degLoop z f d = degAux l d := by
  intro f
  induction f with
  | zero => intro d hd; rw [Nat.le_zero.1 hd]; rfl
  | succ f ih =>
    intro d hd
    unfold degLoop
    cases d with
    | zero => rw [if_neg (fun h => h.2 rfl)]; rfl
    | succ d =>
      unfold degAux
      by_cases h : getI l (d + 1) = 0
      · rw [if_pos ⟨(hz _).2 h, Nat.succ_ne_zero d⟩, if_pos h]
        exact ih d (Nat.le_of_succ_le_succ hd)
      · rw [if_neg (fun hh => h ((hz _).1 hh.1)), if_neg h]

set_option smartUnfolding false in
theorem deg_loop0_eq (p : List Int) : Gen.ExtraFieldsPoly.Utils.deg_loop0 p = degLoop (fun d => getI p d = 0) := rfl

/-- `deg(p)` (for a sequence of ints) as translated from the source is the model's `deg`, for every list. -/
theorem deg_eq (p : List Int) : Gen.ExtraFieldsPoly.Utils.deg p = PyEcc.deg p := by
  unfold Gen.ExtraFieldsPoly.Utils.deg PyEcc.deg
  rw [deg_loop0_eq]
  exact degLoop_eq _ p (fun _ => Iff.rfl) _ _ (Nat.le_refl _)

/-! ### optimized class: rounded division, inverse, division -/

namespace PolyOpt
open Gen.ExtraFieldsFq.Opt Gen.ExtraFieldsFqp.Opt Gen.ExtraFieldsMul.Opt Gen.ExtraFieldsPoly.Opt FqpOpt
variable {p : Nat} {mc : List Int}

/-- `FQP.optimized_poly_rounded_div(a, b)` is the model's `polyRoundedDiv .opt`, for all lists (and any `self`). -/
theorem optimized_poly_rounded_div_eq (self : FQP) (a b : List Int) :
    FQP.optimized_poly_rounded_div p mc self a b = Fqp.polyRoundedDiv .opt p a b := by
  unfold FQP.optimized_poly_rounded_div Fqp.polyRoundedDiv
  simp only [updAt_set_add, updAt_set_sub, List.map_const']
  rfl

/-- the `while deg(low)` loop generated from optimized `FQP.inv` computes the model's `invLoopP .opt` (the generated
    state lists the variables in the order in which the method first binds them: `(lm, hm, low, high)`; the model returns
    `(lm, low)`) -/
theorem inv_loop_eq (a : Fqp .opt p mc) : ∀ (f : Nat) (lm low hm high : List Int),
    (fun (s : List Int × List Int × List Int × List Int) => (s.1, s.2.2.1)) (FQP.inv_loop0 p mc (obj a) f (lm, hm, low, high)) =
      Fqp.invLoopP .opt p mc.length f lm low hm high := by
  intro f
  induction f with
  | zero => intro lm low hm high; rfl
  | succ f ih =>
    intro lm low hm high
    unfold FQP.inv_loop0 Fqp.invLoopP
    by_cases hdeg : PyEcc.deg low ≠ 0
    · rw [if_pos hdeg, if_pos hdeg]
      have hd : (obj a).degree = mc.length := rfl
      simp only [optimized_poly_rounded_div_eq, hd]
      exact ih _ _ _ _
    · rw [if_neg hdeg, if_neg hdeg]

/-- optimized `FQP.inv()` (extended Euclid on the coefficient lists) is the model's `Fqp.inv`, for every element. -/
theorem inv_eq (a : Fqp .opt p mc) : FQP.inv p mc (obj a) = .ok (obj (Fqp.inv a)) := by
  have hd : (obj a).degree = mc.length := rfl
  have hloop := inv_loop_eq a (4 * mc.length + 4) (1 :: List.replicate mc.length 0) (a.coeffs ++ [0])
    (List.replicate (mc.length + 1) 0) (mc ++ [1])
  unfold FQP.inv Fqp.inv
  simp only [hd]
  generalize hs : FQP.inv_loop0 p mc (obj a) _ _ = s
  obtain ⟨lm, hm, low, high⟩ := s
  have hloop' := (congrArg (fun s : List Int × List Int × List Int × List Int => (s.1, s.2.2.1)) hs).symm.trans hloop
  have hl : lm.length = mc.length + 1 :=
    (congrArg (·.1.length) hloop').trans (FqpSem.length_invLoopP mc.length _ _ _ _ _ _ (by simp) (by simp))
  rw [← hloop', init_ints_eq, if_neg (by simp [hl])]
  exact truediv_int_eq _ _ (by simp [Fqp.ofInts, hl])

/-- optimized `FQP.__div__` with an `FQP` operand (`self * other.inv()`) is the model's `Fqp.div` (well-formed `self`). -/
theorem div_fqp_eq (a b : Fqp .opt p mc) (ha : a.coeffs.length = mc.length) :
    FQP.div_fqp p mc (obj a) (obj b) = .ok (obj (Fqp.div a b)) := by
  unfold FQP.div_fqp Fqp.div
  rw [inv_eq]
  simp only [bind, Except.bind]
  exact MulOpt.mul_fqp_eq a (Fqp.inv b) ha (FqpSem.inv_wf b)

/-- optimized `FQP.__truediv__` delegates to `__div__`. -/
theorem truediv_fqp_eq (a b : Fqp .opt p mc) (ha : a.coeffs.length = mc.length) :
    FQP.truediv_fqp p mc (obj a) (obj b) = .ok (obj (Fqp.div a b)) := by
  unfold FQP.truediv_fqp; exact div_fqp_eq a b ha

/- non-vacuity of the hypothesis -/
example : FQP.div_fqp 7 [1, 0] (obj (⟨[1, 2]⟩ : Fqp .opt 7 [1, 0])) (obj (⟨[3, 6]⟩ : Fqp .opt 7 [1, 0])) =
    .ok (obj (Fqp.div (⟨[1, 2]⟩ : Fqp .opt 7 [1, 0]) ⟨[3, 6]⟩)) := div_fqp_eq _ _ rfl

end PolyOpt
end PyEcc.Tie
