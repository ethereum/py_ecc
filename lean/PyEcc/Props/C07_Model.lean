/-
  PyEcc.Props.C07_Model — property C07 for the CONCRETE executable model: the group laws of the
  optimized BLS12-381 curve functions (`Gen.OptBls.{add, double, neg, multiply, eq, is_on_curve}`,
  generated from `py_ecc/optimized_bls12_381/optimized_curve.py`) as the model RUNS them, on
      G1 : `G1Pt = F1 × F1 × F1`, `F1 = Fq blsP`               (Python `FQ` objects), `b = blsB`
      G2 : `G2Pt = F2 × F2 × F2`, `F2 = Fqp .opt blsP blsMc2`  (Python optimized `FQ2` objects,
                                                                lists of ints), `b2 = blsB2`.
  A law that needs curve membership is that law of `Sem/TransferRefineBls.lean` (`CurveHom.add_comm_eq`, …: Mathlib's
  `AddCommGroup` structure on the represented points) at the context `curveF1` (`Sem/TransferFq.lean`: `Fq blsP` is a
  field with the model's operations) or `curveF2` (`Sem/TransferFqp.lean`: the code commutes with
  `toQ : F2 → K2 = F_p[X]/(X²+1)` on canonical elements); a law that holds of ALL triples is the field theorem of
  `Props/C07Opt_Bls.lean`, for G2 pushed through `toQ` (`via_*`).

  All laws are stated purely about the model functions; "equal" is the library's own projective
  equality `eq(p1, p2)`.  G2 statements require the triples to be canonical (`CanonT`: every
  coordinate is a list of exactly two ints in `[0, p)`), which is decidable, holds for every value
  the library constructs, and is preserved by all operations (`g2_closed`).  They do not mention
  `K2` at all.

  The generators `G1`, `G2` of the model are (canonical,) on the curve and represent Mathlib points of exact order
  `curve_order` (`blsG1_point`, `blsG2_point`).
-/
import PyEcc.Sem.TransferFq
import PyEcc.Sem.TransferFqp
import PyEcc.Props.C07_FactsG2
import PyEcc.Props.C17

set_option linter.unusedSectionVars false

namespace PyEcc.C07M
open PyEcc PyEcc.Gen PyEcc.Gen.Consts PyEcc.FqpSem PyEcc.Transfer WeierstrassCurve

/-! ## G1: laws for on-curve `FQ` triples -/

section G1
variable {X Y Z X' Y' : G1Pt}

private theorem f2 : (2 : F1) ≠ 0 := curveF1.two

/-- G1 commutativity: `add(X, Y)` and `add(Y, X)` are `eq`. -/
theorem g1_add_comm (hX : OptBls.is_on_curve X blsB = true) (hY : OptBls.is_on_curve Y blsB = true) :
    OptBls.eq (OptBls.add X Y) (OptBls.add Y X) = true :=
  curveF1.add_comm_eq (goodT_true X) (goodT_true Y) hX hY

/-- G1 associativity: `add(add(X, Y), Z)` and `add(X, add(Y, Z))` are `eq` (every degenerate
    configuration — ∞, doubling, inverse points — included). -/
theorem g1_add_assoc (hX : OptBls.is_on_curve X blsB = true) (hY : OptBls.is_on_curve Y blsB = true)
    (hZ : OptBls.is_on_curve Z blsB = true) :
    OptBls.eq (OptBls.add (OptBls.add X Y) Z) (OptBls.add X (OptBls.add Y Z)) = true :=
  curveF1.add_assoc_eq (goodT_true X) (goodT_true Y) (goodT_true Z) hX hY hZ

/-- G1 identity: `Z1 = (1, 1, 0)` (indeed any `z = 0` triple) is neutral on both sides, for ALL
    triples `X`. -/
theorem g1_add_zero (X : G1Pt) :
    OptBls.eq (OptBls.add X Z1) X = true ∧ OptBls.eq (OptBls.add Z1 X) X = true :=
  C07Opt.Bls.opt_add_zero_eq X Z1 Z1_z

/-- G1 inverse: `add(X, neg(X))` and `add(neg(X), X)` are ∞, for ALL triples `X`. -/
theorem g1_add_neg (X : G1Pt) :
    OptBls.is_inf (OptBls.add X (OptBls.neg X)) = true
      ∧ OptBls.is_inf (OptBls.add (OptBls.neg X) X) = true := C07Opt.Bls.opt_add_neg f2 X

/-- G1 closure: `add`, `double`, `neg`, `multiply(·, n)` map on-curve triples to on-curve triples;
    `Z1` is on the curve. -/
theorem g1_closed (hX : OptBls.is_on_curve X blsB = true) (hY : OptBls.is_on_curve Y blsB = true)
    (n : ℕ) :
    OptBls.is_on_curve (OptBls.add X Y) blsB = true ∧ OptBls.is_on_curve (OptBls.double X) blsB = true
      ∧ OptBls.is_on_curve (OptBls.neg X) blsB = true
      ∧ OptBls.is_on_curve (OptBls.multiply X n) blsB = true ∧ OptBls.is_on_curve Z1 blsB = true :=
  have k := curveF1.closed (goodT_true X) (goodT_true Y) hX hY n
  ⟨k.1.2, k.2.1.2, k.2.2.1.2, k.2.2.2.2, rfl⟩

/-- G1: `add(X, X)` is `eq` to `double(X)`, for ALL triples. -/
theorem g1_add_self (X : G1Pt) : OptBls.eq (OptBls.add X X) (OptBls.double X) = true :=
  C07Opt.Bls.opt_add_self_eq X

/-- G1 `multiply` is additive in the scalar: `multiply(X, m + n)` is `eq` to
    `add(multiply(X, m), multiply(X, n))`. -/
theorem g1_multiply_add (hX : OptBls.is_on_curve X blsB = true) (m n : ℕ) :
    OptBls.eq (OptBls.multiply X (m + n)) (OptBls.add (OptBls.multiply X m) (OptBls.multiply X n))
      = true := curveF1.multiply_add_eq (goodT_true X) hX m n

/-- G1: `multiply(multiply(X, m), n)` is `eq` to `multiply(X, m * n)`. -/
theorem g1_multiply_mul (hX : OptBls.is_on_curve X blsB = true) (m n : ℕ) :
    OptBls.eq (OptBls.multiply (OptBls.multiply X m) n) (OptBls.multiply X (m * n)) = true :=
  curveF1.multiply_mul_eq (goodT_true X) hX m n

/-- G1: scalars act modulo any `r` with `multiply(X, r) = ∞`. -/
theorem g1_multiply_mod (hX : OptBls.is_on_curve X blsB = true) (r : ℕ)
    (hr : OptBls.is_inf (OptBls.multiply X r) = true) (n : ℕ) :
    OptBls.eq (OptBls.multiply X n) (OptBls.multiply X (n % r)) = true :=
  curveF1.multiply_mod_eq (goodT_true X) hX r hr n

/-- G1: `multiply(neg(X), n)` is `eq` to `neg(multiply(X, n))`. -/
theorem g1_multiply_neg (hX : OptBls.is_on_curve X blsB = true) (n : ℕ) :
    OptBls.eq (OptBls.multiply (OptBls.neg X) n) (OptBls.neg (OptBls.multiply X n)) = true :=
  curveF1.multiply_neg_eq (goodT_true X) hX n

/-- G1: `multiply(X, 0)` is ∞, `multiply(X, 1) = X`, `multiply(X, 2) = double(X)`, for ALL triples. -/
theorem g1_multiply_small (X : G1Pt) :
    OptBls.is_inf (OptBls.multiply X 0) = true ∧ OptBls.multiply X 1 = X
      ∧ OptBls.multiply X 2 = OptBls.double X := C07Opt.Bls.opt_multiply_small X

/-- G1: `eq` is an equivalence relation on ALL triples, and `add`, `multiply` respect it. -/
theorem g1_eq_congr :
    OptBls.eq X X = true ∧ (OptBls.eq X Y = true → OptBls.eq Y X = true)
      ∧ (OptBls.eq X Y = true → OptBls.eq Y Z = true → OptBls.eq X Z = true)
      ∧ (OptBls.eq X X' = true → OptBls.eq Y Y' = true →
          OptBls.eq (OptBls.add X Y) (OptBls.add X' Y') = true)
      ∧ (OptBls.eq X X' = true → ∀ n : ℕ,
          OptBls.eq (OptBls.multiply X n) (OptBls.multiply X' n) = true) := by
  obtain ⟨e1, e2, e3⟩ := Bls.via_eq_equiv goodHom_id (goodT_true X) (goodT_true Y) (goodT_true Z)
  exact ⟨e1, e2, e3, C07Opt.Bls.opt_add_congr f2, fun e n => C07Opt.Bls.opt_multiply_congr f2 e n⟩

end G1

/-! ## G2: laws for canonical on-curve `FQ2` triples -/

section G2
variable {X Y Z X' Y' : G2Pt}

/-- G2 commutativity: `add(X, Y)` and `add(Y, X)` are `eq`. -/
theorem g2_add_comm (cX : CanonT X) (cY : CanonT Y) (hX : OptBls.is_on_curve X blsB2 = true)
    (hY : OptBls.is_on_curve Y blsB2 = true) :
    OptBls.eq (OptBls.add X Y) (OptBls.add Y X) = true := by
  classical exact curveF2.add_comm_eq cX cY hX hY

/-- G2 associativity: `add(add(X, Y), Z)` and `add(X, add(Y, Z))` are `eq` (every degenerate
    configuration included). -/
theorem g2_add_assoc (cX : CanonT X) (cY : CanonT Y) (cZ : CanonT Z)
    (hX : OptBls.is_on_curve X blsB2 = true) (hY : OptBls.is_on_curve Y blsB2 = true)
    (hZ : OptBls.is_on_curve Z blsB2 = true) :
    OptBls.eq (OptBls.add (OptBls.add X Y) Z) (OptBls.add X (OptBls.add Y Z)) = true := by
  classical exact curveF2.add_assoc_eq cX cY cZ hX hY hZ

/-- G2 identity: `Z2 = (1, 1, 0)` is neutral on both sides, for all canonical triples `X` (on the
    curve or not). -/
theorem g2_add_zero (cX : CanonT X) :
    OptBls.eq (OptBls.add X Z2) X = true ∧ OptBls.eq (OptBls.add Z2 X) X = true := by
  classical
  exact Bls.via_add_zero_eq (K := K2) goodHom_F2 cX (canonT_ops cX cX 0).2.2.2.2 rfl

/-- G2 inverse: `add(X, neg(X))` and `add(neg(X), X)` are ∞, for all canonical triples `X`. -/
theorem g2_add_neg (cX : CanonT X) :
    OptBls.is_inf (OptBls.add X (OptBls.neg X)) = true
      ∧ OptBls.is_inf (OptBls.add (OptBls.neg X) X) = true := by
  classical exact Bls.via_add_neg (K := K2) goodHom_F2 curveF2.two cX

/-- G2 closure: `add`, `double`, `neg`, `multiply(·, n)` map canonical on-curve triples to canonical
    on-curve triples; `Z2` is canonical and on the curve. -/
theorem g2_closed (cX : CanonT X) (cY : CanonT Y) (hX : OptBls.is_on_curve X blsB2 = true)
    (hY : OptBls.is_on_curve Y blsB2 = true) (n : ℕ) :
    (CanonT (OptBls.add X Y) ∧ OptBls.is_on_curve (OptBls.add X Y) blsB2 = true)
      ∧ (CanonT (OptBls.double X) ∧ OptBls.is_on_curve (OptBls.double X) blsB2 = true)
      ∧ (CanonT (OptBls.neg X) ∧ OptBls.is_on_curve (OptBls.neg X) blsB2 = true)
      ∧ (CanonT (OptBls.multiply X n) ∧ OptBls.is_on_curve (OptBls.multiply X n) blsB2 = true)
      ∧ (CanonT Z2 ∧ OptBls.is_on_curve Z2 blsB2 = true) := by
  classical
  have k := curveF2.closed cX cY hX hY n
  exact ⟨k.1, k.2.1, k.2.2.1, k.2.2.2, (canonT_ops cX cY n).2.2.2.2, rfl⟩

/-- G2: `add(X, X)` is `eq` to `double(X)`, for all canonical triples. -/
theorem g2_add_self (cX : CanonT X) : OptBls.eq (OptBls.add X X) (OptBls.double X) = true := by
  classical exact Bls.via_add_self_eq (K := K2) goodHom_F2 cX

/-- G2 `multiply` is additive in the scalar. -/
theorem g2_multiply_add (cX : CanonT X) (hX : OptBls.is_on_curve X blsB2 = true) (m n : ℕ) :
    OptBls.eq (OptBls.multiply X (m + n)) (OptBls.add (OptBls.multiply X m) (OptBls.multiply X n))
      = true := by
  classical exact curveF2.multiply_add_eq cX hX m n

/-- G2: `multiply(multiply(X, m), n)` is `eq` to `multiply(X, m * n)`. -/
theorem g2_multiply_mul (cX : CanonT X) (hX : OptBls.is_on_curve X blsB2 = true) (m n : ℕ) :
    OptBls.eq (OptBls.multiply (OptBls.multiply X m) n) (OptBls.multiply X (m * n)) = true := by
  classical exact curveF2.multiply_mul_eq cX hX m n

/-- G2: scalars act modulo any `r` with `multiply(X, r) = ∞`. -/
theorem g2_multiply_mod (cX : CanonT X) (hX : OptBls.is_on_curve X blsB2 = true) (r : ℕ)
    (hr : OptBls.is_inf (OptBls.multiply X r) = true) (n : ℕ) :
    OptBls.eq (OptBls.multiply X n) (OptBls.multiply X (n % r)) = true := by
  classical exact curveF2.multiply_mod_eq cX hX r hr n

/-- G2: `multiply(neg(X), n)` is `eq` to `neg(multiply(X, n))`. -/
theorem g2_multiply_neg (cX : CanonT X) (hX : OptBls.is_on_curve X blsB2 = true) (n : ℕ) :
    OptBls.eq (OptBls.multiply (OptBls.neg X) n) (OptBls.neg (OptBls.multiply X n)) = true := by
  classical exact curveF2.multiply_neg_eq cX hX n

/-- G2: `eq` is an equivalence relation on canonical triples, and `add`, `multiply` respect it. -/
theorem g2_eq_congr (cX : CanonT X) (cY : CanonT Y) (cZ : CanonT Z) (cX' : CanonT X')
    (cY' : CanonT Y') :
    OptBls.eq X X = true ∧ (OptBls.eq X Y = true → OptBls.eq Y X = true)
      ∧ (OptBls.eq X Y = true → OptBls.eq Y Z = true → OptBls.eq X Z = true)
      ∧ (OptBls.eq X X' = true → OptBls.eq Y Y' = true →
          OptBls.eq (OptBls.add X Y) (OptBls.add X' Y') = true)
      ∧ (OptBls.eq X X' = true → ∀ n : ℕ,
          OptBls.eq (OptBls.multiply X n) (OptBls.multiply X' n) = true) := by
  classical
  obtain ⟨e1, e2, e3⟩ := Bls.via_eq_equiv (K := K2) goodHom_F2 cX cY cZ
  exact ⟨e1, e2, e3, Bls.via_add_congr (K := K2) goodHom_F2 curveF2.two cX cX' cY cY',
    fun e n => Bls.via_multiply_congr (K := K2) goodHom_F2 curveF2.two cX cX' e n⟩

end G2

/-! ## the generators -/

/-- **G1 generator.**  The model's `blsG1` is on the curve `y² = x³ + 4` and represents a Mathlib
    point of `E(Fq blsP)` of exact order `curve_order`. -/
theorem blsG1_point :
    OptBls.is_on_curve blsG1 blsB = true ∧
    ∃ G : CurvePt (blsB : F1), Represents blsG1 G ∧ G ≠ 0 ∧ blsR • G = 0 ∧ addOrderOf G = blsR := by
  obtain ⟨hon, hinf, hr⟩ := C07.Facts.bls_G1_model
  obtain ⟨G, r, h0, hrG⟩ := curveF1.point_of_facts (goodT_true _) hon hinf hr
  exact ⟨hon, G, r.rep, h0, hrG, ((C17.subgroup_iff_blsR G).mp hrG).resolve_left h0⟩

/-- G1: scalars act on the generator modulo `curve_order` -/
theorem blsG1_multiply_mod (n : ℕ) :
    OptBls.eq (OptBls.multiply blsG1 n) (OptBls.multiply blsG1 (n % blsR)) = true :=
  g1_multiply_mod C07.Facts.bls_G1_model.1 blsR C07.Facts.bls_G1_model.2.2 n

/-- **G2 generator.**  The model's `blsG2` is canonical, on the curve `y² = x³ + 4(1+i)`, and its value
    represents a Mathlib point of `E'(K2)` of exact order `curve_order`. -/
theorem blsG2_point [DecidableEq K2] :
    CanonT blsG2 ∧ OptBls.is_on_curve blsG2 blsB2 = true ∧
    ∃ G : CurvePt (toQ blsB2 : K2),
      Represents (mapT toQ blsG2) G ∧ G ≠ 0 ∧ blsR • G = 0 ∧ addOrderOf G = blsR := by
  obtain ⟨hon, hinf, hr⟩ := C07.Facts.bls_G2_opt
  obtain ⟨G, r, h0, hrG⟩ := curveF2.point_of_facts canonT_blsG2 hon hinf hr
  exact ⟨canonT_blsG2, hon, G, r.rep, h0, hrG, ((C17.subgroup_iff_blsR G).mp hrG).resolve_left h0⟩

/-- G2: scalars act on the generator modulo `curve_order` -/
theorem blsG2_multiply_mod (n : ℕ) :
    OptBls.eq (OptBls.multiply blsG2 n) (OptBls.multiply blsG2 (n % blsR)) = true :=
  g2_multiply_mod canonT_blsG2 C07.Facts.bls_G2_opt.1 blsR C07.Facts.bls_G2_opt.2.2 n

/-! ### non-vacuity: the laws instantiated at the generators (all hypotheses discharged) -/

example : OptBls.eq (OptBls.add (OptBls.add blsG1 (OptBls.double blsG1)) (OptBls.neg blsG1))
    (OptBls.add blsG1 (OptBls.add (OptBls.double blsG1) (OptBls.neg blsG1))) = true :=
  have h := C07.Facts.bls_G1_model.1
  g1_add_assoc h (g1_closed h h 0).2.1 (g1_closed h h 0).2.2.1

example : OptBls.eq (OptBls.add (OptBls.add blsG2 (OptBls.double blsG2)) (OptBls.neg blsG2))
    (OptBls.add blsG2 (OptBls.add (OptBls.double blsG2) (OptBls.neg blsG2))) = true :=
  have c := canonT_blsG2
  have h := C07.Facts.bls_G2_opt.1
  have k := g2_closed c c h h 0
  g2_add_assoc c k.2.1.1 k.2.2.1.1 h k.2.1.2 k.2.2.1.2

end PyEcc.C07M
