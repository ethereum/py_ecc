/-
  PyEcc.Props.C08_Gen — property C08 (field classes satisfy the field axioms with canonical representatives) restated
  about the GENERATED code.  Every py_ecc function in a statement below is a definition of
  `PyEcc/Gen/ExtraFields{Fq,Fqp,Mul,Poly}.lean`, i.e. the Lean code the translator produced from the Python source of
  this run.  Proofs: the tie theorems `Props/TieFields*.lean` (generated method = model method, for all inputs) composed
  with the model theorems of `Props/C08.lean`, `C08_Fqp.lean`, `C08_FqpInv.lean`, `C08_Fq12.lean`.

  PART 1 — the prime-field class `FQ` of BOTH `py_ecc/fields/field_elements.py` (`Gen.ExtraFieldsFq.Ref.FQ.*`, namespace
  `FqRef` below) and `py_ecc/fields/optimized_field_elements.py` (`Gen.ExtraFieldsFq.Opt.FQ.*`, namespace `FqOpt`), and
  `py_ecc.utils.prime_field_inv` (`Gen.ExtraFieldsFq.Utils.prime_field_inv`).
  In the generated code an `FQ` object is the value of its attribute `n` (an `Int`) and the class attribute
  `field_modulus` is the explicit first argument; `Red p a` (`0 ≤ a < p`) says that `a` is the attribute of an `FQ` object
  of the field with modulus `p` (the constructor reduces, so every object satisfies it: `init_int_red`).  The ring laws
  hold for every modulus `p ≠ 0`, the laws with `/` for every prime `p`.

  PART 2 — the extension-field classes `FQP` / `FQ2` / `FQ12` of both modules (`Gen.ExtraFieldsFqp`, `Gen.ExtraFieldsMul`,
  `Gen.ExtraFieldsPoly`; namespaces `FqpRef`, `FqpOpt` below).  An `FQP` object is the structure `FQP` of its instance
  attributes; the class attributes `field_modulus = p` and `FQ2_MODULUS_COEFFS` / `FQ12_MODULUS_COEFFS = mc` are the leading
  arguments of every function; a method returns `Except PyErr FQP` because the constructor raises when the number of
  coefficients is not the degree.
    `IsObj mc x`     : `x` has the attributes every object of the class has (`modulus_coeffs = mc`, `degree = len(mc)`,
                       `len(coeffs) = degree`, and `mc_tuples` as `__init__` computes it in the optimized class)
    `IsCanon p mc x` : moreover all coefficients are in `[0, p)` — what the constructor and every method return
                       (`init_ints_canon`, `results_canonical`)
    `evQ p mc x.coeffs` : the value of `x` in the quotient ring `(ZMod p)[X] / (X^d + Σ mcᵢ Xⁱ)` (Mathlib `AdjoinRoot`)
  The ring laws hold for ANY modulus `p > 0` and ANY modulus coefficients of length `≥ 1`; the inverse laws for any prime
  `p` and irreducible modulus.  The inverse laws are restated for the optimized class only: the reference `FQP.inv` /
  `FQP.__div__` (FQP operand; lists mixing ints and `FQ` objects) are translated in `Gen/ExtraFieldsInv.lean` and tied to
  the model in `Props/TieFieldsInv.lean` (`Tie.InvRef.inv_eq`, `div_fqp_eq`), but no statement of this file is about them.
-/
import PyEcc.Props.C08
import PyEcc.Props.C08_Fqp
import PyEcc.Props.C08_FqpInv
import PyEcc.Props.C08_Fq12
import PyEcc.Props.TieFieldsPoly

namespace PyEcc.C08.Gen
open PyEcc PyEcc.Gen.ExtraFieldsFq

/-- `a` is the attribute `n` of an `FQ` object of the field with modulus `p`: `0 ≤ a < p` -/
def Red (p : ℕ) (a : ℤ) : Prop := 0 ≤ a ∧ a < (p : ℤ)

instance (p : ℕ) (a : ℤ) : Decidable (Red p a) := by unfold Red; infer_instance

theorem Red.lift {p : ℕ} {a : ℤ} (h : Red p a) : ∃ x : Fq p, (x.n : ℤ) = a :=
  ⟨⟨a.toNat, by have := h.1; have := h.2; omega⟩, by have := h.1; simp only []; omega⟩

theorem red_n {p : ℕ} (x : Fq p) : Red p (x.n : ℤ) := ⟨by omega, by have := x.lt; omega⟩

theorem cn {p : ℕ} {x y : Fq p} (h : x = y) : (x.n : ℤ) = (y.n : ℤ) := by rw [h]

theorem red_of_eq {p : ℕ} {a : ℤ} {x : Fq p} (h : a = x.n) : Red p a := h ▸ red_n x

theorem n_inj {p : ℕ} {x y : Fq p} (h : (x.n : ℤ) = (y.n : ℤ)) : x = y := Fq.ext (by omega)

/-! ## `py_ecc.utils.prime_field_inv` -/

/-- **`prime_field_inv(a, p)` is the inverse modulo `p`** — the generated function returns, for every prime `p` and
    EVERY Python int `a` (negative, `≥ p`, multiples of `p`), the canonical representative in `[0, p)` of the inverse
    of `a` in the field `ZMod p` (with `inv 0 = 0`). -/
theorem prime_field_inv_correct {p : ℕ} (hp : p.Prime) (a : ℤ) :
    ((Utils.prime_field_inv a p : ℤ) : ZMod p) = (a : ZMod p)⁻¹ ∧
      0 ≤ Utils.prime_field_inv a p ∧ Utils.prime_field_inv a p < p := by
  rw [Tie.prime_field_inv_eq]; exact C08.primeFieldInv_correct hp a

/-- `prime_field_inv(a, p) * a ≡ 1 (mod p)` when `p` is prime and does not divide `a`; `prime_field_inv(a, p) = 0`
    when it does. -/
theorem prime_field_inv_mul {p : ℕ} (hp : p.Prime) (a : ℤ) :
    (a % (p : ℤ) ≠ 0 → (Utils.prime_field_inv a p * a) % (p : ℤ) = 1) ∧
    (a % (p : ℤ) = 0 → Utils.prime_field_inv a p = 0) := by
  rw [Tie.prime_field_inv_eq]
  exact ⟨fun ha => (FqSem.primeFieldInv_mul_emod hp a ha).trans
      (Int.emod_eq_of_lt (by omega) (by exact_mod_cast hp.one_lt)),
    fun ha => by unfold primeFieldInv; simp [ha]⟩

/-! ## reference class `FQ` (`py_ecc/fields/field_elements.py`) -/
namespace FqRef
open Gen.ExtraFieldsFq.Ref
variable {p : ℕ}

section ring
variable [NeZero p]

/-- **Results are stored reduced (reference `FQ`).**  The constructor applied to ANY Python int, and `+ - * / neg **`
    (FQ and int operand kinds) applied to `FQ` objects, return an attribute in `[0, p)`. -/
theorem results_reduced {a b : ℤ} (ha : Red p a) (hb : Red p b) (k : ℤ) :
    Red p (FQ.init_int p k) ∧ Red p (FQ.add_fq p a b) ∧ Red p (FQ.sub_fq p a b) ∧ Red p (FQ.mul_fq p a b) ∧
    Red p (FQ.div_fq p a b) ∧ Red p (FQ.neg p a) ∧ Red p (FQ.pow p a k) ∧
    Red p (FQ.add_int p a k) ∧ Red p (FQ.sub_int p a k) ∧ Red p (FQ.rsub_int p a k) ∧ Red p (FQ.mul_int p a k) ∧
    Red p (FQ.div_int p a k) ∧ Red p (FQ.rdiv_int p a k) ∧ Red p (FQ.one p) ∧ Red p (FQ.zero p) := by
  obtain ⟨a, rfl⟩ := ha.lift
  obtain ⟨b, rfl⟩ := hb.lift
  exact ⟨red_of_eq (Tie.FqRef.init_int_eq k), red_of_eq (Tie.FqRef.add_fq_eq a b), red_of_eq (Tie.FqRef.sub_fq_eq a b),
    red_of_eq (Tie.FqRef.mul_fq_eq a b), red_of_eq (Tie.FqRef.div_fq_eq a b), red_of_eq (Tie.FqRef.neg_eq a),
    red_of_eq (Tie.FqRef.pow_eq a k), red_of_eq (Tie.FqRef.add_int_eq a k), red_of_eq (Tie.FqRef.sub_int_eq a k),
    red_of_eq (Tie.FqRef.rsub_int_eq a k), red_of_eq (Tie.FqRef.mul_int_eq a k), red_of_eq (Tie.FqRef.div_int_eq a k),
    red_of_eq (Tie.FqRef.rdiv_int_eq a k), red_of_eq Tie.FqRef.one_eq, red_of_eq Tie.FqRef.zero_eq⟩

/-- the constructor `FQ(k)` stores `k mod p` (Python's non-negative remainder), for every int `k` -/
theorem init_int_red (k : ℤ) : Red p (FQ.init_int p k) ∧ FQ.init_int p k = k % (p : ℤ) :=
  ⟨red_of_eq (Tie.FqRef.init_int_eq k), rfl⟩

/-- **`FQ` is `ZMod p` (reference class).**  Reading the attribute of an `FQ` object as a residue class turns the
    generated `+ - * neg **` into the ring operations of `ZMod p`, and `FQ(k)` into the class of `k`. -/
theorem refines_zmod {a b : ℤ} (ha : Red p a) (hb : Red p b) (k : ℤ) (n : ℕ) :
    ((FQ.init_int p k : ℤ) : ZMod p) = (k : ZMod p) ∧
    ((FQ.add_fq p a b : ℤ) : ZMod p) = (a : ZMod p) + (b : ZMod p) ∧
    ((FQ.sub_fq p a b : ℤ) : ZMod p) = (a : ZMod p) - (b : ZMod p) ∧
    ((FQ.mul_fq p a b : ℤ) : ZMod p) = (a : ZMod p) * (b : ZMod p) ∧
    ((FQ.neg p a : ℤ) : ZMod p) = -(a : ZMod p) ∧
    ((FQ.pow p a n : ℤ) : ZMod p) = (a : ZMod p) ^ n := by
  obtain ⟨a, rfl⟩ := ha.lift
  obtain ⟨b, rfl⟩ := hb.lift
  obtain ⟨e, he, hz, hadd, hmul, hsub, hneg, hpow⟩ := C08.fq_ringEquiv_zmod (p := p)
  rw [Tie.FqRef.init_int_eq, Tie.FqRef.add_fq_eq, Tie.FqRef.sub_fq_eq, Tie.FqRef.mul_fq_eq, Tie.FqRef.neg_eq,
    Tie.FqRef.pow_eq]
  simp only [Int.cast_natCast, Int.toNat_natCast, ← he]
  exact ⟨hz k, hadd a b, hsub a b, hmul a b, hneg a, hpow a n⟩

/-- `(a + b) + c == a + (b + c)` for the generated reference `FQ.__add__` -/
theorem add_assoc {a b c : ℤ} (ha : Red p a) (hb : Red p b) (hc : Red p c) :
    FQ.add_fq p (FQ.add_fq p a b) c = FQ.add_fq p a (FQ.add_fq p b c) := by
  obtain ⟨a, rfl⟩ := ha.lift; obtain ⟨b, rfl⟩ := hb.lift; obtain ⟨c, rfl⟩ := hc.lift
  simp only [Tie.FqRef.add_fq_eq, C08.add_assoc]

/-- `a + b == b + a` -/
theorem add_comm {a b : ℤ} (ha : Red p a) (hb : Red p b) : FQ.add_fq p a b = FQ.add_fq p b a := by
  obtain ⟨a, rfl⟩ := ha.lift; obtain ⟨b, rfl⟩ := hb.lift
  rw [Tie.FqRef.add_fq_eq, Tie.FqRef.add_fq_eq, C08.add_comm]

/-- `(a * b) * c == a * (b * c)` for the generated reference `FQ.__mul__` -/
theorem mul_assoc {a b c : ℤ} (ha : Red p a) (hb : Red p b) (hc : Red p c) :
    FQ.mul_fq p (FQ.mul_fq p a b) c = FQ.mul_fq p a (FQ.mul_fq p b c) := by
  obtain ⟨a, rfl⟩ := ha.lift; obtain ⟨b, rfl⟩ := hb.lift; obtain ⟨c, rfl⟩ := hc.lift
  simp only [Tie.FqRef.mul_fq_eq, C08.mul_assoc]

/-- `a * b == b * a` -/
theorem mul_comm {a b : ℤ} (ha : Red p a) (hb : Red p b) : FQ.mul_fq p a b = FQ.mul_fq p b a := by
  obtain ⟨a, rfl⟩ := ha.lift; obtain ⟨b, rfl⟩ := hb.lift
  rw [Tie.FqRef.mul_fq_eq, Tie.FqRef.mul_fq_eq, C08.mul_comm]

/-- `a * (b + c) == a * b + a * c` and `(a + b) * c == a * c + b * c` -/
theorem distrib {a b c : ℤ} (ha : Red p a) (hb : Red p b) (hc : Red p c) :
    FQ.mul_fq p a (FQ.add_fq p b c) = FQ.add_fq p (FQ.mul_fq p a b) (FQ.mul_fq p a c) ∧
    FQ.mul_fq p (FQ.add_fq p a b) c = FQ.add_fq p (FQ.mul_fq p a c) (FQ.mul_fq p b c) := by
  obtain ⟨a, rfl⟩ := ha.lift; obtain ⟨b, rfl⟩ := hb.lift; obtain ⟨c, rfl⟩ := hc.lift
  simp only [Tie.FqRef.mul_fq_eq, Tie.FqRef.add_fq_eq, C08.left_distrib, C08.right_distrib, and_self]

/-- neutral elements: `a + FQ.zero() == a`, `a * FQ.one() == a`, `a * FQ.zero() == FQ.zero()` -/
theorem neutral {a : ℤ} (ha : Red p a) :
    FQ.add_fq p a (FQ.zero p) = a ∧ FQ.add_fq p (FQ.zero p) a = a ∧
    FQ.mul_fq p a (FQ.one p) = a ∧ FQ.mul_fq p (FQ.one p) a = a ∧ FQ.mul_fq p (FQ.zero p) a = FQ.zero p := by
  obtain ⟨a, rfl⟩ := ha.lift
  simp only [Tie.FqRef.zero_eq, Tie.FqRef.one_eq, Tie.FqRef.add_fq_eq, Tie.FqRef.mul_fq_eq]
  exact ⟨cn (C08.add_zero a), cn (C08.zero_add a), cn (C08.mul_one a),
    cn (C08.one_mul a), cn (C08.zero_mul a)⟩

/-- negation and subtraction: `(-a) + a == FQ.zero()`, `a - b == a + (-b)`, `a - a == FQ.zero()`,
    and the reflected `__rsub__` is the subtraction with swapped operands -/
theorem neg_sub {a b : ℤ} (ha : Red p a) (hb : Red p b) :
    FQ.add_fq p (FQ.neg p a) a = FQ.zero p ∧ FQ.sub_fq p a b = FQ.add_fq p a (FQ.neg p b) ∧
    FQ.sub_fq p a a = FQ.zero p ∧ FQ.rsub_fq p a b = FQ.sub_fq p b a := by
  obtain ⟨a, rfl⟩ := ha.lift; obtain ⟨b, rfl⟩ := hb.lift
  simp only [Tie.FqRef.zero_eq, Tie.FqRef.neg_eq, Tie.FqRef.add_fq_eq, Tie.FqRef.sub_fq_eq, Tie.FqRef.rsub_fq_eq]
  exact ⟨cn (C08.neg_add_cancel a), cn (C08.sub_eq_add_neg a b), cn (C08.sub_self a),
    trivial⟩

/-- **`x ** n` is the n-fold product, for every `n ≥ 0` however large**: `a ** 0 == FQ.one()`,
    `a ** (n+1) == (a ** n) * a`, `a ** (m+n) == (a ** m) * (a ** n)`, `a ** (m*n) == (a ** m) ** n`; a negative
    exponent gives `FQ.one()` (the loop `while other > 0` does not run). -/
theorem pow_laws {a : ℤ} (ha : Red p a) (m n : ℕ) :
    FQ.pow p a 0 = FQ.one p ∧ FQ.pow p a ((n : ℤ) + 1) = FQ.mul_fq p (FQ.pow p a n) a ∧
    FQ.pow p a ((m : ℤ) + n) = FQ.mul_fq p (FQ.pow p a m) (FQ.pow p a n) ∧
    FQ.pow p a ((m : ℤ) * n) = FQ.pow p (FQ.pow p a m) n ∧
    (∀ e : ℤ, e < 0 → FQ.pow p a e = FQ.one p) := by
  obtain ⟨a, rfl⟩ := ha.lift
  have e1 : ((n : ℤ) + 1).toNat = n + 1 := Int.toNat_natCast (n + 1)
  have e2 : ((m : ℤ) + n).toNat = m + n := Int.toNat_natCast (m + n)
  have e3 : ((m : ℤ) * n).toNat = m * n := Int.toNat_natCast (m * n)
  simp only [Tie.FqRef.pow_eq, Tie.FqRef.one_eq, Tie.FqRef.mul_fq_eq, e1, e2, e3, Int.toNat_natCast, Int.toNat_zero]
  refine ⟨cn (C08.pow_zero a), cn (C08.pow_succ a n), cn (C08.pow_add a m n),
    cn (C08.pow_mul a m n), fun e he => ?_⟩
  rw [Int.toNat_of_nonpos he.le]; exact cn (C08.pow_zero a)

/-- **int operands act as their residues**: `a + k == a + FQ(k)`, `a * k == a * FQ(k)`, `a - k == a - FQ(k)`,
    `k - a == FQ(k) - a` for every Python int `k` (negative and `> p` included); the reflected `__radd__`, `__rmul__`
    are the same functions. -/
theorem int_operands {a : ℤ} (ha : Red p a) (k : ℤ) :
    FQ.add_int p a k = FQ.add_fq p a (FQ.init_int p k) ∧ FQ.mul_int p a k = FQ.mul_fq p a (FQ.init_int p k) ∧
    FQ.sub_int p a k = FQ.sub_fq p a (FQ.init_int p k) ∧ FQ.rsub_int p a k = FQ.sub_fq p (FQ.init_int p k) a ∧
    FQ.radd_int p a k = FQ.add_int p a k ∧ FQ.rmul_int p a k = FQ.mul_int p a k := by
  obtain ⟨a, rfl⟩ := ha.lift
  simp only [Tie.FqRef.init_int_eq, Tie.FqRef.add_int_eq, Tie.FqRef.mul_int_eq, Tie.FqRef.sub_int_eq,
    Tie.FqRef.rsub_int_eq, Tie.FqRef.add_fq_eq, Tie.FqRef.mul_fq_eq, Tie.FqRef.sub_fq_eq, Tie.FqRef.radd_int_eq,
    Tie.FqRef.rmul_int_eq]
  exact ⟨cn (C08.addInt_eq a k), cn (C08.mulInt_eq a k), cn (C08.subInt_eq a k),
    cn (C08.rsubInt_eq a k), trivial, trivial⟩

omit [NeZero p] in
/-- **equality is value equality**: `FQ.__eq__` on two `FQ` objects is `True` iff the attributes are the same int
    (representatives are unique), `__ne__` is its negation; `FQ == int` compares the stored residue with the RAW int. -/
theorem eq_iff {a b : ℤ} (k : ℤ) :
    (FQ.eq_fq p a b = true ↔ a = b) ∧ (FQ.ne_fq p a b = !FQ.eq_fq p a b) ∧ (FQ.eq_int p a k = true ↔ a = k) := by
  simp [FQ.eq_fq, FQ.ne_fq, FQ.eq_int]

end ring

section field
variable [Fact p.Prime]

/-- **Field axioms with `/` (reference `FQ`, ANY prime `p`)**: `(a / b) * b == a` and `b / b == FQ.one()` for
    `b != FQ.zero()`; `a / FQ.zero() == FQ.zero()` (division by zero does not raise, `inv0` convention);
    `a / b == a * prime_field_inv(b, p)` with the generated `prime_field_inv`; `__truediv__` is `__div__`, the
    reflected `__rdiv__` is the division with swapped operands; no zero divisors. -/
theorem div_laws {a b : ℤ} (ha : Red p a) (hb : Red p b) :
    (b ≠ 0 → FQ.mul_fq p (FQ.div_fq p a b) b = a) ∧ (b ≠ 0 → FQ.div_fq p b b = FQ.one p) ∧
    FQ.div_fq p a (FQ.zero p) = FQ.zero p ∧
    FQ.div_fq p a b = FQ.mul_int p a (Utils.prime_field_inv b p) ∧
    FQ.truediv_fq p a b = FQ.div_fq p a b ∧ FQ.rdiv_fq p a b = FQ.div_fq p b a ∧
    (FQ.mul_fq p a b = 0 ↔ a = 0 ∨ b = 0) := by
  have : NeZero p := FqSem.neZero_of_fact_prime
  obtain ⟨a, rfl⟩ := ha.lift; obtain ⟨b, rfl⟩ := hb.lift
  have h0 : ∀ x : Fq p, ((x.n : ℤ) = 0) ↔ x = Fq.ofInt 0 := by
    intro x
    have : ((Fq.ofInt 0 : Fq p).n : ℤ) = 0 := by rw [Tie.Fq.ofInt_n]; simp
    constructor
    · intro h; exact n_inj (h.trans this.symm)
    · intro h; rw [h]; exact this
  refine ⟨fun hb0 => ?_, fun hb0 => ?_, ?_, ?_, rfl, ?_, ?_⟩
  · rw [Tie.FqRef.div_fq_eq, Tie.FqRef.mul_fq_eq]
    exact cn (C08.div_mul_cancel a b (fun h => hb0 ((h0 b).mpr h)))
  · rw [Tie.FqRef.div_fq_eq, Tie.FqRef.one_eq]
    exact cn (C08.div_self b (fun h => hb0 ((h0 b).mpr h)))
  · rw [Tie.FqRef.zero_eq, Tie.FqRef.div_fq_eq]; exact cn (C08.div_zero a)
  · rw [Tie.prime_field_inv_eq]; rfl
  · rw [Tie.FqRef.rdiv_fq_eq, Tie.FqRef.div_fq_eq]
  · rw [Tie.FqRef.mul_fq_eq, h0, h0, h0]; exact C08.mul_eq_zero a b

/-- `a / k == a / FQ(k)` and `k / a == FQ(k) / a` for every Python int `k` (so `a / k == FQ.zero()` when `p ∣ k`) -/
theorem div_int_operands {a : ℤ} (ha : Red p a) (k : ℤ) :
    FQ.div_int p a k = FQ.div_fq p a (FQ.init_int p k) ∧ FQ.rdiv_int p a k = FQ.div_fq p (FQ.init_int p k) a := by
  have : NeZero p := FqSem.neZero_of_fact_prime
  obtain ⟨a, rfl⟩ := ha.lift
  simp only [Tie.FqRef.init_int_eq, Tie.FqRef.div_int_eq, Tie.FqRef.rdiv_int_eq, Tie.FqRef.div_fq_eq]
  exact ⟨cn (C08.divInt_eq a k), cn (C08.rdivInt_eq a k)⟩

/-- division is the division of the field `ZMod p` (with `x / 0 = 0` on both sides) -/
theorem div_refines_zmod {a b : ℤ} (ha : Red p a) (hb : Red p b) :
    ((FQ.div_fq p a b : ℤ) : ZMod p) = (a : ZMod p) / (b : ZMod p) := by
  have : NeZero p := FqSem.neZero_of_fact_prime
  obtain ⟨a, rfl⟩ := ha.lift; obtain ⟨b, rfl⟩ := hb.lift
  rw [Tie.FqRef.div_fq_eq]
  simp only [Int.cast_natCast]
  exact (C08.fq_div_inv_zmod a b).1

/-- Fermat: `a ** (p - 1) == FQ.one()` for `a != FQ.zero()` -/
theorem pow_card_sub_one {a : ℤ} (ha : Red p a) (h0 : a ≠ 0) : FQ.pow p a ((p : ℤ) - 1) = FQ.one p := by
  have : NeZero p := FqSem.neZero_of_fact_prime
  obtain ⟨a, rfl⟩ := ha.lift
  have e : ((p : ℤ) - 1).toNat = p - 1 := Int.toNat_sub p 1
  rw [Tie.FqRef.pow_eq, Tie.FqRef.one_eq, e]
  refine cn (C08.pow_card_sub_one a (fun h => h0 ?_))
  rw [h, Tie.Fq.ofInt_n]; simp

end field
end FqRef

/-! ## optimized class `FQ` (`py_ecc/fields/optimized_field_elements.py`) -/
namespace FqOpt
open Gen.ExtraFieldsFq.Opt
variable {p : ℕ}

section ring
variable [NeZero p]

/-- **Results are stored reduced (optimized `FQ`).**  The constructor applied to ANY Python int, and `+ - * / neg **`
    (FQ and int operand kinds) applied to `FQ` objects, return an attribute in `[0, p)`. -/
theorem results_reduced {a b : ℤ} (ha : Red p a) (hb : Red p b) (k : ℤ) :
    Red p (FQ.init_int p k) ∧ Red p (FQ.add_fq p a b) ∧ Red p (FQ.sub_fq p a b) ∧ Red p (FQ.mul_fq p a b) ∧
    Red p (FQ.div_fq p a b) ∧ Red p (FQ.neg p a) ∧ Red p (FQ.pow p a k) ∧
    Red p (FQ.add_int p a k) ∧ Red p (FQ.sub_int p a k) ∧ Red p (FQ.rsub_int p a k) ∧ Red p (FQ.mul_int p a k) ∧
    Red p (FQ.div_int p a k) ∧ Red p (FQ.rdiv_int p a k) ∧ Red p (FQ.one p) ∧ Red p (FQ.zero p) := by
  rw [Tie.FqOpt.pow_eq_ref]; exact FqRef.results_reduced ha hb k

/-- the constructor `FQ(k)` stores `k mod p` (Python's non-negative remainder), for every int `k` -/
theorem init_int_red (k : ℤ) : Red p (FQ.init_int p k) ∧ FQ.init_int p k = k % (p : ℤ) :=
  FqRef.init_int_red k

/-- **`FQ` is `ZMod p` (optimized class).**  Reading the attribute of an `FQ` object as a residue class turns the
    generated `+ - * neg **` into the ring operations of `ZMod p`, and `FQ(k)` into the class of `k`. -/
theorem refines_zmod {a b : ℤ} (ha : Red p a) (hb : Red p b) (k : ℤ) (n : ℕ) :
    ((FQ.init_int p k : ℤ) : ZMod p) = (k : ZMod p) ∧
    ((FQ.add_fq p a b : ℤ) : ZMod p) = (a : ZMod p) + (b : ZMod p) ∧
    ((FQ.sub_fq p a b : ℤ) : ZMod p) = (a : ZMod p) - (b : ZMod p) ∧
    ((FQ.mul_fq p a b : ℤ) : ZMod p) = (a : ZMod p) * (b : ZMod p) ∧
    ((FQ.neg p a : ℤ) : ZMod p) = -(a : ZMod p) ∧
    ((FQ.pow p a n : ℤ) : ZMod p) = (a : ZMod p) ^ n := by
  rw [Tie.FqOpt.pow_eq_ref]; exact FqRef.refines_zmod ha hb k n

/-- `(a + b) + c == a + (b + c)` for the generated optimized `FQ.__add__` -/
theorem add_assoc {a b c : ℤ} (ha : Red p a) (hb : Red p b) (hc : Red p c) :
    FQ.add_fq p (FQ.add_fq p a b) c = FQ.add_fq p a (FQ.add_fq p b c) :=
  FqRef.add_assoc ha hb hc

/-- `a + b == b + a` -/
theorem add_comm {a b : ℤ} (ha : Red p a) (hb : Red p b) : FQ.add_fq p a b = FQ.add_fq p b a :=
  FqRef.add_comm ha hb

/-- `(a * b) * c == a * (b * c)` for the generated optimized `FQ.__mul__` -/
theorem mul_assoc {a b c : ℤ} (ha : Red p a) (hb : Red p b) (hc : Red p c) :
    FQ.mul_fq p (FQ.mul_fq p a b) c = FQ.mul_fq p a (FQ.mul_fq p b c) :=
  FqRef.mul_assoc ha hb hc

/-- `a * b == b * a` -/
theorem mul_comm {a b : ℤ} (ha : Red p a) (hb : Red p b) : FQ.mul_fq p a b = FQ.mul_fq p b a :=
  FqRef.mul_comm ha hb

/-- `a * (b + c) == a * b + a * c` and `(a + b) * c == a * c + b * c` -/
theorem distrib {a b c : ℤ} (ha : Red p a) (hb : Red p b) (hc : Red p c) :
    FQ.mul_fq p a (FQ.add_fq p b c) = FQ.add_fq p (FQ.mul_fq p a b) (FQ.mul_fq p a c) ∧
    FQ.mul_fq p (FQ.add_fq p a b) c = FQ.add_fq p (FQ.mul_fq p a c) (FQ.mul_fq p b c) :=
  FqRef.distrib ha hb hc

/-- neutral elements: `a + FQ.zero() == a`, `a * FQ.one() == a`, `a * FQ.zero() == FQ.zero()` -/
theorem neutral {a : ℤ} (ha : Red p a) :
    FQ.add_fq p a (FQ.zero p) = a ∧ FQ.add_fq p (FQ.zero p) a = a ∧
    FQ.mul_fq p a (FQ.one p) = a ∧ FQ.mul_fq p (FQ.one p) a = a ∧ FQ.mul_fq p (FQ.zero p) a = FQ.zero p :=
  FqRef.neutral ha

/-- negation and subtraction: `(-a) + a == FQ.zero()`, `a - b == a + (-b)`, `a - a == FQ.zero()`,
    and the reflected `__rsub__` is the subtraction with swapped operands -/
theorem neg_sub {a b : ℤ} (ha : Red p a) (hb : Red p b) :
    FQ.add_fq p (FQ.neg p a) a = FQ.zero p ∧ FQ.sub_fq p a b = FQ.add_fq p a (FQ.neg p b) ∧
    FQ.sub_fq p a a = FQ.zero p ∧ FQ.rsub_fq p a b = FQ.sub_fq p b a :=
  FqRef.neg_sub ha hb

/-- **`x ** n` is the n-fold product, for every `n ≥ 0` however large**: `a ** 0 == FQ.one()`,
    `a ** (n+1) == (a ** n) * a`, `a ** (m+n) == (a ** m) * (a ** n)`, `a ** (m*n) == (a ** m) ** n`; a negative
    exponent gives `FQ.one()` (the loop `while other > 0` does not run). -/
theorem pow_laws {a : ℤ} (ha : Red p a) (m n : ℕ) :
    FQ.pow p a 0 = FQ.one p ∧ FQ.pow p a ((n : ℤ) + 1) = FQ.mul_fq p (FQ.pow p a n) a ∧
    FQ.pow p a ((m : ℤ) + n) = FQ.mul_fq p (FQ.pow p a m) (FQ.pow p a n) ∧
    FQ.pow p a ((m : ℤ) * n) = FQ.pow p (FQ.pow p a m) n ∧
    (∀ e : ℤ, e < 0 → FQ.pow p a e = FQ.one p) := by
  rw [Tie.FqOpt.pow_eq_ref]; exact FqRef.pow_laws ha m n

/-- **int operands act as their residues**: `a + k == a + FQ(k)`, `a * k == a * FQ(k)`, `a - k == a - FQ(k)`,
    `k - a == FQ(k) - a` for every Python int `k` (negative and `> p` included); the reflected `__radd__`, `__rmul__`
    are the same functions. -/
theorem int_operands {a : ℤ} (ha : Red p a) (k : ℤ) :
    FQ.add_int p a k = FQ.add_fq p a (FQ.init_int p k) ∧ FQ.mul_int p a k = FQ.mul_fq p a (FQ.init_int p k) ∧
    FQ.sub_int p a k = FQ.sub_fq p a (FQ.init_int p k) ∧ FQ.rsub_int p a k = FQ.sub_fq p (FQ.init_int p k) a ∧
    FQ.radd_int p a k = FQ.add_int p a k ∧ FQ.rmul_int p a k = FQ.mul_int p a k :=
  FqRef.int_operands ha k

omit [NeZero p] in
/-- **equality is value equality**: `FQ.__eq__` on two `FQ` objects is `True` iff the attributes are the same int
    (representatives are unique), `__ne__` is its negation; `FQ == int` compares the stored residue with the RAW int. -/
theorem eq_iff {a b : ℤ} (k : ℤ) :
    (FQ.eq_fq p a b = true ↔ a = b) ∧ (FQ.ne_fq p a b = !FQ.eq_fq p a b) ∧ (FQ.eq_int p a k = true ↔ a = k) :=
  FqRef.eq_iff (p := p) k

end ring

section field
variable [Fact p.Prime]

/-- **Field axioms with `/` (optimized `FQ`, ANY prime `p`)**: `(a / b) * b == a` and `b / b == FQ.one()` for
    `b != FQ.zero()`; `a / FQ.zero() == FQ.zero()` (division by zero does not raise, `inv0` convention);
    `a / b == a * prime_field_inv(b, p)` with the generated `prime_field_inv`; `__truediv__` is `__div__`, the
    reflected `__rdiv__` is the division with swapped operands; no zero divisors. -/
theorem div_laws {a b : ℤ} (ha : Red p a) (hb : Red p b) :
    (b ≠ 0 → FQ.mul_fq p (FQ.div_fq p a b) b = a) ∧ (b ≠ 0 → FQ.div_fq p b b = FQ.one p) ∧
    FQ.div_fq p a (FQ.zero p) = FQ.zero p ∧
    FQ.div_fq p a b = FQ.mul_int p a (Utils.prime_field_inv b p) ∧
    FQ.truediv_fq p a b = FQ.div_fq p a b ∧ FQ.rdiv_fq p a b = FQ.div_fq p b a ∧
    (FQ.mul_fq p a b = 0 ↔ a = 0 ∨ b = 0) :=
  FqRef.div_laws ha hb

/-- `a / k == a / FQ(k)` and `k / a == FQ(k) / a` for every Python int `k` (so `a / k == FQ.zero()` when `p ∣ k`) -/
theorem div_int_operands {a : ℤ} (ha : Red p a) (k : ℤ) :
    FQ.div_int p a k = FQ.div_fq p a (FQ.init_int p k) ∧ FQ.rdiv_int p a k = FQ.div_fq p (FQ.init_int p k) a :=
  FqRef.div_int_operands ha k

/-- division is the division of the field `ZMod p` (with `x / 0 = 0` on both sides) -/
theorem div_refines_zmod {a b : ℤ} (ha : Red p a) (hb : Red p b) :
    ((FQ.div_fq p a b : ℤ) : ZMod p) = (a : ZMod p) / (b : ZMod p) :=
  FqRef.div_refines_zmod ha hb

/-- Fermat: `a ** (p - 1) == FQ.one()` for `a != FQ.zero()` -/
theorem pow_card_sub_one {a : ℤ} (ha : Red p a) (h0 : a ≠ 0) : FQ.pow p a ((p : ℤ) - 1) = FQ.one p := by
  rw [Tie.FqOpt.pow_eq_ref]; exact FqRef.pow_card_sub_one ha h0

end field
end FqOpt

/-! ## non-vacuity: the hypotheses are satisfiable, at `p = 7` and at the real BLS12-381 modulus; the generated code computes -/
section examples
open Gen.Consts
local instance : Fact (Nat.Prime 7) := ⟨by norm_num⟩

example : Red 7 3 ∧ Red 7 0 ∧ ¬ Red 7 7 ∧ ¬ Red 7 (-1) := by decide
example : Ref.FQ.mul_fq 7 (Ref.FQ.div_fq 7 2 3) 3 = 2 := (FqRef.div_laws (p := 7) (by decide) (by decide)).1 (by decide)
example : Opt.FQ.mul_fq 7 (Opt.FQ.div_fq 7 2 3) 3 = 2 := (FqOpt.div_laws (p := 7) (by decide) (by decide)).1 (by decide)
example : Ref.FQ.div_fq 7 2 3 = 3 ∧ Opt.FQ.pow 7 3 6 = 1 ∧ Ref.FQ.add_int 7 3 (-100) = 1 ∧ Utils.prime_field_inv 3 7 = 5 := by
  decide
example : fields_bls12_381_field_modulus.Prime := prime_blsP
set_option maxRecDepth 100000 in
example : Red fields_bls12_381_field_modulus 5 ∧ (5 : ℤ) ≠ 0 := by decide +kernel
end examples

/-! # PART 2 — the extension-field classes -/
section extension
open PyEcc.Fqp PyEcc.FqpSem

theorem zero_coeffs {v : Variant} {p : ℕ} {mc : List ℤ} :
    (0 : Fqp v p mc).coeffs = List.replicate mc.length 0 := by
  show (Fqp.ofInts (List.replicate mc.length 0) : Fqp v p mc).coeffs = _
  simp [Fqp.ofInts]

theorem of_ok {α : Type} {r : Except PyErr α} {x : α} (t : r = .ok x) {P : α → Prop} (hP : P x) (w : α)
    (h : r = .ok w) : P w := Except.ok.inj (t.symm.trans h) ▸ hP

section wf
variable {v : Variant} {p : ℕ} {mc : List ℤ}
theorem wfa {a b : Fqp v p mc} (ha : WF a) (hb : WF b) : WF (a + b) := wf_add ha hb
theorem wfm {a b : Fqp v p mc} (_ : WF a) (_ : WF b) : WF (a * b) := mul_wf a b
theorem wfn {a : Fqp v p mc} (ha : WF a) : WF (-a) := wf_neg ha
theorem wfp (hd : 1 ≤ mc.length) {a : Fqp v p mc} (_ : WF a) (n : ℕ) : WF (a ^ n) := pow_wf hd a n
theorem wf0 : WF (0 : Fqp v p mc) := wf_zero
theorem wf1 (hd : 1 ≤ mc.length) : WF (1 : Fqp v p mc) := wf_one hd
end wf

/-! ## reference classes (`py_ecc/fields/field_elements.py`) -/
namespace FqpRef
open Gen.ExtraFieldsFq.Ref Gen.ExtraFieldsFqp.Ref Gen.ExtraFieldsMul.Ref
open _root_.PyEcc.Tie.FqpRef (obj)
variable {p : ℕ} {mc : List ℤ}
/-- the model variant of this class -/
abbrev V : Variant := .ref

/-- `x` has the attributes of an object of the reference class whose `modulus_coeffs` class attribute is `mc` -/
structure IsObj (mc : List ℤ) (x : FQP) : Prop where
  modulus_coeffs : x.modulus_coeffs = mc
  degree : x.degree = mc.length
  length : x.coeffs.length = mc.length

/-- an object with all coefficients in `[0, p)` -/
def IsCanon (p : ℕ) (mc : List ℤ) (x : FQP) : Prop := IsObj mc x ∧ ∀ c ∈ x.coeffs, 0 ≤ c ∧ c < (p : ℤ)

theorem IsCanon.isObj {x : FQP} (h : IsCanon p mc x) : IsObj mc x := h.1

theorem IsObj.lift {x : FQP} (h : IsObj mc x) : ∃ a : Fqp .ref p mc, WF a ∧ x = obj a := by
  obtain ⟨cs, m, d⟩ := x
  obtain ⟨h1, h2, h3⟩ := h
  simp only at h1 h2 h3
  subst h1 h2
  exact ⟨⟨cs⟩, h3, rfl⟩

theorem IsCanon.lift {x : FQP} (h : IsCanon p mc x) : ∃ a : Fqp .ref p mc, Canon a ∧ x = obj a := by
  obtain ⟨a, ha, rfl⟩ := h.1.lift (p := p)
  exact ⟨a, ⟨ha, h.2⟩, rfl⟩

theorem isObj_obj {a : Fqp .ref p mc} (h : WF a) : IsObj mc (obj a) := ⟨rfl, rfl, h⟩
theorem isCanon_obj {a : Fqp .ref p mc} (h : Canon a) : IsCanon p mc (obj a) := ⟨⟨rfl, rfl, h.1⟩, h.2⟩
theorem obj_inj {a b : Fqp .ref p mc} (h : obj a = obj b) : a = b := by
  cases a; cases b; simpa [obj] using h

/-! uniform names for the tie theorems (the optimized class needs well-formedness where the reference one does not) -/
theorem t_add {a b : Fqp .ref p mc} (ha : WF a) (hb : WF b) : FQP.add p mc (obj a) (obj b) = .ok (obj (a + b)) :=
  Tie.FqpRef.add_eq a b ha hb
theorem t_sub {a b : Fqp .ref p mc} (ha : WF a) (hb : WF b) : FQP.sub p mc (obj a) (obj b) = .ok (obj (a - b)) :=
  Tie.FqpRef.sub_eq a b ha hb
theorem t_neg {a : Fqp .ref p mc} (ha : WF a) : FQP.neg p mc (obj a) = .ok (obj (-a)) := Tie.FqpRef.neg_eq a ha
theorem t_mul {a b : Fqp .ref p mc} (_ha : WF a) (_hb : WF b) : FQP.mul_fqp p mc (obj a) (obj b) = .ok (obj (a * b)) :=
  Tie.MulRef.mul_fqp_eq a b
theorem t_mulInt {a : Fqp .ref p mc} (ha : WF a) (k : ℤ) : FQP.mul_int p mc (obj a) k = .ok (obj (mulInt a k)) :=
  Tie.FqpRef.mul_int_eq a k ha
theorem t_divInt {a : Fqp .ref p mc} (ha : WF a) (k : ℤ) : FQP.div_int p mc (obj a) k = .ok (obj (divInt a k)) :=
  Tie.FqpRef.div_int_eq a k ha
theorem t_pow (hd : 1 ≤ mc.length) {a : Fqp .ref p mc} (_ha : WF a) (e : ℤ) :
    FQP.pow p mc (obj a) e = .ok (obj (a ^ e.toNat)) := Tie.MulRef.pow_eq a e hd
theorem t_init (cs : List ℤ) (h : cs.length = mc.length) :
    FQPsub.init_ints p mc cs = .ok (obj (Fqp.ofInts cs : Fqp .ref p mc)) := by
  rw [Tie.FqpRef.init_ints_eq, if_neg (by simpa using h)]
theorem t_eq (a b : Fqp .ref p mc) : FQP.eq p mc (obj a) (obj b) = Fqp.beq a b := Tie.FqpRef.eq_eq a b

/-! (the statements from here to the end of the ring laws are word for word the same for both classes) -/
/-- the call `cls([0] * degree)`, i.e. `FQP.zero()`; `FQ2.zero()` / `FQ12.zero()` are this call (`zero_one_calls`) -/
abbrev zeroCall (p : ℕ) (mc : List ℤ) : Except PyErr FQP := FQPsub.init_ints p mc (List.replicate mc.length 0)
/-- the call `cls([1] + [0] * (degree - 1))`, i.e. `FQP.one()` -/
abbrev oneCall (p : ℕ) (mc : List ℤ) : Except PyErr FQP :=
  FQPsub.init_ints p mc ([1] ++ List.replicate (mc.length - 1) 0)

/-- `FQ2.zero() / FQ2.one() / FQ12.zero() / FQ12.one()` are the generic constructor calls when the modulus has the
    degree of the class -/
theorem zero_one_calls :
    (mc.length = 2 → FQ2.zero p mc = zeroCall p mc ∧ FQ2.one p mc = oneCall p mc) ∧
    (mc.length = 12 → FQ12.zero p mc = zeroCall p mc ∧ FQ12.one p mc = oneCall p mc) := by
  unfold zeroCall oneCall
  exact ⟨fun h => by rw [h]; exact ⟨rfl, rfl⟩, fun h => by rw [h]; exact ⟨rfl, rfl⟩⟩

theorem zeroCall_eq : zeroCall p mc = .ok (obj (0 : Fqp _ p mc)) := Tie.FqpRef.init_zero rfl
theorem oneCall_eq (hd : 1 ≤ mc.length) : oneCall p mc = .ok (obj (1 : Fqp _ p mc)) := Tie.FqpRef.init_one rfl hd

/-- **The constructor reduces.**  `FQ2(cs)` / `FQ12(cs)` on a sequence of Python ints raises unless `len(cs)` is the
    degree, and otherwise returns a canonical object whose coefficients are `c mod p`. -/
theorem init_ints_canon (hp : 0 < p) (cs : List ℤ) :
    (cs.length = mc.length → ∃ x, FQPsub.init_ints p mc cs = .ok x ∧ IsCanon p mc x ∧
      x.coeffs = cs.map (fun c => c % (p : ℤ))) ∧
    (cs.length ≠ mc.length → FQPsub.init_ints p mc cs = .error PyErr.other) := by
  constructor
  · intro h
    exact ⟨_, t_init cs h, isCanon_obj (canon_ofInts hp h), rfl⟩
  · intro h
    rw [Tie.FqpRef.init_ints_eq, if_pos h]

/-- **Results are stored reduced.**  On objects of the class, `+ - neg *` (FQP and int operand), `/ int` and `**`
    (any int exponent) return — they do not raise — and the object returned is canonical: exactly `degree` coefficients,
    each in `[0, p)`. -/
theorem results_canonical (hp : 0 < p) (hd : 1 ≤ mc.length) {x y : FQP} (hx : IsObj mc x) (hy : IsObj mc y) :
    (∃ w, FQP.add p mc x y = .ok w ∧ IsCanon p mc w) ∧ (∃ w, FQP.sub p mc x y = .ok w ∧ IsCanon p mc w) ∧
    (∃ w, FQP.neg p mc x = .ok w ∧ IsCanon p mc w) ∧ (∃ w, FQP.mul_fqp p mc x y = .ok w ∧ IsCanon p mc w) ∧
    (∀ k : ℤ, ∃ w, FQP.mul_int p mc x k = .ok w ∧ IsCanon p mc w) ∧
    (∀ k : ℤ, ∃ w, FQP.div_int p mc x k = .ok w ∧ IsCanon p mc w) ∧
    (∀ e : ℤ, ∃ w, FQP.pow p mc x e = .ok w ∧ IsCanon p mc w) := by
  obtain ⟨a, ha, rfl⟩ := hx.lift (p := p); obtain ⟨b, hb, rfl⟩ := hy.lift (p := p)
  exact ⟨⟨_, t_add ha hb, isCanon_obj (canon_add hp ha hb)⟩, ⟨_, t_sub ha hb, isCanon_obj (canon_sub hp ha hb)⟩,
    ⟨_, t_neg ha, isCanon_obj (canon_neg hp ha)⟩, ⟨_, t_mul ha hb, isCanon_obj (mul_canon hp _ _)⟩,
    fun k => ⟨_, t_mulInt ha k, isCanon_obj (canon_mulInt hp ha k)⟩,
    fun k => ⟨_, t_divInt ha k, isCanon_obj (canon_mulInt hp ha _)⟩,
    fun e => ⟨_, t_pow hd ha e, isCanon_obj (pow_canon hp hd _ _)⟩⟩

/-- **Refinement: every operation is the quotient-ring operation.**  For any `field_modulus = p`, any
    `modulus_coeffs = mc` of length `d ≥ 1` and objects of the class, the value map `x ↦ evQ p mc x.coeffs` into
    `(ZMod p)[X]/(X^d + Σ mcᵢ Xⁱ)` sends the results of the generated `+ - neg * (·*int) **` to the ring operations;
    in particular the schoolbook double loop followed by the reduction loop computes the product modulo the modulus. -/
theorem refines_quotient (hd : 1 ≤ mc.length) {x y : FQP} (hx : IsObj mc x) (hy : IsObj mc y) :
    (∀ w, FQP.add p mc x y = .ok w → evQ p mc w.coeffs = evQ p mc x.coeffs + evQ p mc y.coeffs) ∧
    (∀ w, FQP.sub p mc x y = .ok w → evQ p mc w.coeffs = evQ p mc x.coeffs - evQ p mc y.coeffs) ∧
    (∀ w, FQP.neg p mc x = .ok w → evQ p mc w.coeffs = -evQ p mc x.coeffs) ∧
    (∀ w, FQP.mul_fqp p mc x y = .ok w → evQ p mc w.coeffs = evQ p mc x.coeffs * evQ p mc y.coeffs) ∧
    (∀ (k : ℤ) w, FQP.mul_int p mc x k = .ok w →
      evQ p mc w.coeffs = evQ p mc x.coeffs * (k : AdjoinRoot (modulus p mc))) ∧
    (∀ (n : ℕ) w, FQP.pow p mc x n = .ok w → evQ p mc w.coeffs = evQ p mc x.coeffs ^ n) ∧
    (∀ z o, zeroCall p mc = .ok z → oneCall p mc = .ok o → evQ p mc z.coeffs = 0 ∧ evQ p mc o.coeffs = 1) := by
  obtain ⟨a, ha, rfl⟩ := hx.lift (p := p); obtain ⟨b, hb, rfl⟩ := hy.lift (p := p)
  exact ⟨of_ok (t_add ha hb) (toQ_add ha hb), of_ok (t_sub ha hb) (toQ_sub ha hb), of_ok (t_neg ha) (toQ_neg a),
    of_ok (t_mul ha hb) (toQ_mul ha hb), fun k => of_ok (t_mulInt ha k) (toQ_mulInt a k),
    fun n => of_ok (t_pow hd ha n) (toQ_pow hd ha n),
    fun z o hz ho => by
      rw [zeroCall_eq] at hz; rw [oneCall_eq hd] at ho; cases hz; cases ho
      exact ⟨toQ_zero (v := V), toQ_one (v := V)⟩⟩

/-- **Equality is value equality.**  `FQP.__eq__` on two objects of the class is `True` iff the objects are equal, and
    for canonical objects iff they denote the same element of the quotient ring; `__ne__` is the negation. -/
theorem eq_iff {x y : FQP} (hx : IsObj mc x) (hy : IsObj mc y) :
    (FQP.eq p mc x y = true ↔ x = y) ∧ (FQP.ne p mc x y = !FQP.eq p mc x y) ∧
    (IsCanon p mc x → IsCanon p mc y → (FQP.eq p mc x y = true ↔ evQ p mc x.coeffs = evQ p mc y.coeffs)) := by
  have h1 : ∀ {x y : FQP}, IsObj mc x → IsObj mc y → (FQP.eq p mc x y = true ↔ x = y) := by
    intro x y hx hy
    obtain ⟨a, ha, rfl⟩ := hx.lift (p := p); obtain ⟨b, hb, rfl⟩ := hy.lift (p := p)
    rw [t_eq, C08P.beq_iff ha hb]
    exact ⟨fun h => h ▸ rfl, obj_inj⟩
  refine ⟨h1 hx hy, ?_, fun cx cy => ?_⟩
  · unfold FQP.ne; cases FQP.eq p mc x y <;> rfl
  · rw [h1 hx hy]
    obtain ⟨a, ha, rfl⟩ := cx.lift; obtain ⟨b, hb, rfl⟩ := cy.lift
    exact ⟨fun h => h ▸ rfl, fun h => congrArg obj (toQ_inj ha hb h)⟩

/-- `(x + y) + z == x + (y + z)` and `x + y == y + x` for the generated `FQP.__add__`: all calls return and the two
    sides are the same canonical object -/
theorem add_assoc_comm (hp : 0 < p) {x y z : FQP} (hx : IsObj mc x) (hy : IsObj mc y) (hz : IsObj mc z) :
    (∃ w, IsCanon p mc w ∧ (FQP.add p mc x y >>= fun xy => FQP.add p mc xy z) = .ok w ∧
      (FQP.add p mc y z >>= fun yz => FQP.add p mc x yz) = .ok w) ∧
    (∃ w, IsCanon p mc w ∧ FQP.add p mc x y = .ok w ∧ FQP.add p mc y x = .ok w) := by
  obtain ⟨a, ha, rfl⟩ := hx.lift (p := p); obtain ⟨b, hb, rfl⟩ := hy.lift (p := p)
  obtain ⟨c, hc, rfl⟩ := hz.lift (p := p)
  refine ⟨⟨obj (a + b + c), isCanon_obj (canon_add hp (wfa ha hb) hc), ?_, ?_⟩,
    ⟨obj (a + b), isCanon_obj (canon_add hp ha hb), t_add ha hb, ?_⟩⟩
  · rw [t_add ha hb, ok_bind, t_add (wfa ha hb) hc]
  · rw [t_add hb hc, ok_bind, t_add ha (wfa hb hc), C08P.add_assoc hp ha hb hc]
  · rw [t_add hb ha, C08P.add_comm hp ha hb]

/-- `(x * y) * z == x * (y * z)` and `x * y == y * x` for the generated `FQP.__mul__` (FQP operand): all calls return and
    the two sides are the same canonical object -/
theorem mul_assoc_comm (hp : 0 < p) {x y z : FQP} (hx : IsObj mc x) (hy : IsObj mc y) (hz : IsObj mc z) :
    (∃ w, IsCanon p mc w ∧ (FQP.mul_fqp p mc x y >>= fun xy => FQP.mul_fqp p mc xy z) = .ok w ∧
      (FQP.mul_fqp p mc y z >>= fun yz => FQP.mul_fqp p mc x yz) = .ok w) ∧
    (∃ w, IsCanon p mc w ∧ FQP.mul_fqp p mc x y = .ok w ∧ FQP.mul_fqp p mc y x = .ok w) := by
  obtain ⟨a, ha, rfl⟩ := hx.lift (p := p); obtain ⟨b, hb, rfl⟩ := hy.lift (p := p)
  obtain ⟨c, hc, rfl⟩ := hz.lift (p := p)
  refine ⟨⟨obj (a * b * c), isCanon_obj (mul_canon hp _ _), ?_, ?_⟩,
    ⟨obj (a * b), isCanon_obj (mul_canon hp _ _), t_mul ha hb, ?_⟩⟩
  · rw [t_mul ha hb, ok_bind, t_mul (wfm ha hb) hc]
  · rw [t_mul hb hc, ok_bind, t_mul ha (wfm hb hc), C08P.mul_assoc hp ha hb hc]
  · rw [t_mul hb ha, C08P.mul_comm hp ha hb]

/-- distributivity: `x * (y + z) == x * y + x * z` and `(x + y) * z == x * z + y * z` -/
theorem distrib (hp : 0 < p) {x y z : FQP} (hx : IsObj mc x) (hy : IsObj mc y) (hz : IsObj mc z) :
    (∃ w, IsCanon p mc w ∧ (FQP.add p mc y z >>= fun yz => FQP.mul_fqp p mc x yz) = .ok w ∧
      (FQP.mul_fqp p mc x y >>= fun xy => FQP.mul_fqp p mc x z >>= fun xz => FQP.add p mc xy xz) = .ok w) ∧
    (∃ w, IsCanon p mc w ∧ (FQP.add p mc x y >>= fun xy => FQP.mul_fqp p mc xy z) = .ok w ∧
      (FQP.mul_fqp p mc x z >>= fun xz => FQP.mul_fqp p mc y z >>= fun yz => FQP.add p mc xz yz) = .ok w) := by
  obtain ⟨a, ha, rfl⟩ := hx.lift (p := p); obtain ⟨b, hb, rfl⟩ := hy.lift (p := p)
  obtain ⟨c, hc, rfl⟩ := hz.lift (p := p)
  refine ⟨⟨obj (a * (b + c)), isCanon_obj (mul_canon hp _ _), ?_, ?_⟩,
    ⟨obj ((a + b) * c), isCanon_obj (mul_canon hp _ _), ?_, ?_⟩⟩
  · rw [t_add hb hc, ok_bind, t_mul ha (wfa hb hc)]
  · rw [t_mul ha hb, ok_bind, t_mul ha hc, ok_bind, t_add (wfm ha hb) (wfm ha hc), C08P.left_distrib hp ha hb hc]
  · rw [t_add ha hb, ok_bind, t_mul (wfa ha hb) hc]
  · rw [t_mul ha hc, ok_bind, t_mul hb hc, ok_bind, t_add (wfm ha hc) (wfm hb hc), C08P.right_distrib hp ha hb hc]

/-- neutral elements and negation: `FQP.zero()` and `FQP.one()` return canonical objects `z`, `o` with
    `x + z == x == z + x`, `x * o == x == o * x` for canonical `x`, and `x * z == z`, `x + (-x) == z`,
    `x - y == x + (-y)` for all objects of the class -/
theorem neutral_neg (hp : 0 < p) (hd : 1 ≤ mc.length) :
    ∃ z o, zeroCall p mc = .ok z ∧ oneCall p mc = .ok o ∧ IsCanon p mc z ∧ IsCanon p mc o ∧
      (∀ x, IsCanon p mc x → FQP.add p mc x z = .ok x ∧ FQP.add p mc z x = .ok x ∧
        FQP.mul_fqp p mc x o = .ok x ∧ FQP.mul_fqp p mc o x = .ok x) ∧
      (∀ x, IsObj mc x → FQP.mul_fqp p mc x z = .ok z ∧ (FQP.neg p mc x >>= fun nx => FQP.add p mc x nx) = .ok z) ∧
      (∀ x y, IsObj mc x → IsObj mc y →
        FQP.sub p mc x y = (FQP.neg p mc y >>= fun ny => FQP.add p mc x ny)) := by
  refine ⟨_, _, zeroCall_eq, oneCall_eq hd, isCanon_obj (canon_zero hp), isCanon_obj (canon_one hp hd),
    fun x hx => ?_, fun x hx => ?_, fun x y hx hy => ?_⟩
  · obtain ⟨a, ha, rfl⟩ := hx.lift
    refine ⟨?_, ?_, ?_, ?_⟩
    · rw [t_add ha.wf wf0, C08P.add_zero hp ha]
    · rw [t_add wf0 ha.wf, C08P.zero_add hp ha]
    · rw [t_mul ha.wf (wf1 hd), C08P.mul_one hp hd ha]
    · rw [t_mul (wf1 hd) ha.wf, C08P.one_mul hp hd ha]
  · obtain ⟨a, ha, rfl⟩ := hx.lift (p := p)
    refine ⟨?_, ?_⟩
    · rw [t_mul ha wf0, C08P.mul_zero hp ha]
    · rw [t_neg ha, ok_bind, t_add ha (wfn ha), C08P.add_neg_cancel hp ha]
  · obtain ⟨a, ha, rfl⟩ := hx.lift (p := p); obtain ⟨b, hb, rfl⟩ := hy.lift (p := p)
    rw [t_sub ha hb, t_neg hb, ok_bind, t_add ha (wfn hb), C08P.sub_eq_add_neg hp ha hb]

/-- **`x ** n` is the n-fold product, for every `n ≥ 0` however large** (the iterative square-and-multiply loop):
    `x ** 0 == one()`, `x ** (n+1) == (x ** n) * x`, `x ** (m+n) == (x ** m) * (x ** n)`; a negative exponent gives
    `one()`. -/
theorem pow_laws (hp : 0 < p) (hd : 1 ≤ mc.length) {x : FQP} (hx : IsObj mc x) (m n : ℕ) :
    FQP.pow p mc x 0 = oneCall p mc ∧
    FQP.pow p mc x ((n : ℤ) + 1) = (FQP.pow p mc x n >>= fun y => FQP.mul_fqp p mc y x) ∧
    FQP.pow p mc x ((m : ℤ) + n) =
      (FQP.pow p mc x m >>= fun y => FQP.pow p mc x n >>= fun y' => FQP.mul_fqp p mc y y') ∧
    (∀ e : ℤ, e < 0 → FQP.pow p mc x e = oneCall p mc) := by
  obtain ⟨a, ha, rfl⟩ := hx.lift (p := p)
  have e1 : ((n : ℤ) + 1).toNat = n + 1 := Int.toNat_natCast (n + 1)
  have e2 : ((m : ℤ) + n).toNat = m + n := Int.toNat_natCast (m + n)
  refine ⟨?_, ?_, ?_, fun e he => ?_⟩
  · rw [t_pow hd ha, oneCall_eq hd]; rfl
  · rw [t_pow hd ha, t_pow hd ha, ok_bind, t_mul (wfp hd ha _) ha, e1, Int.toNat_natCast,
      C08P.pow_succ hp hd ha]
  · rw [t_pow hd ha, t_pow hd ha, t_pow hd ha, ok_bind, ok_bind, t_mul (wfp hd ha _) (wfp hd ha _), e2,
      Int.toNat_natCast, Int.toNat_natCast, C08P.pow_add hp hd ha]
  · rw [t_pow hd ha, oneCall_eq hd, Int.toNat_of_nonpos he.le]; rfl

/-- **int operands act as their residues**: `x * k` for a Python int `k` (also the reflected `k * x`) equals
    `x * cls([k, 0, …, 0])`, only depends on `k mod p` (negative and `> p` ints included), and `x / k` is
    `x * prime_field_inv(k, p)` with the generated `prime_field_inv`. -/
theorem int_operands (hp : 0 < p) (hd : 1 ≤ mc.length) {x : FQP} (hx : IsObj mc x) (k : ℤ) :
    FQP.mul_int p mc x k =
      (FQPsub.init_ints p mc ([k] ++ List.replicate (mc.length - 1) 0) >>= fun s => FQP.mul_fqp p mc x s) ∧
    FQP.mul_int p mc x (k % (p : ℤ)) = FQP.mul_int p mc x k ∧
    FQP.rmul_int p mc x k = FQP.mul_int p mc x k ∧
    FQP.div_int p mc x k = FQP.mul_int p mc x (Gen.ExtraFieldsFq.Utils.prime_field_inv k p) ∧
    FQP.truediv_int p mc x k = FQP.div_int p mc x k := by
  obtain ⟨a, ha, rfl⟩ := hx.lift (p := p)
  refine ⟨?_, ?_, rfl, ?_, rfl⟩
  · rw [t_mulInt ha, t_init _ (Tie.length_scalar k hd), ok_bind, C08P.mulInt_eq_mul_ofIntScalar hp hd ha k]
    exact (t_mul ha (wf_ofIntScalar hd k)).symm
  · rw [t_mulInt ha, t_mulInt ha, C08P.mulInt_mod hp ha]
  · rw [t_divInt ha, t_mulInt ha, Tie.prime_field_inv_eq]; rfl

/-! ### non-vacuity -/
example : IsCanon 7 [1, 0] ⟨[3, 5], [1, 0], 2⟩ ∧ IsObj [1, 0] ⟨[-3, 12], [1, 0], 2⟩ :=
  ⟨⟨⟨rfl, rfl, rfl⟩, by decide⟩, ⟨rfl, rfl, rfl⟩⟩
/-- (3 + 5i)(2 + 6i) = 4 + 0i (mod 7), evaluated with the generated code -/
example : FQP.mul_fqp 7 [1, 0] ⟨[3, 5], [1, 0], 2⟩ ⟨[2, 6], [1, 0], 2⟩ = .ok ⟨[4, 0], [1, 0], 2⟩ := by decide
example : (0 : ℕ) < blsP ∧ 1 ≤ blsMc12.length ∧ blsMc12.length = 12 := by decide
example : ∃ o, FQ12.one blsP blsMc12 = .ok o ∧ IsCanon blsP blsMc12 o := by
  rw [(zero_one_calls.2 rfl).2]
  exact ⟨_, oneCall_eq (by decide), isCanon_obj (canon_one (by decide) (by decide))⟩

end FqpRef

/-! ## optimized classes (`py_ecc/fields/optimized_field_elements.py`) -/
namespace FqpOpt
open Gen.ExtraFieldsFq.Opt Gen.ExtraFieldsFqp.Opt Gen.ExtraFieldsMul.Opt Gen.ExtraFieldsPoly.Opt
open _root_.PyEcc.Tie.FqpOpt (obj)
variable {p : ℕ} {mc : List ℤ}
/-- the model variant of this class -/
abbrev V : Variant := .opt

/-- `x` has the attributes of an object of the optimized class whose `modulus_coeffs` class attribute is `mc`
    (`mc_tuples` is the list of the non-zero modulus coefficients with their positions, as `__init__` computes it) -/
structure IsObj (mc : List ℤ) (x : FQP) : Prop where
  mc_tuples : x.mc_tuples = (List.zip (List.range mc.length) mc).filter (fun ic => ic.2 ≠ 0)
  modulus_coeffs : x.modulus_coeffs = mc
  degree : x.degree = mc.length
  length : x.coeffs.length = mc.length

/-- an object with all coefficients in `[0, p)` -/
def IsCanon (p : ℕ) (mc : List ℤ) (x : FQP) : Prop := IsObj mc x ∧ ∀ c ∈ x.coeffs, 0 ≤ c ∧ c < (p : ℤ)

theorem IsCanon.isObj {x : FQP} (h : IsCanon p mc x) : IsObj mc x := h.1

theorem IsObj.lift {x : FQP} (h : IsObj mc x) : ∃ a : Fqp .opt p mc, WF a ∧ x = obj a := by
  obtain ⟨t, cs, m, d⟩ := x
  obtain ⟨h0, h1, h2, h3⟩ := h
  simp only at h0 h1 h2 h3
  subst h0 h1 h2
  exact ⟨⟨cs⟩, h3, rfl⟩

theorem IsCanon.lift {x : FQP} (h : IsCanon p mc x) : ∃ a : Fqp .opt p mc, Canon a ∧ x = obj a := by
  obtain ⟨a, ha, rfl⟩ := h.1.lift (p := p)
  exact ⟨a, ⟨ha, h.2⟩, rfl⟩

theorem isObj_obj {a : Fqp .opt p mc} (h : WF a) : IsObj mc (obj a) := ⟨rfl, rfl, rfl, h⟩
theorem isCanon_obj {a : Fqp .opt p mc} (h : Canon a) : IsCanon p mc (obj a) := ⟨⟨rfl, rfl, rfl, h.1⟩, h.2⟩
theorem obj_inj {a b : Fqp .opt p mc} (h : obj a = obj b) : a = b := by
  cases a; cases b; simpa [obj] using h

/-! uniform names for the tie theorems -/
theorem t_add {a b : Fqp .opt p mc} (ha : WF a) (hb : WF b) : FQP.add p mc (obj a) (obj b) = .ok (obj (a + b)) :=
  Tie.FqpOpt.add_eq a b ha hb
theorem t_sub {a b : Fqp .opt p mc} (ha : WF a) (hb : WF b) : FQP.sub p mc (obj a) (obj b) = .ok (obj (a - b)) :=
  Tie.FqpOpt.sub_eq a b ha hb
theorem t_neg {a : Fqp .opt p mc} (ha : WF a) : FQP.neg p mc (obj a) = .ok (obj (-a)) := Tie.FqpOpt.neg_eq a ha
theorem t_mul {a b : Fqp .opt p mc} (ha : WF a) (hb : WF b) : FQP.mul_fqp p mc (obj a) (obj b) = .ok (obj (a * b)) :=
  Tie.MulOpt.mul_fqp_eq a b ha hb
theorem t_mulInt {a : Fqp .opt p mc} (ha : WF a) (k : ℤ) : FQP.mul_int p mc (obj a) k = .ok (obj (mulInt a k)) :=
  Tie.FqpOpt.mul_int_eq a k ha
theorem t_divInt {a : Fqp .opt p mc} (ha : WF a) (k : ℤ) : FQP.div_int p mc (obj a) k = .ok (obj (divInt a k)) :=
  Tie.FqpOpt.div_int_eq a k ha
theorem t_pow (hd : 1 ≤ mc.length) {a : Fqp .opt p mc} (ha : WF a) (e : ℤ) :
    FQP.pow p mc (obj a) e = .ok (obj (a ^ e.toNat)) := Tie.MulOpt.pow_eq a e hd ha
theorem t_init (cs : List ℤ) (h : cs.length = mc.length) :
    FQPsub.init_ints p mc cs = .ok (obj (Fqp.ofInts cs : Fqp .opt p mc)) := by
  rw [Tie.FqpOpt.init_ints_eq, if_neg (by simpa using h)]
theorem t_eq (a b : Fqp .opt p mc) : FQP.eq p mc (obj a) (obj b) = Fqp.beq a b := Tie.FqpOpt.eq_eq a b
theorem t_inv (a : Fqp .opt p mc) : FQP.inv p mc (obj a) = .ok (obj (Fqp.inv a)) := Tie.PolyOpt.inv_eq a
theorem t_div {a b : Fqp .opt p mc} (ha : WF a) : FQP.div_fqp p mc (obj a) (obj b) = .ok (obj (a / b)) :=
  Tie.PolyOpt.div_fqp_eq a b ha

/-! (the statements from here to the end of the ring laws are word for word the same for both classes) -/
/-- the call `cls([0] * degree)`, i.e. `FQP.zero()`; `FQ2.zero()` / `FQ12.zero()` are this call (`zero_one_calls`) -/
abbrev zeroCall (p : ℕ) (mc : List ℤ) : Except PyErr FQP := FQPsub.init_ints p mc (List.replicate mc.length 0)
/-- the call `cls([1] + [0] * (degree - 1))`, i.e. `FQP.one()` -/
abbrev oneCall (p : ℕ) (mc : List ℤ) : Except PyErr FQP :=
  FQPsub.init_ints p mc ([1] ++ List.replicate (mc.length - 1) 0)

/-- `FQ2.zero() / FQ2.one() / FQ12.zero() / FQ12.one()` are the generic constructor calls when the modulus has the
    degree of the class -/
theorem zero_one_calls :
    (mc.length = 2 → FQ2.zero p mc = zeroCall p mc ∧ FQ2.one p mc = oneCall p mc) ∧
    (mc.length = 12 → FQ12.zero p mc = zeroCall p mc ∧ FQ12.one p mc = oneCall p mc) := by
  unfold zeroCall oneCall
  exact ⟨fun h => by rw [h]; exact ⟨rfl, rfl⟩, fun h => by rw [h]; exact ⟨rfl, rfl⟩⟩

theorem zeroCall_eq : zeroCall p mc = .ok (obj (0 : Fqp _ p mc)) := Tie.FqpOpt.init_zero rfl
theorem oneCall_eq (hd : 1 ≤ mc.length) : oneCall p mc = .ok (obj (1 : Fqp _ p mc)) := Tie.FqpOpt.init_one rfl hd

/-- **The constructor reduces.**  `FQ2(cs)` / `FQ12(cs)` on a sequence of Python ints raises unless `len(cs)` is the
    degree, and otherwise returns a canonical object whose coefficients are `c mod p`. -/
theorem init_ints_canon (hp : 0 < p) (cs : List ℤ) :
    (cs.length = mc.length → ∃ x, FQPsub.init_ints p mc cs = .ok x ∧ IsCanon p mc x ∧
      x.coeffs = cs.map (fun c => c % (p : ℤ))) ∧
    (cs.length ≠ mc.length → FQPsub.init_ints p mc cs = .error PyErr.other) := by
  constructor
  · intro h
    exact ⟨_, t_init cs h, isCanon_obj (canon_ofInts hp h), rfl⟩
  · intro h
    rw [Tie.FqpOpt.init_ints_eq, if_pos h]

/-- **Results are stored reduced.**  On objects of the class, `+ - neg *` (FQP and int operand), `/ int` and `**`
    (any int exponent) return — they do not raise — and the object returned is canonical: exactly `degree` coefficients,
    each in `[0, p)`. -/
theorem results_canonical (hp : 0 < p) (hd : 1 ≤ mc.length) {x y : FQP} (hx : IsObj mc x) (hy : IsObj mc y) :
    (∃ w, FQP.add p mc x y = .ok w ∧ IsCanon p mc w) ∧ (∃ w, FQP.sub p mc x y = .ok w ∧ IsCanon p mc w) ∧
    (∃ w, FQP.neg p mc x = .ok w ∧ IsCanon p mc w) ∧ (∃ w, FQP.mul_fqp p mc x y = .ok w ∧ IsCanon p mc w) ∧
    (∀ k : ℤ, ∃ w, FQP.mul_int p mc x k = .ok w ∧ IsCanon p mc w) ∧
    (∀ k : ℤ, ∃ w, FQP.div_int p mc x k = .ok w ∧ IsCanon p mc w) ∧
    (∀ e : ℤ, ∃ w, FQP.pow p mc x e = .ok w ∧ IsCanon p mc w) := by
  obtain ⟨a, ha, rfl⟩ := hx.lift (p := p); obtain ⟨b, hb, rfl⟩ := hy.lift (p := p)
  exact ⟨⟨_, t_add ha hb, isCanon_obj (canon_add hp ha hb)⟩, ⟨_, t_sub ha hb, isCanon_obj (canon_sub hp ha hb)⟩,
    ⟨_, t_neg ha, isCanon_obj (canon_neg hp ha)⟩, ⟨_, t_mul ha hb, isCanon_obj (mul_canon hp _ _)⟩,
    fun k => ⟨_, t_mulInt ha k, isCanon_obj (canon_mulInt hp ha k)⟩,
    fun k => ⟨_, t_divInt ha k, isCanon_obj (canon_mulInt hp ha _)⟩,
    fun e => ⟨_, t_pow hd ha e, isCanon_obj (pow_canon hp hd _ _)⟩⟩

/-- **Refinement: every operation is the quotient-ring operation.**  For any `field_modulus = p`, any
    `modulus_coeffs = mc` of length `d ≥ 1` and objects of the class, the value map `x ↦ evQ p mc x.coeffs` into
    `(ZMod p)[X]/(X^d + Σ mcᵢ Xⁱ)` sends the results of the generated `+ - neg * (·*int) **` to the ring operations;
    in particular the schoolbook double loop followed by the reduction loop computes the product modulo the modulus. -/
theorem refines_quotient (hd : 1 ≤ mc.length) {x y : FQP} (hx : IsObj mc x) (hy : IsObj mc y) :
    (∀ w, FQP.add p mc x y = .ok w → evQ p mc w.coeffs = evQ p mc x.coeffs + evQ p mc y.coeffs) ∧
    (∀ w, FQP.sub p mc x y = .ok w → evQ p mc w.coeffs = evQ p mc x.coeffs - evQ p mc y.coeffs) ∧
    (∀ w, FQP.neg p mc x = .ok w → evQ p mc w.coeffs = -evQ p mc x.coeffs) ∧
    (∀ w, FQP.mul_fqp p mc x y = .ok w → evQ p mc w.coeffs = evQ p mc x.coeffs * evQ p mc y.coeffs) ∧
    (∀ (k : ℤ) w, FQP.mul_int p mc x k = .ok w →
      evQ p mc w.coeffs = evQ p mc x.coeffs * (k : AdjoinRoot (modulus p mc))) ∧
    (∀ (n : ℕ) w, FQP.pow p mc x n = .ok w → evQ p mc w.coeffs = evQ p mc x.coeffs ^ n) ∧
    (∀ z o, zeroCall p mc = .ok z → oneCall p mc = .ok o → evQ p mc z.coeffs = 0 ∧ evQ p mc o.coeffs = 1) := by
  obtain ⟨a, ha, rfl⟩ := hx.lift (p := p); obtain ⟨b, hb, rfl⟩ := hy.lift (p := p)
  exact ⟨of_ok (t_add ha hb) (toQ_add ha hb), of_ok (t_sub ha hb) (toQ_sub ha hb), of_ok (t_neg ha) (toQ_neg a),
    of_ok (t_mul ha hb) (toQ_mul ha hb), fun k => of_ok (t_mulInt ha k) (toQ_mulInt a k),
    fun n => of_ok (t_pow hd ha n) (toQ_pow hd ha n),
    fun z o hz ho => by
      rw [zeroCall_eq] at hz; rw [oneCall_eq hd] at ho; cases hz; cases ho
      exact ⟨toQ_zero (v := V), toQ_one (v := V)⟩⟩

/-- **Equality is value equality.**  `FQP.__eq__` on two objects of the class is `True` iff the objects are equal, and
    for canonical objects iff they denote the same element of the quotient ring; `__ne__` is the negation. -/
theorem eq_iff {x y : FQP} (hx : IsObj mc x) (hy : IsObj mc y) :
    (FQP.eq p mc x y = true ↔ x = y) ∧ (FQP.ne p mc x y = !FQP.eq p mc x y) ∧
    (IsCanon p mc x → IsCanon p mc y → (FQP.eq p mc x y = true ↔ evQ p mc x.coeffs = evQ p mc y.coeffs)) := by
  have h1 : ∀ {x y : FQP}, IsObj mc x → IsObj mc y → (FQP.eq p mc x y = true ↔ x = y) := by
    intro x y hx hy
    obtain ⟨a, ha, rfl⟩ := hx.lift (p := p); obtain ⟨b, hb, rfl⟩ := hy.lift (p := p)
    rw [t_eq, C08P.beq_iff ha hb]
    exact ⟨fun h => h ▸ rfl, obj_inj⟩
  refine ⟨h1 hx hy, ?_, fun cx cy => ?_⟩
  · unfold FQP.ne; cases FQP.eq p mc x y <;> rfl
  · rw [h1 hx hy]
    obtain ⟨a, ha, rfl⟩ := cx.lift; obtain ⟨b, hb, rfl⟩ := cy.lift
    exact ⟨fun h => h ▸ rfl, fun h => congrArg obj (toQ_inj ha hb h)⟩

/-- `(x + y) + z == x + (y + z)` and `x + y == y + x` for the generated `FQP.__add__`: all calls return and the two
    sides are the same canonical object -/
theorem add_assoc_comm (hp : 0 < p) {x y z : FQP} (hx : IsObj mc x) (hy : IsObj mc y) (hz : IsObj mc z) :
    (∃ w, IsCanon p mc w ∧ (FQP.add p mc x y >>= fun xy => FQP.add p mc xy z) = .ok w ∧
      (FQP.add p mc y z >>= fun yz => FQP.add p mc x yz) = .ok w) ∧
    (∃ w, IsCanon p mc w ∧ FQP.add p mc x y = .ok w ∧ FQP.add p mc y x = .ok w) := by
  obtain ⟨a, ha, rfl⟩ := hx.lift (p := p); obtain ⟨b, hb, rfl⟩ := hy.lift (p := p)
  obtain ⟨c, hc, rfl⟩ := hz.lift (p := p)
  refine ⟨⟨obj (a + b + c), isCanon_obj (canon_add hp (wfa ha hb) hc), ?_, ?_⟩,
    ⟨obj (a + b), isCanon_obj (canon_add hp ha hb), t_add ha hb, ?_⟩⟩
  · rw [t_add ha hb, ok_bind, t_add (wfa ha hb) hc]
  · rw [t_add hb hc, ok_bind, t_add ha (wfa hb hc), C08P.add_assoc hp ha hb hc]
  · rw [t_add hb ha, C08P.add_comm hp ha hb]

/-- `(x * y) * z == x * (y * z)` and `x * y == y * x` for the generated `FQP.__mul__` (FQP operand): all calls return and
    the two sides are the same canonical object -/
theorem mul_assoc_comm (hp : 0 < p) {x y z : FQP} (hx : IsObj mc x) (hy : IsObj mc y) (hz : IsObj mc z) :
    (∃ w, IsCanon p mc w ∧ (FQP.mul_fqp p mc x y >>= fun xy => FQP.mul_fqp p mc xy z) = .ok w ∧
      (FQP.mul_fqp p mc y z >>= fun yz => FQP.mul_fqp p mc x yz) = .ok w) ∧
    (∃ w, IsCanon p mc w ∧ FQP.mul_fqp p mc x y = .ok w ∧ FQP.mul_fqp p mc y x = .ok w) := by
  obtain ⟨a, ha, rfl⟩ := hx.lift (p := p); obtain ⟨b, hb, rfl⟩ := hy.lift (p := p)
  obtain ⟨c, hc, rfl⟩ := hz.lift (p := p)
  refine ⟨⟨obj (a * b * c), isCanon_obj (mul_canon hp _ _), ?_, ?_⟩,
    ⟨obj (a * b), isCanon_obj (mul_canon hp _ _), t_mul ha hb, ?_⟩⟩
  · rw [t_mul ha hb, ok_bind, t_mul (wfm ha hb) hc]
  · rw [t_mul hb hc, ok_bind, t_mul ha (wfm hb hc), C08P.mul_assoc hp ha hb hc]
  · rw [t_mul hb ha, C08P.mul_comm hp ha hb]

/-- distributivity: `x * (y + z) == x * y + x * z` and `(x + y) * z == x * z + y * z` -/
theorem distrib (hp : 0 < p) {x y z : FQP} (hx : IsObj mc x) (hy : IsObj mc y) (hz : IsObj mc z) :
    (∃ w, IsCanon p mc w ∧ (FQP.add p mc y z >>= fun yz => FQP.mul_fqp p mc x yz) = .ok w ∧
      (FQP.mul_fqp p mc x y >>= fun xy => FQP.mul_fqp p mc x z >>= fun xz => FQP.add p mc xy xz) = .ok w) ∧
    (∃ w, IsCanon p mc w ∧ (FQP.add p mc x y >>= fun xy => FQP.mul_fqp p mc xy z) = .ok w ∧
      (FQP.mul_fqp p mc x z >>= fun xz => FQP.mul_fqp p mc y z >>= fun yz => FQP.add p mc xz yz) = .ok w) := by
  obtain ⟨a, ha, rfl⟩ := hx.lift (p := p); obtain ⟨b, hb, rfl⟩ := hy.lift (p := p)
  obtain ⟨c, hc, rfl⟩ := hz.lift (p := p)
  refine ⟨⟨obj (a * (b + c)), isCanon_obj (mul_canon hp _ _), ?_, ?_⟩,
    ⟨obj ((a + b) * c), isCanon_obj (mul_canon hp _ _), ?_, ?_⟩⟩
  · rw [t_add hb hc, ok_bind, t_mul ha (wfa hb hc)]
  · rw [t_mul ha hb, ok_bind, t_mul ha hc, ok_bind, t_add (wfm ha hb) (wfm ha hc), C08P.left_distrib hp ha hb hc]
  · rw [t_add ha hb, ok_bind, t_mul (wfa ha hb) hc]
  · rw [t_mul ha hc, ok_bind, t_mul hb hc, ok_bind, t_add (wfm ha hc) (wfm hb hc), C08P.right_distrib hp ha hb hc]

/-- neutral elements and negation: `FQP.zero()` and `FQP.one()` return canonical objects `z`, `o` with
    `x + z == x == z + x`, `x * o == x == o * x` for canonical `x`, and `x * z == z`, `x + (-x) == z`,
    `x - y == x + (-y)` for all objects of the class -/
theorem neutral_neg (hp : 0 < p) (hd : 1 ≤ mc.length) :
    ∃ z o, zeroCall p mc = .ok z ∧ oneCall p mc = .ok o ∧ IsCanon p mc z ∧ IsCanon p mc o ∧
      (∀ x, IsCanon p mc x → FQP.add p mc x z = .ok x ∧ FQP.add p mc z x = .ok x ∧
        FQP.mul_fqp p mc x o = .ok x ∧ FQP.mul_fqp p mc o x = .ok x) ∧
      (∀ x, IsObj mc x → FQP.mul_fqp p mc x z = .ok z ∧ (FQP.neg p mc x >>= fun nx => FQP.add p mc x nx) = .ok z) ∧
      (∀ x y, IsObj mc x → IsObj mc y →
        FQP.sub p mc x y = (FQP.neg p mc y >>= fun ny => FQP.add p mc x ny)) := by
  refine ⟨_, _, zeroCall_eq, oneCall_eq hd, isCanon_obj (canon_zero hp), isCanon_obj (canon_one hp hd),
    fun x hx => ?_, fun x hx => ?_, fun x y hx hy => ?_⟩
  · obtain ⟨a, ha, rfl⟩ := hx.lift
    refine ⟨?_, ?_, ?_, ?_⟩
    · rw [t_add ha.wf wf0, C08P.add_zero hp ha]
    · rw [t_add wf0 ha.wf, C08P.zero_add hp ha]
    · rw [t_mul ha.wf (wf1 hd), C08P.mul_one hp hd ha]
    · rw [t_mul (wf1 hd) ha.wf, C08P.one_mul hp hd ha]
  · obtain ⟨a, ha, rfl⟩ := hx.lift (p := p)
    refine ⟨?_, ?_⟩
    · rw [t_mul ha wf0, C08P.mul_zero hp ha]
    · rw [t_neg ha, ok_bind, t_add ha (wfn ha), C08P.add_neg_cancel hp ha]
  · obtain ⟨a, ha, rfl⟩ := hx.lift (p := p); obtain ⟨b, hb, rfl⟩ := hy.lift (p := p)
    rw [t_sub ha hb, t_neg hb, ok_bind, t_add ha (wfn hb), C08P.sub_eq_add_neg hp ha hb]

/-- **`x ** n` is the n-fold product, for every `n ≥ 0` however large** (the iterative square-and-multiply loop):
    `x ** 0 == one()`, `x ** (n+1) == (x ** n) * x`, `x ** (m+n) == (x ** m) * (x ** n)`; a negative exponent gives
    `one()`. -/
theorem pow_laws (hp : 0 < p) (hd : 1 ≤ mc.length) {x : FQP} (hx : IsObj mc x) (m n : ℕ) :
    FQP.pow p mc x 0 = oneCall p mc ∧
    FQP.pow p mc x ((n : ℤ) + 1) = (FQP.pow p mc x n >>= fun y => FQP.mul_fqp p mc y x) ∧
    FQP.pow p mc x ((m : ℤ) + n) =
      (FQP.pow p mc x m >>= fun y => FQP.pow p mc x n >>= fun y' => FQP.mul_fqp p mc y y') ∧
    (∀ e : ℤ, e < 0 → FQP.pow p mc x e = oneCall p mc) := by
  obtain ⟨a, ha, rfl⟩ := hx.lift (p := p)
  have e1 : ((n : ℤ) + 1).toNat = n + 1 := Int.toNat_natCast (n + 1)
  have e2 : ((m : ℤ) + n).toNat = m + n := Int.toNat_natCast (m + n)
  refine ⟨?_, ?_, ?_, fun e he => ?_⟩
  · rw [t_pow hd ha, oneCall_eq hd]; rfl
  · rw [t_pow hd ha, t_pow hd ha, ok_bind, t_mul (wfp hd ha _) ha, e1, Int.toNat_natCast,
      C08P.pow_succ hp hd ha]
  · rw [t_pow hd ha, t_pow hd ha, t_pow hd ha, ok_bind, ok_bind, t_mul (wfp hd ha _) (wfp hd ha _), e2,
      Int.toNat_natCast, Int.toNat_natCast, C08P.pow_add hp hd ha]
  · rw [t_pow hd ha, oneCall_eq hd, Int.toNat_of_nonpos he.le]; rfl

/-- **int operands act as their residues**: `x * k` for a Python int `k` (also the reflected `k * x`) equals
    `x * cls([k, 0, …, 0])`, only depends on `k mod p` (negative and `> p` ints included), and `x / k` is
    `x * prime_field_inv(k, p)` with the generated `prime_field_inv`. -/
theorem int_operands (hp : 0 < p) (hd : 1 ≤ mc.length) {x : FQP} (hx : IsObj mc x) (k : ℤ) :
    FQP.mul_int p mc x k =
      (FQPsub.init_ints p mc ([k] ++ List.replicate (mc.length - 1) 0) >>= fun s => FQP.mul_fqp p mc x s) ∧
    FQP.mul_int p mc x (k % (p : ℤ)) = FQP.mul_int p mc x k ∧
    FQP.rmul_int p mc x k = FQP.mul_int p mc x k ∧
    FQP.div_int p mc x k = FQP.mul_int p mc x (Gen.ExtraFieldsFq.Utils.prime_field_inv k p) ∧
    FQP.truediv_int p mc x k = FQP.div_int p mc x k := by
  obtain ⟨a, ha, rfl⟩ := hx.lift (p := p)
  refine ⟨?_, ?_, rfl, ?_, rfl⟩
  · rw [t_mulInt ha, t_init _ (Tie.length_scalar k hd), ok_bind, C08P.mulInt_eq_mul_ofIntScalar hp hd ha k]
    exact (t_mul ha (wf_ofIntScalar hd k)).symm
  · rw [t_mulInt ha, t_mulInt ha, C08P.mulInt_mod hp ha]
  · rw [t_divInt ha, t_mulInt ha, Tie.prime_field_inv_eq]; rfl

/-! ### inverse and division (optimized class only; the reference `FQP.inv` is tied in `Props/TieFieldsInv.lean`) -/

theorem ne_zero_of_coeffs {a : Fqp .opt p mc} (hne : (obj a).coeffs ≠ List.replicate mc.length 0) : a ≠ 0 := by
  intro h; apply hne; rw [h]; exact zero_coeffs (v := V)

/-- **`x * x.inv() == one()`** — for ANY prime `p`, ANY irreducible modulus `X^d + Σ mcᵢ Xⁱ` (`Sane`: every supplied
    modulus coefficient is `0` or not divisible by `p`) and every canonical `x` other than zero, the generated optimized
    `FQP.inv` (extended Euclid on coefficient lists) returns a canonical object `xi` which is the inverse of `x` in the
    quotient field, and the generated product of `x` and `xi` in either order is the object `FQP.one()` returns. -/
theorem inv_laws [Fact p.Prime] (hd : 1 ≤ mc.length) (hirr : Irreducible (modulus p mc)) (hmc : Sane p mc)
    {x : FQP} (hx : IsCanon p mc x) (hne : x.coeffs ≠ List.replicate mc.length 0) :
    ∃ xi o, FQP.inv p mc x = .ok xi ∧ oneCall p mc = .ok o ∧ IsCanon p mc xi ∧
      evQ p mc xi.coeffs * evQ p mc x.coeffs = 1 ∧
      FQP.mul_fqp p mc x xi = .ok o ∧ FQP.mul_fqp p mc xi x = .ok o := by
  obtain ⟨a, ha, rfl⟩ := hx.lift
  have hne' := ne_zero_of_coeffs hne
  obtain ⟨hc, hq⟩ := C08P.inv_refines hd hirr hmc ha hne'
  obtain ⟨h1, h2⟩ := C08P.mul_inv_cancel hd hirr hmc ha hne'
  refine ⟨_, _, t_inv a, oneCall_eq hd, isCanon_obj hc, hq, ?_, ?_⟩
  · rw [t_mul ha.wf hc.wf, h1]
  · rw [t_mul hc.wf ha.wf, h2]

/-- **`(x / y) * y == x`** for canonical `x`, `y` with `y` not zero (any prime `p`, any irreducible modulus); `x / y`
    is `x * y.inv()` and `__truediv__` is `__div__`.  (`zero().inv() == zero()`, the `inv0` convention, is `inv_zero`
    below.) -/
theorem div_laws [Fact p.Prime] (hd : 1 ≤ mc.length) (hirr : Irreducible (modulus p mc)) (hmc : Sane p mc)
    {x y : FQP} (hx : IsCanon p mc x) (hy : IsCanon p mc y) (hne : y.coeffs ≠ List.replicate mc.length 0) :
    (FQP.div_fqp p mc x y >>= fun q => FQP.mul_fqp p mc q y) = .ok x ∧
    FQP.div_fqp p mc x y = (FQP.inv p mc y >>= fun yi => FQP.mul_fqp p mc x yi) ∧
    FQP.truediv_fqp p mc x y = FQP.div_fqp p mc x y := by
  have hp : 0 < p := (Fact.out : p.Prime).pos
  obtain ⟨a, ha, rfl⟩ := hx.lift; obtain ⟨b, hb, rfl⟩ := hy.lift
  have hne' := ne_zero_of_coeffs hne
  refine ⟨?_, rfl, rfl⟩
  have hw : WF (a / b) := mul_wf _ _
  rw [t_div ha.wf, ok_bind, t_mul hw hb.wf, C08P.div_mul_cancel hd hirr hmc ha hb hne']

/-- `FQP.zero().inv() == FQP.zero()` for any `p` and any modulus: the inverse of zero is zero, it does not raise -/
theorem inv_zero : ∃ z, zeroCall p mc = .ok z ∧ FQP.inv p mc z = .ok z :=
  ⟨_, zeroCall_eq, by rw [t_inv, C08P.inv_zero]⟩

/-- with the field structure of the quotient (modulus irreducible): the generated `inv` and `/` are the field inverse
    and the field division -/
theorem inv_div_refine [Fact p.Prime] [Fact (Irreducible (modulus p mc))] (hd : 1 ≤ mc.length) (hmc : Sane p mc)
    {x y : FQP} (hx : IsCanon p mc x) (hy : IsCanon p mc y) (hne : y.coeffs ≠ List.replicate mc.length 0) :
    (∀ w, FQP.inv p mc y = .ok w → evQ p mc w.coeffs = (evQ p mc y.coeffs)⁻¹) ∧
    (∀ w, FQP.div_fqp p mc x y = .ok w → evQ p mc w.coeffs = evQ p mc x.coeffs / evQ p mc y.coeffs) := by
  obtain ⟨a, ha, rfl⟩ := hx.lift; obtain ⟨b, hb, rfl⟩ := hy.lift
  obtain ⟨h1, h2⟩ := C08P.inv_div_spec hd hmc ha hb (ne_zero_of_coeffs hne)
  exact ⟨of_ok (t_inv b) h1, of_ok (t_div ha.wf) h2⟩

/-- **FQ2** (`modulus_coeffs = (1, 0)`, i.e. `X² + 1`) over ANY prime `p ≡ 3 (mod 4)`: inverse and division laws of the
    generated optimized `FQ2` -/
theorem fq2_inv_laws [Fact p.Prime] (h4 : p % 4 = 3) {x y : FQP} (hx : IsCanon p [1, 0] x) (hy : IsCanon p [1, 0] y)
    (hne : x.coeffs ≠ [0, 0]) :
    (∃ xi o, FQP.inv p [1, 0] x = .ok xi ∧ oneCall p [1, 0] = .ok o ∧ IsCanon p [1, 0] xi ∧
      FQP.mul_fqp p [1, 0] x xi = .ok o ∧ FQP.mul_fqp p [1, 0] xi x = .ok o) ∧
    (FQP.div_fqp p [1, 0] y x >>= fun q => FQP.mul_fqp p [1, 0] q x) = .ok y := by
  obtain ⟨xi, o, h1, h2, h3, _, h5, h6⟩ :=
    inv_laws (by decide) (irreducible_modulus_fq2 h4) sane_fq2 hx hne
  exact ⟨⟨xi, o, h1, h2, h3, h5, h6⟩, (div_laws (by decide) (irreducible_modulus_fq2 h4) sane_fq2 hy hx hne).1⟩

/-- **BLS12-381 `FQ12`** (`field_modulus` and `FQ12_MODULUS_COEFFS` of `py_ecc.fields`, `X¹² − 2X⁶ + 2`, proved
    irreducible): `x * x.inv() == FQ12.one()` and `(y / x) * x == y` for the generated optimized `FQ12`, every canonical
    `x` other than zero -/
theorem bls_fq12_inv_laws {x y : FQP} (hx : IsCanon blsP blsMc12 x) (hy : IsCanon blsP blsMc12 y)
    (hne : x.coeffs ≠ List.replicate 12 0) :
    (∃ xi o, FQP.inv blsP blsMc12 x = .ok xi ∧ FQ12.one blsP blsMc12 = .ok o ∧ IsCanon blsP blsMc12 xi ∧
      FQP.mul_fqp blsP blsMc12 x xi = .ok o ∧ FQP.mul_fqp blsP blsMc12 xi x = .ok o) ∧
    (FQP.div_fqp blsP blsMc12 y x >>= fun q => FQP.mul_fqp blsP blsMc12 q x) = .ok y := by
  have hs : Sane blsP blsMc12 := sane_of_natAbs_lt (by decide)
  obtain ⟨xi, o, h1, h2, h3, _, h5, h6⟩ := inv_laws (by decide) C08F12.irreducible_bls12 hs hx hne
  rw [← (zero_one_calls.2 rfl).2] at h2
  exact ⟨⟨xi, o, h1, h2, h3, h5, h6⟩, (div_laws (by decide) C08F12.irreducible_bls12 hs hy hx hne).1⟩

/-- **bn128 `FQ12`** (`X¹² − 18X⁶ + 82`, proved irreducible): the same for the generated optimized `FQ12` over the bn128
    field -/
theorem bn_fq12_inv_laws {x y : FQP} (hx : IsCanon bnP bnMc12 x) (hy : IsCanon bnP bnMc12 y)
    (hne : x.coeffs ≠ List.replicate 12 0) :
    (∃ xi o, FQP.inv bnP bnMc12 x = .ok xi ∧ FQ12.one bnP bnMc12 = .ok o ∧ IsCanon bnP bnMc12 xi ∧
      FQP.mul_fqp bnP bnMc12 x xi = .ok o ∧ FQP.mul_fqp bnP bnMc12 xi x = .ok o) ∧
    (FQP.div_fqp bnP bnMc12 y x >>= fun q => FQP.mul_fqp bnP bnMc12 q x) = .ok y := by
  have hs : Sane bnP bnMc12 := sane_of_natAbs_lt (by decide)
  obtain ⟨xi, o, h1, h2, h3, _, h5, h6⟩ := inv_laws (by decide) C08F12.irreducible_bn12 hs hx hne
  rw [← (zero_one_calls.2 rfl).2] at h2
  exact ⟨⟨xi, o, h1, h2, h3, h5, h6⟩, (div_laws (by decide) C08F12.irreducible_bn12 hs hy hx hne).1⟩

/-! ### non-vacuity -/
example : IsCanon 7 [1, 0] ⟨[(0, 1)], [3, 5], [1, 0], 2⟩ ∧ IsObj [1, 0] ⟨[(0, 1)], [-3, 12], [1, 0], 2⟩ :=
  ⟨⟨⟨rfl, rfl, rfl, rfl⟩, by decide⟩, ⟨rfl, rfl, rfl, rfl⟩⟩
example : Fact (Nat.Prime 7) ∧ 7 % 4 = 3 ∧ ([3, 5] : List ℤ) ≠ [0, 0] := ⟨⟨by norm_num⟩, by decide, by decide⟩
/-- (3 + 5i)⁻¹ = 4 + 5i (mod 7), evaluated with the generated code -/
example : FQP.inv 7 [1, 0] ⟨[(0, 1)], [3, 5], [1, 0], 2⟩ = .ok ⟨[(0, 1)], [4, 5], [1, 0], 2⟩ := by decide
example : (0 : ℕ) < blsP ∧ 1 ≤ blsMc12.length ∧ blsMc12.length = 12 ∧ Sane blsP blsMc12 ∧ Sane bnP bnMc12 :=
  ⟨by decide, by decide, by decide, sane_of_natAbs_lt (by decide), sane_of_natAbs_lt (by decide)⟩
example : ∃ o, FQ12.one blsP blsMc12 = .ok o ∧ IsCanon blsP blsMc12 o ∧ o.coeffs ≠ List.replicate 12 0 := by
  rw [(zero_one_calls.2 rfl).2]
  exact ⟨_, oneCall_eq (by decide), isCanon_obj (canon_one (by decide) (by decide)), by decide⟩

end FqpOpt

end extension

end PyEcc.C08.Gen
