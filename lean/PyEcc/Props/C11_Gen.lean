/-
  PyEcc.Props.C11_Gen — property C11 restated about the GENERATED code.

  `Gen/ExtraCodec.lean` (`get_flags`, `is_point_at_infinity`, `compress_G1`, `decompress_G1`, `compress_G2`,
  `decompress_G2` of `py_ecc/bls/point_compression.py`; `G1_to_pubkey`, `pubkey_to_G1`, `G2_to_signature`,
  `signature_to_G2` of `py_ecc/bls/g2_primitives.py`) and `Gen/ExtraHashCodec.lean` (`modular_squareroot_in_FQ2`) are
  re-generated from the Python source on every run.  Every theorem below is a headline theorem of `Props/C11.lean`,
  `C11_G2.lean`, `C11_G2Full.lean` in which each py_ecc function is the GENERATED definition (`PyEcc.Gen.ExtraCodec.*`,
  `PyEcc.Gen.ExtraHashCodec.*`, `PyEcc.Gen.ExtraHash.os2ip`, `PyEcc.Gen.OptBls.*`), obtained by rewriting with the tie
  theorems (`Props/TieCodec.lean`, `TieHashCodec.lean`, `TieHash.lean`) and applying the model theorem.  Hypotheses are
  those of the model theorems, unchanged.

  A G1 point is a projective triple `(X, Y, Z)` of `FQ` objects, a G2 point a triple of optimized `FQ2` objects
  (`Z = 0` meaning infinity); `CanonPt P` says the three `FQ2` coordinates are reduced (two coefficients in `[0, p)`, what
  every Python `FQ2` holds).  `Z1`, `Z2` are the library's constants for infinity.  On the specification side,
  `CodecSem.rhsOf2 z1 z2` is `x³ + 4(1+i)` for `x = FQ2([z2, z1 % 2^381])`, `CodecSem.encodedX2` that `x`, and
  `CodecSem.pickY2 a y` the root with sign flag `a` among `±y`.
-/
import PyEcc.Props.C11_G2Full
import PyEcc.Props.TieCodec
import PyEcc.Props.TieHashCodec
import PyEcc.Props.TieHash

set_option exponentiation.threshold 400

namespace PyEcc.C11.Gen
open PyEcc PyEcc.Fqp PyEcc.FqpSem PyEcc.CodecSem PyEcc.BytesLem PyEcc.Fq2Sqrt

/-! ## flags -/

/-- **Generated `get_flags(z)` reads bits 383, 382, 381 of `z`** (and nothing else: bits ≥ 384 are ignored). -/
theorem get_flags_eq (z : ℕ) : Gen.ExtraCodec.get_flags z =
    (decide (z / 2 ^ 383 % 2 = 1), decide (z / 2 ^ 382 % 2 = 1), decide (z / 2 ^ 381 % 2 = 1)) := by
  rw [Tie.get_flags_eq]; exact C11.getFlags_eq z

/-- **Generated `is_point_at_infinity(z1, z2)`** is true iff the low 381 bits of `z1` are zero and `z2` is `None` or `0`. -/
theorem is_point_at_infinity_iff (z1 : ℕ) (z2 : Option ℕ) :
    Gen.ExtraCodec.is_point_at_infinity z1 z2 = true ↔ z1 % 2 ^ 381 = 0 ∧ (z2 = none ∨ z2 = some 0) := by
  unfold Gen.ExtraCodec.is_point_at_infinity
  rw [pow2_381]
  cases z2 <;> simp

/-! ## G1 -/

/-- Generated `compress_G1(pt)` is always a 384-bit word, for every triple `pt` (on the curve or not). -/
theorem compress_G1_lt (P : G1Pt) : Gen.ExtraCodec.compress_G1 P < 2 ^ 384 := by
  rw [Tie.compress_G1_eq]; exact C11.compress_lt P

/-- **ZCash layout (G1).**  The flags of the generated `compress_G1(pt)`: `c_flag` is always set; `b_flag` is set
    exactly for infinity (`Z = 0`); `a_flag` is clear for infinity and otherwise says whether the affine `y = Y/Z`
    satisfies `2y ≥ p`, i.e. is the lexicographically larger root. -/
theorem get_flags_compress_G1 (P : G1Pt) :
    Gen.ExtraCodec.get_flags (Gen.ExtraCodec.compress_G1 P) =
      (true, Gen.OptBls.is_inf P,
        !Gen.OptBls.is_inf P && decide (blsP ≤ (Gen.OptBls.normalize P).2.n * 2)) := by
  rw [Tie.get_flags_eq, Tie.compress_G1_eq]; exact C11.getFlags_compress P

/-- **Generated `G1_to_pubkey(pt)` never raises and returns exactly 48 bytes**, whose big-endian value (generated
    `os2ip`) is the generated `compress_G1(pt)`. -/
theorem G1_to_pubkey_length (P : G1Pt) :
    ∃ bs, Gen.ExtraCodec.G1_to_pubkey P = .ok bs ∧ bs.length = 48 ∧
      Gen.ExtraHash.os2ip bs = Gen.ExtraCodec.compress_G1 P := by
  simp only [Tie.G1_to_pubkey_eq, Tie.compress_G1_eq, Tie.os2ip_eq]
  exact C11.g1ToPubkey_length P

/-- Generated `pubkey_to_G1(G1_to_pubkey(pt))` is `decompress_G1(compress_G1(pt))`: the byte layer loses nothing. -/
theorem pubkey_to_G1_G1_to_pubkey (P : G1Pt) {bs : Bytes} (h : Gen.ExtraCodec.G1_to_pubkey P = .ok bs) :
    Gen.ExtraCodec.pubkey_to_G1 bs = Gen.ExtraCodec.decompress_G1 (Gen.ExtraCodec.compress_G1 P) := by
  rw [Tie.G1_to_pubkey_eq] at h
  rw [Tie.pubkey_to_G1_eq, Tie.decompress_G1_eq, Tie.compress_G1_eq]
  exact C11.pubkeyToG1_g1ToPubkey P h

/-- Generated `decompress_G1(z)` looks only at the low 384 bits of `z`. -/
theorem decompress_G1_ignores_high_bits (z k : ℕ) :
    Gen.ExtraCodec.decompress_G1 (z + k * 2 ^ 384) = Gen.ExtraCodec.decompress_G1 z := by
  rw [Tie.decompress_G1_eq, Tie.decompress_G1_eq]; exact C11.decompressG1_ignores_high_bits z k

/-- Generated `decompress_G1` raises nothing but `ValueError`. -/
theorem decompress_G1_error_kind (z : ℕ) (e : PyErr) (h : Gen.ExtraCodec.decompress_G1 z = .error e) :
    e = .value := by
  rw [Tie.decompress_G1_eq] at h; exact C11.decompress_G1_error_kind z e h

/-- **Accept set of the generated `decompress_G1`.**  `decompress_G1(z)` returns a point iff either
    * flags `c = 1, b = 0` (any `a`), `x = z % 2^381` satisfies `0 < x < p`, and `x³ + 4` is a square mod `p`; or
    * flags `c = 1, b = 1, a = 0` and `z % 2^381 = 0` (the encoding of infinity).
    Everything else (wrong flag bits, coordinate `≥ p`, `x` with no `y` on the curve) raises `ValueError`. -/
theorem decompress_G1_accepts_iff (z : ℕ) :
    (∃ P, Gen.ExtraCodec.decompress_G1 z = .ok P) ↔
      ((∃ a, Gen.ExtraCodec.get_flags z = (true, false, a)) ∧ 0 < z % 2 ^ 381 ∧ z % 2 ^ 381 < blsP ∧
          ∃ y : ℕ, y * y % blsP = ((z % 2 ^ 381) ^ 3 + 4) % blsP)
      ∨ (Gen.ExtraCodec.get_flags z = (true, true, false) ∧ z % 2 ^ 381 = 0) := by
  rw [Tie.decompress_G1_eq, Tie.get_flags_eq]; exact C11.decompress_G1_accepts_iff z

/-- **Canonicity (G1).**  If a 384-bit word `z` is accepted by the generated `decompress_G1`, the decoded point is on
    the curve `y² = x³ + 4` and the generated `compress_G1` of it is `z` again: no two different 384-bit words decode
    to the same point, and nothing off the curve is ever returned. -/
theorem compress_decompress_G1 (z : ℕ) (hz : z < 2 ^ 384) (P : G1Pt)
    (h : Gen.ExtraCodec.decompress_G1 z = .ok P) :
    Gen.OptBls.is_on_curve P blsB = true ∧ Gen.ExtraCodec.compress_G1 P = z := by
  rw [Tie.decompress_G1_eq] at h
  rw [Tie.compress_G1_eq]; exact C11.compress_decompress_G1 z hz P h

/-- **Byte-level canonicity (G1).**  A 48-byte string accepted by the generated `pubkey_to_G1` is reproduced exactly by
    the generated `G1_to_pubkey` of the decoded point (and that point is on the curve). -/
theorem G1_to_pubkey_pubkey_to_G1 (bs : Bytes) (hlen : bs.length = 48) (P : G1Pt)
    (h : Gen.ExtraCodec.pubkey_to_G1 bs = .ok P) :
    Gen.OptBls.is_on_curve P blsB = true ∧ Gen.ExtraCodec.G1_to_pubkey P = .ok bs := by
  rw [Tie.pubkey_to_G1_eq] at h
  rw [Tie.G1_to_pubkey_eq]; exact C11.g1ToPubkey_pubkeyToG1 bs hlen P h

/-- **Round trip (G1), all on-curve points except the two with affine `x = 0`** (finding K1).  For every projective
    representative `P = (X, Y, Z)` of a point of `y² = x³ + 4` that is infinity (`Z = 0`) or has `X ≠ 0`: the generated
    `decompress_G1(compress_G1(P))` returns `Z1` for infinity, otherwise the normalized representative `(X/Z, Y/Z, 1)`;
    in both cases `eq(result, P)` holds.
    Partial, exactly as the model theorem `C11.decompress_compress_G1_partial`: the hypothesis `hx` excludes exactly
    the points `(0, ±2)`, on which the round trip raises `ValueError` (`x0_roundtrip_fails`); nothing else is missing. -/
theorem decompress_compress_G1_partial (P : G1Pt) (hon : Gen.OptBls.is_on_curve P blsB = true)
    (hx : P.2.2 ≠ 0 → P.1 ≠ 0) :
    Gen.ExtraCodec.decompress_G1 (Gen.ExtraCodec.compress_G1 P)
      = .ok (if Gen.OptBls.is_inf P then Z1 else Gen.OptBls.normalize1 P) ∧
    Gen.OptBls.eq (if Gen.OptBls.is_inf P then Z1 else Gen.OptBls.normalize1 P) P = true := by
  rw [Tie.decompress_G1_eq, Tie.compress_G1_eq]; exact C11.decompress_compress_G1_partial P hon hx

/-- the generator satisfies the hypotheses of the round-trip theorem -/
example : Gen.OptBls.is_on_curve blsG1 blsB = true ∧ (blsG1.2.2 ≠ 0 → blsG1.1 ≠ 0) := C11.blsG1_round_trip_hyp

/-- **K1: the round trip fails on the two curve points with `x = 0`.**  For every finite triple with `X = 0` — in
    particular every representative of `(0, 2)`, `(0, p−2)` (`C11.x0_points_iff`) — the generated `compress_G1` emits a
    word that the generated `decompress_G1` rejects with `ValueError`. -/
theorem x0_roundtrip_fails (P : G1Pt) (hz : P.2.2 ≠ 0) (hX : P.1 = 0) :
    Gen.ExtraCodec.decompress_G1 (Gen.ExtraCodec.compress_G1 P) = .error .value := by
  rw [Tie.decompress_G1_eq, Tie.compress_G1_eq]; exact C11.x0_roundtrip_fails P hz hX

example : ((0 : F1), (Fq.ofInt 2 : F1), (1 : F1)).2.2 ≠ 0 ∧ ((0 : F1), (Fq.ofInt 2 : F1), (1 : F1)).1 = 0 := by
  decide +kernel

/-- a word satisfying the hypotheses of the canonicity theorem (the encoding of the generator) -/
example : Gen.ExtraCodec.compress_G1 blsG1 < 2 ^ 384 ∧
    ∃ P, Gen.ExtraCodec.decompress_G1 (Gen.ExtraCodec.compress_G1 blsG1) = .ok P :=
  ⟨compress_G1_lt _, _,
    (decompress_compress_G1_partial blsG1 C11.blsG1_round_trip_hyp.1 C11.blsG1_round_trip_hyp.2).1⟩

/-! ## the `FQ2` square root -/

/-- **Generated `modular_squareroot_in_FQ2(value)` is correct** on every reduced `FQ2` value: it never raises (the
    `ValueError` of `.index` and the `IndexError` of the table lookup are dead); if it returns `y` then `y` is reduced,
    `y * y == value`, `y ≠ 0` and `y` is the root with sign flag 1 (the larger of `±y`, imaginary part first); and it
    returns `None` exactly when `value` is `0` or not a square in `Fp²`. -/
theorem modular_squareroot_in_FQ2_correct (v : F2) (hv : Canon v) :
    ∃ r, Gen.ExtraHashCodec.modular_squareroot_in_FQ2 v = .ok r ∧
      (∀ y, r = some y → Canon y ∧ y * y = v ∧ y ≠ 0 ∧ aflag y = 1) ∧
      (r = none ↔ (v = 0 ∨ ¬ IsSquare (toQ v))) := by
  refine ⟨_, Tie.modular_squareroot_in_FQ2_eq v, ?_, sqrt_none_iff' hv⟩
  intro y hy
  obtain ⟨h0, _, hfl⟩ := sqrt_is_larger hv hy
  exact ⟨sqrt_canon hv hy, sqrt_spec hv hy, h0, hfl⟩

example : Canon (blsB2 : F2) := canon_b2

/-! ## G2 -/

/-- Generated `compress_G2(pt)` raises (a `ValueError`, nothing else) exactly when `pt` fails the generated
    `is_on_curve(pt, b2)`. -/
theorem compress_G2_ok_iff (P : G2Pt) :
    ((∃ r, Gen.ExtraCodec.compress_G2 P = .ok r) ↔ Gen.OptBls.is_on_curve P blsB2 = true) ∧
    (∀ e, Gen.ExtraCodec.compress_G2 P = .error e → e = .value ∧ Gen.OptBls.is_on_curve P blsB2 = false) := by
  rw [Tie.compress_G2_eq]
  exact ⟨C11.compressG2_ok_iff P, fun e h => C11.compressG2_error_kind P e h⟩

/-- **ZCash layout (G2): word ranges and flags of the generated `compress_G2`.**  When it returns `(z1, z2)`: `z1` is a
    384-bit word, `z2 < p` (so the second word never carries flag bits), `c_flag(z1) = 1` and `b_flag(z1) = 1` exactly
    for infinity. -/
theorem compress_G2_range (P : G2Pt) (z1 z2 : ℕ) (h : Gen.ExtraCodec.compress_G2 P = .ok (z1, z2)) :
    z1 < 2 ^ 384 ∧ z2 < blsP ∧ z2 < 2 ^ 381 ∧
      (Gen.ExtraCodec.get_flags z1).1 = true ∧ (Gen.ExtraCodec.get_flags z1).2.1 = Gen.OptBls.is_inf P := by
  rw [Tie.compress_G2_eq] at h
  rw [Tie.get_flags_eq]; exact C11.compressG2_range P z1 z2 h

/-- **Generated `G2_to_signature(pt)` returns exactly 96 bytes** whenever it returns; it returns iff `pt` passes the
    generated `is_on_curve`, and otherwise raises `ValueError` (never `OverflowError`). -/
theorem G2_to_signature_length (P : G2Pt) :
    (Gen.OptBls.is_on_curve P blsB2 = true →
      ∃ bs, Gen.ExtraCodec.G2_to_signature P = .ok bs ∧ bs.length = 96) ∧
    (Gen.OptBls.is_on_curve P blsB2 = false → Gen.ExtraCodec.G2_to_signature P = .error .value) := by
  rw [Tie.G2_to_signature_eq]; exact C11.g2ToSignature_length P

/-- Generated `decompress_G2` raises nothing but `ValueError`. -/
theorem decompress_G2_error_kind (z1 z2 : ℕ) (e : PyErr)
    (h : Gen.ExtraCodec.decompress_G2 (z1, z2) = .error e) : e = .value := by
  rw [Tie.decompress_G2_eq] at h; exact C11.decompress_G2_error_kind z1 z2 e h

/-- **Any flag bit in the second word is refused.**  The generated `decompress_G2((z1, z2))` rejects every `z2 ≥ p`
    with `ValueError`, whatever `z1` is — in particular every `z2 ≥ 2^381`, i.e. with one of the three top bits (or
    any higher bit) set. -/
theorem decompress_G2_rejects_second_word (z1 z2 : ℕ) (h : blsP ≤ z2 ∨ 2 ^ 381 ≤ z2) :
    Gen.ExtraCodec.decompress_G2 (z1, z2) = .error .value := by
  rw [Tie.decompress_G2_eq]
  rcases h with h | h
  · exact C11.decompressG2_rejects_second_word z1 z2 h
  · exact C11.decompressG2_rejects_second_word_flags z1 z2 h

example : blsP ≤ blsP ∨ 2 ^ 381 ≤ blsP := Or.inl (Nat.le_refl _)

/-- Generated `decompress_G2((z1, z2))` looks only at the low 384 bits of `z1`. -/
theorem decompress_G2_ignores_high_bits (z1 z2 k : ℕ) :
    Gen.ExtraCodec.decompress_G2 (z1 + k * 2 ^ 384, z2) = Gen.ExtraCodec.decompress_G2 (z1, z2) := by
  rw [Tie.decompress_G2_eq, Tie.decompress_G2_eq]; exact C11.decompressG2_ignores_high_bits z1 z2 k

/-- **Shape of accepted G2 words.**  If the generated `decompress_G2((z1, z2))` returns `P` then `c_flag(z1) = 1` and
    either `b_flag = 1`, `a_flag = 0`, `z1 % 2^381 = 0`, `z2 = 0` and `P = Z2` (infinity), or `b_flag = 0`, both
    coordinate words are reduced, not both zero, the generated `modular_squareroot_in_FQ2(x**3 + b2)` returned some `y`,
    and `P = (x, ±y, FQ2.one())` with `x = FQ2([z2, z1 % 2^381])`: the decoded `x` is exactly the encoded one. -/
theorem decompress_G2_ok_shape (z1 z2 : ℕ) (P : G2Pt) (h : Gen.ExtraCodec.decompress_G2 (z1, z2) = .ok P) :
    (Gen.ExtraCodec.get_flags z1).1 = true ∧
    (((Gen.ExtraCodec.get_flags z1).2.1 = true ∧ (Gen.ExtraCodec.get_flags z1).2.2 = false ∧
        z1 % 2 ^ 381 = 0 ∧ z2 = 0 ∧ P = Z2) ∨
     ((Gen.ExtraCodec.get_flags z1).2.1 = false ∧ z1 % 2 ^ 381 < blsP ∧ z2 < blsP ∧
        ¬(z1 % 2 ^ 381 = 0 ∧ z2 = 0) ∧
        ∃ y, Gen.ExtraHashCodec.modular_squareroot_in_FQ2 (rhsOf2 z1 z2) = .ok (some y) ∧
          P = (encodedX2 z1 z2, pickY2 (Gen.ExtraCodec.get_flags z1).2.2 y, Fqp.ofInts [1, 0]))) := by
  rw [Tie.decompress_G2_eq] at h
  simp only [Tie.get_flags_eq, Tie.modular_squareroot_in_FQ2_eq, Except.ok.injEq]
  exact C11.decompressG2_ok_shape z1 z2 P h

/-- **Round trip for G2, every on-curve point, any projective representative.**  For every well-formed triple
    `P = (X, Y, Z)` of `FQ2` objects that passes the generated `is_on_curve(P, b2)`: the generated `compress_G2(P)`
    returns a pair `(z1, z2)`, and the generated `decompress_G2((z1, z2))` returns `Z2` for infinity and otherwise the
    normalized representative `(X/Z, Y/Z, 1)`; in both cases `eq(result, P)` holds.  No point is excluded. -/
theorem decompress_compress_G2 (P : G2Pt) (hc : CanonPt P) (hon : Gen.OptBls.is_on_curve P blsB2 = true) :
    ∃ z1 z2, Gen.ExtraCodec.compress_G2 P = .ok (z1, z2) ∧
      Gen.ExtraCodec.decompress_G2 (z1, z2)
        = .ok (if Gen.OptBls.is_inf P then Z2 else Gen.OptBls.normalize1 P) ∧
      Gen.OptBls.eq (if Gen.OptBls.is_inf P then Z2 else Gen.OptBls.normalize1 P) P = true := by
  obtain ⟨z1, z2, h1, h2, h3⟩ := C11.decompress_compress_G2 P hc hon
  exact ⟨z1, z2, by rw [Tie.compress_G2_eq]; exact h1, by rw [Tie.decompress_G2_eq]; exact h2, h3⟩

/-- the G2 generator, a non-normalized representative of `2·G2`, and infinity are well-formed on-curve triples -/
example : CanonPt blsG2 ∧ Gen.OptBls.is_on_curve blsG2 blsB2 = true ∧
    CanonPt (Gen.OptBls.double blsG2) ∧ Gen.OptBls.is_on_curve (Gen.OptBls.double blsG2) blsB2 = true ∧
    (Gen.OptBls.double blsG2).2.2 ≠ 1 ∧ CanonPt Z2 ∧ Gen.OptBls.is_on_curve Z2 blsB2 = true :=
  have h := C11.double_blsG2_hyp
  ⟨C11.blsG2_canon, C11.blsG2_on_curve, h.1, h.2.1, h.2.2.1, h.2.2.2.2⟩

/-- **Canonicity for G2.**  If the generated `decompress_G2((z1, z2))` returns `P` and `z1` is a 384-bit word, then `P`
    is a well-formed triple on the twist curve and the generated `compress_G2(P)` is `(z1, z2)` again: no two different
    pairs with `z1 < 2^384` decode to the same point. -/
theorem compress_decompress_G2 (z1 z2 : ℕ) (hz : z1 < 2 ^ 384) (P : G2Pt)
    (h : Gen.ExtraCodec.decompress_G2 (z1, z2) = .ok P) :
    CanonPt P ∧ Gen.OptBls.is_on_curve P blsB2 = true ∧ Gen.ExtraCodec.compress_G2 P = .ok (z1, z2) := by
  rw [Tie.decompress_G2_eq] at h
  rw [Tie.compress_G2_eq]; exact C11.compress_decompress_G2 z1 z2 hz P h

/-- **Accept set of the generated `decompress_G2`: exactly the canonical encodings.**  `decompress_G2((z1, z2))` returns
    a point iff either
    * flags of `z1` are `c = 1, b = 0` (any `a`), both coordinate words are reduced (`z1 % 2^381 < p`, `z2 < p`), and
      `x³ + 4(1+i)` with `x = FQ2([z2, z1 % 2^381])` is the square of some `FQ2` object; or
    * flags `c = 1, b = 1, a = 0` and `z1 % 2^381 = 0`, `z2 = 0` (the encoding of infinity).
    Everything else raises `ValueError`. -/
theorem decompress_G2_accepts_iff (z1 z2 : ℕ) :
    (∃ P, Gen.ExtraCodec.decompress_G2 (z1, z2) = .ok P) ↔
      ((∃ a, Gen.ExtraCodec.get_flags z1 = (true, false, a)) ∧ z1 % 2 ^ 381 < blsP ∧ z2 < blsP ∧
          ∃ w : F2, Canon w ∧ w * w = rhsOf2 z1 z2)
      ∨ (Gen.ExtraCodec.get_flags z1 = (true, true, false) ∧ z1 % 2 ^ 381 = 0 ∧ z2 = 0) := by
  rw [Tie.decompress_G2_eq, Tie.get_flags_eq]; exact C11.decompress_G2_accepts_iff z1 z2

/-- **96-byte round trip.**  For every well-formed on-curve triple `P`, the generated `G2_to_signature(P)` returns 96
    bytes and the generated `signature_to_G2` of them returns `Z2` for infinity, else the normalized representative. -/
theorem signature_to_G2_G2_to_signature_roundtrip (P : G2Pt) (hc : CanonPt P)
    (hon : Gen.OptBls.is_on_curve P blsB2 = true) :
    ∃ bs, Gen.ExtraCodec.G2_to_signature P = .ok bs ∧ bs.length = 96 ∧
      Gen.ExtraCodec.signature_to_G2 bs
        = .ok (if Gen.OptBls.is_inf P then Z2 else Gen.OptBls.normalize1 P) := by
  obtain ⟨bs, h1, h2, h3⟩ := C11.signatureToG2_g2ToSignature_roundtrip P hc hon
  exact ⟨bs, by rw [Tie.G2_to_signature_eq]; exact h1, h2, by rw [Tie.signature_to_G2_eq]; exact h3⟩

/-- **96-byte canonicity.**  A 96-byte string accepted by the generated `signature_to_G2` is reproduced exactly by the
    generated `G2_to_signature` of the decoded point (which is on the twist curve). -/
theorem G2_to_signature_signature_to_G2 (bs : Bytes) (hlen : bs.length = 96) (P : G2Pt)
    (h : Gen.ExtraCodec.signature_to_G2 bs = .ok P) :
    Gen.OptBls.is_on_curve P blsB2 = true ∧ Gen.ExtraCodec.G2_to_signature P = .ok bs := by
  rw [Tie.signature_to_G2_eq] at h
  rw [Tie.G2_to_signature_eq]; exact C11.g2ToSignature_signatureToG2 bs hlen P h

/-- a pair satisfying the hypotheses of the canonicity theorem and a 96-byte string accepted by `signature_to_G2`
    (the encodings of the generator) -/
example : (∃ z1 z2 P, z1 < 2 ^ 384 ∧ Gen.ExtraCodec.decompress_G2 (z1, z2) = .ok P) ∧
    (∃ bs P, bs.length = 96 ∧ Gen.ExtraCodec.signature_to_G2 bs = .ok P) := by
  constructor
  · obtain ⟨z1, z2, h1, h2, _⟩ := decompress_compress_G2 blsG2 C11.blsG2_canon C11.blsG2_on_curve
    exact ⟨z1, z2, _, (compress_G2_range blsG2 z1 z2 h1).1, h2⟩
  · obtain ⟨bs, _, hl, hs⟩ :=
      signature_to_G2_G2_to_signature_roundtrip blsG2 C11.blsG2_canon C11.blsG2_on_curve
    exact ⟨bs, _, hl, hs⟩

end PyEcc.C11.Gen
