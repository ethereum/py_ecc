/-
  PyEcc.Props.C08 — property C08 (prime-field part): py_ecc's `FQ` class satisfies the field axioms and
  keeps canonical representatives.

  Every theorem is about the executable model `Fq p` of `PyEcc/Model/Fq.lean`, stated with the model's
  own named functions (`Fq.add`, `Fq.mul`, `Fq.sub`, `Fq.neg`, `Fq.div`, `Fq.inv`, `Fq.pow`, `Fq.ofInt`,
  `Fq.addInt`, …) so that no instance resolution is involved in reading the statements.  The ring laws
  hold for every modulus `p ≠ 0` (`[NeZero p]`, which `[Fact p.Prime]` implies through
  `FqSem.neZero_of_fact_prime`); the laws involving `/` and `inv` need `p` prime, ANY prime.
  Proofs: transport along `Fq.toZMod : Fq p → ZMod p` (`PyEcc/Sem/FqZMod.lean`), the extended-Euclid
  loop being handled in `PyEcc/Sem/InvLoop.lean`.
-/
import PyEcc.Sem.FqZMod
import PyEcc.Sem.Primes
import Mathlib.FieldTheory.Finite.Basic

namespace PyEcc.C08
open PyEcc PyEcc.Fq PyEcc.FqSem

/-! ## the model is `ZMod p` -/

/-- `FQ` is `ZMod p`: reading an `FQ` object as the residue class of its attribute `n` is a ring
    isomorphism from the model (with the model's `+` and `*`) onto `ZMod p`, and it sends `FQ(z)` to
    the class of `z` for every Python int `z`. -/
theorem fq_ringEquiv_zmod {p : ℕ} [NeZero p] :
    ∃ e : Fq p ≃+* ZMod p, (∀ a : Fq p, e a = (a.n : ZMod p)) ∧ (∀ z : ℤ, e (ofInt z) = (z : ZMod p)) ∧
      (∀ a b : Fq p, e (add a b) = e a + e b) ∧ (∀ a b : Fq p, e (mul a b) = e a * e b) ∧
      (∀ a b : Fq p, e (sub a b) = e a - e b) ∧ (∀ a : Fq p, e (neg a) = -e a) ∧
      (∀ (a : Fq p) (n : ℕ), e (pow a n) = e a ^ n) :=
  ⟨ringEquiv, fun _ => rfl, toZMod_ofInt, toZMod_add', toZMod_mul', toZMod_sub', toZMod_neg', toZMod_pow'⟩

/-- for prime `p` the same reading also turns `FQ.__truediv__` and `FQ.inv` into division and inversion of
    the field `ZMod p` (with the convention `x / 0 = 0`, `inv 0 = 0` on both sides). -/
theorem fq_div_inv_zmod {p : ℕ} [Fact p.Prime] (a b : Fq p) :
    toZMod (div a b) = toZMod a / toZMod b ∧ toZMod (inv a) = (toZMod a)⁻¹ :=
  ⟨toZMod_div' a b, toZMod_inv' a⟩

/-- `prime_field_inv(a, p)` returns the canonical representative of `a⁻¹` in `ZMod p`, for every prime `p`
    and every Python int `a` (negative, `≥ p`; multiples of `p` give `0`). -/
theorem primeFieldInv_correct {p : ℕ} (hp : p.Prime) (a : ℤ) :
    ((primeFieldInv a p : ℤ) : ZMod p) = (a : ZMod p)⁻¹ ∧ 0 ≤ primeFieldInv a p ∧ primeFieldInv a p < p :=
  ⟨primeFieldInv_spec hp a, primeFieldInv_range hp.pos a⟩

/-! ## commutative-ring axioms (any modulus `p ≠ 0`) -/
section ring
variable {p : ℕ} [NeZero p]

/-- `(a + b) + c == a + (b + c)` for `FQ` objects -/
theorem add_assoc (a b c : Fq p) : add (add a b) c = add a (add b c) := _root_.add_assoc a b c
/-- `a + b == b + a` -/
theorem add_comm (a b : Fq p) : add a b = add b a := _root_.add_comm a b
/-- `(a * b) * c == a * (b * c)` -/
theorem mul_assoc (a b c : Fq p) : mul (mul a b) c = mul a (mul b c) := _root_.mul_assoc a b c
/-- `a * b == b * a` -/
theorem mul_comm (a b : Fq p) : mul a b = mul b a := _root_.mul_comm a b
/-- `a * (b + c) == a*b + a*c` -/
theorem left_distrib (a b c : Fq p) : mul a (add b c) = add (mul a b) (mul a c) := _root_.mul_add a b c
/-- `(a + b) * c == a*c + b*c` -/
theorem right_distrib (a b c : Fq p) : mul (add a b) c = add (mul a c) (mul b c) := _root_.add_mul a b c
/-- `FQ(0) + a == a` (`FQ.zero()` is `FQ(0)`) -/
theorem zero_add (a : Fq p) : add (ofInt 0) a = a := _root_.zero_add a
/-- `a + FQ(0) == a` -/
theorem add_zero (a : Fq p) : add a (ofInt 0) = a := _root_.add_zero a
/-- `FQ(1) * a == a` (`FQ.one()` is `FQ(1)`) -/
theorem one_mul (a : Fq p) : mul (ofInt 1) a = a := _root_.one_mul a
/-- `a * FQ(1) == a` -/
theorem mul_one (a : Fq p) : mul a (ofInt 1) = a := _root_.mul_one a
/-- `FQ(0) * a == FQ(0)` -/
theorem zero_mul (a : Fq p) : mul (ofInt 0) a = ofInt 0 := MulZeroClass.zero_mul a
/-- `-a + a == FQ(0)` -/
theorem neg_add_cancel (a : Fq p) : add (neg a) a = ofInt 0 := _root_.neg_add_cancel a
/-- `a - b == a + (-b)` -/
theorem sub_eq_add_neg (a b : Fq p) : sub a b = add a (neg b) := _root_.sub_eq_add_neg a b
/-- `a - a == FQ(0)` -/
theorem sub_self (a : Fq p) : sub a a = ofInt 0 := _root_.sub_self a

/-- the literals `0`, `1` and the operators `+ * - /` on `Fq p` are the model's functions
    (so the algebraic instances of `Sem/FqZMod.lean` talk about the model, by definition) -/
theorem notation_is_model (a b : Fq p) :
    (0 : Fq p) = ofInt 0 ∧ (1 : Fq p) = ofInt 1 ∧ a + b = add a b ∧ a * b = mul a b ∧ a - b = sub a b ∧
      -a = neg a ∧ a / b = div a b ∧ (∀ n : ℕ, a ^ n = pow a n) :=
  ⟨rfl, rfl, rfl, rfl, rfl, rfl, rfl, fun _ => rfl⟩

/-! ## `**` is the n-fold product -/

/-- `a ** 0 == FQ(1)` -/
theorem pow_zero (a : Fq p) : pow a 0 = ofInt 1 := _root_.pow_zero a
/-- `a ** (n+1) == (a ** n) * a` -/
theorem pow_succ (a : Fq p) (n : ℕ) : pow a (n + 1) = mul (pow a n) a := _root_.pow_succ a n

/-- `a ** n` (square-and-multiply, iterative by the `fix:` commit for defect F1) equals the product
    `1 * a * a * … * a` with `n` factors, for EVERY natural `n`, however large. -/
theorem pow_eq_prod (a : Fq p) (n : ℕ) : pow a n = (List.replicate n a).foldl mul (ofInt 1) := by
  rw [foldl_replicate, one_mul]

/-- `a ** (m + n) == a**m * a**n` -/
theorem pow_add (a : Fq p) (m n : ℕ) : pow a (m + n) = mul (pow a m) (pow a n) := _root_.pow_add a m n
/-- `a ** (m * n) == (a ** m) ** n` -/
theorem pow_mul (a : Fq p) (m n : ℕ) : pow a (m * n) = pow (pow a m) n := _root_.pow_mul a m n

/-! ## int operands act as residues -/

/-- `FQ(j) == FQ(k)` iff `j ≡ k (mod p)`; in particular `FQ(k + p) == FQ(k)`, `FQ(-1) == FQ(p-1)` -/
theorem ofInt_eq_iff (j k : ℤ) : (ofInt j : Fq p) = ofInt k ↔ j % (p : ℤ) = k % (p : ℤ) := by
  rw [← toZMod_inj, toZMod_ofInt, toZMod_ofInt, ZMod.intCast_eq_intCast_iff']

/-- the attribute `n` of `FQ(z)` is `z % p` (Python's non-negative remainder) -/
theorem ofInt_n (z : ℤ) : ((ofInt z : Fq p).n : ℤ) = z % (p : ℤ) := n_ofInt z

/-- `FQ(a.n) == a` -/
theorem ofInt_self_n (a : Fq p) : ofInt (a.n : ℤ) = a := by
  apply toZMod_injective; rw [toZMod_ofInt, Int.cast_natCast]; rfl

/-- `a + k == a + FQ(k)` for every Python int `k` (negative or `> p` included); same for `k + a` -/
theorem addInt_eq (a : Fq p) (k : ℤ) : addInt a k = add a (ofInt k) := by
  apply toZMod_injective; simp [toZMod_add']
/-- `a * k == a * FQ(k)`; same for `k * a` -/
theorem mulInt_eq (a : Fq p) (k : ℤ) : mulInt a k = mul a (ofInt k) := by
  apply toZMod_injective; simp [toZMod_mul']
/-- `a - k == a - FQ(k)` -/
theorem subInt_eq (a : Fq p) (k : ℤ) : subInt a k = sub a (ofInt k) := by
  apply toZMod_injective; simp [toZMod_sub']
/-- `k - a == FQ(k) - a` (reflected operator) -/
theorem rsubInt_eq (a : Fq p) (k : ℤ) : rsubInt a k = sub (ofInt k) a := by
  apply toZMod_injective; simp [toZMod_sub']

/-- int operands only matter modulo `p` -/
theorem addInt_congr (a : Fq p) {j k : ℤ} (h : j % (p : ℤ) = k % (p : ℤ)) : addInt a j = addInt a k := by
  rw [addInt_eq, addInt_eq, (ofInt_eq_iff j k).mpr h]
theorem mulInt_congr (a : Fq p) {j k : ℤ} (h : j % (p : ℤ) = k % (p : ℤ)) : mulInt a j = mulInt a k := by
  rw [mulInt_eq, mulInt_eq, (ofInt_eq_iff j k).mpr h]

/-! ## canonical representatives -/

omit [NeZero p] in
/-- every `FQ` value produced by the model has `0 ≤ n < p`: this is a field of the structure `Fq p`
    (the constructor `ofInt` reduces, and every operation ends in `ofInt`), so it holds trivially. -/
theorem canonical (a : Fq p) : a.n < p := a.lt

omit [NeZero p] in
/-- two `FQ` objects are equal iff their attributes `n` are equal -/
theorem eq_iff_n (a b : Fq p) : a = b ↔ a.n = b.n := ⟨fun h => h ▸ rfl, Fq.ext⟩

omit [NeZero p] in
/-- equality of residue classes is equality of objects: representatives are unique -/
theorem toZMod_eq_iff (a b : Fq p) : toZMod a = toZMod b ↔ a = b := toZMod_inj

omit [NeZero p] in
/-- `FQ == int` compares the stored canonical residue with the RAW int: `FQ(5) == 5 + p` is `False`.
    (Documented behaviour of `FQ.__eq__`; stated as is.) -/
theorem eqInt_iff (a : Fq p) (k : ℤ) : eqInt a k = true ↔ (a.n : ℤ) = k := by
  unfold eqInt; exact beq_iff_eq

omit [NeZero p] in
/-- consequence: an int outside `[0, p)` never compares equal to an `FQ` object -/
theorem eqInt_false_of_not_canonical (a : Fq p) (k : ℤ) (h : k < 0 ∨ (p : ℤ) ≤ k) : eqInt a k = false := by
  rw [Bool.eq_false_iff, Ne, eqInt_iff]
  have := a.lt
  omega

/-- `FQ(k) == k` holds exactly for canonical `k` -/
theorem eqInt_ofInt_iff (k : ℤ) : eqInt (ofInt k : Fq p) k = true ↔ 0 ≤ k ∧ k < (p : ℤ) := by
  rw [eqInt_iff, ofInt_n]
  have hp : (0 : ℤ) < p := by exact_mod_cast Nat.pos_of_ne_zero (NeZero.ne p)
  constructor
  · intro h; rw [← h]; exact ⟨Int.emod_nonneg _ (by omega), Int.emod_lt_of_pos _ hp⟩
  · rintro ⟨h0, h1⟩; exact Int.emod_eq_of_lt h0 h1

end ring

/-! ## field axioms (any prime `p`) -/
section field
variable {p : ℕ} [Fact p.Prime]

/-- `a * a.inv() == FQ(1)` for `a != FQ(0)` (the extended-Euclid loop is correct for every prime) -/
theorem mul_inv_cancel (a : Fq p) (ha : a ≠ ofInt 0) : mul a (inv a) = ofInt 1 :=
  _root_.mul_inv_cancel₀ ha

/-- `FQ(0).inv() == FQ(0)` (`inv0` convention) -/
theorem inv_zero : inv (ofInt 0 : Fq p) = ofInt 0 := _root_.inv_zero

/-- `a / b == a * b.inv()` -/
theorem div_eq_mul_inv (a b : Fq p) : div a b = mul a (inv b) := _root_.div_eq_mul_inv a b

/-- `(a / b) * b == a` for `b != FQ(0)` -/
theorem div_mul_cancel (a b : Fq p) (hb : b ≠ ofInt 0) : mul (div a b) b = a :=
  _root_.div_mul_cancel₀ a hb

/-- `a / FQ(0) == FQ(0)`: division by zero does not raise, it returns zero -/
theorem div_zero (a : Fq p) : div a (ofInt 0) = ofInt 0 := _root_.div_zero a

/-- `a / a == FQ(1)` for `a != FQ(0)` -/
theorem div_self (a : Fq p) (ha : a ≠ ofInt 0) : div a a = ofInt 1 := _root_.div_self ha

/-- no zero divisors: `a * b == FQ(0)` only if `a == FQ(0)` or `b == FQ(0)` -/
theorem mul_eq_zero (a b : Fq p) : mul a b = ofInt 0 ↔ a = ofInt 0 ∨ b = ofInt 0 := _root_.mul_eq_zero

/-- `a / k == a / FQ(k)` for every Python int `k` (so `a / k == FQ(0)` when `p ∣ k`) -/
theorem divInt_eq (a : Fq p) (k : ℤ) : divInt a k = div a (ofInt k) := by
  apply toZMod_injective; rw [toZMod_divInt, toZMod_div', toZMod_ofInt]
/-- `k / a == FQ(k) / a` (reflected operator) -/
theorem rdivInt_eq (a : Fq p) (k : ℤ) : rdivInt a k = div (ofInt k) a := by
  apply toZMod_injective; rw [toZMod_rdivInt, toZMod_div', toZMod_ofInt]

/-- Fermat: `a ** (p - 1) == FQ(1)` for `a != FQ(0)` (the inverse could equally be computed by `**`) -/
theorem pow_card_sub_one (a : Fq p) (ha : a ≠ ofInt 0) : pow a (p - 1) = ofInt 1 := by
  apply toZMod_injective
  rw [toZMod_pow', toZMod_ofInt, Int.cast_one]
  exact ZMod.pow_card_sub_one_eq_one (fun h => ha (toZMod_injective (h.trans toZMod_zero.symm)))

end field

/-! ## non-vacuity: the hypotheses are satisfiable, at `p = 7` and at the real BLS12-381 modulus -/
section examples
open Gen.Consts

local instance : Fact (Nat.Prime 7) := ⟨by norm_num⟩

example : (ofInt 3 : Fq 7) ≠ ofInt 0 := by decide
example : mul (ofInt 3 : Fq 7) (inv (ofInt 3)) = ofInt 1 := mul_inv_cancel _ (by decide)
example : inv (ofInt 3 : Fq 7) = ofInt 5 := by decide
example : mul (div (ofInt 2 : Fq 7) (ofInt 3)) (ofInt 3) = ofInt 2 := div_mul_cancel _ _ (by decide)
example : pow (ofInt 3 : Fq 7) 6 = ofInt 1 := pow_card_sub_one _ (by decide)
example : addInt (ofInt 3 : Fq 7) (-100) = ofInt 1 := by decide
example : eqInt (ofInt 5 : Fq 7) 5 = true ∧ eqInt (ofInt 5 : Fq 7) 12 = false := by decide
example : divInt (ofInt 3 : Fq 7) 14 = ofInt 0 := by decide

set_option maxRecDepth 100000 in
example : (ofInt 2 : Fq fields_bls12_381_field_modulus) ≠ ofInt 0 := by decide +kernel
set_option maxRecDepth 100000 in
example : mul (ofInt 2 : Fq fields_bls12_381_field_modulus) (inv (ofInt 2)) = ofInt 1 :=
  mul_inv_cancel _ (by decide +kernel)
set_option maxRecDepth 100000 in
example : mul (div (ofInt 5 : Fq fields_bls12_381_field_modulus) (ofInt (-3))) (ofInt (-3)) = ofInt 5 :=
  div_mul_cancel _ _ (by decide +kernel)
set_option maxRecDepth 100000 in
/-- the model really computes: `2⁻¹ = (p+1)/2` at the BLS12-381 modulus, evaluated by the kernel -/
example : (inv (ofInt 2 : Fq fields_bls12_381_field_modulus)).n = (fields_bls12_381_field_modulus + 1) / 2 := by
  decide +kernel
example : fields_bls12_381_field_modulus.Prime := prime_blsP
example : ∃ e : Fq fields_bls12_381_field_modulus ≃+* ZMod fields_bls12_381_field_modulus,
    ∀ a, e a = (a.n : ZMod _) := ⟨ringEquiv, fun _ => rfl⟩

end examples

end PyEcc.C08
