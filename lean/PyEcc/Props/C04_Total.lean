/-
  PyEcc.Props.C04_Total — the verification APIs of `py_ecc/bls/ciphersuites.py` are TOTAL,
  unconditionally.

  `Props/C04.lean` proves that `Verify`, `PopVerify`, `AggregateVerify`, `FastAggregateVerify` return
  a `bool` for every input or raise the "unreachable"
  `raise Exception("Hash to Curve - Optimized SWU failure")` of `optimized_swu_G2` (`…_total_or_swu`;
  `verify_total` under the hypothesis `SwuTotal` that it is never taken).
  `Props/C10_G2.lean` proves `SwuTotal` (`C10G2.swuTotal`).  Here the two are combined: the primed
  theorems have NO hypothesis.  As everywhere in C04 they hold for ALL byte strings of ANY length, all
  three suites, and an arbitrary hash function `H` (any digest size, any output).
-/
import PyEcc.Props.C04
import PyEcc.Props.C03_Logic
import PyEcc.Props.C10_G2

namespace PyEcc.C04
open PyEcc PyEcc.BlsSem Gen.Consts

/-- **`Verify(PK, message, signature)` always returns a `bool`** — it raises no exception of any kind,
    for any byte strings, in each of the three ciphersuites (basic, AUG, POP). -/
theorem verify_total' (H : HashFn) (s : Suite) (pk msg sig : Bytes) :
    ∃ b, verify H s pk msg sig = .returned b :=
  verify_total H C10G2.swuTotal s pk msg sig

/-- `optimized_swu_G2` returns at `0` (the exceptional branch `denominator = 0`) and at `1 + i` -/
theorem swu_samples :
    (optimizedSwuG2 (f2c [0, 0])).isOk = true ∧ (optimizedSwuG2 (f2c [1, 1])).isOk = true := by
  obtain ⟨r0, h0⟩ := C10G2.swuTotal 0 0 (by decide) (by decide)
  obtain ⟨r1, h1⟩ := C10G2.swuTotal 1 1 (by decide) (by decide)
  exact ⟨by rw [show f2c [0, 0] = f2c [((0 : Nat) : Int), ((0 : Nat) : Int)] from rfl, h0]; rfl,
    by rw [show f2c [1, 1] = f2c [((1 : Nat) : Int), ((1 : Nat) : Int)] from rfl, h1]; rfl⟩

/-- **`PopVerify(PK, proof)` always returns a `bool`**, for any byte strings. -/
theorem popVerify_total' (H : HashFn) (pk proof : Bytes) :
    ∃ b, popVerify H pk proof = .returned b :=
  (popVerify_total_or_swu H pk proof).total C10G2.swuTotal

/-- **`AggregateVerify(PKs, messages, signature)` always returns a `bool`**, for key and message lists
    of any (also different) lengths with entries of any length, all three suites. -/
theorem aggregateVerify_total' (H : HashFn) (s : Suite) (pks msgs : List Bytes) (sig : Bytes) :
    ∃ b, aggregateVerify H s pks msgs sig = .returned b :=
  (aggregateVerify_total_or_swu H s pks msgs sig).total C10G2.swuTotal

/-- **`FastAggregateVerify(PKs, message, signature)` always returns a `bool`**, for any inputs. -/
theorem fastAggregateVerify_total' (H : HashFn) (pks : List Bytes) (msg sig : Bytes) :
    ∃ b, fastAggregateVerify H pks msg sig = .returned b :=
  (fastAggregateVerify_total_or_swu H pks msg sig).total C10G2.swuTotal

/-- **No verification API ever raises** (summary): none of the four outcomes is `raised e`. -/
theorem never_raises (H : HashFn) (e : PyErr) :
    (∀ s pk msg sig, verify H s pk msg sig ≠ .raised e) ∧
    (∀ pk proof, popVerify H pk proof ≠ .raised e) ∧
    (∀ s pks msgs sig, aggregateVerify H s pks msgs sig ≠ .raised e) ∧
    (∀ pks msg sig, fastAggregateVerify H pks msg sig ≠ .raised e) := by
  have nr : ∀ {o}, ReturnsOrSwu o → o ≠ .raised e := fun h he => C10G2.not_swuFails (h.raised he).2
  exact ⟨fun s pk msg sig => nr (verify_total_or_swu H s pk msg sig),
    fun pk proof => nr (popVerify_total_or_swu H pk proof),
    fun s pks msgs sig => nr (aggregateVerify_total_or_swu H s pks msgs sig),
    fun pks msg sig => nr (fastAggregateVerify_total_or_swu H pks msg sig)⟩

/-- **`hash_to_G2` raises nothing but `ValueError`** (DST longer than 255 bytes, or a digest so short
    that `ell > 255`); for the suites' own DSTs with a digest of ≥ 2 bytes it returns (`hashToG2_returns`). -/
theorem hashToG2_error_kind' (H : HashFn) (msg dst : Bytes) (e : PyErr)
    (h : hashToG2 H msg dst = .error e) : e = .value := by
  rcases hashToG2_error h with h | ⟨_, hf⟩
  · exact h
  · exact (C10G2.not_swuFails hf).elim

/-- **`hash_to_G2` returns** for a DST of at most 255 bytes and a digest of at least 2 bytes (so that
    `ell = ceil(256/digest_size) ≤ 255`; SHA-256 has 32) — in particular at the suites' own tags, which are 43 bytes long.
    (For `digest_size = 1` the code raises `ValueError`, which the callers catch; for `digest_size = 0` Python raises
    `ZeroDivisionError` where the model's totalised `ceilDiv` gives 0 — hashlib digests are never empty.) -/
theorem hashToG2_returns (H : HashFn) (hd : 2 ≤ H.digestSize) (msg : Bytes) {dst : Bytes}
    (hdst : dst.length ≤ 255) : ∃ mp, hashToG2 H msg dst = .ok mp := by
  cases h : hashToG2 H msg dst with
  | ok mp => exact ⟨mp, rfl⟩
  | error e => exact (C10G2.not_swuFails (hashToG2_error_of_dst hd hdst h).2).elim

/-- **A key failing `KeyValidate` anywhere in the list makes `AggregateVerify` return `False`**
    (all suites), unconditionally. -/
theorem aggregateVerify_badkey_false' (H : HashFn) (s : Suite) (pks msgs : List Bytes)
    (sig : Bytes) (h : ∃ pk ∈ pks, keyValidate pk = false) :
    aggregateVerify H s pks msgs sig = .returned false := by
  obtain ⟨b, hb⟩ := aggregateVerify_total' H s pks msgs sig
  cases b
  · exact hb
  · obtain ⟨pk, hpk, hk⟩ := h
    obtain ⟨hl, P, hP⟩ := (aggregateVerify_rejects_noncanonical H s pks msgs sig hb).2.2.2.1 pk hpk
    rw [(keyValidate_true_iff pk).mpr ⟨hl, P, hP⟩] at hk
    cases hk

/-- non-vacuity: the empty string fails `KeyValidate` -/
example : ∃ pk ∈ [([] : Bytes)], keyValidate pk = false := ⟨[], by simp, by decide⟩

end PyEcc.C04
