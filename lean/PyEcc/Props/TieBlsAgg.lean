/-
  PyEcc.Props.TieBlsAgg — TIE theorems ("generated = hand-written model") for `py_ecc/bls/ciphersuites.py`, part 2:
  `Aggregate`, `_CoreAggregateVerify`, `AggregateVerify` (three classes), `_AggregatePKs`, `FastAggregateVerify`, `KeyGen`.
  See `TieBls.lean` for the conventions.

  Loops.  The translator emits a validation loop `for x in l: if not ok(x): raise E` as `List.forM l <body>`, and a loop with an
  accumulator as `List.foldlM <body> acc l`, each body a separate generated definition.  The model writes `l.all ok` and, for
  `_CoreAggregateVerify`, a recursive function `aggLoop` that also accumulates the list of pairing arguments.  The lemmas
  `forM_guard`, `forM_skip` (`Lemmas/Control.lean`) and `aggLoop_eq` (inductions over the list) relate the two.
  `len(messages) != len(set(messages))` is translated as `messages.length ≠ messages.eraseDups.length`; `hasDup_eq` proves that
  this is the model's `hasDup`.
  `KeyGen`'s `while SK == 0` loop is translated as a recursion on a `fuel` argument; `KeyGen_fuel_eq` states, for EVERY fuel
  `f`, that the generated function with fuel `f` is the model's loop with fuel `f` (the model's `keyGen` fixes `f = 64`).

  Robustness against behaviour-preserving rewrites of the Python.  The tie statements are about the top-level generated
  functions only.  A generated loop body / loop function takes the locals that are free in the loop as parameters, so its
  signature changes when the Python hoists an invariant out of the loop or renames a local; therefore no statement here
  mentions a loop body applied to arguments: `forM_guard`, `forM_skip`, `aggLoop_eq`, `KeyGen_loop_eq` are about an ARBITRARY
  function satisfying the loop body's defining equation(s), the function is found by unification with the goal, and the
  equation is checked on the spot by unfolding the generated definition by name.  Proofs about branching tails case-split on
  the tests first and then normalise both sides (`simp`), so that an `if c: return False` chain and the equivalent boolean
  expression / `return c and f(..)` are both accepted; the two `try` bodies are compared statement by statement
  (`map_ite_eq`, `map_bind_eq` of `Lemmas/Control.lean`), each pair of tests by `simp`, so a test may be spelt either
  way round.  (The translator itself maps `all(..)` / `any(..)` guards to the loop they abbreviate, `not a == b` to
  `a != b`, `return a and f(..)` to the early-exit form: see py2lean_bls.py.)
-/
import PyEcc.Props.TieBls

namespace PyEcc.Tie
open PyEcc PyEcc.Gen.Consts

/-! ### Aggregate -/

/-- `Aggregate(signatures)` as translated from the source (the `n < 1` precondition, the validation loop, the
    accumulation loop `aggregate = add(aggregate, signature_to_G2(signature))` from `Z2`, `G2_to_signature`) is the
    model's `aggregate`. -/
theorem Bls.Aggregate_eq (sigs : List Bytes) : Gen.ExtraBls.Aggregate sigs = aggregate sigs := by
  unfold Gen.ExtraBls.Aggregate aggregate
  rw [forM_guard _ (fun x => decide (x.length = 96)) PyErr.validation ?hsig]
  case hsig =>
    intro x
    simp only [Gen.ExtraBls.Aggregate_loop0, Bls.is_valid_signature_eq]
    cases decide (x.length = 96) <;> rfl
  by_cases h1 : sigs.length < 1 <;> simp only [h1, ↓reduceIte]
  · rfl
  cases h2 : (sigs.all fun x => decide (List.length x = 96)) <;> rfl

/-! ### _CoreAggregateVerify -/

/-- A loop `List.foldlM g acc l` whose step `g` behaves like one iteration of the `for pk, message in zip(PKs, messages)` loop
    of `_CoreAggregateVerify` (`KeyValidate`, `pubkey_to_G1`, `hash_to_G2`, `pairing`, accumulate) computes the first
    component of the model's `aggLoop`, from every accumulator.  Stated about an arbitrary step function `g`, not about the
    generated loop body applied to a fixed list of arguments: the generated body takes the locals that are free in the loop
    as parameters (`H`, `DST`, and whatever a refactoring hoists out of the loop); `CoreAggregateVerify_try_eq` checks the
    hypothesis `hg` for the generated body by unfolding it. -/
theorem Bls.aggLoop_eq (H : HashFn) (dst : Bytes) (g : OBls12 → Bytes × Bytes → Except PyErr OBls12)
    (hg : ∀ (acc : OBls12) (pk msg : Bytes), g acc (pk, msg) =
      (do if !(keyValidate pk) then throw PyErr.validation
          let pkPt ← pubkeyToG1 pk
          let mp ← hashToG2 H msg dst
          let e ← pairingOptBls mp pkPt false
          pure (acc * e)))
    (l : List (Bytes × Bytes)) (acc : OBls12) (tr : List (G2Pt × G1Pt)) :
    List.foldlM g acc l = (aggLoop H dst l acc tr).map (·.1) := by
  induction l generalizing acc tr with
  | nil => rfl
  | cons p t ih =>
    obtain ⟨pk, msg⟩ := p
    rw [List.foldlM_cons, hg, BlsSem.aggLoop_step]
    cases keyValidate pk
    · rfl
    cases pubkeyToG1 pk with
    | error e => rfl
    | ok a =>
      cases hashToG2 H msg dst with
      | error e => rfl
      | ok b =>
        simp only [ok_bind]
        cases pairingOptBls b a false with
        | error e => rfl
        | ok c => exact ih _ _

/-- The body of the `try` statement of `_CoreAggregateVerify` as translated from the source (the two validation loops, the
    length comparison, the signature check, the `n < 1` precondition — in source order —, `signature_to_G2`, the subgroup
    check returning `False`, the accumulation loop, the final pairing with `neg(G1)`, `final_exponentiate`, the comparison
    with `FQ12.one()`) is the model's `coreAggregateVerifyBody` without its trace component. -/
theorem Bls.CoreAggregateVerify_try_eq (H : HashFn) (s : Suite) (pks msgs : List Bytes) (sig dst : Bytes) :
    Gen.ExtraBls._CoreAggregateVerify_try H s pks msgs sig dst =
      (coreAggregateVerifyBody H s pks msgs sig dst).map (·.1) := by
  unfold Gen.ExtraBls._CoreAggregateVerify_try coreAggregateVerifyBody
  -- the two validation loops (whatever arguments the generated loop bodies take)
  rw [forM_guard_bind _ (isValidPubkey s) PyErr.validation ?hpk, forM_skip _ ?hmsg]
  case hpk =>
    intro pk
    simp only [Gen.ExtraBls._CoreAggregateVerify_try_loop0, Bls.is_valid_pubkey_eq]
    cases isValidPubkey s pk <;> rfl
  case hmsg =>
    intro m
    simp only [Gen.ExtraBls._CoreAggregateVerify_try_loop1, Bls.is_valid_message_eq]
    rfl
  simp -zeta only [pure_bind, Bls.is_valid_signature_eq]
  refine map_ite_eq Iff.rfl rfl ?_
  refine map_ite_eq (by simp [eq_comm]) rfl ?_
  refine map_ite_eq (by simp) rfl ?_
  refine map_ite_eq Iff.rfl rfl ?_
  refine map_bind_eq fun S => map_ite_eq Iff.rfl map_pure_eq ?_
  -- the accumulation loop: `aggLoop_eq`, its hypothesis checked by unfolding the generated loop body
  dsimp only
  rw [Bls.aggLoop_eq H dst _ ?hg _ _ []]
  case hg =>
    intro acc pk msg
    simp only [Gen.ExtraBls._CoreAggregateVerify_try_loop2, Bls.KeyValidate_eq, pure_bind]
  refine (bind_map_eq Prod.fst rfl fun _ => rfl).symm.trans ?_
  exact map_bind_eq fun r => map_bind_eq fun e => map_pure_eq

/-- `_CoreAggregateVerify(PKs, messages, signature, DST)` as translated from the source (`try: <body> except
    (ValidationError, ValueError, AssertionError): return False`) is the model's `coreAggregateVerify`, for each class. -/
theorem Bls.CoreAggregateVerify_eq (H : HashFn) (s : Suite) (pks msgs : List Bytes) (sig dst : Bytes) :
    Gen.ExtraBls._CoreAggregateVerify H s pks msgs sig dst = coreAggregateVerify H s pks msgs sig dst := by
  unfold Gen.ExtraBls._CoreAggregateVerify coreAggregateVerify catching
  rw [Bls.CoreAggregateVerify_try_eq]
  cases (coreAggregateVerifyBody H s pks msgs sig dst).map (·.1) with
  | ok b => rfl
  | error e => simp only [Bls.caught3_eq]

/-! ### AggregateVerify -/

theorem Bls.eraseDups_length_le {α : Type} [BEq α] :
    ∀ (n : Nat) (l : List α), l.length = n → l.eraseDups.length ≤ l.length := by
  intro n
  induction n using Nat.strongRecOn with
  | _ n ih =>
    intro l hl
    cases l with
    | nil => simp
    | cons a t =>
      rw [List.eraseDups_cons, List.length_cons, List.length_cons]
      have h1 := List.length_filter_le (fun b => !b == a) t
      have h2 := ih (List.filter (fun b => !b == a) t).length (by simp at hl; omega) _ rfl
      omega

/-- `len(l) != len(set(l))` (the number of distinct elements differs from the length) is the model's duplicate test -/
theorem Bls.hasDup_eq (l : List Bytes) : hasDup l = decide (l.length ≠ l.eraseDups.length) := by
  induction l with
  | nil => simp [hasDup]
  | cons a t ih =>
    rw [hasDup, List.eraseDups_cons, List.length_cons, List.length_cons, ih]
    by_cases hc : t.contains a = true
    · have hlt : (List.filter (fun b => !b == a) t).length < t.length := by
        apply List.length_filter_lt_length_iff_exists.mpr
        refine ⟨a, List.contains_iff_mem.mp hc, by simp⟩
      have hle := Bls.eraseDups_length_le _ (List.filter (fun b => !b == a) t) rfl
      simp only [hc, Bool.true_or]
      symm
      apply decide_eq_true
      omega
    · have hf : List.filter (fun b => !b == a) t = t := by
        apply List.filter_eq_self.mpr
        intro b hb
        simp only [Bool.not_eq_true']
        apply Classical.byContradiction
        intro hne
        simp only [Bool.not_eq_false] at hne
        have : b = a := eq_of_beq hne
        subst this
        exact hc (List.contains_iff_mem.mpr hb)
      rw [hf]
      simp only [Bool.not_eq_true] at hc
      simp only [hc, Bool.false_or]
      congr 1
      apply propext
      omega

/-- `[pk + msg for pk, msg in zip(PKs, messages)]` is the model's `zipWith (· ++ ·)` -/
theorem Bls.aug_messages_eq (pks msgs : List Bytes) :
    (List.map (fun (it : Bytes × Bytes) => let pk := it.1; let msg := it.2; (pk ++ msg)) (List.zip pks msgs)) =
      List.zipWith (· ++ ·) pks msgs :=
  List.map_zip_eq_zipWith

/-- `cls.AggregateVerify(PKs, messages, signature)` for each of the three classes — `G2Basic` (distinct-messages test
    first), `G2MessageAugmentation` (length test, then every message prefixed with its public key), `G2ProofOfPossession`
    — each as translated from its own method body in the current source, is the model's `aggregateVerify`. -/
theorem Bls.AggregateVerify_eq (H : HashFn) (s : Suite) (pks msgs : List Bytes) (sig : Bytes) :
    Gen.ExtraBls.AggregateVerify H s pks msgs sig = aggregateVerify H s pks msgs sig := by
  cases s
  · -- case split on the distinctness test, then normalise: the proof does not depend on how the source spells the early exit
    -- (`if len(..) != len(set(..)): return False` or `return <unique> and cls._CoreAggregateVerify(..)`)
    by_cases h : msgs.length = msgs.eraseDups.length <;>
      simp [Gen.ExtraBls.AggregateVerify, Gen.ExtraBls.G2Basic.AggregateVerify, aggregateVerify,
        Bls.CoreAggregateVerify_eq, Bls.DST_eq, Bls.hasDup_eq, h]
  · simp only [Gen.ExtraBls.AggregateVerify, Gen.ExtraBls.G2MessageAugmentation.AggregateVerify, aggregateVerify,
      Bls.CoreAggregateVerify_eq, Bls.DST_eq, Bls.aug_messages_eq]
  · simp only [Gen.ExtraBls.AggregateVerify, Gen.ExtraBls.G2ProofOfPossession.AggregateVerify, aggregateVerify,
      Bls.CoreAggregateVerify_eq, Bls.DST_eq]

/-! ### _AggregatePKs, FastAggregateVerify -/

/-- `G2ProofOfPossession._AggregatePKs(PKs)` as translated from the source is the model's `aggregatePKs`. -/
theorem Bls.AggregatePKs_eq (pks : List Bytes) : Gen.ExtraBls._AggregatePKs pks = aggregatePKs pks := by
  unfold Gen.ExtraBls._AggregatePKs aggregatePKs
  rfl

/-- the exception tuple `(ValidationError, AssertionError)` of `FastAggregateVerify` is the model's `caught2` -/
theorem Bls.caught2_eq (e : PyErr) : (e = PyErr.validation ∨ e = PyErr.assertion) ↔ caught2 e = true := by
  cases e <;> simp [caught2]

/-- `G2ProofOfPossession.FastAggregateVerify(PKs, message, signature)` as translated from the source (`try:` the validation
    loop, the message and signature checks, the `n < 1` precondition, `_AggregatePKs`; `except (ValidationError,
    AssertionError): return False` — a `ValueError` from `pubkey_to_G1` propagates —; `else: cls.Verify(..)`) is the model's
    `fastAggregateVerify`. -/
theorem Bls.FastAggregateVerify_eq (H : HashFn) (pks : List Bytes) (msg sig : Bytes) :
    Gen.ExtraBls.FastAggregateVerify H pks msg sig = fastAggregateVerify H pks msg sig := by
  unfold Gen.ExtraBls.FastAggregateVerify fastAggregateVerify
  have hpre : Gen.ExtraBls.FastAggregateVerify_try pks msg sig =
      (do if !(pks.all (isValidPubkey .pop)) then throw PyErr.validation
          if sig.length ≠ 96 then throw PyErr.validation
          if pks.length < 1 then throw PyErr.validation
          aggregatePKs pks) := by
    unfold Gen.ExtraBls.FastAggregateVerify_try
    rw [forM_guard _ (isValidPubkey .pop) PyErr.validation ?hpk, Bls.is_valid_message_eq,
      Bls.is_valid_signature_eq, Bls.AggregatePKs_eq]
    case hpk =>
      intro pk
      simp only [Gen.ExtraBls.FastAggregateVerify_try_loop0, Bls.is_valid_pubkey_eq]
      cases isValidPubkey .pop pk <;> rfl
    cases h1 : pks.all (isValidPubkey .pop)
    · rfl
    by_cases h3 : sig.length = 96 <;> simp [h3] <;> rfl
  rw [hpre]
  simp only [Bls.Verify_eq]
  split <;> rename_i h <;> simp only [h]
  simp only [Bls.caught2_eq]

/-! ### KeyGen -/

/-- the translator evaluates the closed float expression `ceil((1.5 * ceil(log2(curve_order))) / 8)` of the source and emits
    its value as a literal; it is the dumped module constant the model uses -/
theorem Bls.keygen_L_eq : (48 : Nat) = suites_keygen_L := by rfl

/-- Any function `L` that satisfies the two defining equations of the translated `while SK == 0` loop of `KeyGen` (a
    recursion on `fuel` over the state `(SK, salt)`), started with `SK = 0`, computes the model's `keyGenLoop` with the
    same fuel, from every salt.  Stated about an arbitrary `L` — not about `Gen.ExtraBls.KeyGen_loop` applied to a fixed
    list of arguments — because the generated loop function takes the local variables that are free in the loop as
    parameters: hoisting `l = ceil(..)` out of the loop in the Python adds one.  `KeyGen_fuel_eq` instantiates `L`. -/
theorem Bls.KeyGen_loop_eq (H : HashFn) (ikm keyInfo : Bytes)
    (L : Nat → Nat × Bytes → Except PyErr (Nat × Bytes))
    (h0 : ∀ SK salt, L 0 (SK, salt) = if SK = 0 then throw PyErr.other else pure (SK, salt))
    (hs : ∀ f SK salt, L (f + 1) (SK, salt) =
      if SK = 0 then do
        let salt := H.run salt
        let prk := hkdfExtract H salt (ikm ++ [0])
        let r1 ← i2osp 48 2
        let okm ← hkdfExpand H prk (keyInfo ++ r1) 48
        let SK := os2ip okm % suites_curve_order
        L f (SK, salt)
      else pure (SK, salt)) :
    ∀ (f : Nat) (salt : Bytes), (L f (0, salt)).map (·.1) = keyGenLoop H ikm keyInfo f salt := by
  intro f
  induction f with
  | zero => intro salt; rw [h0]; rfl
  | succ f ih =>
    intro salt
    rw [hs]
    unfold keyGenLoop
    simp only [↓reduceIte, ← Bls.keygen_L_eq, curveOrder]
    cases i2osp 48 2 with
    | error e => rfl
    | ok lb =>
      simp only [bind, Except.bind]
      cases hkdfExpand H (hkdfExtract H (H.run salt) (ikm ++ [0])) (keyInfo ++ lb) 48 with
      | error e => rfl
      | ok okm =>
        by_cases hz : os2ip okm % suites_curve_order = 0
        · simp only [hz, ↓reduceIte]
          exact ih _
        · simp only [hz, ↓reduceIte]
          cases f
          · rw [h0]; simp only [hz, ↓reduceIte]; rfl
          · rw [hs]; simp only [hz, ↓reduceIte]; rfl

/-- the byte string literal `b"BLS-SIG-KEYGEN-SALT-"` of the source, as the model writes it -/
theorem Bls.keygen_salt_eq :
    ([66, 76, 83, 45, 83, 73, 71, 45, 75, 69, 89, 71, 69, 78, 45, 83, 65, 76, 84, 45] : Bytes) =
      "BLS-SIG-KEYGEN-SALT-".toUTF8.toList := by
  decide +kernel

/-- returning the first component of the final loop state -/
theorem Bls.bind_fst (r : Except PyErr (Nat × Bytes)) :
    (do let (SK, _) ← r; return SK) = r.map (·.1) := by
  cases r with
  | error e => rfl
  | ok st => cases st; rfl

/-- `KeyGen(IKM, key_info)` as translated from the source, with its unbounded `while SK == 0` loop cut off after `f`
    iterations (out of fuel = `PyErr.other`): for EVERY fuel `f` it is the model's loop with fuel `f` started from the salt
    `b"BLS-SIG-KEYGEN-SALT-"`.  (The generated loop function is whatever `KeyGen` calls, with whatever extra arguments: the
    two hypotheses of `KeyGen_loop_eq` are its defining equations, checked by unfolding.) -/
theorem Bls.KeyGen_fuel_eq (H : HashFn) (f : Nat) (ikm keyInfo : Bytes) :
    Gen.ExtraBls.KeyGen H f ikm keyInfo = keyGenLoop H ikm keyInfo f "BLS-SIG-KEYGEN-SALT-".toUTF8.toList := by
  rw [← Bls.keygen_salt_eq]
  unfold Gen.ExtraBls.KeyGen
  dsimp only
  rw [Bls.bind_fst]
  exact Bls.KeyGen_loop_eq H ikm keyInfo _ (fun _ _ => rfl) (fun _ _ _ => rfl) f _

/-- `KeyGen(IKM, key_info)` with fuel 64 is the model's `keyGen`. -/
theorem Bls.KeyGen_eq (H : HashFn) (ikm keyInfo : Bytes) : Gen.ExtraBls.KeyGen H 64 ikm keyInfo = keyGen H ikm keyInfo := by
  rw [Bls.KeyGen_fuel_eq]
  rfl

end PyEcc.Tie
