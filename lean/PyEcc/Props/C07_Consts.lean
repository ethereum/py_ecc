/-
  PyEcc.Props.C07_Consts — property C07, constant level.

  `PyEcc/Gen/Consts.lean` is regenerated from the Python working tree on every run (every
  module-level constant of py_ecc).  This file proves that those constants are the ones of the
  standards (`PyEcc/Spec/Standards.lean`: ZCash / pairing-friendly-curves draft for BLS12-381,
  EIP-196/197 for alt_bn128, SEC 2 for secp256k1), that all reference / optimized / `fields` copies
  of a constant agree, and re-derives the parameters from the curve seeds.  A changed constant in
  the library makes a theorem here fail.

  Part A (`spec_*`) is about the specification literals only (no `Gen`): they are self-consistent
  (seed formulas, generators satisfy the curve equations), which guards against typing errors in
  `Spec/Standards.lean`.  Part B (`bls_*`, `bn_*`, `secp_*`) is `Gen.Consts.* = Spec.*`.
  Everything is closed-term evaluation (`decide +kernel`; no axioms beyond the kernel's GMP
  arithmetic).  Core Lean only.  The three facts `G12 = twist(G2)`, which run the model's `FQ12` arithmetic and
  make up most of the evaluation, are in `Props/C07_ConstsG12.lean`.
-/
import PyEcc.Spec.Standards
import PyEcc.Model.Curve
import PyEcc.Model.Pairing

namespace PyEcc.C07.Consts
open PyEcc.Gen.Consts

/-- `Σ dᵢ·2ⁱ` of a little-endian signed-digit list -/
def evalDigits : List Int → Int
  | [] => 0
  | d :: ds => d + 2 * evalDigits ds

/-- embedding of a base-field constant into a 12-coefficient list -/
def const12 (c : Int) : List Int := c :: List.replicate 11 0

/-! ## Part A: the specification literals are self-consistent -/

/-- BLS12-381: the group order is `r = x⁴ − x² + 1` at the seed `x = −0xd201000000010000`. -/
theorem spec_bls_r_from_seed :
    (Spec.BLS12381.r : Int) = Spec.BLS12381.x ^ 4 - Spec.BLS12381.x ^ 2 + 1 := by decide +kernel

/-- BLS12-381: the field characteristic is `p = (x−1)²·r/3 + x` (the division is exact). -/
theorem spec_bls_p_from_seed :
    (Spec.BLS12381.p : Int) = (Spec.BLS12381.x - 1) ^ 2 * Spec.BLS12381.r / 3 + Spec.BLS12381.x ∧
    ((Spec.BLS12381.x - 1) ^ 2 * Spec.BLS12381.r) % 3 = 0 := by decide +kernel

/-- BLS12-381: `p ≡ 3 (mod 4)` (so `i² = −1` defines `Fp²`) and `p ≡ 1 (mod 6)`. -/
theorem spec_bls_p_mod : Spec.BLS12381.p % 4 = 3 ∧ Spec.BLS12381.p % 6 = 1 := by decide +kernel

/-- BLS12-381: with the trace `t = x + 1`, `p + 1 − t = h₁·r`, `h₁ = (x−1)²/3` (exact division). -/
theorem spec_bls_trace :
    (Spec.BLS12381.p : Int) + 1 - Spec.BLS12381.t = Spec.BLS12381.h1 * Spec.BLS12381.r ∧
    (Spec.BLS12381.h1 : Int) * 3 = (Spec.BLS12381.x - 1) ^ 2 := by decide +kernel

/-- BLS12-381: the Miller loop length is `|x|`. -/
theorem spec_bls_ate : (Spec.BLS12381.ateLoopCount : Int) = -Spec.BLS12381.x := by decide +kernel

/-- BLS12-381: the standard G1 generator satisfies `y² = x³ + 4 (mod p)`, coordinates canonical. -/
theorem spec_bls_g1_on_curve :
    Spec.BLS12381.g1y ^ 2 % Spec.BLS12381.p
      = (Spec.BLS12381.g1x ^ 3 + Spec.BLS12381.b) % Spec.BLS12381.p ∧
    Spec.BLS12381.g1x < Spec.BLS12381.p ∧ Spec.BLS12381.g1y < Spec.BLS12381.p := by decide +kernel

/-- BLS12-381: the standard G2 generator satisfies `y² = x³ + 4(1+i)` in `Fp[i]/(i²+1)` (real and
    imaginary parts, integer arithmetic mod `p`), coordinates canonical. -/
theorem spec_bls_g2_on_curve :
    let p : Int := Spec.BLS12381.p
    let x0 : Int := Spec.BLS12381.g2x0; let x1 : Int := Spec.BLS12381.g2x1
    let y0 : Int := Spec.BLS12381.g2y0; let y1 : Int := Spec.BLS12381.g2y1
    (y0 ^ 2 - y1 ^ 2) % p = (x0 ^ 3 - 3 * x0 * x1 ^ 2 + 4) % p ∧
    (2 * y0 * y1) % p = (3 * x0 ^ 2 * x1 - x1 ^ 3 + 4) % p ∧
    x0 < p ∧ x1 < p ∧ y0 < p ∧ y1 < p := by decide +kernel

/-- alt_bn128: `p = 36u⁴ + 36u³ + 24u² + 6u + 1`, `r = 36u⁴ + 36u³ + 18u² + 6u + 1`, and the trace is
    `t = 6u² + 1` (`#E(Fp) = p + 1 − t = r`) at `u = 4965661367192848881`. -/
theorem spec_bn_from_seed :
    let u := Spec.BN254.u
    Spec.BN254.p = 36 * u ^ 4 + 36 * u ^ 3 + 24 * u ^ 2 + 6 * u + 1 ∧
    Spec.BN254.r = 36 * u ^ 4 + 36 * u ^ 3 + 18 * u ^ 2 + 6 * u + 1 ∧
    Spec.BN254.p + 1 - (6 * u ^ 2 + 1) = Spec.BN254.r := by decide +kernel

/-- alt_bn128: `p ≡ 3 (mod 4)`. -/
theorem spec_bn_p_mod : Spec.BN254.p % 4 = 3 := by decide +kernel

/-- alt_bn128: `(1, 2)` is on `y² = x³ + 3`. -/
theorem spec_bn_g1_on_curve :
    Spec.BN254.g1y ^ 2 = Spec.BN254.g1x ^ 3 + Spec.BN254.b := by decide

/-- alt_bn128: the EIP-197 G2 generator is on the twist `y² = x³ + 3/(9+i)`, stated without
    division: `(y² − x³)·(9+i) = 3` in `Fp[i]/(i²+1)` (real and imaginary parts). -/
theorem spec_bn_g2_on_curve :
    let p : Int := Spec.BN254.p
    let x0 : Int := Spec.BN254.g2x0; let x1 : Int := Spec.BN254.g2x1
    let y0 : Int := Spec.BN254.g2y0; let y1 : Int := Spec.BN254.g2y1
    let d0 := (y0 ^ 2 - y1 ^ 2) - (x0 ^ 3 - 3 * x0 * x1 ^ 2)
    let d1 := 2 * y0 * y1 - (3 * x0 ^ 2 * x1 - x1 ^ 3)
    (9 * d0 - d1) % p = 3 ∧ (d0 + 9 * d1) % p = 0 ∧
    x0 < p ∧ x1 < p ∧ y0 < p ∧ y1 < p := by decide +kernel

/-- secp256k1: `G` is on `y² = x³ + 7 (mod P)`; `P = 2²⁵⁶ − 2³² − 977` in hexadecimal. -/
theorem spec_secp_consistent :
    Spec.SEC2.Gy ^ 2 % Spec.SEC2.P = (Spec.SEC2.Gx ^ 3 + Spec.SEC2.A * Spec.SEC2.Gx + Spec.SEC2.B) % Spec.SEC2.P ∧
    Spec.SEC2.P = 0xFFFFFFFFFFFFFFFFFFFFFFFFFFFFFFFFFFFFFFFFFFFFFFFFFFFFFFFEFFFFFC2F ∧
    Spec.SEC2.Gx < Spec.SEC2.P ∧ Spec.SEC2.Gy < Spec.SEC2.P := by decide +kernel

/-! ## Part B: the library's constants are the standard ones -/

/-! ### BLS12-381 -/

/-- Every copy of `field_modulus` for BLS12-381 in py_ecc (`bls12_381`, `optimized_bls12_381`,
    `fields`) is the standard prime `p = 0x1a0111ea…aaab`. -/
theorem bls_field_modulus :
    bls12_381_field_modulus = Spec.BLS12381.p ∧
    optimized_bls12_381_field_modulus = Spec.BLS12381.p ∧
    fields_bls12_381_field_modulus = Spec.BLS12381.p := by decide +kernel

/-- Every copy of `curve_order` for BLS12-381 (`bls12_381`, `optimized_bls12_381`, and the one the
    BLS ciphersuites import) is the standard `r = 0x73eda753…00000001`. -/
theorem bls_curve_order :
    bls12_381_curve_order = Spec.BLS12381.r ∧
    optimized_bls12_381_curve_order = Spec.BLS12381.r ∧
    suites_curve_order = Spec.BLS12381.r := by decide +kernel

/-- The model's `blsP`, `blsR` are the standard prime and order. -/
theorem bls_model_p_r : blsP = Spec.BLS12381.p ∧ blsR = Spec.BLS12381.r := by decide +kernel

/-- `b = 4`, `b2 = 4(1+i)`, `b12 = 4` in both BLS12-381 modules. -/
theorem bls_b :
    bls12_381_b = Spec.BLS12381.b ∧ optimized_bls12_381_b = Spec.BLS12381.b ∧
    bls12_381_b2 = Spec.BLS12381.b2 ∧ optimized_bls12_381_b2 = Spec.BLS12381.b2 ∧
    bls12_381_b12 = const12 Spec.BLS12381.b ∧ optimized_bls12_381_b12 = const12 Spec.BLS12381.b := by
  decide +kernel

/-- The G1 generator of both BLS12-381 modules is the standard one (the optimized module stores it
    projectively with `z = 1`). -/
theorem bls_G1 :
    bls12_381_G1 = [[(Spec.BLS12381.g1x : Int)], [(Spec.BLS12381.g1y : Int)]] ∧
    optimized_bls12_381_G1 = [[(Spec.BLS12381.g1x : Int)], [(Spec.BLS12381.g1y : Int)], [1]] := by
  decide +kernel

/-- The G2 generator of both BLS12-381 modules is the standard one (coefficient lists
    `[real, imaginary]`; the optimized module stores it projectively with `z = 1`). -/
theorem bls_G2 :
    bls12_381_G2 = [[(Spec.BLS12381.g2x0 : Int), (Spec.BLS12381.g2x1 : Int)],
                    [(Spec.BLS12381.g2y0 : Int), (Spec.BLS12381.g2y1 : Int)]] ∧
    optimized_bls12_381_G2 = [[(Spec.BLS12381.g2x0 : Int), (Spec.BLS12381.g2x1 : Int)],
                              [(Spec.BLS12381.g2y0 : Int), (Spec.BLS12381.g2y1 : Int)], [1, 0]] := by
  decide +kernel

/-- The model's typed generators `blsG1`, `blsG2` carry the standard coordinates, `z = 1`. -/
theorem bls_model_generators :
    blsG1.1.n = Spec.BLS12381.g1x ∧ blsG1.2.1.n = Spec.BLS12381.g1y ∧ blsG1.2.2.n = 1 ∧
    blsG2 = (⟨[(Spec.BLS12381.g2x0 : Int), (Spec.BLS12381.g2x1 : Int)]⟩,
             ⟨[(Spec.BLS12381.g2y0 : Int), (Spec.BLS12381.g2y1 : Int)]⟩, ⟨[1, 0]⟩) := by
  decide +kernel

/-- The extension-field moduli used for BLS12-381 are `u² + 1` and `w¹² − 2w⁶ + 2`; `w` is the
    class of the indeterminate in both modules. -/
theorem bls_moduli :
    fields_bls12_381_fq2_modulus_coeffs = Spec.BLS12381.fq2Modulus ∧
    fields_bls12_381_fq12_modulus_coeffs = Spec.BLS12381.fq12Modulus ∧
    bls12_381_w = [0, 1, 0, 0, 0, 0, 0, 0, 0, 0, 0, 0] ∧
    optimized_bls12_381_w = [0, 1, 0, 0, 0, 0, 0, 0, 0, 0, 0, 0] := by decide +kernel

/-- The points at infinity of the optimized BLS12-381 module are `(1 : 1 : 0)`. -/
theorem bls_infinity :
    optimized_bls12_381_Z1 = [[1], [1], [0]] ∧ optimized_bls12_381_Z2 = [[1, 0], [1, 0], [0, 0]] := by
  decide

/-- `ate_loop_count = |x|` in both BLS12-381 modules. -/
theorem bls_ate_loop_count :
    bls12_381_ate_loop_count = Spec.BLS12381.ateLoopCount ∧
    optimized_bls12_381_ate_loop_count = Spec.BLS12381.ateLoopCount := by decide +kernel

/-- `log_ate_loop_count` (both BLS12-381 modules) is the index of the bit just below the leading one
    of `ate_loop_count`: the Miller loops start from `R = Q` (leading bit) and scan bits
    `log_ate_loop_count, …, 0`. -/
theorem bls_log_ate_loop_count :
    2 ^ (bls12_381_log_ate_loop_count + 1) ≤ bls12_381_ate_loop_count ∧
    bls12_381_ate_loop_count < 2 ^ (bls12_381_log_ate_loop_count + 2) ∧
    optimized_bls12_381_log_ate_loop_count = bls12_381_log_ate_loop_count ∧
    bls12_381_log_ate_loop_count = 62 := by decide +kernel

/-- `pseudo_binary_encoding` of the optimized BLS12-381 module is the binary expansion of
    `ate_loop_count`: digits in `{0, 1}`, `log_ate_loop_count + 2` of them, leading digit 1,
    `Σ dᵢ 2ⁱ = ate_loop_count`. -/
theorem bls_pseudo_binary_encoding :
    evalDigits optimized_bls12_381_pseudo_binary_encoding = Spec.BLS12381.ateLoopCount ∧
    optimized_bls12_381_pseudo_binary_encoding.all (fun d => d == 0 || d == 1) = true ∧
    optimized_bls12_381_pseudo_binary_encoding.length = optimized_bls12_381_log_ate_loop_count + 2 ∧
    optimized_bls12_381_pseudo_binary_encoding.getLast? = some 1 := by decide +kernel

/-- The digit sequence the optimized BLS12-381 Miller loop actually scans
    (`pseudo_binary_encoding[62::-1]`, most significant first, starting from `R = Q`) evaluates by
    double-and-add to `ate_loop_count`. -/
theorem bls_miller_digits :
    (digitsFrom optimized_bls12_381_pseudo_binary_encoding 62).foldl (fun acc d => 2 * acc + d) 1
      = (Spec.BLS12381.ateLoopCount : Int) := by decide +kernel

/-! ### alt_bn128 -/

/-- Every copy of `field_modulus` for alt_bn128 (`bn128`, `optimized_bn128`, `fields`) is the
    EIP-196 prime. -/
theorem bn_field_modulus :
    bn128_field_modulus = Spec.BN254.p ∧ optimized_bn128_field_modulus = Spec.BN254.p ∧
    fields_bn128_field_modulus = Spec.BN254.p := by decide +kernel

/-- Both copies of `curve_order` for alt_bn128 are the EIP-196 group order. -/
theorem bn_curve_order :
    bn128_curve_order = Spec.BN254.r ∧ optimized_bn128_curve_order = Spec.BN254.r := by decide +kernel

/-- `b = 3`, `b12 = 3`, `G1 = (1, 2)` in both alt_bn128 modules. -/
theorem bn_b_G1 :
    bn128_b = Spec.BN254.b ∧ optimized_bn128_b = Spec.BN254.b ∧
    bn128_b12 = const12 Spec.BN254.b ∧ optimized_bn128_b12 = const12 Spec.BN254.b ∧
    bn128_G1 = [[(Spec.BN254.g1x : Int)], [(Spec.BN254.g1y : Int)]] ∧
    optimized_bn128_G1 = [[(Spec.BN254.g1x : Int)], [(Spec.BN254.g1y : Int)], [1]] := by decide +kernel

/-- The G2 generator of both alt_bn128 modules is the EIP-197 one. -/
theorem bn_G2 :
    bn128_G2 = [[(Spec.BN254.g2x0 : Int), (Spec.BN254.g2x1 : Int)],
                [(Spec.BN254.g2y0 : Int), (Spec.BN254.g2y1 : Int)]] ∧
    optimized_bn128_G2 = [[(Spec.BN254.g2x0 : Int), (Spec.BN254.g2x1 : Int)],
                          [(Spec.BN254.g2y0 : Int), (Spec.BN254.g2y1 : Int)], [1, 0]] := by
  decide +kernel

/-- `b2` of both alt_bn128 modules is `3/(9+i)`: in the executable model of the library's `FQ2`
    (both the reference and the optimized class), `b2 · (9+i) = 3`; the stored coefficients are
    canonical residues; the two modules store the same list. -/
theorem bn_b2 :
    (⟨bn128_b2⟩ : Fqp .ref bnP bnMc2) * Fqp.ofInts Spec.BN254.xi = Fqp.ofInts [3, 0] ∧
    (⟨optimized_bn128_b2⟩ : Fqp .opt bnP bnMc2) * Fqp.ofInts Spec.BN254.xi = Fqp.ofInts [3, 0] ∧
    optimized_bn128_b2 = bn128_b2 ∧ bn128_b2.length = 2 ∧
    bn128_b2.all (fun c => decide (0 ≤ c ∧ c < (Spec.BN254.p : Int))) = true := by decide +kernel

/-- The same fact in plain integer arithmetic, independent of the field model: with
    `b2 = c₀ + c₁·i`, `9c₀ − c₁ ≡ 3` and `c₀ + 9c₁ ≡ 0 (mod p)`. -/
theorem bn_b2_int :
    let c0 := getI bn128_b2 0; let c1 := getI bn128_b2 1
    (9 * c0 - c1) % (Spec.BN254.p : Int) = 3 ∧ (c0 + 9 * c1) % (Spec.BN254.p : Int) = 0 := by
  decide +kernel

/-- The extension-field moduli used for alt_bn128 are `i² + 1` and `w¹² − 18w⁶ + 82`. -/
theorem bn_moduli :
    fields_bn128_fq2_modulus_coeffs = Spec.BN254.fq2Modulus ∧
    fields_bn128_fq12_modulus_coeffs = Spec.BN254.fq12Modulus ∧
    bn128_w = [0, 1, 0, 0, 0, 0, 0, 0, 0, 0, 0, 0] ∧
    optimized_bn128_w = [0, 1, 0, 0, 0, 0, 0, 0, 0, 0, 0, 0] := by decide +kernel

/-- The points at infinity of the optimized alt_bn128 module are `(1 : 1 : 0)`. -/
theorem bn_infinity :
    optimized_bn128_Z1 = [[1], [1], [0]] ∧ optimized_bn128_Z2 = [[1, 0], [1, 0], [0, 0]] := by decide

/-- `ate_loop_count = 6u + 2` in both alt_bn128 modules. -/
theorem bn_ate_loop_count :
    bn128_ate_loop_count = Spec.BN254.ateLoopCount ∧
    optimized_bn128_ate_loop_count = Spec.BN254.ateLoopCount := by decide +kernel

/-- `log_ate_loop_count` (both alt_bn128 modules) is the index of the bit just below the leading one
    of `ate_loop_count`. -/
theorem bn_log_ate_loop_count :
    2 ^ (bn128_log_ate_loop_count + 1) ≤ bn128_ate_loop_count ∧
    bn128_ate_loop_count < 2 ^ (bn128_log_ate_loop_count + 2) ∧
    optimized_bn128_log_ate_loop_count = bn128_log_ate_loop_count ∧
    bn128_log_ate_loop_count = 63 := by decide +kernel

/-- `pseudo_binary_encoding` of the optimized alt_bn128 module is a signed-digit expansion of
    `ate_loop_count = 6u + 2`: digits in `{−1, 0, 1}`, `log_ate_loop_count + 2` of them, leading digit
    1, `Σ dᵢ 2ⁱ = ate_loop_count`. -/
theorem bn_pseudo_binary_encoding :
    evalDigits optimized_bn128_pseudo_binary_encoding = Spec.BN254.ateLoopCount ∧
    optimized_bn128_pseudo_binary_encoding.all (fun d => d == 0 || d == 1 || d == -1) = true ∧
    optimized_bn128_pseudo_binary_encoding.length = optimized_bn128_log_ate_loop_count + 2 ∧
    optimized_bn128_pseudo_binary_encoding.getLast? = some 1 := by decide +kernel

/-- The digit sequence the optimized alt_bn128 Miller loop scans (`pseudo_binary_encoding[63::-1]`,
    most significant first, starting from `R = Q`) evaluates by double-and-add to `ate_loop_count`. -/
theorem bn_miller_digits :
    (digitsFrom optimized_bn128_pseudo_binary_encoding 63).foldl (fun acc d => 2 * acc + d) 1
      = (Spec.BN254.ateLoopCount : Int) := by decide +kernel

/-! ### secp256k1 -/

/-- The secp256k1 constants are the SEC 2 ones. -/
theorem secp_consts :
    secp256k1_P = Spec.SEC2.P ∧ secp256k1_N = Spec.SEC2.N ∧ secp256k1_A = Spec.SEC2.A ∧
    secp256k1_B = Spec.SEC2.B ∧ secp256k1_Gx = Spec.SEC2.Gx ∧ secp256k1_Gy = Spec.SEC2.Gy := by
  decide +kernel

end PyEcc.C07.Consts
