/-
  Property C05, clause "negating either argument inverts the value", BLS12-381,
  UNCONDITIONALLY (no bilinearity hypothesis):

      pairing(Q, P) · pairing(Q, neg(P)) = FQ12.one(),     pairing(Q, P) · pairing(neg(Q), P) = FQ12.one()

  for the optimized `pairing` (`py_ecc/optimized_bls12_381/optimized_pairing.py`) and for the reference
  `pairing` (`py_ecc/bls12_381/bls12_381_pairing.py`), for every reduced on-curve `Q` passing
  `subgroup_check`, every on-curve `P` (in the subgroup or not, ∞ or not), any projective representatives.
  As a by-product the pairing value is never `FQ12.zero()`, so it is an r-th root of unity.

  Model: `pairingOptBls`, `pairingRefBls`, `optBlsMillerLoop`, `refMillerLoop` of `Model/Pairing.lean` around
  the GENERATED `linefunc` / `double` / `add` / `neg` / `is_on_curve`.

  Proof (helper lemmas in `Lemmas/Neg*.lean`; the part about the line function and the loop is stated once,
  for a field with a ring endomorphism `σ`, and shared with bn128).  `σ : x ↦ x^(p⁶)` is the conjugation of
  `FQ12 = Fp[w]/(w¹² − 2w⁶ + 2)` over `Fp⁶`; `σ w = −w`, so `FQ12 = Fp⁶ ⊕ w·Fp⁶` ("even" / "odd").
  A twisted point `(ψ(x)/w², ψ(y)/w³)` has an even `x` and an odd `y`, and this is preserved by the
  reference `double` / `add`; the cast of a G1 point has even coordinates.  Hence
   (1) a line `ℓ_{A,B}` through twisted points satisfies `ℓ(x_P, −y_P) = ∓σ(ℓ(x_P, y_P))`, so the Miller
       values satisfy `f_Q(−P) = ±σ(f_Q(P))`;
   (2) `twist(−Q) = σ(twist(Q))` coordinate-wise, and the loop commutes with `σ`: `f_{−Q}(P) = σ(f_Q(P))`;
   (3) `f·σ(f) ∈ Fp⁶`, every non-zero element of `Fp⁶` is killed by `(p¹² − 1)/r` (as `(p⁶ − 1)` divides
       it), and so is the sign;
   (4) `f_Q(P) ≠ 0`: the even part of a non-vertical line value at `P` is `−y_P ≠ 0` (the G1 curve has no
       point with `y = 0`), and a vertical chord would make the running point ∞, after which the
       reference loop cannot return normally;
   (5) the optimized Miller value is the reference one (`C12_Miller`), both loops read in `K12`.
-/
import PyEcc.Lemmas.NegPairing
import PyEcc.Props.C05_Order

namespace PyEcc.C05Neg
open Polynomial PyEcc PyEcc.Gen PyEcc.Gen.Consts PyEcc.Fqp PyEcc.FqpSem PyEcc.PairingSem
  PyEcc.MillerSem PyEcc.NegSem PyEcc.C13
open PyEcc.Transfer (K2 CanonT mapT)

/-- **The conjugation `σ : x ↦ x^(p⁶)` of BLS12-381 `FQ12`** is a ring automorphism with `σ ∘ σ = id` and
    `σ(w) = −w`; it fixes the base field, the image of `FQ2` under the twist embedding `i ↦ w⁶ − 1`,
    and `w²`; it negates `w` and `w³`.  So `FQ12 = Fp⁶ ⊕ w·Fp⁶` (`InFp6 x`: `σ x = x`, the subfield with
    `p⁶` elements; `InWFp6 x`: `σ x = −x`), the sum is direct, and `x·σ(x) ∈ Fp⁶` for every `x`. -/
theorem Fp6_grading_bls :
    (∀ x : K12, sigma (sigma x) = x) ∧ sigma w12 = -w12
      ∧ (∀ c : ZMod blsP, InFp6 (ofZ c)) ∧ (∀ a : K2, InFp6 (iota a)) ∧ InFp6 (w12 ^ 2)
      ∧ InWFp6 w12 ∧ InWFp6 (w12 ^ 3)
      ∧ (∀ e o : K12, InFp6 e → InWFp6 o → e + o = 0 → e = 0 ∧ o = 0)
      ∧ (∀ x : K12, InFp6 (x * sigma x)) :=
  ⟨sigma_sigma, sigma_w, fun c => ConjSem.of_pow c 6, sigma_iota, sigma_w2, sigma_w, odd_w3,
    fun _ _ he ho h => ConjSem.even_add_odd_eq_zero k12_two_ne_zero he ho h, ConjSem.even_mul_sigma sigma_sigma⟩

/-- **The final exponent kills `Fp⁶ \ {0}`** (BLS12-381).  Every non-zero `x` of `FQ12` with
    `x^(p⁶) = x` satisfies `x ^ ((field_modulus¹² − 1) // curve_order) = 1` — the exponent used by
    `final_exponentiate` / `miller_loop`.  (`(p⁶ − 1)` divides it because `curve_order ∤ p⁶ − 1`.)  The
    exponent is even, so `−1` is killed too. -/
theorem finalExp_kills_Fp6_bls {x : K12} (h0 : x ≠ 0) (hx : InFp6 x) :
    x ^ blsFinalExp = 1 ∧ (-x) ^ blsFinalExp = 1 := by
  refine ⟨pow_finalExp_of_even h0 hx, ?_⟩
  rw [neg_pow, neg_one_pow_finalExp, one_mul]
  exact pow_finalExp_of_even h0 hx

example : (2 : K12) ≠ 0 ∧ InFp6 (2 : K12) := ⟨k12_two_ne_zero, ConjSem.Ev.natCast 2⟩

/-- **Line product.**  Let `A`, `B` be points of twisted type (`x ∈ Fp⁶`, `y ∈ w·Fp⁶`, e.g. multiples of
    `twist(Q)`) and `x_P, y_P ∈ Fp⁶` (e.g. a cast G1 point).  If the reference `linefunc(A, B, (x_P, y_P))`
    returns `l`, then `linefunc(A, B, (x_P, −y_P))` returns a value `l'` with `l' = ±σ(l)`; in particular
    `l · l' ∈ Fp⁶` (`= (λ(x_P − x_A) + y_A)² − y_P²` up to sign for a non-vertical line). -/
theorem line_product_in_Fp6 [DecidableEq K12] {A B : Option (K12 × K12)} {xP yP l : K12}
    (hA : TwT A) (hB : TwT B) (hx : InFp6 xP) (hy : InFp6 yP)
    (h : RefBls.linefunc A B (some (xP, yP)) = .ok l) :
    ∃ l', RefBls.linefunc A B (some (xP, -yP)) = .ok l' ∧ (l' = sigma l ∨ l' = -sigma l)
      ∧ InFp6 (l * l') := by
  obtain ⟨l', e, s⟩ := ConjSem.line_negT hA hB hx hy h
  refine ⟨l', e, s, ?_⟩
  rcases s with s | s
  · rw [s]; exact ConjSem.even_mul_sigma sigma_sigma l
  · rw [s, mul_neg]; exact ConjSem.Ev.neg (ConjSem.even_mul_sigma sigma_sigma l)

/-- **A non-vertical line through twisted points does not vanish at a G1 point**: for `A`, `B` of twisted
    type, not (`x_A = x_B` and `y_A ≠ y_B`), and `x_P, y_P ∈ Fp⁶` with `y_P ≠ 0`, the value of the reference
    `linefunc(A, B, (x_P, y_P))` is non-zero (its component in `Fp⁶` is `−y_P`). -/
theorem line_ne_zero_at_G1 [DecidableEq K12] {xA yA xB yB xP yP l : K12} (hxA : InFp6 xA) (hyA : InWFp6 yA)
    (hxB : InFp6 xB) (hyB : InWFp6 yB) (hx : InFp6 xP) (hy : InFp6 yP) (hy0 : yP ≠ 0)
    (h : RefBls.linefunc (some (xA, yA)) (some (xB, yB)) (some (xP, yP)) = .ok l)
    (hnv : xA ≠ xB ∨ yA = yB) : l ≠ 0 :=
  (ConjSem.line_ne_zero k12_two_ne_zero (ConjSem.twT_some hxA hyA) (ConjSem.twT_some hxB hyB) hx hy hy0
    h).resolve_right fun ⟨_, _, _, eA, eB, hne, _⟩ => by
      cases eA
      cases eB
      exact hnv.elim (fun c => c rfl) hne

/-- the twist of any point is of twisted type, `double`/`add` preserve the type, and for such a point
    `σ` is the negation — hypotheses of `line_product_in_Fp6` are met along the Miller loop -/
example [DecidableEq K12] (q : Option (K2 × K2)) :
    TwT (twA q) ∧ TwT (RefBls.double (twA q)) ∧ mapO sigma (twA q) = RefBls.neg (twA q) :=
  ⟨twT_twA q, ConjSem.twT_double (twT_twA q), ConjSem.mapO_sigma_of_twT (twT_twA q)⟩

/-- **Negating the G1 argument inverts the pairing** (optimized bls12_381, unconditional).
    For every reduced FQ2 triple `Q` on the twist curve that passes `subgroup_check` and every FQ triple `P`
    on the G1 curve (any projective representatives; `P` need not be in the subgroup; ∞ allowed):
    `pairing(Q, P)` and `pairing(Q, neg(P))` both return, values `v`, `v'` with `v * v' == FQ12.one()`
    (equality of coefficient lists in the executable model). -/
theorem pairing_neg_right (Q : T2) (P : T1) (cQ : CanonT Q)
    (honQ : OptBls.is_on_curve Q blsB2 = true)
    (honP : OptBls.is_on_curve P (Fq.ofInt optimized_bls12_381_b : Fq blsP) = true)
    (hsub : subgroupCheck Q = true) :
    ∃ v v' : OBls12, pairingOptBls Q P true = .ok v ∧ pairingOptBls Q (OptBls.neg P) true = .ok v'
      ∧ v * v' = 1 := by
  classical
  obtain ⟨v, v', e, e', _, _, _, h⟩ := pairing_neg_right_core Q P cQ honQ honP hsub
  exact ⟨v, v', e, e', h⟩

/-- **Negating the G2 argument inverts the pairing** (optimized bls12_381, unconditional).
    Same hypotheses: `pairing(Q, P)` and `pairing(neg(Q), P)` both return, values `v`, `v''` with
    `v * v'' == FQ12.one()`. -/
theorem pairing_neg_left (Q : T2) (P : T1) (cQ : CanonT Q)
    (honQ : OptBls.is_on_curve Q blsB2 = true)
    (honP : OptBls.is_on_curve P (Fq.ofInt optimized_bls12_381_b : Fq blsP) = true)
    (hsub : subgroupCheck Q = true) :
    ∃ v v'' : OBls12, pairingOptBls Q P true = .ok v ∧ pairingOptBls (OptBls.neg Q) P true = .ok v''
      ∧ v * v'' = 1 := by
  classical
  obtain ⟨v, v', e, e', _, _, h⟩ := pairing_neg_left_core Q P cQ honQ honP hsub
  exact ⟨v, v', e, e', h⟩

/-- **The pairing value is never `FQ12.zero()`** (optimized bls12_381): under the same hypotheses the value
    `v` returned by `pairing(Q, P)` is not zero — the Miller value `f_num / f_den` does not vanish.  Hence
    (`C05N.pairingOptBls_pow_r`) `v ** curve_order == FQ12.one()` with no exceptional case. -/
theorem pairing_ne_zero (Q : T2) (P : T1) (cQ : CanonT Q)
    (honQ : OptBls.is_on_curve Q blsB2 = true)
    (honP : OptBls.is_on_curve P (Fq.ofInt optimized_bls12_381_b : Fq blsP) = true)
    (hsub : subgroupCheck Q = true) :
    ∃ v : OBls12, pairingOptBls Q P true = .ok v ∧ v ≠ 0 := by
  classical
  obtain ⟨v, _, e, _, _, _, h0, _⟩ := pairing_neg_right_core Q P cQ honQ honP hsub
  exact ⟨v, e, h0⟩

/-- **`pairing(Q, P) ** curve_order == FQ12.one()`, no exceptional case** (optimized bls12_381): under the
    same hypotheses the value `v` of `pairing(Q, P)` is an `r`-th root of unity (`C05N.pairingOptBls_pow_r`
    leaves the alternative `v == 0`, excluded here), and if `v ≠ 1` its multiplicative order is exactly
    `curve_order`. -/
theorem pairing_pow_r (Q : T2) (P : T1) (cQ : CanonT Q)
    (honQ : OptBls.is_on_curve Q blsB2 = true)
    (honP : OptBls.is_on_curve P (Fq.ofInt optimized_bls12_381_b : Fq blsP) = true)
    (hsub : subgroupCheck Q = true) :
    ∃ v : OBls12, pairingOptBls Q P true = .ok v ∧ v ^ optimized_bls12_381_curve_order = 1
      ∧ (v ≠ 1 → orderOf (toQ v : K12) = optimized_bls12_381_curve_order) := by
  obtain ⟨v, e, h0⟩ := pairing_ne_zero Q P cQ honQ honP hsub
  refine ⟨v, e, (C05N.pairingOptBls_pow_r Q P v e).resolve_right h0, fun h1 => ?_⟩
  exact C05N.pairingOptBls_orderOf Q P v e h1 h0

/-- **The Miller-loop form** (no guards): for reduced finite regular `Q` (in particular every finite
    on-curve `Q` passing `subgroup_check`, `C12M.millerRegular_of_subgroup`) and finite on-curve `P`:
    `miller_loop(Q, P) * miller_loop(Q, neg(P)) == FQ12.one()` (both with `final_exponentiate=True`). -/
theorem millerLoop_neg_right {Q : T2} {P : T1} (cQ : CanonT Q) (hQz : Q.2.2 ≠ 0) (hPz : P.2.2 ≠ 0)
    (hreg : MillerRegular Q)
    (honP : OptBls.is_on_curve P (Fq.ofInt optimized_bls12_381_b : Fq blsP) = true) :
    (optBlsMillerLoop (digitsFrom optimized_bls12_381_pseudo_binary_encoding 62)
        (some ((blsP ^ 12 - 1) / optimized_bls12_381_curve_order)) Q P : OBls12)
      * optBlsMillerLoop (digitsFrom optimized_bls12_381_pseudo_binary_encoding 62)
        (some ((blsP ^ 12 - 1) / optimized_bls12_381_curve_order)) Q (OptBls.neg P) = 1 := by
  classical
  rw [finalExp_bls.opt_eq]
  exact (optV_neg_right cQ hQz hPz hreg honP).2.2.2

/-- **Negating the G1 argument inverts the pairing** (reference bls12_381).  Let `q : Optional[(FQ2, FQ2)]`
    (reduced coefficients) and `p : Optional[(FQ, FQ)]` be on their curves, `q` in the order-`r` subgroup —
    expressed through any projective representative `Q` of `q` passing `subgroup_check` (e.g.
    `q = refOfOptG2 Q`); `P` any representative of `p`.  Then `pairing(q, p)` and `pairing(q, neg(p))` of
    `py_ecc.bls12_381` both return, values `u`, `u'` with `u * u' == FQ12.one()`. -/
theorem pairingRefBls_neg_right [DecidableEq K2] (Q : T2) (P : T1) (q : Option (RBls2 × RBls2))
    (p : Option (Fq blsP × Fq blsP)) (cQ : CanonT Q) (cq : GoodO Canon q)
    (hQ : toAff (mapT toQ Q) = mapO (toQ : RBls2 → K2) q) (hP : toAff P = p)
    (honQ : OptBls.is_on_curve Q blsB2 = true)
    (honP : OptBls.is_on_curve P (Fq.ofInt optimized_bls12_381_b : Fq blsP) = true)
    (hsub : subgroupCheck Q = true) :
    ∃ u u' : RBls12, pairingRefBls q p = .ok u ∧ pairingRefBls q (RefBls.neg p) = .ok u'
      ∧ u * u' = 1 := by
  classical
  obtain ⟨v, v', e, e', c, c', _, h⟩ := pairing_neg_right_core Q P cQ honQ honP hsub
  have t := C12M.pairingOptBls_eq_pairingRefBls_subgroup Q P q p cQ cq hQ hP hsub
  have hP' : toAff (OptBls.neg P) = RefBls.neg p := by rw [C13.Bls.opt_neg_toAff, hP]
  have t' := C12M.pairingOptBls_eq_pairingRefBls_subgroup Q (OptBls.neg P) q _ cQ cq hQ hP' hsub
  rw [e] at t
  rw [e'] at t'
  exact ok_mul_eq_one_of_coeffs TwistSem.goodHom_F12 TwistSem.goodHom_F12 c c' t t' h

/-- **Negating the G2 argument inverts the pairing** (reference bls12_381).  Same hypotheses:
    `pairing(q, p)` and `pairing(neg(q), p)` both return, values `u`, `u''` with `u * u'' == FQ12.one()`. -/
theorem pairingRefBls_neg_left [DecidableEq K2] (Q : T2) (P : T1) (q : Option (RBls2 × RBls2))
    (p : Option (Fq blsP × Fq blsP)) (cQ : CanonT Q) (cq : GoodO Canon q)
    (hQ : toAff (mapT toQ Q) = mapO (toQ : RBls2 → K2) q) (hP : toAff P = p)
    (honQ : OptBls.is_on_curve Q blsB2 = true)
    (honP : OptBls.is_on_curve P (Fq.ofInt optimized_bls12_381_b : Fq blsP) = true)
    (hsub : subgroupCheck Q = true) :
    ∃ u u'' : RBls12, pairingRefBls q p = .ok u ∧ pairingRefBls (RefBls.neg q) p = .ok u''
      ∧ u * u'' = 1 := by
  classical
  obtain ⟨v, v', e, e', c, c', h⟩ := pairing_neg_left_core Q P cQ honQ honP hsub
  obtain ⟨cN, _, hsubN⟩ := neg_G2_facts cQ honQ hsub
  obtain ⟨cqN, hQN⟩ := toAff_neg_of_good Transfer.goodHom_F2 (Transfer.goodHom_F2 (v := .ref)) cQ (goodO_iff.mp cq) hQ
  have t := C12M.pairingOptBls_eq_pairingRefBls_subgroup Q P q p cQ cq hQ hP hsub
  have t' := C12M.pairingOptBls_eq_pairingRefBls_subgroup (OptBls.neg Q) P _ p cN (goodO_iff.mpr cqN)
    hQN hP hsubN
  rw [e] at t
  rw [e'] at t'
  exact ok_mul_eq_one_of_coeffs TwistSem.goodHom_F12 TwistSem.goodHom_F12 c c' t t' h

/-- the generators satisfy the hypotheses of `pairing_neg_right`, `pairing_neg_left`, `pairing_ne_zero` -/
example : CanonT blsG2 ∧ OptBls.is_on_curve blsG2 blsB2 = true
    ∧ OptBls.is_on_curve blsG1 (Fq.ofInt optimized_bls12_381_b : Fq blsP) = true
    ∧ subgroupCheck blsG2 = true :=
  ⟨C17M.blsG2_passes.1, C17M.blsG2_passes.2.1, C07.Facts.bls_G1_model.1, C17M.blsG2_passes.2.2⟩

/-- … and those of the reference forms, with `q := refOfOptG2 G2`, `p := refOfOptG1 G1` -/
example [DecidableEq K2] : GoodO Canon (C12M.refOfOptG2 blsG2)
    ∧ toAff (mapT toQ blsG2) = mapO (toQ : RBls2 → K2) (C12M.refOfOptG2 blsG2)
    ∧ toAff blsG1 = C12M.refOfOptG1 blsG1 :=
  ⟨(C12M.refOfOptG2_repr C17M.blsG2_passes.1).1, (C12M.refOfOptG2_repr C17M.blsG2_passes.1).2,
    C12M.refOfOptG1_repr blsG1⟩

/-- … and those of `millerLoop_neg_right` -/
example : CanonT blsG2 ∧ blsG2.2.2 ≠ 0 ∧ blsG1.2.2 ≠ 0 ∧ MillerRegular blsG2 :=
  ⟨C17M.blsG2_passes.1, by decide, by decide,
    C12M.millerRegular_of_subgroup C17M.blsG2_passes.1 C17M.blsG2_passes.2.1 (by decide) C17M.blsG2_passes.2.2⟩

end PyEcc.C05Neg
