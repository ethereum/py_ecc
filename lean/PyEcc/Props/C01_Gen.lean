/-
  PyEcc.Props.C01_Gen — property C01 (honest signatures and possession proofs verify; secret-key rejection; range of
  `KeyGen`) stated DIRECTLY ABOUT THE GENERATED CODE `PyEcc.Gen.ExtraBls.*`, i.e. about `py_ecc/bls/ciphersuites.py` as the
  translator reads it from the repository on this run.

  Every theorem here is obtained by rewriting with the tie theorems of `Props/TieBls.lean`, `Props/TieBlsAgg.lean`
  (`Gen.ExtraBls.f = Model.f` for ALL inputs) and applying the model theorem of `Props/C01_Logic.lean`,
  `Props/C01_Proto.lean`, `Props/C01_ProtoHB2.lean`, `Props/C01_ProtoModel.lean`.  No hypothesis is added or weakened:
    * the unconditional theorems stay unconditional;
    * the protocol theorems keep the ONE hypothesis `NdSem.ModelBilinearCode` (the code's `pairing` is bilinear on points
      that pass `is_on_curve` and `subgroup_check` — `Lemmas/ModelPairing.lean`); `modelBilinearCode_iff_gen` shows that this
      hypothesis is word for word a statement about the generated `pairing` and `subgroup_check`;
    * `2 ≤ H.digestSize` (hash digest of at least 2 bytes; SHA-256 has 32) is kept where the model theorem has it.
  The instance argument `[DecidableEq K2]` of the model theorems (decidable equality on Mathlib's field `F_p²`, only used on the
  specification side) does not occur in any statement here; it is discharged classically inside the proofs.

  Secret keys are the dynamically typed `PyArg` (`int z` | `other`), as in the generated code.
-/
import PyEcc.Props.TieBlsAgg
import PyEcc.Props.TieCodec
import PyEcc.Props.TieCofactor
import PyEcc.Props.TiePairing
import PyEcc.Props.TieHash
import PyEcc.Props.C01_ProtoModel

namespace PyEcc.C01.Gen
open PyEcc PyEcc.Gen.Consts PyEcc.Transfer PyEcc.BlsSem PyEcc.NdSem

/-! ## 0. The hypothesis `ModelBilinearCode`, read on the generated code -/

/-- `ModelBilinearCode` spelled with the GENERATED functions: for all `FQ2` triples `Q`, `Q'` with reduced coefficients and all
    `FQ` triples `P`, `P'` that pass the generated `is_on_curve` and the generated `subgroup_check`,
    `pairing(add(Q, Q'), P) == pairing(Q, P) * pairing(Q', P)` and `pairing(Q, add(P, P')) == pairing(Q, P) * pairing(Q, P')`
    (generated `pairing` of `py_ecc/optimized_bls12_381/optimized_pairing.py`, `final_exponentiate=True`). -/
structure GenBilinearCode : Prop where
  add_left : ∀ (Q Q' : G2Pt) (P : G1Pt), CanonT Q → CanonT Q' →
    Gen.OptBls.is_on_curve Q blsB2 = true → Gen.OptBls.is_on_curve Q' blsB2 = true →
    Gen.OptBls.is_on_curve P blsB = true →
    Gen.ExtraCodec.subgroup_check Q = true → Gen.ExtraCodec.subgroup_check Q' = true →
    Gen.ExtraCodec.subgroup_check P = true →
    ∀ v v' w : OBls12, Gen.ExtraPairing.OptBls.pairing Q P true = .ok v →
      Gen.ExtraPairing.OptBls.pairing Q' P true = .ok v' →
      Gen.ExtraPairing.OptBls.pairing (Gen.OptBls.add Q Q') P true = .ok w → w = v * v'
  add_right : ∀ (Q : G2Pt) (P P' : G1Pt), CanonT Q →
    Gen.OptBls.is_on_curve Q blsB2 = true → Gen.OptBls.is_on_curve P blsB = true →
    Gen.OptBls.is_on_curve P' blsB = true →
    Gen.ExtraCodec.subgroup_check Q = true → Gen.ExtraCodec.subgroup_check P = true →
    Gen.ExtraCodec.subgroup_check P' = true →
    ∀ v v' w : OBls12, Gen.ExtraPairing.OptBls.pairing Q P true = .ok v →
      Gen.ExtraPairing.OptBls.pairing Q P' true = .ok v' →
      Gen.ExtraPairing.OptBls.pairing Q (Gen.OptBls.add P P') true = .ok w → w = v * v'

/-- **The single hypothesis of the BLS protocol theorems is a statement about the generated code.**  `ModelBilinearCode`
    (hypothesis of every conditional theorem of C01–C03) holds iff the generated `pairing` is additive in each argument on
    inputs passing the generated `is_on_curve` / `subgroup_check` (`GenBilinearCode`); the two differ only by the tie theorems
    `Tie.pairing_optBls_eq` and `Tie.subgroup_check_eq`. -/
theorem modelBilinearCode_iff_gen : ModelBilinearCode ↔ GenBilinearCode := by
  constructor
  · intro mc
    constructor
    · intro Q Q' P cQ cQ' hQ hQ' hP sQ sQ' sP v v' w hv hv' hw
      rw [Tie.subgroup_check_eq] at sQ sQ' sP
      rw [Tie.pairing_optBls_eq] at hv hv' hw
      exact mc.add_left Q Q' P cQ cQ' hQ hQ' hP sQ sQ' sP v v' w hv hv' hw
    · intro Q P P' cQ hQ hP hP' sQ sP sP' v v' w hv hv' hw
      rw [Tie.subgroup_check_eq] at sQ sP sP'
      rw [Tie.pairing_optBls_eq] at hv hv' hw
      exact mc.add_right Q P P' cQ hQ hP hP' sQ sP sP' v v' w hv hv' hw
  · intro gc
    constructor
    · intro Q Q' P cQ cQ' hQ hQ' hP sQ sQ' sP v v' w hv hv' hw
      rw [← Tie.subgroup_check_eq] at sQ sQ' sP
      rw [← Tie.pairing_optBls_eq] at hv hv' hw
      exact gc.add_left Q Q' P cQ cQ' hQ hQ' hP sQ sQ' sP v v' w hv hv' hw
    · intro Q P P' cQ hQ hP hP' sQ sP sP' v v' w hv hv' hw
      rw [← Tie.subgroup_check_eq] at sQ sP sP'
      rw [← Tie.pairing_optBls_eq] at hv hv' hw
      exact gc.add_right Q P P' cQ hQ hP hP' sQ sP sP' v v' w hv hv' hw

/-! ## 1. Secret-key validation (no hypotheses) -/

/-- **The `curve_order` imported by `ciphersuites.py` is the BLS12-381 group order `r`** — the constant of
    `py_ecc.bls12_381`, of `py_ecc.optimized_bls12_381`, and the prime `blsR` whose primality is proved in `Sem/Primes.lean`. -/
theorem curve_order_eq :
    suites_curve_order = bls12_381_curve_order ∧ suites_curve_order = optimized_bls12_381_curve_order ∧
    suites_curve_order = blsR :=
  C01.curveOrder_eq

/-- **Exact accept set of the generated `_is_valid_privkey` on `int`s.**  `_is_valid_privkey(z)` is `True` iff
    `1 ≤ z < curve_order` (`bool` is an `int` in Python: `True` is `1`, accepted; `False` is `0`, rejected). -/
theorem is_valid_privkey_int_iff (z : Int) :
    Gen.ExtraBls._is_valid_privkey (.int z) = true ↔ 1 ≤ z ∧ z < (suites_curve_order : Int) := by
  rw [Tie.Bls.is_valid_privkey_isSome, Option.isSome_iff_exists]
  constructor
  · rintro ⟨k, hk⟩
    obtain ⟨h1, h2, _⟩ := (C01.isValidPrivkey_int_iff z k).mp hk
    exact ⟨h1, h2⟩
  · rintro ⟨h1, h2⟩
    exact ⟨z.toNat, (C01.isValidPrivkey_int_iff z z.toNat).mpr ⟨h1, h2, rfl⟩⟩

/-- **Anything that is not an `int` is rejected by the generated `_is_valid_privkey`** (`isinstance(privkey, int)` fails:
    `str`, `float`, `None`, `bytes`, …). -/
theorem is_valid_privkey_other : Gen.ExtraBls._is_valid_privkey .other = false := by
  rw [Tie.Bls.is_valid_privkey_isSome, C01.isValidPrivkey_other]; rfl

/-- **A rejected secret key makes every signing-side API raise `ValidationError`.**  If the generated
    `_is_valid_privkey(sk)` is `False` (not an `int`, or an `int` outside `[1, r-1]`: `0`, `r`, negative, …) then the generated
    `SkToPk(sk)`, `Sign(sk, m)` (all three suites, every message, every hash function) and `PopProve(sk)` raise
    `ValidationError`. -/
theorem sk_rejected (H : HashFn) (s : Suite) (sk : PyArg) (m : Bytes)
    (h : Gen.ExtraBls._is_valid_privkey sk = false) :
    Gen.ExtraBls.SkToPk sk = .error .validation ∧ Gen.ExtraBls.Sign H s sk m = .error .validation ∧
    Gen.ExtraBls.PopProve H sk = .error .validation := by
  rw [Tie.Bls.SkToPk_eq, Tie.Bls.Sign_eq, Tie.Bls.PopProve_eq]
  apply C01.sk_rejected
  rw [Tie.Bls.is_valid_privkey_eq, h]
  rfl

/-- `sk_rejected` in terms of the value: every `int` outside `[1, curve_order - 1]` and every non-`int` makes the generated
    `SkToPk`, `Sign` (all suites) and `PopProve` raise `ValidationError`. -/
theorem sk_rejected_value (H : HashFn) (s : Suite) (sk : PyArg) (m : Bytes)
    (h : sk = .other ∨ ∃ z, sk = .int z ∧ ¬ (1 ≤ z ∧ z < (suites_curve_order : Int))) :
    Gen.ExtraBls.SkToPk sk = .error .validation ∧ Gen.ExtraBls.Sign H s sk m = .error .validation ∧
    Gen.ExtraBls.PopProve H sk = .error .validation := by
  apply sk_rejected
  rcases h with rfl | ⟨z, rfl, hz⟩
  · exact is_valid_privkey_other
  · cases hv : Gen.ExtraBls._is_valid_privkey (.int z) with
    | false => rfl
    | true => exact (hz ((is_valid_privkey_int_iff z).mp hv)).elim

/-- non-vacuity: `0`, `r`, `-1` and non-ints are rejected by the generated predicate; the boundary keys `1`, `r - 1` are
    accepted -/
example : Gen.ExtraBls._is_valid_privkey (.int 0) = false ∧
    Gen.ExtraBls._is_valid_privkey (.int suites_curve_order) = false ∧
    Gen.ExtraBls._is_valid_privkey (.int (-1)) = false ∧ Gen.ExtraBls._is_valid_privkey .other = false ∧
    Gen.ExtraBls._is_valid_privkey (.int 1) = true ∧
    Gen.ExtraBls._is_valid_privkey (.int (suites_curve_order - 1 : Nat)) = true := by decide

/-! ## 2. `KeyGen` (no hypotheses)

  The translator turns the unbounded `while SK == 0` loop into a recursion on an explicit `fuel` argument; out of fuel is
  `PyErr.other`.  The theorems hold for EVERY fuel. -/

/-- **Every value the generated `KeyGen` returns is a valid secret key.**  If `KeyGen(IKM, key_info)` returns `sk` (any hash
    function, any byte strings, any bound on the number of loop iterations) then `1 ≤ sk < curve_order`, and the generated
    `_is_valid_privkey(sk)` is `True`. -/
theorem KeyGen_range (H : HashFn) (fuel : Nat) (ikm info : Bytes) (sk : Nat)
    (h : Gen.ExtraBls.KeyGen H fuel ikm info = .ok sk) :
    1 ≤ sk ∧ sk < suites_curve_order ∧ Gen.ExtraBls._is_valid_privkey (.int sk) = true := by
  rw [Tie.Bls.KeyGen_fuel_eq] at h
  obtain ⟨h1, h2⟩ := C01.keyGenLoop_range H ikm info _ _ _ h
  refine ⟨h1, h2, (is_valid_privkey_int_iff sk).mpr ⟨by omega, ?_⟩⟩
  have : sk < suites_curve_order := h2
  omega

/-- **The generated `KeyGen` returns after the first iteration unless `OKM ≡ 0 (mod r)`.**  With the generated `hkdf_extract`,
    `hkdf_expand`, `i2osp`, `os2ip`, `sha256` of `py_ecc/bls/hash.py`: if
    `OKM = hkdf_expand(hkdf_extract(sha256(b"BLS-SIG-KEYGEN-SALT-"), IKM + b"\x00"), key_info + i2osp(48, 2), 48)` returns and
    `os2ip(OKM) % curve_order ≠ 0`, then `KeyGen(IKM, key_info)` returns that value (for every positive bound on the number of
    iterations). -/
theorem KeyGen_first_iteration (H : HashFn) (fuel : Nat) (ikm info l okm : Bytes)
    (hl : Gen.ExtraHash.i2osp 48 2 = .ok l)
    (hokm : Gen.ExtraHash.hkdf_expand
      (Gen.ExtraHash.hkdf_extract
        (Gen.ExtraHash.sha256 [66, 76, 83, 45, 83, 73, 71, 45, 75, 69, 89, 71, 69, 78, 45, 83, 65, 76, 84, 45] H)
        (ikm ++ [0]) H) (info ++ l) 48 H = .ok okm)
    (hne : Gen.ExtraHash.os2ip okm % suites_curve_order ≠ 0) :
    Gen.ExtraBls.KeyGen H (fuel + 1) ikm info = .ok (Gen.ExtraHash.os2ip okm % suites_curve_order) := by
  simp only [Tie.i2osp_eq, Tie.hkdf_expand_eq, Tie.hkdf_extract_eq, Tie.sha256_eq, Tie.os2ip_eq] at hl hokm hne ⊢
  unfold Gen.ExtraBls.KeyGen Gen.ExtraBls.KeyGen_loop
  simp only [↓reduceIte, hl, bind, Except.bind, hokm]
  cases fuel <;> simp only [Gen.ExtraBls.KeyGen_loop, hne, ↓reduceIte] <;> rfl

/-- **The generated `KeyGen` raises nothing.**  The only error value of the translated `KeyGen` is fuel exhaustion
    (`PyErr.other`, after `fuel` consecutive rounds with `OKM ≡ 0 (mod r)`), where the Python `while` loop would simply
    continue; `i2osp(48, 2)` and `hkdf_expand(…, 48)` cannot raise. -/
theorem KeyGen_error (H : HashFn) (fuel : Nat) (ikm info : Bytes) (e : PyErr)
    (h : Gen.ExtraBls.KeyGen H fuel ikm info = .error e) : e = .other := by
  rw [Tie.Bls.KeyGen_fuel_eq] at h
  exact (C01.keyGenLoop_post H ikm info _ _).error h

/-- non-vacuity of `KeyGen_range` / `KeyGen_first_iteration`: with the (degenerate) hash function that maps everything to 32
    bytes `0x01`, the generated `KeyGen(b"", b"")` with fuel 64 returns a non-zero key -/
example : ∃ sk, Gen.ExtraBls.KeyGen ⟨32, 64, fun _ => List.replicate 32 1⟩ 64 [] [] = .ok sk ∧ sk ≠ 0 := by
  have h : (match C01.keyGenRound ⟨32, 64, fun _ => List.replicate 32 1⟩ [] []
      "BLS-SIG-KEYGEN-SALT-".toUTF8.toList with
      | .ok sk => decide (sk ≠ 0) | .error _ => false) = true := by decide +kernel
  split at h
  · next sk hsk =>
    refine ⟨sk, ?_, of_decide_eq_true h⟩
    rw [Tie.Bls.KeyGen_eq]
    exact C01.keyGen_first_iteration _ _ _ _ hsk (of_decide_eq_true h)
  · cases h

/-! ## 3. `SkToPk`, `Sign`, `PopProve` return on valid keys (no hypothesis about pairings) -/

/-- **The generated `SkToPk` never fails on a valid key**: for every `int` `1 ≤ sk < curve_order` it returns a 48-byte string. -/
theorem SkToPk_returns (sk : ℤ) (hsk : 1 ≤ sk ∧ sk < (suites_curve_order : ℤ)) :
    ∃ pk, Gen.ExtraBls.SkToPk (.int sk) = .ok pk ∧ pk.length = 48 := by
  classical
  rw [Tie.Bls.SkToPk_eq]
  exact C01.skToPk_returns sk hsk

/-- **The generated `Sign` is total on valid keys.**  For every hash function whose digest has at least 2 bytes, every suite,
    every `int` secret key `1 ≤ sk < curve_order` and every message, `Sign(sk, m)` returns a 96-byte string — no exception of
    any kind (in particular `hash_to_G2` never takes its "unreachable" `raise`). -/
theorem Sign_total (H : HashFn) (hd : 2 ≤ H.digestSize) (s : Suite) (sk : ℤ)
    (hsk : 1 ≤ sk ∧ sk < (suites_curve_order : ℤ)) (m : Bytes) :
    ∃ sig, Gen.ExtraBls.Sign H s (.int sk) m = .ok sig ∧ sig.length = 96 := by
  classical
  rw [Tie.Bls.Sign_eq]
  exact C17O.sign_total H hd s sk hsk m

/-- **The generated `PopProve` is total on valid keys** (as `Sign_total`). -/
theorem PopProve_total (H : HashFn) (hd : 2 ≤ H.digestSize) (sk : ℤ)
    (hsk : 1 ≤ sk ∧ sk < (suites_curve_order : ℤ)) :
    ∃ proof, Gen.ExtraBls.PopProve H (.int sk) = .ok proof ∧ proof.length = 96 := by
  classical
  rw [Tie.Bls.PopProve_eq]
  exact C17O.popProve_total H hd sk hsk

/-- non-vacuity of the key range and digest hypotheses: `sk = 1`, SHA-256 -/
example : (1 ≤ (1 : ℤ) ∧ (1 : ℤ) < (suites_curve_order : ℤ)) ∧ 2 ≤ sha256Fn.digestSize := by decide

/-! ## 4. Honest signatures and possession proofs verify (conditional on `ModelBilinearCode` only) -/

/-- **Honest signatures verify — generated code.**  Assuming only that the code's `pairing` is bilinear
    (`ModelBilinearCode`): for every suite, hash function, `int` secret key `1 ≤ sk < curve_order` and message, if the generated
    `SkToPk(sk)` returned `pk` and the generated `Sign(sk, m)` returned `sig`, then the generated `Verify(pk, m, sig)` returns
    `True`. -/
theorem sign_verify (mc : ModelBilinearCode) (H : HashFn) (s : Suite) (sk : ℤ)
    (hsk : 1 ≤ sk ∧ sk < (suites_curve_order : ℤ)) (m pk sig : Bytes)
    (hpk : Gen.ExtraBls.SkToPk (.int sk) = .ok pk) (hsig : Gen.ExtraBls.Sign H s (.int sk) m = .ok sig) :
    Gen.ExtraBls.Verify H s pk m sig = .returned true := by
  classical
  simp only [Tie.Bls.SkToPk_eq, Tie.Bls.Sign_eq, Tie.Bls.Verify_eq] at hpk hsig ⊢
  exact C01.sign_verify_of_modelBilinearCode mc H s sk hsk m pk sig hpk hsig

/-- **Honest possession proofs verify — generated code.**  Assuming only `ModelBilinearCode`: if the generated `SkToPk(sk)`
    returned `pk` and the generated `PopProve(sk)` returned `proof`, then the generated `PopVerify(pk, proof)` returns `True`. -/
theorem popProve_popVerify (mc : ModelBilinearCode) (H : HashFn) (sk : ℤ)
    (hsk : 1 ≤ sk ∧ sk < (suites_curve_order : ℤ)) (pk proof : Bytes)
    (hpk : Gen.ExtraBls.SkToPk (.int sk) = .ok pk) (hproof : Gen.ExtraBls.PopProve H (.int sk) = .ok proof) :
    Gen.ExtraBls.PopVerify H pk proof = .returned true := by
  classical
  simp only [Tie.Bls.SkToPk_eq, Tie.Bls.PopProve_eq, Tie.Bls.PopVerify_eq] at hpk hproof ⊢
  exact C01.popProve_popVerify_of_modelBilinearCode mc H sk hsk pk proof hpk hproof

/-- **Honest signatures exist and verify — generated code** (DESIGN's form of C01).  Assuming only `ModelBilinearCode`: for
    every hash function with a digest of at least 2 bytes, every suite, every `int` key `1 ≤ sk < curve_order` and every message,
    the generated `SkToPk(sk)` and `Sign(sk, m)` return, and the generated `Verify` of the results returns `True`. -/
theorem sign_verify_exists (mc : ModelBilinearCode) (H : HashFn) (hd : 2 ≤ H.digestSize) (s : Suite) (sk : ℤ)
    (hsk : 1 ≤ sk ∧ sk < (suites_curve_order : ℤ)) (m : Bytes) :
    ∃ pk sig, Gen.ExtraBls.SkToPk (.int sk) = .ok pk ∧ Gen.ExtraBls.Sign H s (.int sk) m = .ok sig ∧
      Gen.ExtraBls.Verify H s pk m sig = .returned true := by
  classical
  simp only [Tie.Bls.SkToPk_eq, Tie.Bls.Sign_eq, Tie.Bls.Verify_eq]
  exact C01.sign_verify_exists_of_modelBilinear mc.toModelBilinear H hd s sk hsk m

/-- **Honest possession proofs exist and verify — generated code**, assuming only `ModelBilinearCode`. -/
theorem popProve_popVerify_exists (mc : ModelBilinearCode) (H : HashFn) (hd : 2 ≤ H.digestSize) (sk : ℤ)
    (hsk : 1 ≤ sk ∧ sk < (suites_curve_order : ℤ)) :
    ∃ pk proof, Gen.ExtraBls.SkToPk (.int sk) = .ok pk ∧ Gen.ExtraBls.PopProve H (.int sk) = .ok proof ∧
      Gen.ExtraBls.PopVerify H pk proof = .returned true := by
  classical
  simp only [Tie.Bls.SkToPk_eq, Tie.Bls.PopProve_eq, Tie.Bls.PopVerify_eq]
  exact C01.popProve_popVerify_exists_of_modelBilinear mc.toModelBilinear H hd sk hsk

/-- **The round trip as one program — generated code.**  Assuming only `ModelBilinearCode`, for a hash function with a digest
    of at least 2 bytes, every suite, every `int` key `1 ≤ sk < curve_order` and every message, the program
    `pk = SkToPk(sk); sig = Sign(sk, m); return Verify(pk, m, sig)` built from the generated functions raises nothing and
    returns `True`. -/
theorem sign_verify_run (mc : ModelBilinearCode) (H : HashFn) (hd : 2 ≤ H.digestSize) (s : Suite) (sk : ℤ)
    (hsk : 1 ≤ sk ∧ sk < (suites_curve_order : ℤ)) (m : Bytes) :
    (do let pk ← Gen.ExtraBls.SkToPk (.int sk)
        let sig ← Gen.ExtraBls.Sign H s (.int sk) m
        pure (Gen.ExtraBls.Verify H s pk m sig)) = .ok (.returned true) := by
  obtain ⟨pk, sig, hpk, hsig, hv⟩ := sign_verify_exists mc H hd s sk hsk m
  rw [hpk, hsig]
  show Except.ok (Gen.ExtraBls.Verify H s pk m sig) = _
  rw [hv]

/-- **The possession-proof round trip as one program — generated code**:
    `pk = SkToPk(sk); proof = PopProve(sk); return PopVerify(pk, proof)` raises nothing and returns `True`. -/
theorem popProve_popVerify_run (mc : ModelBilinearCode) (H : HashFn) (hd : 2 ≤ H.digestSize) (sk : ℤ)
    (hsk : 1 ≤ sk ∧ sk < (suites_curve_order : ℤ)) :
    (do let pk ← Gen.ExtraBls.SkToPk (.int sk)
        let proof ← Gen.ExtraBls.PopProve H (.int sk)
        pure (Gen.ExtraBls.PopVerify H pk proof)) = .ok (.returned true) := by
  obtain ⟨pk, proof, hpk, hproof, hv⟩ := popProve_popVerify_exists mc H hd sk hsk
  rw [hpk, hproof]
  show Except.ok (Gen.ExtraBls.PopVerify H pk proof) = _
  rw [hv]

/-- non-vacuity of the key hypotheses: `sk = 1` is a valid key, the generated `SkToPk(1)` returns the compressed generator
    (kernel evaluation, C09), and SHA-256 has a digest of at least 2 bytes.  (`ModelBilinearCode` is a closed mathematical
    statement — its instance would be its proof; its side conditions are shown non-vacuous in `Lemmas/ModelPairing.lean`.) -/
example : (1 ≤ (1 : ℤ) ∧ (1 : ℤ) < (suites_curve_order : ℤ)) ∧
    Gen.ExtraBls.SkToPk (.int 1) = .ok C09.compressedG1 ∧ 2 ≤ sha256Fn.digestSize :=
  ⟨by decide, by rw [Tie.Bls.SkToPk_eq]; exact C09.skToPk_one, by decide⟩

end PyEcc.C01.Gen
