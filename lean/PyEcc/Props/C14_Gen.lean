/-
  PyEcc.Props.C14_Gen — property C14 (the optimized field classes compute the same values as the reference field
  classes; `sgn0` agrees with RFC 9380) restated about the GENERATED code.  Every py_ecc function in a statement below is
  a definition of `PyEcc/Gen/ExtraFields{Fq,Fqp,Mul}.lean`, i.e. the Lean code the translator produced from the Python
  source of this run: `Gen.ExtraFields*.Opt.*` is `py_ecc/fields/optimized_field_elements.py`, `Gen.ExtraFields*.Ref.*` is
  `py_ecc/fields/field_elements.py`.

  PART 1 — the prime-field class `FQ`: every method of the optimized class is, for ALL Python ints as operands (reduced
  or not) and ALL moduli, the same function as the method of the reference class (`fq_*_opt_eq_ref`); the optimized
  `FQ.sgn0` is RFC 9380 `sgn0` (`m = 1`).
  PART 2 — the extension classes `FQP / FQ2 / FQ12`: on objects with the same coefficients (`C08.Gen.FqpOpt.IsObj`,
  `C08.Gen.FqpRef.IsObj`: the attributes every object of the class has) each of `+ - neg * (·*int) (·/int) ** == !=` and
  the constructors returns in both classes, the results are canonical objects of the two classes and have the same
  coefficients — so, by induction on the expression, any expression tree evaluates to the same canonical coefficients
  in both classes.  `FQP.sgn0` / `FQ2.sgn0` are RFC 9380 `sgn0` / `sgn0_m_eq_2`.
  Proofs: tie theorems `Props/TieFields*.lean` composed with the model theorems of `Props/C14_Fq.lean`, `C14_Fqp.lean`.
  NOT restated: optimized `inv` / `/` (FQP operand) = reference `inv` / `/` (`Props/C14_FqpInv.lean`, about the model).
  Both generated functions are tied to the model — the reference `FQP.inv` (`Gen/ExtraFieldsInv.lean`: lists mixing ints
  and `FQ` objects) by `Tie.InvRef.inv_eq` in `Props/TieFieldsInv.lean`, the optimized one by `Tie.PolyOpt.inv_eq` in
  `Props/TieFieldsPoly.lean` — and the optimized inverse is characterised on its own in `C08_Gen` (`FqpOpt.inv_laws`).
-/
import PyEcc.Props.C14_Fq
import PyEcc.Props.C14_Fqp
import PyEcc.Props.C08_Gen

namespace PyEcc.C14.Gen
open PyEcc PyEcc.Gen.ExtraFieldsFq

/-! # PART 1 — `FQ` -/

/-- **optimized `FQ` = reference `FQ`: constructors and arithmetic with an `FQ` operand.**  For every modulus and ALL
    ints as attributes (no reducedness assumed), the generated optimized methods are the generated reference methods. -/
theorem fq_arith_opt_eq_ref (p a b : ℤ) :
    Opt.FQ.init_int p a = Ref.FQ.init_int p a ∧ Opt.FQ.init_fq p a = Ref.FQ.init_fq p a ∧
    Opt.FQ.add_fq p a b = Ref.FQ.add_fq p a b ∧ Opt.FQ.sub_fq p a b = Ref.FQ.sub_fq p a b ∧
    Opt.FQ.mul_fq p a b = Ref.FQ.mul_fq p a b ∧ Opt.FQ.div_fq p a b = Ref.FQ.div_fq p a b ∧
    Opt.FQ.truediv_fq p a b = Ref.FQ.truediv_fq p a b ∧ Opt.FQ.neg p a = Ref.FQ.neg p a ∧
    Opt.FQ.rsub_fq p a b = Ref.FQ.rsub_fq p a b ∧ Opt.FQ.rdiv_fq p a b = Ref.FQ.rdiv_fq p a b ∧
    Opt.FQ.rtruediv_fq p a b = Ref.FQ.rtruediv_fq p a b ∧ Opt.FQ.radd_fq p a b = Ref.FQ.radd_fq p a b ∧
    Opt.FQ.rmul_fq p a b = Ref.FQ.rmul_fq p a b ∧ Opt.FQ.one p = Ref.FQ.one p ∧ Opt.FQ.zero p = Ref.FQ.zero p ∧
    Opt.FQ.int p a = Ref.FQ.int p a :=
  ⟨rfl, rfl, rfl, rfl, rfl, rfl, rfl, rfl, rfl, rfl, rfl, rfl, rfl, rfl, rfl, rfl⟩

/-- **optimized `FQ` = reference `FQ`: operations with an `int` operand** (the raw int `k`, negative or `> p`, enters
    both classes in the same way), including the reflected operators. -/
theorem fq_int_opt_eq_ref (p a k : ℤ) :
    Opt.FQ.add_int p a k = Ref.FQ.add_int p a k ∧ Opt.FQ.sub_int p a k = Ref.FQ.sub_int p a k ∧
    Opt.FQ.mul_int p a k = Ref.FQ.mul_int p a k ∧ Opt.FQ.div_int p a k = Ref.FQ.div_int p a k ∧
    Opt.FQ.truediv_int p a k = Ref.FQ.truediv_int p a k ∧ Opt.FQ.rsub_int p a k = Ref.FQ.rsub_int p a k ∧
    Opt.FQ.rdiv_int p a k = Ref.FQ.rdiv_int p a k ∧ Opt.FQ.rtruediv_int p a k = Ref.FQ.rtruediv_int p a k ∧
    Opt.FQ.radd_int p a k = Ref.FQ.radd_int p a k ∧ Opt.FQ.rmul_int p a k = Ref.FQ.rmul_int p a k :=
  ⟨rfl, rfl, rfl, rfl, rfl, rfl, rfl, rfl, rfl, rfl⟩

/-- **optimized `FQ` = reference `FQ`: comparisons** `== != <` with an `FQ` and with an `int` operand (an unreduced int
    is compared raw in both classes). -/
theorem fq_cmp_opt_eq_ref (p a b : ℤ) :
    Opt.FQ.eq_fq p a b = Ref.FQ.eq_fq p a b ∧ Opt.FQ.eq_int p a b = Ref.FQ.eq_int p a b ∧
    Opt.FQ.ne_fq p a b = Ref.FQ.ne_fq p a b ∧ Opt.FQ.ne_int p a b = Ref.FQ.ne_int p a b ∧
    Opt.FQ.lt_fq p a b = Ref.FQ.lt_fq p a b ∧ Opt.FQ.lt_int p a b = Ref.FQ.lt_int p a b :=
  ⟨rfl, rfl, rfl, rfl, rfl, rfl⟩

/-- **optimized `FQ.__pow__` = reference `FQ.__pow__`** for every base, every int exponent (zero, negative, thousands of
    bits) and every modulus. -/
theorem fq_pow_opt_eq_ref (p a e : ℤ) : Opt.FQ.pow p a e = Ref.FQ.pow p a e := by
  rw [Tie.FqOpt.pow_eq_ref]

/-- **optimized `FQ.sgn0` is RFC 9380 `sgn0`** (generic definition at `m = 1`, and the special form `sgn0_m_eq_1`) of the
    canonical representative, for every `FQ` object (`C08.Gen.Red p a`: `0 ≤ a < p`); it is `0` or `1`. -/
theorem fq_sgn0_eq_spec {p : ℕ} {a : ℤ} (ha : C08.Gen.Red p a) :
    Opt.FQ.sgn0 p a = (Spec.Sgn0.sgn0 [a.toNat] : ℕ) ∧ Opt.FQ.sgn0 p a = (Spec.Sgn0.sgn0_m_eq_1 a.toNat : ℕ) ∧
    0 ≤ Opt.FQ.sgn0 p a ∧ Opt.FQ.sgn0 p a ≤ 1 := by
  obtain ⟨x, rfl⟩ := ha.lift
  rw [Tie.FqOpt.sgn0_eq, Int.toNat_natCast, ← C14Fq.fq_sgn0_eq_spec, ← C14Fq.fq_sgn0_eq_m1]
  have := C14Fq.fq_sgn0_le_one x
  exact ⟨rfl, rfl, by omega, by omega⟩

/-- for an odd modulus, negation flips `sgn0` of every non-zero element: `sgn0(-a) = 1 - sgn0(a)`; `sgn0(FQ.zero()) = 0` -/
theorem fq_sgn0_neg {p : ℕ} [NeZero p] (hp : p % 2 = 1) {a : ℤ} (ha : C08.Gen.Red p a) (h0 : a ≠ 0) :
    Opt.FQ.sgn0 p (Opt.FQ.neg p a) = 1 - Opt.FQ.sgn0 p a ∧ Opt.FQ.sgn0 p (Opt.FQ.zero p) = 0 := by
  obtain ⟨x, rfl⟩ := ha.lift
  have hz : ((Fq.ofInt 0 : Fq p).n : ℤ) = 0 := by rw [Tie.Fq.ofInt_n]; simp
  have hx : x ≠ Fq.ofInt 0 := fun h => h0 (by rw [h]; exact hz)
  rw [Tie.FqOpt.neg_eq, Tie.FqOpt.sgn0_eq, Tie.FqOpt.sgn0_eq, C14Fq.fq_sgn0_neg hp x hx, Tie.FqOpt.zero_eq,
    Tie.FqOpt.sgn0_eq]
  have := C14Fq.fq_sgn0_le_one x
  refine ⟨by omega, ?_⟩
  exact_mod_cast C14Fq.fq_sgn0_zero (p := p)

example : C08.Gen.Red 7 3 ∧ (3 : ℤ) ≠ 0 ∧ 7 % 2 = 1 := by decide
example : Opt.FQ.sgn0 7 3 = 1 ∧ Opt.FQ.sgn0 7 (Opt.FQ.neg 7 3) = 0 := by decide

/-! # PART 2 — `FQP / FQ2 / FQ12` -/
section extension
open PyEcc.Fqp PyEcc.FqpSem
open Gen.ExtraFieldsFqp Gen.ExtraFieldsMul
variable {p : ℕ} {mc : List ℤ}

open _root_.PyEcc.C08.Gen.FqpOpt renaming IsObj → IsObjO, IsCanon → IsCanonO
open _root_.PyEcc.C08.Gen.FqpRef renaming IsObj → IsObjR, IsCanon → IsCanonR
open _root_.PyEcc.Tie.FqpOpt renaming obj → objO
open _root_.PyEcc.Tie.FqpRef renaming obj → objR

theorem lift2 {x : Opt.FQP} {x' : Ref.FQP} (hx : IsObjO mc x) (hx' : IsObjR mc x') (h : x.coeffs = x'.coeffs) :
    ∃ a : List ℤ, a.length = mc.length ∧ x = objO (⟨a⟩ : Fqp .opt p mc) ∧ x' = objR (⟨a⟩ : Fqp .ref p mc) := by
  obtain ⟨a, ha, rfl⟩ := hx.lift (p := p); obtain ⟨a', ha', rfl⟩ := hx'.lift (p := p)
  cases a with | mk a => cases a' with | mk a' =>
  simp only [Tie.FqpOpt.obj, Tie.FqpRef.obj] at h
  subst h
  exact ⟨a, ha, rfl, rfl⟩

/-- **the constructors agree**: `FQ2(cs)` / `FQ12(cs)` on a sequence of ints raise in both classes or return objects with
    the same (reduced) coefficients; likewise `zero()` and `one()`. -/
theorem init_opt_eq_ref (cs : List ℤ) :
    (cs.length ≠ mc.length → Opt.FQPsub.init_ints p mc cs = .error PyErr.other ∧
      Ref.FQPsub.init_ints p mc cs = .error PyErr.other) ∧
    (cs.length = mc.length → ∃ w w', Opt.FQPsub.init_ints p mc cs = .ok w ∧ Ref.FQPsub.init_ints p mc cs = .ok w' ∧
      IsObjO mc w ∧ IsObjR mc w' ∧ w.coeffs = w'.coeffs) := by
  constructor
  · intro h
    rw [Tie.FqpOpt.init_ints_eq, Tie.FqpRef.init_ints_eq, if_pos h, if_pos h]; exact ⟨rfl, rfl⟩
  · intro h
    exact ⟨_, _, C08.Gen.FqpOpt.t_init cs h, C08.Gen.FqpRef.t_init cs h, C08.Gen.FqpOpt.isObj_obj (wf_ofInts h),
      C08.Gen.FqpRef.isObj_obj (wf_ofInts h), rfl⟩

/-- **optimized `*` = reference `*`.**  On operands with the same coefficients, the optimized product (no intermediate
    reduction, sparse modulus table `mc_tuples`, `range(d-2,-1,-1)` pops) and the reference product (`FQ` entries reduced
    after every step, `while len(b) > d`) both return, the results are canonical objects of the two classes, and they
    have the same coefficients.  Any `p > 0`, any modulus coefficients. -/
theorem mul_opt_eq_ref (hp : 0 < p) {x y : Opt.FQP} {x' y' : Ref.FQP} (hx : IsObjO mc x) (hy : IsObjO mc y)
    (hx' : IsObjR mc x') (hy' : IsObjR mc y') (ex : x.coeffs = x'.coeffs) (ey : y.coeffs = y'.coeffs) :
    ∃ w w', Opt.FQP.mul_fqp p mc x y = .ok w ∧ Ref.FQP.mul_fqp p mc x' y' = .ok w' ∧
      IsCanonO p mc w ∧ IsCanonR p mc w' ∧ w.coeffs = w'.coeffs := by
  obtain ⟨a, ha, rfl, rfl⟩ := lift2 (p := p) hx hx' ex
  obtain ⟨b, hb, rfl, rfl⟩ := lift2 (p := p) hy hy' ey
  exact ⟨_, _, C08.Gen.FqpOpt.t_mul ha hb, C08.Gen.FqpRef.t_mul ha hb,
    C08.Gen.FqpOpt.isCanon_obj (mul_canon hp _ _), C08.Gen.FqpRef.isCanon_obj (mul_canon hp _ _),
    C14P.mul_opt_eq_ref hp ha hb⟩

/-- **optimized `**` = reference `**`** for every int exponent (zero, negative, thousands of bits). -/
theorem pow_opt_eq_ref (hp : 0 < p) (hd : 1 ≤ mc.length) {x : Opt.FQP} {x' : Ref.FQP} (hx : IsObjO mc x)
    (hx' : IsObjR mc x') (ex : x.coeffs = x'.coeffs) (e : ℤ) :
    ∃ w w', Opt.FQP.pow p mc x e = .ok w ∧ Ref.FQP.pow p mc x' e = .ok w' ∧
      IsCanonO p mc w ∧ IsCanonR p mc w' ∧ w.coeffs = w'.coeffs := by
  obtain ⟨a, ha, rfl, rfl⟩ := lift2 (p := p) hx hx' ex
  exact ⟨_, _, C08.Gen.FqpOpt.t_pow hd ha e, C08.Gen.FqpRef.t_pow hd ha e,
    C08.Gen.FqpOpt.isCanon_obj (pow_canon hp hd _ _), C08.Gen.FqpRef.isCanon_obj (pow_canon hp hd _ _),
    C14P.pow_opt_eq_ref hp hd ha _⟩

/-- **optimized `+ - neg`, `* int`, `/ int` = reference ones**: on operands with the same coefficients both classes
    return canonical objects with the same coefficients (the int `k` may be negative or `> p`; `/ k` with `p ∣ k` gives
    zero in both). -/
theorem linear_opt_eq_ref (hp : 0 < p) {x y : Opt.FQP} {x' y' : Ref.FQP} (hx : IsObjO mc x) (hy : IsObjO mc y)
    (hx' : IsObjR mc x') (hy' : IsObjR mc y') (ex : x.coeffs = x'.coeffs) (ey : y.coeffs = y'.coeffs) (k : ℤ) :
    (∃ w w', Opt.FQP.add p mc x y = .ok w ∧ Ref.FQP.add p mc x' y' = .ok w' ∧
      IsCanonO p mc w ∧ IsCanonR p mc w' ∧ w.coeffs = w'.coeffs) ∧
    (∃ w w', Opt.FQP.sub p mc x y = .ok w ∧ Ref.FQP.sub p mc x' y' = .ok w' ∧
      IsCanonO p mc w ∧ IsCanonR p mc w' ∧ w.coeffs = w'.coeffs) ∧
    (∃ w w', Opt.FQP.neg p mc x = .ok w ∧ Ref.FQP.neg p mc x' = .ok w' ∧
      IsCanonO p mc w ∧ IsCanonR p mc w' ∧ w.coeffs = w'.coeffs) ∧
    (∃ w w', Opt.FQP.mul_int p mc x k = .ok w ∧ Ref.FQP.mul_int p mc x' k = .ok w' ∧
      IsCanonO p mc w ∧ IsCanonR p mc w' ∧ w.coeffs = w'.coeffs) ∧
    (∃ w w', Opt.FQP.div_int p mc x k = .ok w ∧ Ref.FQP.div_int p mc x' k = .ok w' ∧
      IsCanonO p mc w ∧ IsCanonR p mc w' ∧ w.coeffs = w'.coeffs) := by
  obtain ⟨a, ha, rfl, rfl⟩ := lift2 (p := p) hx hx' ex
  obtain ⟨b, hb, rfl, rfl⟩ := lift2 (p := p) hy hy' ey
  obtain ⟨l1, l2, l3, l4, l5, _⟩ := C14P.linear_opt_eq_ref (p := p) (mc := mc) a b k
  exact ⟨⟨_, _, C08.Gen.FqpOpt.t_add ha hb, C08.Gen.FqpRef.t_add ha hb, C08.Gen.FqpOpt.isCanon_obj (canon_add hp ha hb),
      C08.Gen.FqpRef.isCanon_obj (canon_add hp ha hb), l1⟩,
    ⟨_, _, C08.Gen.FqpOpt.t_sub ha hb, C08.Gen.FqpRef.t_sub ha hb, C08.Gen.FqpOpt.isCanon_obj (canon_sub hp ha hb),
      C08.Gen.FqpRef.isCanon_obj (canon_sub hp ha hb), l2⟩,
    ⟨_, _, C08.Gen.FqpOpt.t_neg ha, C08.Gen.FqpRef.t_neg ha, C08.Gen.FqpOpt.isCanon_obj (canon_neg hp ha),
      C08.Gen.FqpRef.isCanon_obj (canon_neg hp ha), l3⟩,
    ⟨_, _, C08.Gen.FqpOpt.t_mulInt ha k, C08.Gen.FqpRef.t_mulInt ha k, C08.Gen.FqpOpt.isCanon_obj (canon_mulInt hp ha k),
      C08.Gen.FqpRef.isCanon_obj (canon_mulInt hp ha k), l4⟩,
    ⟨_, _, C08.Gen.FqpOpt.t_divInt ha k, C08.Gen.FqpRef.t_divInt ha k, C08.Gen.FqpOpt.isCanon_obj (canon_mulInt hp ha _),
      C08.Gen.FqpRef.isCanon_obj (canon_mulInt hp ha _), l5⟩⟩

/-- **optimized `== / !=` = reference `== / !=`** on operands with the same coefficients (for ALL objects, of any
    length: both are the `zip` comparison). -/
theorem cmp_opt_eq_ref {x y : Opt.FQP} {x' y' : Ref.FQP} (ex : x.coeffs = x'.coeffs) (ey : y.coeffs = y'.coeffs) :
    Opt.FQP.eq p mc x y = Ref.FQP.eq p mc x' y' ∧ Opt.FQP.ne p mc x y = Ref.FQP.ne p mc x' y' := by
  have h : Opt.FQP.eq p mc x y = Ref.FQP.eq p mc x' y' := by
    unfold Opt.FQP.eq Ref.FQP.eq
    rw [ex, ey]
    rw [Tie.any_ne_eq_all _ _ (fun x => by simp), Tie.any_ne_eq_all _ _ (fun x => by simp [Ref.FQ.ne_fq, Ref.FQ.eq_fq])]
  exact ⟨h, by unfold Opt.FQP.ne Ref.FQP.ne; rw [h]⟩

/-- **optimized generic `FQP.sgn0` is RFC 9380 `sgn0`** (generic extension degree `m`) on the coefficient list, for every
    object with non-negative coefficients (every canonical object). -/
theorem fqp_sgn0_eq_spec {x : Opt.FQP} (hx : IsCanonO p mc x) :
    Opt.FQP.sgn0 p mc x = (Spec.Sgn0.sgn0 (x.coeffs.map Int.toNat) : ℕ) := by
  obtain ⟨a, ha, rfl⟩ := hx.lift
  rw [Tie.FqpOpt.sgn0_eq, C14Fq.fqp_sgn0_eq_spec a (fun c hc => (ha.2 c hc).1)]; rfl

/-- **optimized `FQ2.sgn0` is RFC 9380 `sgn0_m_eq_2`** and agrees with the generic loop `FQP.sgn0`, on every object with
    two non-negative coefficients; on an object with another number of coefficients it raises `ValueError`. -/
theorem fq2_sgn0_eq_spec {x : Opt.FQP} (hx : IsObjO mc x) (x0 x1 : ℤ) (hc : x.coeffs = [x0, x1]) (h0 : 0 ≤ x0)
    (h1 : 0 ≤ x1) :
    Opt.FQ2.sgn0 p mc x = .ok (Spec.Sgn0.sgn0_m_eq_2 x0.toNat x1.toNat : ℕ) ∧
    Opt.FQ2.sgn0 p mc x = .ok (Opt.FQP.sgn0 p mc x) := by
  obtain ⟨a, ha, rfl⟩ := hx.lift (p := p)
  obtain ⟨e1, e2⟩ := C14Fq.fq2_sgn0_eq_spec a x0 x1 hc h0 h1
  rw [Tie.FqpOpt.FQ2_sgn0_eq a (by rw [show a.coeffs = [x0, x1] from hc]; rfl), Tie.FqpOpt.sgn0_eq, ← e2, e1]
  exact ⟨rfl, rfl⟩

/-! ### non-vacuity -/
example : IsObjO [1, 0] ⟨[(0, 1)], [3, 5], [1, 0], 2⟩ ∧ IsObjR [1, 0] ⟨[3, 5], [1, 0], 2⟩ ∧
    (⟨[(0, 1)], [3, 5], [1, 0], 2⟩ : Opt.FQP).coeffs = (⟨[3, 5], [1, 0], 2⟩ : Ref.FQP).coeffs :=
  ⟨⟨rfl, rfl, rfl, rfl⟩, ⟨rfl, rfl, rfl⟩, rfl⟩
example : Opt.FQP.mul_fqp 7 [1, 0] ⟨[(0, 1)], [3, 5], [1, 0], 2⟩ ⟨[(0, 1)], [2, 6], [1, 0], 2⟩ =
      .ok ⟨[(0, 1)], [4, 0], [1, 0], 2⟩ ∧
    Ref.FQP.mul_fqp 7 [1, 0] ⟨[3, 5], [1, 0], 2⟩ ⟨[2, 6], [1, 0], 2⟩ = .ok ⟨[4, 0], [1, 0], 2⟩ := by decide
example : Opt.FQ2.sgn0 7 [1, 0] ⟨[(0, 1)], [0, 3], [1, 0], 2⟩ = .ok 1 := by decide
example : (0 : ℕ) < blsP ∧ 1 ≤ blsMc12.length := by decide

end extension

end PyEcc.C14.Gen
