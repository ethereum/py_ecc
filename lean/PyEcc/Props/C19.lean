/-
  PyEcc.Props.C19 — property C19, decision part: `ecdsa_raw_recover` of `py_ecc/secp256k1/secp256k1.py`
  (modelled as `PyEcc.Ecdsa.ecdsaRawRecover` around the GENERATED Jacobian arithmetic) refuses exactly the
  malformed inputs, only ever raises `ValueError`, and lifts `r` to the point with the parity encoded in `v`.
  (Soundness of the recovered key — the group-theoretic part — is in `Props/C19_Sound.lean`.)
-/
import PyEcc.Sem.EcdsaSem

namespace PyEcc.C19
open PyEcc PyEcc.Gen.Secp PyEcc.SecpSem PyEcc.Gen.Consts PyEcc.Ecdsa PyEcc.EcdsaSem

/-- **`ecdsa_raw_recover` refuses malformed signatures.** For every message hash `h` and ints `v, r, s` the call
raises `ValueError` (i) when `v` is neither `27` nor `28`; (ii) when `r ≡ 0 (mod N)`; (iii) when `s ≡ 0 (mod N)`
(both for `v ∈ {27, 28}`; for other `v` clause (i) applies); (iv) when the code's own test
`(xcubedaxb − y·y) % P ≠ 0` fires, where `y` is `beta = pow(r³ + A·r + B, (P+1)//4, P)` or `P − beta`;
(v) when `r³ + 7` is not a square in `ZMod P` — the mathematical content of (iv), see `residue_test`. -/
theorem recover_rejects (h : Bytes) (v r s : ℤ) :
    (¬ (v = 27 ∨ v = 28) → ecdsaRawRecover h v r s = .error .value) ∧
    (r % N = 0 → ecdsaRawRecover h v r s = .error .value) ∧
    (s % N = 0 → ecdsaRawRecover h v r s = .error .value) ∧
    ((xcub r - liftY v r * liftY v r) % P ≠ 0 → ecdsaRawRecover h v r s = .error .value) ∧
    (¬ IsSquare ((r : Fp) ^ 3 + 7) → ecdsaRawRecover h v r s = .error .value) := by
  have key : ¬ Accepts v r s → ecdsaRawRecover h v r s = .error .value := fun hn =>
    (recover_cases h v r s).elim (·.2) fun ha => absurd ha.1 hn
  exact ⟨fun hv => key fun a => hv a.1, fun hr => key fun a => a.2.1 hr, fun hs => key fun a => a.2.2.1 hs,
    fun hc => key fun a => hc ((check_iff_isSquare v r).mpr a.2.2.2), fun hsq => key fun a => hsq (B_cast ▸ a.2.2.2)⟩

example : ¬ ((26 : ℤ) = 27 ∨ (26 : ℤ) = 28) := by decide
example : (N : ℤ) % N = 0 := by decide

/-- **The residuosity test.** The code's test `(xcubedaxb − y·y) % P ≠ 0` (with `y` the `(P+1)/4`-th power of
`xcubedaxb = (r³ + A·r + B) % P`, or `P` minus it, whichever `v` selects) fires exactly when `r³ + 7` is a quadratic
NON-residue modulo `P` — for every int `r` (reduced or not) and every `v`. Equivalently, in integers: there is no
`t` with `t² ≡ r³ + 7 (mod P)`. (Euler's criterion for `P ≡ 3 (mod 4)`.) -/
theorem residue_test (v r : ℤ) :
    ((xcub r - liftY v r * liftY v r) % P ≠ 0 ↔ ¬ IsSquare ((r : Fp) ^ 3 + 7)) ∧
    ((xcub r - liftY v r * liftY v r) % P ≠ 0 ↔ ¬ ∃ t : ℤ, (t * t - (r ^ 3 + 7)) % P = 0) := by
  have h1 : (xcub r - liftY v r * liftY v r) % P ≠ 0 ↔ ¬ IsSquare ((r : Fp) ^ 3 + 7) := by
    rw [Ne, check_iff_isSquare, B_cast]
  refine ⟨h1, h1.trans (not_congr ?_)⟩
  constructor
  · rintro ⟨t, ht⟩
    refine ⟨(t.val : ℤ), ?_⟩
    rw [← cast_eq_zero_iff]; push_cast
    rw [ZMod.natCast_zmod_val, ← ht]; ring
  · rintro ⟨t, ht⟩
    refine ⟨(t : Fp), ?_⟩
    have := (cast_eq_zero_iff _).mpr ht
    push_cast at this
    linear_combination -this

/-- **Exact acceptance condition.** `ecdsa_raw_recover` raises `ValueError` if and only if `v ∉ {27, 28}` or
`r ≡ 0` or `s ≡ 0 (mod N)` or `r³ + 7` is a non-residue mod `P`; in every other case it returns a value. -/
theorem recover_error_iff (h : Bytes) (v r s : ℤ) :
    ecdsaRawRecover h v r s = .error .value ↔
      (¬ (v = 27 ∨ v = 28) ∨ r % N = 0 ∨ s % N = 0 ∨ ¬ IsSquare ((r : Fp) ^ 3 + 7)) := by
  have hA : ¬ Accepts v r s ↔
      (¬ (v = 27 ∨ v = 28) ∨ r % N = 0 ∨ s % N = 0 ∨ ¬ IsSquare ((r : Fp) ^ 3 + 7)) := by
    simp only [Accepts, B_cast, not_and_or, ne_eq, not_not]
  obtain ⟨hn, e⟩ | ⟨ha, e⟩ := recover_cases h v r s
  · exact iff_of_true e (hA.mp hn)
  · obtain ⟨Q, hQ⟩ := recoverCore_ok h r (liftY v r) r s
    rw [e, hQ, ← hA]
    exact iff_of_false (fun c => by cases c) (not_not.mpr ha)

/-- **`ValueError` is the only exception.** Whatever the inputs, if `ecdsa_raw_recover` raises, it raises
`ValueError`, and it does so at one of its two explicit tests: the recursion of `jacobian_multiply` always
terminates (the fuel of the generated recursion is never exhausted) and its "unexpected case" branch is unreachable. -/
theorem recover_error_kind (h : Bytes) (v r s : ℤ) (e : PyErr) (he : ecdsaRawRecover h v r s = .error e) :
    e = .value := by
  obtain ⟨-, e⟩ | ⟨-, e⟩ := recover_cases h v r s
  · rw [e] at he
    cases he; rfl
  · obtain ⟨Q, hQ⟩ := recoverCore_ok h r (liftY v r) r s
    rw [e, hQ] at he
    cases he

example : ecdsaRawRecover [] 26 1 1 = .error .value := (recover_rejects [] 26 1 1).1 (by decide)

/-- **Parity of the lifted point.** When `ecdsa_raw_recover(h, (v, r, s))` returns a value `Q`, then `v ∈ {27, 28}`,
`r, s ≢ 0 (mod N)`, and the point `(x, y) = (r, y)` the code lifted `r` to satisfies: `0 < y < P`,
`y² ≡ r³ + 7 (mod P)`, `y` is EVEN for `v = 27` and ODD for `v = 28`; `y` is the only int with these properties;
and `Q` is the result of the arithmetic tail (`recoverCore`) on that point. (The corner `beta = 0`, where the code
would take `y = P`, cannot occur: `−7` is not a cube mod `P`.) -/
theorem recover_parity (h : Bytes) (v r s : ℤ) (Q : ℤ × ℤ) (hok : ecdsaRawRecover h v r s = .ok Q) :
    (v = 27 ∨ v = 28) ∧ r % N ≠ 0 ∧ s % N ≠ 0 ∧
    ∃ y : ℤ, 0 < y ∧ y < P ∧ (y * y - (r ^ 3 + 7)) % P = 0 ∧ (v = 27 → y % 2 = 0) ∧ (v = 28 → y % 2 = 1) ∧
      (∀ y' : ℤ, 0 < y' → y' < P → (y' * y' - (r ^ 3 + 7)) % P = 0 → y' % 2 = (v - 27) % 2 → y' = y) ∧
      recoverCore h r y r s = .ok Q := by
  obtain ⟨-, e⟩ | ⟨⟨hv, hr, hs, hsq⟩, e⟩ := recover_cases h v r s
  · rw [e] at hok
    cases hok
  have hfield := (check_iff_field v r).mp ((check_iff_isSquare v r).mpr hsq)
  have hpar := (liftY_spec v r).2.2
  rw [B_cast] at hfield
  refine ⟨hv, hr, hs, liftY v r, liftY_pos v r, (liftY_spec v r).1.2, ?_, ?_, ?_, ?_, e ▸ hok⟩
  · rw [← cast_eq_zero_iff]; push_cast
    linear_combination hfield
  · rintro rfl; rw [hpar]; decide
  · rintro rfl; rw [hpar]; decide
  · intro y' h0 hP hy' hpar'
    apply liftY_unique ⟨h0.le, hP⟩ ?_ hpar'
    have := (cast_eq_zero_iff _).mpr hy'
    push_cast at this
    rw [B_cast]
    linear_combination this

/-- kernel evaluation of the model on a concrete input -/
theorem recover_vector : ecdsaRawRecover [1] 28 Gx 1 =
    .ok (26210488337160888672698873285651562077827126089223557910692116932897423477429,
         44582324086967690670293550797731613368225261916384873140806919652936239038985) :=
  okEq_sound (by decide +kernel)

set_option maxRecDepth 100000 in
/-- non-vacuity of `recover_parity` -/
example : ecdsaRawRecover [1] 28 Gx 1 =
    .ok (26210488337160888672698873285651562077827126089223557910692116932897423477429,
         44582324086967690670293550797731613368225261916384873140806919652936239038985) :=
  recover_vector

end PyEcc.C19

section AxiomAudit
open PyEcc.C19
#print axioms recover_rejects
#print axioms residue_test
#print axioms recover_error_iff
#print axioms recover_error_kind
#print axioms recover_parity
end AxiomAudit
