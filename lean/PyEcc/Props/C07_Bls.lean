/-
  Property C07, reference affine modules.

  The generated reference curve functions `Gen.RefBls.{is_on_curve, double, add, multiply, neg}`
  (translated from the Python source on every run; generic over the coordinate field `F`) compute the
  group law of the elliptic curve `y² = x³ + b` as defined in Mathlib (`(W b).Point`, an
  `AddCommGroup`), through the representation `reprRef : (W b).Point → Option (F × F)` (`none` = ∞).
  Everything holds over an ARBITRARY field `F` with `2 ≠ 0` (and `3 ≠ 0`, `b ≠ 0` where
  nonsingularity of every solution of the equation is needed), so it covers `FQ`, `FQ2`, `FQ12`
  coordinates at once.  The commutative-group laws of the Python functions are then Mathlib's
  theorems transported along `reprRef` (`Props/C07_BlsLaws.lean`).

  The bn128 module `Gen.RefBn.*` is the same terms under other names (`Lemmas/TwinModules.lean`);
  `Props/C07_Bn.lean` states the results for it.
-/
import PyEcc.Props.C13_Bls
import PyEcc.Lemmas.CurveAux
import Mathlib.Tactic.NormNum
import Mathlib.Algebra.Field.Rat

set_option linter.unusedSectionVars false
set_option linter.unusedVariables false

namespace PyEcc.C07.Bls
open PyEcc.CurveSem WeierstrassCurve

variable {F : Type} [Field F] [DecidableEq F]

/-! ### the generated functions are the chord–tangent formulas (no hypotheses, any field) -/

theorem gen_double_eq (pt : Option (F × F)) : Gen.RefBls.double pt = sDouble pt := by
  rcases pt with _ | ⟨x, y⟩
  · rfl
  · simp only [Gen.RefBls.double, Gen.RefBls.is_inf, sDouble, reduceCtorEq, decide_false,
      Bool.false_eq_true, or_self, ↓reduceIte, Nat.cast_ofNat]

theorem gen_neg_eq (pt : Option (F × F)) : Gen.RefBls.neg pt = sNeg pt := by
  rcases pt with _ | ⟨x, y⟩
  · simp [Gen.RefBls.neg, sNeg]
  · simp [Gen.RefBls.neg, sNeg]

/-- `add` never raises (its `newy != …` consistency check cannot fail in a field: `C13.Bls.ref_add_chord`)
    and computes the chord–tangent formula. -/
theorem gen_add_eq (p q : Option (F × F)) : Gen.RefBls.add p q = .ok (sAdd p q) := by
  rcases p with _ | ⟨x1, y1⟩ <;> rcases q with _ | ⟨x2, y2⟩
  · simp [Gen.RefBls.add, sAdd]
  · simp [Gen.RefBls.add, sAdd]
  · simp [Gen.RefBls.add, sAdd]
  · by_cases hx : x2 = x1
    · by_cases hy : y2 = y1
      · simp [Gen.RefBls.add, sAdd, hx, hy, gen_double_eq]
      · simp [Gen.RefBls.add, sAdd, hx, hy]
    · rw [C13.Bls.ref_add_chord hx]
      simp only [sAdd, hx, false_and, if_false]

theorem gen_is_on_curve_iff (pt : Option (F × F)) (b : F) :
    Gen.RefBls.is_on_curve pt b = true ↔ sOn pt b := by
  rcases pt with _ | ⟨x, y⟩
  · simp [Gen.RefBls.is_on_curve, Gen.RefBls.is_inf, sOn]
  · simp [Gen.RefBls.is_on_curve, Gen.RefBls.is_inf, sOn]

/-- `add(P, Q)` of the reference module never raises on curve points and returns the representation
    of the Mathlib sum `P + Q` (all cases: ∞ operands, `P = Q`, `P = -Q`, generic chord). -/
theorem ref_add_refines {b : F} (h2 : (2 : F) ≠ 0) (P Q : (W b).Point) :
    Gen.RefBls.add (reprRef P) (reprRef Q) = .ok (reprRef (P + Q)) := by
  rw [gen_add_eq, sAdd_refines h2]

/-- `double(P)` returns the representation of `P + P`; in particular for a point of order two
    (`y = 0`) it returns ∞ (the guard of the `fix:` commit for defect F3) exactly as Mathlib's `P + P = 0` — no
    "no 2-torsion" hypothesis. -/
theorem ref_double_refines {b : F} (h2 : (2 : F) ≠ 0) (P : (W b).Point) :
    Gen.RefBls.double (reprRef P) = reprRef (P + P) := by
  rw [gen_double_eq, sDouble_refines h2]

/-- `neg(P)` returns the representation of the Mathlib inverse `-P`. -/
theorem ref_neg_refines {b : F} (P : (W b).Point) :
    Gen.RefBls.neg (reprRef P) = reprRef (-P) := by
  rw [gen_neg_eq, sNeg_refines]

/-- fuelled double-and-add: as long as the fuel exceeds the scalar, the recursion returns normally with
    the representation of `n • P` (`n • P = (n / 2) • (P + P) + (n % 2) • P`) -/
theorem ref_multiplyAux_refines {b : F} (h2 : (2 : F) ≠ 0) (fuel : Nat) : ∀ (n : Nat) (P : (W b).Point),
    n < fuel → Gen.RefBls.multiplyAux fuel (reprRef P) n = .ok (reprRef (n • P)) := by
  induction fuel with
  | zero => intro n P h; omega
  | succ fuel ih =>
    intro n P hn
    by_cases h0 : n = 0
    · subst h0; simp [Gen.RefBls.multiplyAux]
    by_cases h1 : n = 1
    · subst h1; simp [Gen.RefBls.multiplyAux]
    have ih' := ih (n / 2) (P + P) (by omega)
    rw [← ref_double_refines h2] at ih'
    have hP : n • P = (n / 2) • (P + P) + (n % 2) • P := by
      rw [← two_smul ℕ P, ← mul_smul, ← add_smul, Nat.div_add_mod']
    by_cases hp : n % 2 = 0
    · simp only [Gen.RefBls.multiplyAux, h0, h1, hp, ↓reduceIte, ih']
      rw [hP, hp, zero_smul, add_zero]
    · simp only [Gen.RefBls.multiplyAux, h0, h1, hp, ↓reduceIte, ih', ref_add_refines h2]
      rw [hP, Nat.mod_two_ne_zero.mp hp, one_smul]

/-- `multiply(P, n)` (recursive double-and-add; the translator's fuel `n + 1` always suffices) never
    raises on a curve point and returns the representation of the Mathlib scalar multiple `n • P`,
    for EVERY natural `n` (including `0` and multiples of the order). -/
theorem ref_multiply_refines {b : F} (h2 : (2 : F) ≠ 0) (P : (W b).Point) (n : Nat) :
    Gen.RefBls.multiply (reprRef P) n = .ok (reprRef (n • P)) :=
  ref_multiplyAux_refines h2 (n + 1) n P (Nat.lt_succ_self n)

/-- `is_on_curve(pt, b)` accepts exactly ∞ and the coordinate pairs of Mathlib points of
    `y² = x³ + b` (for `b ≠ 0`, `2, 3 ≠ 0` every solution of the equation is a nonsingular point). -/
theorem ref_is_on_curve_iff {b : F} (h2 : (2 : F) ≠ 0) (h3 : (3 : F) ≠ 0) (hb : b ≠ 0)
    (pt : Option (F × F)) :
    Gen.RefBls.is_on_curve pt b = true ↔ ∃ P : (W b).Point, reprRef P = pt := by
  rw [gen_is_on_curve_iff, sOn_iff_exists h2 h3 hb]

example : (2 : ℚ) ≠ 0 ∧ (3 : ℚ) ≠ 0 ∧ (1 : ℚ) ≠ 0 := by norm_num

end PyEcc.C07.Bls
