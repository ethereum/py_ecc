/-
  Property C12, exponent level: the final-exponentiation exponents.

  * `(p¹² − 1)/r` (the exponent of the plain `final_exponentiate` of bn128 and of the `**` in the
    BLS12-381 Miller loops) is an exact division, for both curves, with the library's constants and
    with the standard ones; the embedding degree is exactly 12.
  * The fast `final_exponentiate` of `optimized_bls12_381/optimized_pairing.py` computes
        p2 = exp_by_p(exp_by_p(x)) * x            -- x^(p²+1)
        p3 = exp_by_p^6(p2) / p2                  -- p2^(p⁶−1)
        return p3 ** ((p⁴ − p² + 1) // r)
    The integer identity that makes this the plain power is
        (p²+1)·(p⁶−1)·((p⁴−p²+1)/r) = (p¹²−1)/r     with   r ∣ p⁴−p²+1,
    proved here by kernel evaluation; `split_final_exp` is the algebra: in any commutative
    group-with-zero (e.g. a field), with `y^p` for `exp_by_p(y)` the three lines above compute
    `x ^ ((p²+1)(p⁶−1)c)` — for every `x`, including `0` (`pow_div_self`).  `final_exponentiate_eq_pow` combines
    the two at the BLS12-381 constants.  (That `exp_by_p y = y^p` in FQ12 is the Frobenius part of
    C12: `C12.expByP_eq_pow`, `Props/C12.lean`.)
-/
import Mathlib.Algebra.GroupWithZero.Units.Basic
import Mathlib.Algebra.Group.Basic
import Mathlib.Tactic.Ring
import PyEcc.Spec.Standards
import PyEcc.Model.Pairing
import PyEcc.Props.C07_Consts

namespace PyEcc.C12.Exp
open PyEcc.Gen.Consts

/-- BLS12-381: `r ∣ p¹² − 1` (standard constants), so `(p¹²−1)/r · r = p¹²−1`. -/
theorem spec_bls_r_dvd : (Spec.BLS12381.p ^ 12 - 1) % Spec.BLS12381.r = 0 := by decide +kernel

/-- alt_bn128: `r ∣ p¹² − 1` (standard constants). -/
theorem spec_bn_r_dvd : (Spec.BN254.p ^ 12 - 1) % Spec.BN254.r = 0 := by decide +kernel

/-- BLS12-381, the library's constants (each module's own `field_modulus`, `curve_order`):
    `curve_order ∣ field_modulus¹² − 1`. -/
theorem bls_r_dvd :
    (bls12_381_field_modulus ^ 12 - 1) % bls12_381_curve_order = 0 ∧
    (optimized_bls12_381_field_modulus ^ 12 - 1) % optimized_bls12_381_curve_order = 0 := by
  decide +kernel

/-- alt_bn128, the library's constants: `curve_order ∣ field_modulus¹² − 1`. -/
theorem bn_r_dvd :
    (bn128_field_modulus ^ 12 - 1) % bn128_curve_order = 0 ∧
    (optimized_bn128_field_modulus ^ 12 - 1) % optimized_bn128_curve_order = 0 := by
  decide +kernel

/-- The embedding degree of both curves is exactly 12: `r ∤ pᵏ − 1` for `1 ≤ k < 12`. -/
theorem embedding_degree_exact :
    (List.range 11).all (fun k => (Spec.BLS12381.p ^ (k + 1) - 1) % Spec.BLS12381.r != 0) = true ∧
    (List.range 11).all (fun k => (Spec.BN254.p ^ (k + 1) - 1) % Spec.BN254.r != 0) = true := by
  decide +kernel

/-- BLS12-381: `r` divides the 12th cyclotomic polynomial at `p`, `Φ₁₂(p) = p⁴ − p² + 1`
    (standard constants and the optimized module's own). -/
theorem bls_r_dvd_cyclotomic :
    (Spec.BLS12381.p ^ 4 - Spec.BLS12381.p ^ 2 + 1) % Spec.BLS12381.r = 0 ∧
    (optimized_bls12_381_field_modulus ^ 4 - optimized_bls12_381_field_modulus ^ 2 + 1)
      % optimized_bls12_381_curve_order = 0 := by decide +kernel

/-- BLS12-381: the split of the final exponent used by the fast `final_exponentiate`:
    `(p²+1)·(p⁶−1)·((p⁴−p²+1)/r) = (p¹²−1)/r`, with the optimized module's own constants. -/
theorem bls_split :
    let p := optimized_bls12_381_field_modulus; let r := optimized_bls12_381_curve_order
    (p ^ 2 + 1) * (p ^ 6 - 1) * ((p ^ 4 - p ^ 2 + 1) / r) = (p ^ 12 - 1) / r := by decide +kernel

/-- The same split with the standard constants. -/
theorem spec_bls_split :
    let p := Spec.BLS12381.p; let r := Spec.BLS12381.r
    (p ^ 2 + 1) * (p ^ 6 - 1) * ((p ^ 4 - p ^ 2 + 1) / r) = (p ^ 12 - 1) / r := by decide +kernel

/-- alt_bn128 has the analogous factorisation (not used by the library, whose bn128
    `final_exponentiate` is the plain power). -/
theorem spec_bn_split :
    let p := Spec.BN254.p; let r := Spec.BN254.r
    (p ^ 4 - p ^ 2 + 1) % r = 0 ∧
    (p ^ 2 + 1) * (p ^ 6 - 1) * ((p ^ 4 - p ^ 2 + 1) / r) = (p ^ 12 - 1) / r := by decide +kernel

/-! ### the exponents the model (hence the Python code) uses -/

/-- The exponent of the reference BLS12-381 pairing (`blsFinalExp`, Python
    `(field_modulus ** 12 - 1) // curve_order`) and the one `pairingOptBls` passes to the optimized
    Miller loop are both the standard `(p¹²−1)/r`. -/
theorem bls_final_exp_eq :
    blsFinalExp = (Spec.BLS12381.p ^ 12 - 1) / Spec.BLS12381.r ∧
    (blsP ^ 12 - 1) / optimized_bls12_381_curve_order = (Spec.BLS12381.p ^ 12 - 1) / Spec.BLS12381.r := by
  decide +kernel

/-- alt_bn128: `final_exponentiate(x) = x ** ((field_modulus ** 12 - 1) // curve_order)`; the
    exponent (`bnFinalExp` in the reference model, the literal expression in `pairingOptBn`) is the
    standard `(p¹²−1)/r`. -/
theorem bn_final_exp_eq :
    bnFinalExp = (Spec.BN254.p ^ 12 - 1) / Spec.BN254.r ∧
    (bnP ^ 12 - 1) / optimized_bn128_curve_order = (Spec.BN254.p ^ 12 - 1) / Spec.BN254.r := by
  decide +kernel

/-- The fast BLS12-381 `final_exponentiate` of the model is the split form with cofactor
    `(p⁴−p²+1)/r` at the standard constants. -/
theorem finalExponentiateOptBls_eq (x : OBls12) :
    finalExponentiateOptBls x
      = optBlsFinalExponentiate blsExptable
          ((Spec.BLS12381.p ^ 4 - Spec.BLS12381.p ^ 2 + 1) / Spec.BLS12381.r) x := by
  have h : (blsP ^ 4 - blsP ^ 2 + 1) / optimized_bls12_381_curve_order
      = (Spec.BLS12381.p ^ 4 - Spec.BLS12381.p ^ 2 + 1) / Spec.BLS12381.r := by decide +kernel
  unfold finalExponentiateOptBls
  rw [h]

/-- `y ^ n / y = y ^ (n − 1)` for `n ≥ 2`, at `y = 0` too (`0 / 0 = 0` in Lean as in py_ecc's `FQ12`) -/
theorem pow_div_self {K : Type*} [GroupWithZero K] (y : K) {n : ℕ} (hn : 2 ≤ n) : y ^ n / y = y ^ (n - 1) := by
  obtain rfl | hy := eq_or_ne y 0
  · rw [zero_pow (by omega), zero_pow (by omega), zero_div]
  · rw [div_eq_iff hy, pow_sub_one_mul (by omega)]

/-- The three lines of the fast `final_exponentiate`, over any commutative group-with-zero (any field), with
    `exp_by_p` read as the `p`-power map: `p2 = x^(p²)·x`, `p3 = p2^(p⁶) / p2`, and
    `p3 ^ c = x ^ ((p²+1)·(p⁶−1)·c)` for **every** `x` (zero included), for `p ≥ 2`. -/
theorem split_final_exp {K : Type*} [CommGroupWithZero K] (p c : ℕ) (hp : 2 ≤ p) (x : K) :
    ((x ^ p ^ 2 * x) ^ p ^ 6 / (x ^ p ^ 2 * x)) ^ c = x ^ ((p ^ 2 + 1) * (p ^ 6 - 1) * c) := by
  have h6 : 2 ≤ p ^ 6 := hp.trans (Nat.le_self_pow (by omega) p)
  rw [← pow_succ, pow_div_self _ h6, ← pow_mul, ← pow_mul, mul_assoc]

/-- `(· ^ p)`, which `exp_by_p` is on FQ12, is a `p`-power map in any `K`; the BLS12-381 values satisfy the hypothesis
    `2 ≤ p` of `split_final_exp` (and the cofactor is positive). -/
example {K : Type*} [CommGroupWithZero K] (p : ℕ) : ∀ y : K, (fun y : K => y ^ p) y = y ^ p :=
  fun _ => rfl
example : 2 ≤ Spec.BLS12381.p ∧
    1 ≤ (Spec.BLS12381.p ^ 4 - Spec.BLS12381.p ^ 2 + 1) / Spec.BLS12381.r := by decide +kernel

/-- At the BLS12-381 constants: in any commutative group-with-zero the fast `final_exponentiate` (split form,
    cofactor `(p⁴−p²+1)/r`) equals the plain power `x ^ ((p¹²−1)/r)`, for every `x`. -/
theorem final_exponentiate_eq_pow {K : Type*} [CommGroupWithZero K] (x : K) :
    ((x ^ Spec.BLS12381.p ^ 2 * x) ^ Spec.BLS12381.p ^ 6 / (x ^ Spec.BLS12381.p ^ 2 * x))
        ^ ((Spec.BLS12381.p ^ 4 - Spec.BLS12381.p ^ 2 + 1) / Spec.BLS12381.r)
      = x ^ ((Spec.BLS12381.p ^ 12 - 1) / Spec.BLS12381.r) := by
  rw [split_final_exp _ _ (by decide +kernel), spec_bls_split]

end PyEcc.C12.Exp
