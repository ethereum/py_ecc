/-
  PyEcc.Props.C17_Sub — property C17, code level: `subgroup_check` and `clear_cofactor` of the BLS
  modules, through the refinement `Represents` of Mathlib's elliptic-curve group by the optimized
  projective code (`Props/C07Opt_Bls.lean`).

  `PyEcc.subgroupCheck` (`Model/Codec.lean`; Python `subgroup_check(P) = is_inf(multiply(P, curve_order))`)
  is generic in the coordinate type, so it is proved here over an ARBITRARY field `F` with `2 ≠ 0`
  (covering `FQ` for G1 and `FQ2` for G2) and an arbitrary curve coefficient `b`:
  if the triple `T` represents (any scaling; any `z = 0` triple for ∞) the Mathlib point `P` of
  `y² = x³ + b`, then `subgroup_check(T)` returns `True` exactly when `curve_order • P = 0`.
  The group-theoretic consequences (`Props/C17.lean`: order divides `r`; rejects every mixed point
  `k•G + Q` with `Q ≠ 0` in the cofactor torsion) are then transported to the code.

  `clearCofactorG1 / clearCofactorG2` (`Model/Swu.lean`) are the generic `Gen.OptBls.multiply` with
  the scalars `H_EFF_G1 / H_EFF_G2`, specialised to the executable field types `F1 = Fq blsP`,
  `F2 = Fqp …` (`F2` is not a Mathlib field); so the refinement statement is given for the generic
  function (`clear_cofactor_G2_refines`) together with the definitional unfolding lemmas
  (`clearCofactorG1_unfold`, `clearCofactorG2_unfold`).
-/
import PyEcc.Sem.TransferRefineBls
import PyEcc.Props.C17
import Mathlib.Tactic.NormNum
import Mathlib.Algebra.Field.Rat

set_option linter.unusedSectionVars false
set_option linter.unusedVariables false

namespace PyEcc.C17Sub
open PyEcc PyEcc.Gen PyEcc.Gen.Consts WeierstrassCurve
open PyEcc.C07Opt.Bls

variable {F : Type} [Field F] [DecidableEq F]

/-! ### `subgroup_check` decides `curve_order • P = 0` -/

/-- `subgroup_check(T)` returns `True` exactly when the Mathlib point `P` represented by the triple
    `T` satisfies `curve_order • P = 0` — for ANY representative `T` of `P` (any scaling, any
    `z = 0` triple for ∞), any coordinate field with `2 ≠ 0`, any curve coefficient `b`. -/
theorem subgroup_check_iff {b : F} (h2 : (2 : F) ≠ 0) {T : F × F × F} {P : (W b).Point}
    (hT : Represents T P) : subgroupCheck T = true ↔ blsR • P = 0 :=
  opt_is_inf_refines (opt_multiply_refines h2 hT blsR)

/-- Exactness, order wording: `subgroup_check(T)` is `True` iff the order of the represented point
    divides `curve_order`. -/
theorem subgroup_check_iff_order_dvd {b : F} (h2 : (2 : F) ≠ 0) {T : F × F × F} {P : (W b).Point}
    (hT : Represents T P) : subgroupCheck T = true ↔ addOrderOf P ∣ blsR := by
  rw [subgroup_check_iff h2 hT, C17.subgroup_iff_order_dvd]

example : ((1 : ℚ), (1 : ℚ), (0 : ℚ)).2.2 = 0 := rfl

/-- `subgroup_check` rejects mixed points: if the cofactor `h` is coprime to `curve_order`, `G` is in
    the `curve_order`-torsion and `Q ≠ 0` is in the `h`-torsion, then every triple representing
    `k • G + Q` FAILS the check, for every `k`. -/
theorem subgroup_check_rejects_mixed {b : F} (h2 : (2 : F) ≠ 0) {h : ℕ} (hc : Nat.Coprime h blsR)
    {T : F × F × F} {G Q : (W b).Point} (k : ℕ) (hG : blsR • G = 0) (hQ : h • Q = 0) (hne : Q ≠ 0)
    (hT : Represents T (k • G + Q)) : subgroupCheck T = false := by
  rw [← Bool.not_eq_true, subgroup_check_iff h2 hT]
  exact C17.reject_mixed hc G Q k hG hQ hne

/-- `subgroup_check_rejects_mixed` at the real G2 cofactor `G2_COFACTOR` (`C17.coprime_h2_r`). -/
theorem subgroup_check_rejects_mixed_G2 {b : F} (h2 : (2 : F) ≠ 0) {T : F × F × F}
    {G Q : (W b).Point} (k : ℕ) (hG : blsR • G = 0) (hQ : blsconst_G2_COFACTOR • Q = 0) (hne : Q ≠ 0)
    (hT : Represents T (k • G + Q)) : subgroupCheck T = false :=
  subgroup_check_rejects_mixed h2 C17.coprime_h2_r k hG hQ hne hT

/-! ### cofactor clearing -/

/-- `clear_cofactor_G2` at the level of the generic function: `multiply(T, H_EFF_G2)` represents
    `H_EFF_G2 • P`. -/
theorem clear_cofactor_G2_refines {b : F} (h2 : (2 : F) ≠ 0) {T : F × F × F} {P : (W b).Point}
    (hT : Represents T P) :
    Represents (OptBls.multiply T h2c_H_EFF_G2) (h2c_H_EFF_G2 • P) :=
  opt_multiply_refines h2 hT _

/-- The model's `clearCofactorG1` IS the generic `multiply` with `H_EFF_G1` (definitional). -/
theorem clearCofactorG1_unfold (T : F1 × F1 × F1) :
    clearCofactorG1 T = OptBls.multiply T h2c_H_EFF_G1 := rfl

/-- The model's `clearCofactorG2` IS the generic `multiply` with `H_EFF_G2` (definitional). -/
theorem clearCofactorG2_unfold (T : F2 × F2 × F2) :
    clearCofactorG2 T = OptBls.multiply T h2c_H_EFF_G2 := rfl

/-- G2: if the represented point is killed by `G2_COFACTOR · curve_order` (the order of `E'(F_p²)`:
    `C17O.bls_order_kills_E2` in `Props/C17_Order.lean`) then the point cleared with `H_EFF_G2` passes
    `subgroup_check`. -/
theorem subgroup_check_cleared_G2 {b : F} (h2 : (2 : F) ≠ 0) {T : F × F × F} {P : (W b).Point}
    (hT : Represents T P) (hP : (blsconst_G2_COFACTOR * blsR) • P = 0) :
    subgroupCheck (OptBls.multiply T h2c_H_EFF_G2) = true := by
  rw [subgroup_check_iff h2 (clear_cofactor_G2_refines h2 hT)]
  exact C17.clear_G2_lands P hP

/-! ### the same for the code run on any coordinate type (`CurveHom`, `Rep`: `Sem/TransferRefineBls.lean`)

  `G1` of the model is `curveF1` (`Sem/TransferFq.lean`), `G2` is `curveF2` (`Sem/TransferFqp.lean`). -/

section rep
open PyEcc.Transfer
-- the operations are implicit, fixed by the type of `c` (as in `Sem/TransferRefineBls.lean`)
variable {A K : Type}
  {_ : Zero A} {_ : One A} {_ : Add A} {_ : Sub A} {_ : Mul A} {_ : Neg A} {_ : Div A} {_ : NatCast A}
  {_ : Pow A Nat} {_ : Field K} [DecidableEq A] [DecidableEq K]
  {Good : A → Prop} {φ : A → K} {b : A} {bK : K} {c : CurveHom Good φ b bK}
  {T T' T₁ T₂ Tg Tq : A × A × A} {P Q G : (W bK).Point}

/-- `subgroup_check(T)` returns `True` exactly when the represented point is killed by `curve_order` -/
theorem rep_iff (r : Rep c T P) : subgroupCheck T = true ↔ blsR • P = 0 := (r.multiply blsR).is_inf_iff

/-- … exactly when the represented point is the identity or has order `curve_order` -/
theorem rep_iff_prime (r : Rep c T P) : subgroupCheck T = true ↔ P = 0 ∨ addOrderOf P = blsR := by
  rw [rep_iff r, C17.subgroup_iff_blsR]

/-- the answer does not depend on the representative, for all good triples (on the curve or not) -/
theorem good_congr (c : CurveHom Good φ b bK) (g : GoodT Good T) (g' : GoodT Good T')
    (e : OptBls.eq T T' = true) : subgroupCheck T = subgroupCheck T' := by
  have k := Bls.via_multiply_congr c.hom c.two g g' e blsR
  rw [← Bls.good_eq c.hom (Bls.good_multiply c.hom g blsR).1 (Bls.good_multiply c.hom g' blsR).1,
    C13.Bls.opt_eq_iff] at k
  rw [subgroupCheck, subgroupCheck, ← Bls.good_is_inf c.hom (Bls.good_multiply c.hom g blsR).1,
    ← Bls.good_is_inf c.hom (Bls.good_multiply c.hom g' blsR).1, Bool.eq_iff_iff,
    C13.Bls.opt_is_inf_iff, C13.Bls.opt_is_inf_iff, k]

/-- every good triple with `z = 0` (∞) passes -/
theorem good_accepts_inf (c : CurveHom Good φ b bK) (g : GoodT Good T) (hz : T.2.2 = 0) :
    subgroupCheck T = true := by
  rw [rep_iff (Rep.zero c g hz), nsmul_zero]

/-- if `Tg` passes then so does `multiply(Tg, k)`, every `k` -/
theorem rep_multiply (r : Rep c Tg G) (hG : subgroupCheck Tg = true) (k : ℕ) :
    subgroupCheck (OptBls.multiply Tg k) = true :=
  (rep_iff (r.multiply k)).mpr (C17.accepts_multiples G k ((rep_iff r).mp hG))

/-- the accepted triples are closed under `add` and `neg` -/
theorem rep_add (r₁ : Rep c T₁ P) (r₂ : Rep c T₂ Q) (c₁ : subgroupCheck T₁ = true)
    (c₂ : subgroupCheck T₂ = true) :
    subgroupCheck (OptBls.add T₁ T₂) = true ∧ subgroupCheck (OptBls.neg T₁) = true := by
  have p := (rep_iff r₁).mp c₁
  have q := (rep_iff r₂).mp c₂
  exact ⟨(rep_iff (r₁.add r₂)).mpr (by rw [nsmul_add, p, q, add_zero]),
    (rep_iff r₁.neg).mpr (by rw [neg_nsmul, p, neg_zero])⟩

/-- mixed points are rejected: `k • G + Q` with `G` in the `curve_order`-torsion and `Q ≠ 0` killed by a
    scalar `h` coprime to `curve_order` FAILS the check -/
theorem rep_rejects_mixed {h : ℕ} (hc : Nat.Coprime h blsR) (k : ℕ) (hG : blsR • G = 0) (hQ : h • Q = 0)
    (hne : Q ≠ 0) (r : Rep c T (k • G + Q)) : subgroupCheck T = false := by
  rw [← Bool.not_eq_true, rep_iff r]
  exact C17.reject_mixed hc G Q k hG hQ hne

/-- the same on the code: `add(multiply(Tg, k), Tq)` fails whenever `Tg` passes and `Tq ≠ ∞` is killed by a
    scalar `h` coprime to `curve_order` -/
theorem rep_rejects_mixed_code {h : ℕ} (hc : Nat.Coprime h blsR) (k : ℕ) (rg : Rep c Tg G)
    (rq : Rep c Tq Q) (hG : subgroupCheck Tg = true) (hQ : OptBls.is_inf (OptBls.multiply Tq h) = true)
    (hne : OptBls.is_inf Tq = false) : subgroupCheck (OptBls.add (OptBls.multiply Tg k) Tq) = false :=
  rep_rejects_mixed hc k ((rep_iff rg).mp hG) ((rq.multiply h).is_inf_iff.mp hQ)
    (fun h0 => Bool.false_ne_true (hne.symm.trans (rq.is_inf_iff.mpr h0))) ((rg.multiply k).add rq)

/-- a cleared point passes, provided the represented point is killed by `heff · curve_order` -/
theorem rep_cleared (r : Rep c T P) (heff : ℕ) (hP : (heff * blsR) • P = 0) :
    subgroupCheck (OptBls.multiply T heff) = true :=
  (rep_iff (r.multiply heff)).mpr (C17.clear_lands P hP)

/-- clearing with `H_EFF_G1` (coprime to `curve_order`) is injective, up to `eq`, on triples that pass -/
theorem rep_clear_injective (r₁ : Rep c T₁ P) (r₂ : Rep c T₂ Q) (c₁ : subgroupCheck T₁ = true)
    (c₂ : subgroupCheck T₂ = true)
    (he : OptBls.eq (OptBls.multiply T₁ h2c_H_EFF_G1) (OptBls.multiply T₂ h2c_H_EFF_G1) = true) :
    OptBls.eq T₁ T₂ = true :=
  (r₁.eq_iff r₂).mpr (C17.clear_injective_on_torsion C17.coprime_H_EFF_G1_r.1 P Q ((rep_iff r₁).mp c₁)
    ((rep_iff r₂).mp c₂) (((r₁.multiply _).eq_iff (r₂.multiply _)).mp he))

end rep

/-! ### non-vacuity: `y² = x³ + 1` over `ℚ`; `(4, 6, 2)` represents the point `(2, 3)`; the point
    `(-1, 0)` has order two (so it lies in the `h`-torsion for `h = 2`, coprime to `curve_order`) and
    `G = ∞`. -/

/-- hypotheses of `subgroup_check_iff` are satisfiable with a finite point -/
example : ∃ P : (W (1 : ℚ)).Point, Represents ((4 : ℚ), (6 : ℚ), (2 : ℚ)) P ∧ P ≠ 0 := by
  obtain ⟨P, hP⟩ := (opt_on_curve_represents (b := (1 : ℚ)) (by norm_num) (by norm_num) (by norm_num)
    ((4 : ℚ), (6 : ℚ), (2 : ℚ))).mp (by decide +kernel)
  exact ⟨P, hP, fun h0 => absurd ((opt_is_inf_refines hP).mpr h0) (by decide +kernel)⟩

set_option maxRecDepth 100000 in
/-- all hypotheses of `subgroup_check_rejects_mixed` / `_code` hold in a concrete instance, and the
    theorem then says the order-two point `(-1, 0, 1)` fails `subgroup_check` over `ℚ` -/
example : subgroupCheck ((-1 : ℚ), (0 : ℚ), (1 : ℚ)) = false := by
  have h2 : (2 : ℚ) ≠ 0 := by norm_num
  obtain ⟨Q, hQ⟩ := (opt_on_curve_represents (b := (1 : ℚ)) h2 (by norm_num) (by norm_num)
    ((-1 : ℚ), (0 : ℚ), (1 : ℚ))).mp (by decide +kernel)
  have hc : Nat.Coprime 2 blsR := by decide +kernel
  have hQ2 : 2 • Q = 0 := (opt_is_inf_refines (opt_multiply_refines h2 hQ 2)).mp (by decide +kernel)
  have hne : Q ≠ 0 := fun h0 => absurd ((opt_is_inf_refines hQ).mpr h0) (by decide +kernel)
  have hG : blsR • (0 : (W (1 : ℚ)).Point) = 0 := C17.accepts_zero blsR
  refine subgroup_check_rejects_mixed h2 hc 0 hG hQ2 hne ?_
  rw [zero_smul, zero_add]; exact hQ

end PyEcc.C17Sub
