/-
  Property C07 — the group order of bn128: `#E(Fp) = curve_order` for `y² = x³ + 3` over
  `ZMod field_modulus`, by the elementary argument of `Sem/GroupOrder.lean` (`G1` has prime order `r`,
  `#E ≤ 2p + 1 < 3r`, and there is no point of order two, so `#E ∈ {r, 2r}` is `r`).  Consequently EVERY
  on-curve `FQ` point of bn128 (cofactor 1) is killed by `curve_order`, stated about the generated
  `multiply`.
-/
import PyEcc.Props.C07_Facts
import PyEcc.Sem.GroupOrder

namespace PyEcc.C07.Facts
open PyEcc.CurveSem PyEcc.Gen.Consts PyEcc.C07

/-- bn128: the curve `y² = x³ + b` over `ZMod field_modulus` has exactly `curve_order` points
    (including ∞), with `field_modulus`, `b`, `curve_order` the regenerated module constants. -/
theorem bn_card_points : Nat.card (W ((bn128_b : ℕ) : ZMod bnP)).Point = bn128_curve_order := by
  obtain ⟨G, _, hG0, hr, _⟩ := bn_G1_point
  exact GroupOrder.card_point_eq _ bn128_curve_order prime_bnR bn_field_ok.1 G hG0 hr
    (by decide +kernel) bn_no_cube_root

/-- bn128: every point of `E(Fp)` is killed by `curve_order` (Mathlib level). -/
theorem bn_nsmul_curve_order (Q : (W ((bn128_b : ℕ) : ZMod bnP)).Point) : bn128_curve_order • Q = 0 :=
  GroupOrder.nsmul_eq_zero_of_card _ _ bn_card_points Q

/-- bn128, Python level: for EVERY `pt` accepted by `is_on_curve(pt, b)` over `FQ`,
    `multiply(pt, curve_order)` returns ∞ — there is no cofactor, the whole curve is the order-`r` group. -/
theorem bn_multiply_curve_order (pt : Option (ZMod bnP × ZMod bnP))
    (h : Gen.RefBn.is_on_curve pt ((bn128_b : ℕ) : ZMod bnP) = true) :
    Gen.RefBn.multiply pt bn128_curve_order = .ok none := by
  obtain ⟨h2, h3, hb⟩ := bn_field_ok
  obtain ⟨Q, rfl⟩ := (Bn.ref_is_on_curve_iff h2 h3 hb pt).mp h
  rw [Bn.ref_multiply_refines h2, bn_nsmul_curve_order]
  rfl

example : Gen.RefBn.is_on_curve (ptRef (ZMod bnP) bn128_G1) ((bn128_b : ℕ) : ZMod bnP) = true :=
  bn_G1_on_curve_ref

/-- bn128, Python level: scalars act modulo `curve_order` on every on-curve `FQ` point. -/
theorem bn_multiply_mod (pt : Option (ZMod bnP × ZMod bnP))
    (h : Gen.RefBn.is_on_curve pt ((bn128_b : ℕ) : ZMod bnP) = true) (n : ℕ) :
    Gen.RefBn.multiply pt n = Gen.RefBn.multiply pt (n % bn128_curve_order) :=
  Bn.ref_multiply_mod bn_field_ok.1 bn_field_ok.2.1 bn_field_ok.2.2 h _ (bn_multiply_curve_order pt h) n

end PyEcc.C07.Facts
