/-
  PyEcc.Props.C01_Logic — the hypothesis-free part of C01 (py_ecc/bls/ciphersuites.py):
  secret-key validation (`_is_valid_privkey`) and the range of `KeyGen`.
-/
import PyEcc.Lemmas.BlsSem

namespace PyEcc.C01
open PyEcc PyEcc.BlsSem Gen.Consts

/-- **The suites' `curve_order` is the BLS12-381 group order `r`** (the constant imported by
    `ciphersuites.py` is the one of `py_ecc.bls12_381`, and of `py_ecc.optimized_bls12_381`). -/
theorem curveOrder_eq :
    curveOrder = bls12_381_curve_order ∧ curveOrder = optimized_bls12_381_curve_order ∧
    curveOrder = blsR := by
  decide

/-- **Exact accept set of `_is_valid_privkey`.**  An `int` argument `z` is accepted iff `1 ≤ z < r`
    (`bool` is an `int` in Python: `True` is `1`, accepted; `False` is `0`, rejected), and the key used
    afterwards is `z` itself. -/
theorem isValidPrivkey_int_iff (z : Int) (k : Nat) :
    isValidPrivkey (.int z) = some k ↔ 1 ≤ z ∧ z < (curveOrder : Int) ∧ k = z.toNat := by
  simp only [isValidPrivkey]
  constructor
  · intro h
    split at h
    · next hz => cases h; exact ⟨by omega, hz.2, rfl⟩
    · cases h
  · rintro ⟨h1, h2, rfl⟩
    have : z > 0 ∧ z < (curveOrder : Int) := ⟨by omega, h2⟩
    simp [this]

/-- **Anything that is not an `int` is rejected** (`isinstance(privkey, int)` fails: `str`, `float`,
    `None`, `bytes`, …). -/
theorem isValidPrivkey_other : isValidPrivkey .other = none := rfl

/-- rejection in terms of the value: an `int` is rejected iff it is outside `[1, r-1]` -/
theorem isValidPrivkey_none_iff (sk : PyArg) :
    isValidPrivkey sk = none ↔
      sk = .other ∨ ∃ z, sk = .int z ∧ ¬ (1 ≤ z ∧ z < (curveOrder : Int)) := by
  cases sk with
  | other => simp [isValidPrivkey]
  | int z =>
    simp only [isValidPrivkey]
    constructor
    · intro h
      split at h
      · cases h
      · next hz => exact .inr ⟨z, rfl, fun hh => hz ⟨by omega, hh.2⟩⟩
    · rintro (h | ⟨z', hz', hn⟩)
      · cases h
      · cases hz'
        have : ¬ (z > 0 ∧ z < (curveOrder : Int)) := fun hh => hn ⟨by omega, hh.2⟩
        simp [this]

/-- **A rejected secret key makes every signing-side API raise `ValidationError`.**  If
    `_is_valid_privkey(sk)` is false (not an `int`, or an `int` outside `[1, r-1]`: `0`, `r`, negative, …)
    then `SkToPk(sk)`, `Sign(sk, m)` (all three suites, every message, every hash function) and
    `PopProve(sk)` raise `ValidationError` — before any hashing or curve arithmetic. -/
theorem sk_rejected (H : HashFn) (s : Suite) (sk : PyArg) (m : Bytes) (h : isValidPrivkey sk = none) :
    skToPk sk = .error .validation ∧ sign H s sk m = .error .validation ∧
    popProve H sk = .error .validation := by
  have h1 : skToPk sk = .error .validation := by unfold skToPk; rw [h]
  have h2 : ∀ msg dst, coreSign H sk msg dst = .error .validation := by
    intro msg dst; unfold coreSign; rw [h]
  refine ⟨h1, ?_, ?_⟩
  · cases s
    · exact h2 _ _
    · show (skToPk sk >>= fun pk => coreSign H sk (pk ++ m) Suite.aug.dst) = _
      rw [h1]; rfl
    · exact h2 _ _
  · show (skToPk sk >>= fun pk => coreSign H sk pk popTag) = _
    rw [h1]; rfl

/-- non-vacuity: `0`, `r`, `-1` and non-ints are rejected -/
example : isValidPrivkey (.int 0) = none ∧ isValidPrivkey (.int curveOrder) = none ∧
    isValidPrivkey (.int (-1)) = none ∧ isValidPrivkey .other = none := by decide

/-- the boundary keys `1` and `r - 1` are accepted -/
example : isValidPrivkey (.int 1) = some 1 ∧
    isValidPrivkey (.int (curveOrder - 1 : Nat)) = some (curveOrder - 1) := by decide

/-- `hkdf_expand(prk, info, 48)` never raises: two HMAC blocks, counter bytes 1 and 2 -/
theorem hkdfExpand_48_ok (H : HashFn) (prk info : Bytes) : ∃ okm, hkdfExpand H prk info 48 = .ok okm := by
  simp [hkdfExpand, ceilDiv, hkdfExpandLoop, bind, Except.bind, pure, Except.pure]

/-- the `while SK == 0` loop of `KeyGen`, for every fuel and salt: what it returns lies in `[1, r-1]`, and its
    only `error` is fuel exhaustion (`i2osp(48, 2)` and `hkdf_expand(…, 48)` cannot raise) -/
theorem keyGenLoop_post (H : HashFn) (ikm info : Bytes) : ∀ (fuel : Nat) (salt : Bytes),
    Post (· = .other) (fun sk => 1 ≤ sk ∧ sk < curveOrder) (keyGenLoop H ikm info fuel salt) := by
  intro fuel
  induction fuel with
  | zero => intro salt; exact .throw rfl
  | succ f ih =>
    intro salt
    unfold keyGenLoop
    have hl : suites_keygen_L = 48 := rfl
    have hi : i2osp 48 2 = .ok (toBytesBE 2 48) := BytesLem.i2osp_ok (by decide)
    obtain ⟨okm, hokm⟩ := hkdfExpand_48_ok H (hkdfExtract H (H.run salt) (ikm ++ [0]))
      (info ++ toBytesBE 2 48)
    simp only [hl, hi, bind, Except.bind, pure, Except.pure, hokm]
    exact .ite (fun _ => ih _) fun hne => .pure ⟨Nat.pos_of_ne_zero hne, Nat.mod_lt _ (by decide)⟩

theorem keyGenLoop_range (H : HashFn) (ikm info : Bytes) (fuel : Nat) (salt : Bytes) (sk : Nat)
    (h : keyGenLoop H ikm info fuel salt = .ok sk) : 1 ≤ sk ∧ sk < curveOrder :=
  (keyGenLoop_post H ikm info fuel salt).ok h

/-- **Every value `KeyGen` returns is a valid secret key.**  If `KeyGen(IKM, key_info)` returns `sk`
    (any hash function, any byte strings) then `1 ≤ sk < r`, hence `_is_valid_privkey(sk)` accepts it. -/
theorem keyGen_range (H : HashFn) (ikm info : Bytes) (sk : Nat) (h : keyGen H ikm info = .ok sk) :
    1 ≤ sk ∧ sk < curveOrder ∧ isValidPrivkey (.int sk) = some sk := by
  obtain ⟨h1, h2⟩ := keyGenLoop_range H ikm info _ _ _ h
  refine ⟨h1, h2, ?_⟩
  rw [isValidPrivkey_int_iff]
  exact ⟨by omega, by omega, by simp⟩

/-- one round of the `while SK == 0` loop of `KeyGen`, from the current salt -/
def keyGenRound (H : HashFn) (ikm info salt : Bytes) : Except PyErr Nat := do
  let okm ← hkdfExpand H (hkdfExtract H (H.run salt) (ikm ++ [0])) (info ++ toBytesBE 2 48) 48
  pure (os2ip okm % curveOrder)

/-- **`KeyGen` returns after the first iteration unless `OKM ≡ 0 (mod r)`.**  If the first round's
    `os2ip(okm) % r` is non-zero, that value is the result. -/
theorem keyGen_first_iteration (H : HashFn) (ikm info : Bytes) (sk : Nat)
    (h : keyGenRound H ikm info "BLS-SIG-KEYGEN-SALT-".toUTF8.toList = .ok sk) (hne : sk ≠ 0) :
    keyGen H ikm info = .ok sk := by
  unfold keyGenRound at h
  obtain ⟨okm, hokm, hsk⟩ := bind_eq_ok h
  have hsk' := Except.ok.inj hsk
  unfold keyGen keyGenLoop
  have hl : suites_keygen_L = 48 := rfl
  have hi : i2osp 48 2 = .ok (toBytesBE 2 48) := BytesLem.i2osp_ok (by decide)
  simp only [hl, hi, bind, Except.bind, pure, Except.pure, hokm]
  rw [hsk']
  simp [hne]

/-- **`KeyGen` raises nothing.**  The only `error` of the model's `keyGen` is fuel exhaustion
    (`PyErr.other` after 64 consecutive rounds with `OKM ≡ 0 (mod r)`), where the Python `while` loop would
    simply continue; `i2osp(48, 2)` and `hkdf_expand(…, 48)` cannot raise. -/
theorem keyGen_error (H : HashFn) (ikm info : Bytes) (e : PyErr) (h : keyGen H ikm info = .error e) :
    e = .other :=
  (keyGenLoop_post H ikm info _ _).error h

/-- non-vacuity of `keyGen_range` / `keyGen_first_iteration`: with the (degenerate) hash function that
    maps everything to 32 bytes `0x01`, `KeyGen(b"", b"")` returns in the first round -/
example : ∃ sk, keyGen ⟨32, 64, fun _ => List.replicate 32 1⟩ [] [] = .ok sk ∧ sk ≠ 0 := by
  have h : (match keyGenRound ⟨32, 64, fun _ => List.replicate 32 1⟩ [] []
      "BLS-SIG-KEYGEN-SALT-".toUTF8.toList with
      | .ok sk => decide (sk ≠ 0) | .error _ => false) = true := by decide +kernel
  split at h
  · next sk hsk =>
    exact ⟨sk, keyGen_first_iteration _ _ _ _ hsk (of_decide_eq_true h), of_decide_eq_true h⟩
  · cases h

end PyEcc.C01
