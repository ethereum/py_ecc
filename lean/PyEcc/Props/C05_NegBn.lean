/-
  Property C05, clause "negating either argument inverts the value", bn128,
  UNCONDITIONALLY (no bilinearity hypothesis):

      pairing(Q, P) · pairing(Q, neg(P)) = FQ12.one(),     pairing(Q, P) · pairing(neg(Q), P) = FQ12.one()

  for the optimized `pairing` (`py_ecc/optimized_bn128/optimized_pairing.py`) and the reference `pairing`
  (`py_ecc/bn128/bn128_pairing.py`), for every reduced on-curve `Q` with `multiply(Q, curve_order) = ∞`,
  every on-curve `P` (∞ or not), any projective representatives.  The pairing value is never `FQ12.zero()`.

  Model: `pairingOptBn`, `pairingRefBn`, `optBnMillerLoop`, `refMillerLoop` (with its two Frobenius line
  steps) of `Model/Pairing.lean` around the GENERATED `linefunc` / `double` / `add` / `neg` / `is_on_curve`.

  Proof (`Lemmas/Neg*.lean`; same argument as `Props/C05_Neg.lean` for BLS12-381, run on the REFERENCE
  loop, to which the optimized one is tied by `C12_MillerBn`).  `σ : x ↦ x^(p⁶)` on
  `FQ12 = Fp[w]/(w¹² − 18w⁶ + 82)`, `σ w = −w`; a twisted point `(ψ(x)·w², ψ(y)·w³)` and its Frobenius
  images `π(Q)`, `−π²(Q)` have `x ∈ Fp⁶`, `y ∈ w·Fp⁶`; hence `f_Q(−P) = ±σ(f_Q(P))`, `f_{−Q}(P) = σ(f_Q(P))`,
  `f·σ(f) ∈ Fp⁶ \ {0}` is killed by `(p¹² − 1)/r`.  Non-vanishing: a non-vertical line value at `P` has
  `Fp⁶`-component `−y_P ≠ 0`; a vertical chord inside the loop or in the first Frobenius step makes the
  running point ∞ and the reference code raise; the last line `ℓ_{R, −π²(Q)}`, if vertical, has the value
  `x_P − x_{π²(Q)}`, and `x_P = x_{π²(Q)}` would force `y_{π²(Q)} = ±y_P ∈ Fp⁶ ∩ w·Fp⁶ = {0}` (both points
  lie on `y² = x³ + 3`).
-/
import PyEcc.Lemmas.NegBnPairing

namespace PyEcc.C05NegBn
open Polynomial PyEcc PyEcc.Gen PyEcc.Gen.Consts PyEcc.Fqp PyEcc.FqpSem PyEcc.Transfer PyEcc.TwistSem
  PyEcc.PairingSem PyEcc.MillerBnSem PyEcc.NegBnSem PyEcc.C13

/-- **The conjugation `σ : x ↦ x^(p⁶)` of bn128 `FQ12`**: `σ ∘ σ = id`, `σ(w) = −w`; `σ` fixes the base
    field, the image of `FQ2` under the twist embedding `i ↦ w⁶ − 9`, and `w²`; it negates `w` and `w³`.
    So `FQ12 = Fp⁶ ⊕ w·Fp⁶` (`InFp6 x : σ x = x`, `InWFp6 x : σ x = −x`), the sum is direct, `x·σ(x) ∈ Fp⁶`,
    and `(x·σ(x)) ^ ((p¹² − 1)/r) = 1` for `x ≠ 0`. -/
theorem Fp6_grading_bn :
    (∀ x : K12bn, sigma (sigma x) = x) ∧ sigma wbn = -wbn
      ∧ (∀ c : ZMod bnP, NegBnSem.InFp6 (ofZbn c)) ∧ (∀ a : K2bn, NegBnSem.InFp6 (psiBn a))
      ∧ NegBnSem.InFp6 (wbn ^ 2) ∧ InWFp6 wbn ∧ InWFp6 (wbn ^ 3)
      ∧ (∀ e o : K12bn, NegBnSem.InFp6 e → InWFp6 o → e + o = 0 → e = 0 ∧ o = 0)
      ∧ (∀ x : K12bn, NegBnSem.InFp6 (x * sigma x))
      ∧ (∀ x : K12bn, x ≠ 0 → (x * sigma x) ^ bnFinalExp = 1) :=
  ⟨sigma_sigma, sigma_w, fun c => ConjSem.of_pow c 6, inFp6_psi, inFp6_w2, sigma_w, odd_w3,
    fun _ _ he ho h => ConjSem.even_add_odd_eq_zero k12bn_two he ho h, ConjSem.even_mul_sigma sigma_sigma,
    fun _ h => ConjSem.norm_pow_eq_one sigma_sigma (fun _ => pow_finalExp_of_inFp6) h⟩

/-- **Negating the G1 argument inverts the pairing** (optimized bn128, unconditional).
    For every reduced FQ2 triple `Q` on the twist curve with `multiply(Q, curve_order) = ∞` and every FQ
    triple `P` on the G1 curve (any projective representatives; ∞ allowed): `pairing(Q, P)` and
    `pairing(Q, neg(P))` both return, values `v`, `v'` with `v * v' == FQ12.one()` (coefficient lists of the
    executable model), and `v` is not `FQ12.zero()`. -/
theorem pairingOptBn_neg_right (Q : BnG2Pt) (P : BnG1Pt) (cQ : CanonT Q)
    (honQ : OptBn.is_on_curve Q bnB2 = true)
    (honP : OptBn.is_on_curve P (Fq.ofInt optimized_bn128_b : Fq bnP) = true)
    (hsub : OptBn.is_inf (OptBn.multiply Q optimized_bn128_curve_order) = true) :
    ∃ v v' : OBn12, pairingOptBn Q P true = .ok v ∧ pairingOptBn Q (OptBn.neg P) true = .ok v'
      ∧ v ≠ 0 ∧ v * v' = 1 := by
  classical
  obtain ⟨v, v', e, e', _, _, h0, h⟩ := pairingBn_neg_right_core Q P cQ honQ honP hsub
  exact ⟨v, v', e, e', h0, h⟩

/-- **Negating the G2 argument inverts the pairing** (optimized bn128, unconditional).  Same hypotheses:
    `pairing(Q, P)` and `pairing(neg(Q), P)` both return, values `v`, `v''` with `v * v'' == FQ12.one()`. -/
theorem pairingOptBn_neg_left (Q : BnG2Pt) (P : BnG1Pt) (cQ : CanonT Q)
    (honQ : OptBn.is_on_curve Q bnB2 = true)
    (honP : OptBn.is_on_curve P (Fq.ofInt optimized_bn128_b : Fq bnP) = true)
    (hsub : OptBn.is_inf (OptBn.multiply Q optimized_bn128_curve_order) = true) :
    ∃ v v'' : OBn12, pairingOptBn Q P true = .ok v ∧ pairingOptBn (OptBn.neg Q) P true = .ok v''
      ∧ v * v'' = 1 := by
  classical
  obtain ⟨v, v', e, e', _, _, h⟩ := pairingBn_neg_left_core Q P cQ honQ honP hsub
  exact ⟨v, v', e, e', h⟩

/-- **Negating the G1 argument inverts the pairing** (reference bn128).  Let `q : Optional[(FQ2, FQ2)]`
    (reduced coefficients) and `p : Optional[(FQ, FQ)]` be on their curves, `q` killed by `curve_order` —
    expressed through any projective representative `Q` of `q` (e.g. `q = refOfOptG2 Q`); `P` any
    representative of `p`.  Then `pairing(q, p)` and `pairing(q, neg(p))` of `py_ecc.bn128` both return,
    values `u`, `u'` with `u * u' == FQ12.one()`. -/
theorem pairingRefBn_neg_right [DecidableEq K2bn] (Q : BnG2Pt) (P : BnG1Pt) (q : Option (RBn2 × RBn2))
    (p : Option (Fq bnP × Fq bnP)) (cQ : CanonT Q) (cq : GoodO Canon q)
    (hQ : toAff (mapT toQ Q) = mapO (toQ : RBn2 → K2bn) q) (hP : toAff P = p)
    (honQ : OptBn.is_on_curve Q bnB2 = true)
    (honP : OptBn.is_on_curve P (Fq.ofInt optimized_bn128_b : Fq bnP) = true)
    (hsub : OptBn.is_inf (OptBn.multiply Q optimized_bn128_curve_order) = true) :
    ∃ u u' : RBn12, pairingRefBn q p = .ok u ∧ pairingRefBn q (RefBn.neg p) = .ok u'
      ∧ u * u' = 1 := by
  classical
  obtain ⟨v, v', e, e', c, c', _, h⟩ := pairingBn_neg_right_core Q P cQ honQ honP hsub
  have t := C12MB.pairingOptBn_eq_pairingRefBn_subgroup Q P q p cQ cq hQ hP hsub
  have hP' : toAff (OptBn.neg P) = RefBn.neg p := hP ▸ C13.Bls.opt_neg_toAff P
  have t' := C12MB.pairingOptBn_eq_pairingRefBn_subgroup Q (OptBn.neg P) q _ cQ cq hQ hP' hsub
  rw [e] at t
  rw [e'] at t'
  exact NegSem.ok_mul_eq_one_of_coeffs goodHom_F12bn goodHom_F12bn c c' t t' h

/-- **Negating the G2 argument inverts the pairing** (reference bn128).  Same hypotheses: `pairing(q, p)`
    and `pairing(neg(q), p)` both return, values `u`, `u''` with `u * u'' == FQ12.one()`. -/
theorem pairingRefBn_neg_left [DecidableEq K2bn] (Q : BnG2Pt) (P : BnG1Pt) (q : Option (RBn2 × RBn2))
    (p : Option (Fq bnP × Fq bnP)) (cQ : CanonT Q) (cq : GoodO Canon q)
    (hQ : toAff (mapT toQ Q) = mapO (toQ : RBn2 → K2bn) q) (hP : toAff P = p)
    (honQ : OptBn.is_on_curve Q bnB2 = true)
    (honP : OptBn.is_on_curve P (Fq.ofInt optimized_bn128_b : Fq bnP) = true)
    (hsub : OptBn.is_inf (OptBn.multiply Q optimized_bn128_curve_order) = true) :
    ∃ u u'' : RBn12, pairingRefBn q p = .ok u ∧ pairingRefBn (RefBn.neg q) p = .ok u''
      ∧ u * u'' = 1 := by
  classical
  obtain ⟨v, v', e, e', c, c', h⟩ := pairingBn_neg_left_core Q P cQ honQ honP hsub
  obtain ⟨cN, _, hsubN⟩ := neg_G2bn_facts cQ honQ hsub
  obtain ⟨cqN, hQN⟩ := NegSem.toAff_neg_of_good goodHom_F2bn (goodHom_F2bn (v := .ref)) cQ cq hQ
  have t := C12MB.pairingOptBn_eq_pairingRefBn_subgroup Q P q p cQ cq hQ hP hsub
  have t' := C12MB.pairingOptBn_eq_pairingRefBn_subgroup (OptBn.neg Q) P _ p cN cqN hQN hP hsubN
  rw [e] at t
  rw [e'] at t'
  exact NegSem.ok_mul_eq_one_of_coeffs goodHom_F12bn goodHom_F12bn c c' t t' h

/-- the generators satisfy the hypotheses of `pairingOptBn_neg_right`, `pairingOptBn_neg_left` -/
example : CanonT bnG2 ∧ OptBn.is_on_curve bnG2 bnB2 = true
    ∧ OptBn.is_on_curve bnG1 (Fq.ofInt optimized_bn128_b : Fq bnP) = true
    ∧ OptBn.is_inf (OptBn.multiply bnG2 optimized_bn128_curve_order) = true :=
  ⟨by classical exact C07M.Bn.bnG2_point.1, C07.Facts.bn_G2_opt.1, C07M.Bn.bnG1_facts.1,
    C07.Facts.bn_G2_opt.2.2⟩

/-- … and those of the reference forms, with `q := refOfOptG2 G2`, `p := refOfOptG1 G1` -/
example [DecidableEq K2bn] : GoodO Canon (C12MB.refOfOptG2 bnG2)
    ∧ toAff (mapT toQ bnG2) = mapO (toQ : RBn2 → K2bn) (C12MB.refOfOptG2 bnG2)
    ∧ toAff bnG1 = C12MB.refOfOptG1 bnG1 :=
  ⟨(C12MB.refOfOptG2_repr C07M.Bn.bnG2_point.1).1, (C12MB.refOfOptG2_repr C07M.Bn.bnG2_point.1).2,
    C12MB.refOfOptG1_repr bnG1⟩

end PyEcc.C05NegBn
