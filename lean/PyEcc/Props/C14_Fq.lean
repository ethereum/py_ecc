/-
  Property C14, prime-field part, and `sgn0` of all optimized field classes.

  The reference class `field_elements.FQ` and the optimized class `optimized_field_elements.FQ` are
  line-for-line the same apart from `sgn0`, and both are modelled by the ONE type `Fq p`
  (`PyEcc/Model/Fq.lean`; the correspondence harness ties both classes to it), so
  "optimized op = reference op" holds by reflexivity for `+ - * / ** neg inv` and the int-operand
  forms.  What is proved here is that the extra method `sgn0` of the optimized classes (`FQ`, and `FQP` /
  `FQ2`) is the `sgn0` of RFC 9380 §4.1 (`PyEcc/Spec/Rfc9380Sgn0.lean`).
-/
import PyEcc.Sem.FqZMod
import PyEcc.Lemmas.Sgn0Loop
import Mathlib.Tactic.Ring

namespace PyEcc.C14Fq
open PyEcc

/-- optimized `FQ.sgn0` is RFC 9380 `sgn0` for extension degree `m = 1`, applied to the canonical
    representative `n` -/
theorem fq_sgn0_eq_spec {p : ℕ} (a : Fq p) : Fq.sgn0 a = Spec.Sgn0.sgn0 [a.n] := by
  unfold Fq.sgn0 Spec.Sgn0.sgn0
  simp only [List.foldl_cons, List.foldl_nil, Spec.Sgn0.step, Bool.false_or, Bool.true_and]
  rcases Nat.mod_two_eq_zero_or_one a.n with h | h <;> simp [h]

/-- optimized `FQ.sgn0` is RFC 9380 `sgn0_m_eq_1` -/
theorem fq_sgn0_eq_m1 {p : ℕ} (a : Fq p) : Fq.sgn0 a = Spec.Sgn0.sgn0_m_eq_1 a.n := rfl

/-- `sgn0` is `0` or `1` -/
theorem fq_sgn0_le_one {p : ℕ} (a : Fq p) : Fq.sgn0 a ≤ 1 := by
  unfold Fq.sgn0; omega

/-- `sgn0(FQ(0)) = 0` -/
theorem fq_sgn0_zero {p : ℕ} [NeZero p] : Fq.sgn0 (Fq.ofInt 0 : Fq p) = 0 := by
  have : (Fq.ofInt 0 : Fq p).n = 0 := by
    have := Fq.n_ofInt (p := p) 0
    simpa using this
  simp [Fq.sgn0, this]

/-- for an odd modulus, negation flips the sign of every non-zero element:
    `sgn0(-a) = 1 - sgn0(a)` (this is what makes `sgn0` a "sign") -/
theorem fq_sgn0_neg {p : ℕ} [NeZero p] (hp : p % 2 = 1) (a : Fq p) (ha : a ≠ Fq.ofInt 0) :
    Fq.sgn0 (Fq.neg a) = 1 - Fq.sgn0 a := by
  have hlt := a.lt
  have h0 : (Fq.ofInt 0 : Fq p).n = 0 := by
    have := Fq.n_ofInt (p := p) 0
    simpa using this
  have hne : a.n ≠ 0 := fun h => ha (Fq.ext (h.trans h0.symm))
  have hn : ((Fq.neg a).n : ℤ) = (p : ℤ) - a.n := by
    unfold Fq.neg
    rw [Fq.n_ofInt]
    have : -(a.n : ℤ) = ((p : ℤ) - a.n) + (-1) * p := by ring
    rw [this, Int.add_mul_emod_self_right]
    exact Int.emod_eq_of_lt (by omega) (by omega)
  unfold Fq.sgn0
  omega

example : Fq.sgn0 (Fq.neg (Fq.ofInt 3 : Fq 7)) = 1 - Fq.sgn0 (Fq.ofInt 3 : Fq 7) :=
  fq_sgn0_neg (by decide) _ (by decide)

/-! ### the extension-field `sgn0` (optimized `FQP.sgn0`, `FQ2.sgn0`) -/

section fqp
variable {v : Variant} {p : ℕ} {mc : List ℤ}

/-- optimized generic `FQP.sgn0` is RFC 9380 `sgn0` (generic `m`) on the coefficient list, for every
    element whose coefficients are non-negative (all elements built by the constructor are). -/
theorem fqp_sgn0_eq_spec (a : Fqp v p mc) (ha : ∀ x ∈ a.coeffs, 0 ≤ x) :
    Fqp.sgn0 a = Spec.Sgn0.sgn0 (a.coeffs.map Int.toNat) := by
  unfold Fqp.sgn0 Spec.Sgn0.sgn0
  exact FqSem.sgn0_foldl a.coeffs ha false true

/-- optimized `FQ2.sgn0` (the hand-unrolled `m = 2` variant) is RFC 9380 `sgn0_m_eq_2`, and agrees with
    the generic loop, on two-coefficient elements with non-negative coefficients. -/
theorem fq2_sgn0_eq_spec (a : Fqp v p mc) (x0 x1 : ℤ) (hc : a.coeffs = [x0, x1]) (h0 : 0 ≤ x0) (h1 : 0 ≤ x1) :
    Fqp.sgn0_fq2 a = Spec.Sgn0.sgn0_m_eq_2 x0.toNat x1.toNat ∧ Fqp.sgn0_fq2 a = Fqp.sgn0 a := by
  obtain ⟨k0, rfl⟩ := Int.eq_ofNat_of_zero_le h0
  obtain ⟨k1, rfl⟩ := Int.eq_ofNat_of_zero_le h1
  have e0 : ((k0 : ℤ) % 2).toNat = k0 % 2 := by omega
  have e1 : ((k1 : ℤ) % 2).toNat = k1 % 2 := by omega
  have hspec : Fqp.sgn0_fq2 a = Spec.Sgn0.sgn0_m_eq_2 (k0 : ℤ).toNat (k1 : ℤ).toNat := by
    unfold Fqp.sgn0_fq2 Spec.Sgn0.sgn0_m_eq_2
    simp only [hc, getI, List.getD_cons_zero, List.getD_cons_succ, Int.toNat_natCast, e0, e1]
    rcases Nat.mod_two_eq_zero_or_one k0 with h | h <;>
      rcases Nat.mod_two_eq_zero_or_one k1 with h' | h' <;> simp [h, h', beq_eq_decide, Int.natCast_eq_zero]
  refine ⟨hspec, ?_⟩
  rw [hspec, fqp_sgn0_eq_spec a (by rw [hc]; simp)]
  unfold Spec.Sgn0.sgn0_m_eq_2 Spec.Sgn0.sgn0
  simp only [hc, List.map_cons, List.map_nil, List.foldl_cons, List.foldl_nil, Spec.Sgn0.step,
    Bool.false_or, Bool.true_and]

/-- every object built by the `FQP` constructor (which all operations end in) has non-negative
    coefficients, so for those `FQP.sgn0` is RFC 9380 `sgn0` of the reduced coefficients `c mod p`. -/
theorem fqp_sgn0_ofInts (hp : 0 < p) (cs : List ℤ) :
    Fqp.sgn0 (Fqp.ofInts cs : Fqp v p mc) = Spec.Sgn0.sgn0 (cs.map (fun c => (c % (p : ℤ)).toNat)) := by
  rw [fqp_sgn0_eq_spec]
  · simp [Fqp.ofInts, List.map_map, Function.comp_def]
  · intro x hx
    simp only [Fqp.ofInts, List.mem_map] at hx
    obtain ⟨c, _, rfl⟩ := hx
    exact Int.emod_nonneg _ (by omega)

example : ∀ x ∈ (Fqp.ofInts [-3, 12] : Fqp .opt 7 [1, 0]).coeffs, 0 ≤ x := by decide

end fqp

end PyEcc.C14Fq
