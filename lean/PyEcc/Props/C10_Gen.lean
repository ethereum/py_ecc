/-
  PyEcc.Props.C10_Gen — property C10 restated about the GENERATED code.

  `Gen/ExtraSwu.lean` (`sqrt_division_FQ/FQ2`, `optimized_swu_G1/G2`, `map_to_curve_G1/G2`, `clear_cofactor_G1/G2`,
  `hash_to_G1/G2`), `Gen/ExtraHashIso.lean` (`iso_map_G1/G2`) and `Gen/ExtraHash.lean` (`hash_to_field_FQ/FQ2`,
  `expand_message_xmd`) are re-generated from the Python source of py_ecc on every run.  Every theorem below is a
  headline theorem of `Props/C10.lean`, `C10_G2.lean`, `C10_Iso.lean`, `C10_Struct.lean`, `C17_Order.lean`
  (`hash_good_proved`) in which each py_ecc function is the GENERATED definition (`PyEcc.Gen.Extra….f`,
  `PyEcc.Gen.OptBls.*`), obtained by rewriting with the tie theorems (`Props/TieSwu.lean`, `TieCofactor.lean`,
  `TieHashIso.lean`, `TieHash.lean`) and applying the model theorem.  Hypotheses are those of the model theorems,
  unchanged; the only guard that comes from a tie is "`Z` is a reduced `FQ2` value" for `iso_map_G2`
  (`Tie.iso_map_G2_eq_wf`), which the model theorem requires anyway (`Canon Z`).

  Reading: `FQ` objects are read through `Fq.toZMod : Fq blsP → ZMod blsP`; optimized `FQ2` objects (`F2`) through
  `q = toQ : F2 → K2 = Fp[X]/(X²+1)`, on reduced elements (`Canon t`: two coefficients in `[0, p)`, what every Python
  `FQ2` holds).  The RFC 9380 side (`Spec.IsSswu`, `Spec.mapToCurveSimpleSwu`, `Spec.sswuX1`, `Spec.sgn0Fp`,
  constants `Spec.H2C.*`) is in `PyEcc/Spec/`.
-/
import PyEcc.Props.C17_Order
import PyEcc.Props.TieSwu
import PyEcc.Props.TieHashIso
import PyEcc.Props.TieHash

namespace PyEcc.C10.Gen
open PyEcc PyEcc.Gen.Consts PyEcc.Spec PyEcc.SwuSem

/-! ## G1: `sqrt_division_FQ`, `optimized_swu_G1` -/

/-- **Generated `sqrt_division_FQ(u, v)` is correct** for every `u` and every `v ≠ 0`: it returns `(True, r)`
    exactly when `u/v` is a square in `Fp`, and then `r² = u/v`; otherwise it returns `(False, r)` with
    `r² = −u/v`. -/
theorem sqrt_division_FQ_correct (u v : F1) (hv : v ≠ 0) :
    ((Gen.ExtraSwu.sqrt_division_FQ u v).1 = true ↔ IsSquare (Fq.toZMod u / Fq.toZMod v)) ∧
    ((Gen.ExtraSwu.sqrt_division_FQ u v).1 = true →
      Fq.toZMod (Gen.ExtraSwu.sqrt_division_FQ u v).2 ^ 2 = Fq.toZMod u / Fq.toZMod v) ∧
    ((Gen.ExtraSwu.sqrt_division_FQ u v).1 = false →
      Fq.toZMod (Gen.ExtraSwu.sqrt_division_FQ u v).2 ^ 2 = -(Fq.toZMod u / Fq.toZMod v)) := by
  rw [Tie.sqrt_division_FQ_eq]; exact C10.sqrt_division_FQ_correct u v hv

example : (1 : F1) ≠ 0 := by decide +kernel

/-- **C10, summary (G1): generated `optimized_swu_G1` = RFC 9380 `map_to_curve_simple_swu`.**  For every field
    element `t` (exceptional inputs included, no hypothesis), with `(N, Y, D) = optimized_swu_G1(t)`: the affine
    point `(N/D, Y/D)` is related to `t` by the specification `Spec.IsSswu` of RFC 9380 §6.6.2 with the constants
    `A'`, `B'`, `Z = 11` of §8.8.1 and `sgn0` of §4.1 (which determines `(x, y)` uniquely). -/
theorem swu_G1_is_sswu (t : F1) :
    Spec.IsSswu Spec.sgn0Fp A' B' Z' (Fq.toZMod t)
      (Fq.toZMod (Gen.ExtraSwu.optimized_swu_G1 t).1 / Fq.toZMod (Gen.ExtraSwu.optimized_swu_G1 t).2.2)
      (Fq.toZMod (Gen.ExtraSwu.optimized_swu_G1 t).2.1 / Fq.toZMod (Gen.ExtraSwu.optimized_swu_G1 t).2.2) := by
  rw [Tie.optimized_swu_G1_eq]; exact C10.swu_G1_is_sswu t

/-- **C10 (G1): the denominator returned by the generated `optimized_swu_G1` is non-zero and the point is on the
    isogenous curve** `y² = x³ + A'x + B'`, for every `t`. -/
theorem swu_G1_on_iso_curve (t : F1) :
    (Gen.ExtraSwu.optimized_swu_G1 t).2.2 ≠ 0 ∧ Fq.toZMod (Gen.ExtraSwu.optimized_swu_G1 t).2.2 ≠ 0 ∧
    (Fq.toZMod (Gen.ExtraSwu.optimized_swu_G1 t).2.1 / Fq.toZMod (Gen.ExtraSwu.optimized_swu_G1 t).2.2) ^ 2 =
      (Fq.toZMod (Gen.ExtraSwu.optimized_swu_G1 t).1 / Fq.toZMod (Gen.ExtraSwu.optimized_swu_G1 t).2.2) ^ 3
        + A' * (Fq.toZMod (Gen.ExtraSwu.optimized_swu_G1 t).1 / Fq.toZMod (Gen.ExtraSwu.optimized_swu_G1 t).2.2)
        + B' := by
  rw [Tie.optimized_swu_G1_eq]; exact C10.swu_G1_on_iso_curve t

/-- **C10 (G1): the `x`-coordinate and the branch are the RFC's.**  If `g(x1)` is a square in `Fp` then
    `N/D = x1`, otherwise `N/D = x2 = Z·t²·x1` (`Spec.sswuX1`, RFC 9380 §6.6.2 steps 1–3, including the
    exceptional-case replacement). -/
theorem swu_G1_x_is_rfc (t : F1) :
    (IsSquare (sswuG A' B' (sswuX1 A' B' Z' (Fq.toZMod t))) →
      Fq.toZMod (Gen.ExtraSwu.optimized_swu_G1 t).1 / Fq.toZMod (Gen.ExtraSwu.optimized_swu_G1 t).2.2
        = sswuX1 A' B' Z' (Fq.toZMod t)) ∧
    (¬ IsSquare (sswuG A' B' (sswuX1 A' B' Z' (Fq.toZMod t))) →
      Fq.toZMod (Gen.ExtraSwu.optimized_swu_G1 t).1 / Fq.toZMod (Gen.ExtraSwu.optimized_swu_G1 t).2.2
        = Z' * Fq.toZMod t ^ 2 * sswuX1 A' B' Z' (Fq.toZMod t)) := by
  rw [Tie.optimized_swu_G1_eq]; exact C10.swu_G1_x_is_rfc t

/-- **C10 (G1): exceptional inputs.**  If `Z²t⁴ + Zt² = 0` — in particular for `t = 0` — the generated
    `optimized_swu_G1` returns the point with `x = B'/(Z·A')`, RFC 9380's exceptional-case value. -/
theorem swu_G1_exceptional (t : F1) (h : Z' ^ 2 * Fq.toZMod t ^ 4 + Z' * Fq.toZMod t ^ 2 = 0) :
    Fq.toZMod (Gen.ExtraSwu.optimized_swu_G1 t).1 / Fq.toZMod (Gen.ExtraSwu.optimized_swu_G1 t).2.2 = B' / (Z' * A') ∧
    IsSquare (sswuG A' B' (B' / (Z' * A'))) := by
  rw [Tie.optimized_swu_G1_eq]; exact C10.swu_G1_exceptional t h

example : Z' ^ 2 * Fq.toZMod (0 : F1) ^ 4 + Z' * Fq.toZMod (0 : F1) ^ 2 = 0 := by
  rw [Fq.toZMod_zero]; ring

/-- **C10 (G1): sign and non-vanishing of `y`.**  For every `t`, `y = Y/D ≠ 0` and `sgn0(y) = sgn0(t)`, both for
    RFC 9380's `sgn0` of the residues and for the library's own `FQ.sgn0` applied to `Y / D`. -/
theorem swu_G1_sgn0 (t : F1) :
    Fq.toZMod (Gen.ExtraSwu.optimized_swu_G1 t).2.1 / Fq.toZMod (Gen.ExtraSwu.optimized_swu_G1 t).2.2 ≠ 0 ∧
    Spec.sgn0Fp (Fq.toZMod (Gen.ExtraSwu.optimized_swu_G1 t).2.1 / Fq.toZMod (Gen.ExtraSwu.optimized_swu_G1 t).2.2)
      = Spec.sgn0Fp (Fq.toZMod t) ∧
    ((Gen.ExtraSwu.optimized_swu_G1 t).2.1 / (Gen.ExtraSwu.optimized_swu_G1 t).2.2).sgn0 = t.sgn0 := by
  rw [Tie.optimized_swu_G1_eq]; exact ⟨C10.swu_G1_y_ne_zero t, C10.swu_G1_sgn0 t⟩

/-- **C10 (G1): equality with the straight-line RFC procedure.**  For every correct square-root function `sqrt`
    on `Fp`, the affine point computed by the generated `optimized_swu_G1(t)` equals the output of RFC 9380 §6.6.2
    `map_to_curve_simple_swu(t)` (`Spec.mapToCurveSimpleSwu`, steps 1–10 verbatim). -/
theorem swu_G1_eq_rfc_function (sqrt : ZMod blsP → ZMod blsP)
    (hsqrt : ∀ a, IsSquare a → sqrt a ^ 2 = a) (t : F1) :
    (Fq.toZMod (Gen.ExtraSwu.optimized_swu_G1 t).1 / Fq.toZMod (Gen.ExtraSwu.optimized_swu_G1 t).2.2,
      Fq.toZMod (Gen.ExtraSwu.optimized_swu_G1 t).2.1 / Fq.toZMod (Gen.ExtraSwu.optimized_swu_G1 t).2.2)
      = Spec.mapToCurveSimpleSwu Spec.sgn0Fp sqrt A' B' Z' (Fq.toZMod t) := by
  rw [Tie.optimized_swu_G1_eq]; exact C10.swu_G1_eq_rfc_function sqrt hsqrt t

/-- a correct square-root function on `Fp` exists (non-vacuity of the hypothesis above) -/
example : ∃ sqrt : ZMod blsP → ZMod blsP, ∀ a, IsSquare a → sqrt a ^ 2 = a := exists_sqrt

/-! ## G2: `sqrt_division_FQ2`, `optimized_swu_G2` -/

section G2swu
open PyEcc.Fqp PyEcc.FqpSem PyEcc.Swu2

/-- **The generated `optimized_swu_G2` never raises.**  For every reduced field element `t` (two coefficients in
    `[0, p)`), `optimized_swu_G2(t)` returns a triple: the branch
    `raise Exception("Hash to Curve - Optimized SWU failure")` is unreachable. -/
theorem swu_G2_total (t : F2) (ht : Canon t) : ∃ N Y D, Gen.ExtraSwu.optimized_swu_G2 t = .ok (N, Y, D) := by
  rw [Tie.optimized_swu_G2_eq]; exact ⟨_, _, _, C10G2.swu_G2_total t ht⟩

example : Canon (f2c [3, 5]) := cn_f2c (a := 3) (b := 5) (by decide) (by decide)

/-- the same on every `a + b·i`, `0 ≤ a, b < p` (the form `BlsSem.SwuTotal` used by the totality theorems of C04) -/
theorem swu_G2_total_range (a b : ℕ) (ha : a < blsP) (hb : b < blsP) :
    ∃ r, Gen.ExtraSwu.optimized_swu_G2 (f2c [(a : ℤ), (b : ℤ)]) = .ok r := by
  rw [Tie.optimized_swu_G2_eq]; exact C10G2.swuTotal a b ha hb

example : (5 : ℕ) < blsP := by decide

/-- **Generated `sqrt_division_FQ2(u, v)` is correct** for reduced `u`, `v ≠ 0`: it returns `(True, r)` exactly when
    `u/v` is a square in `Fp²`, and then `r² = u/v`. -/
theorem sqrt_division_FQ2_correct (u v : F2) (hu : Canon u) (hv : Canon v) (hv0 : v ≠ 0) :
    ((Gen.ExtraSwu.sqrt_division_FQ2 u v).1 = true ↔ IsSquare (q u / q v)) ∧
    ((Gen.ExtraSwu.sqrt_division_FQ2 u v).1 = true →
      q (Gen.ExtraSwu.sqrt_division_FQ2 u v).2 ^ 2 = q u / q v) := by
  rw [Tie.sqrt_division_FQ2_eq]; exact C10G2.sqrt_division_FQ2_correct u v hu hv hv0

example : Canon (1 : F2) ∧ (1 : F2) ≠ 0 := by decide +kernel

/-- **C10, summary (G2): generated `optimized_swu_G2` = RFC 9380 `map_to_curve_simple_swu`.**  For every reduced
    `t`, with `(N, Y, D) = optimized_swu_G2(t)`: the affine point `(N/D, Y/D)` is related to `t` by `Spec.IsSswu`
    of RFC 9380 §6.6.2 with `A' = 240i`, `B' = 1012(1+i)`, `Z = −(2+i)` of §8.8.2 and `sgn0` of §4.1 (`m = 2`). -/
theorem swu_G2_is_sswu (t : F2) (ht : Canon t) (N Y D : F2)
    (h : Gen.ExtraSwu.optimized_swu_G2 t = .ok (N, Y, D)) :
    Spec.IsSswu sgn0K2 kA kB kZ (q t) (q N / q D) (q Y / q D) := by
  rw [Tie.optimized_swu_G2_eq] at h; exact C10G2.swu_G2_is_sswu t ht N Y D h

/-- non-vacuity of the hypotheses `Canon t`, `optimized_swu_G2(t) = (N, Y, D)`: they hold e.g. for `t = 1 + i`
    (and, by `swu_G2_total`, the second one for every reduced `t`) -/
example : Canon (f2c [1, 1]) ∧ ∃ N Y D, Gen.ExtraSwu.optimized_swu_G2 (f2c [1, 1]) = .ok (N, Y, D) :=
  ⟨cn_f2c (a := 1) (b := 1) (by decide) (by decide),
    swu_G2_total _ (cn_f2c (a := 1) (b := 1) (by decide) (by decide))⟩

/-- **C10 (G2): the returned values are reduced, the denominator is non-zero and the point is on the isogenous
    curve** `y² = x³ + 240i·x + 1012(1+i)` over `Fp²`. -/
theorem swu_G2_on_iso_curve (t : F2) (ht : Canon t) (N Y D : F2)
    (h : Gen.ExtraSwu.optimized_swu_G2 t = .ok (N, Y, D)) :
    Canon N ∧ Canon Y ∧ Canon D ∧ D ≠ 0 ∧ q D ≠ 0 ∧
    (q Y / q D) ^ 2 = (q N / q D) ^ 3 + kA * (q N / q D) + kB := by
  rw [Tie.optimized_swu_G2_eq] at h; exact C10G2.swu_G2_on_iso_curve t ht N Y D h

/-- **C10 (G2): the `x`-coordinate and the branch are the RFC's.** -/
theorem swu_G2_x_is_rfc (t : F2) (ht : Canon t) (N Y D : F2)
    (h : Gen.ExtraSwu.optimized_swu_G2 t = .ok (N, Y, D)) :
    (IsSquare (sswuG kA kB (sswuX1 kA kB kZ (q t))) → q N / q D = sswuX1 kA kB kZ (q t)) ∧
    (¬ IsSquare (sswuG kA kB (sswuX1 kA kB kZ (q t))) →
      q N / q D = kZ * q t ^ 2 * sswuX1 kA kB kZ (q t)) := by
  rw [Tie.optimized_swu_G2_eq] at h; exact C10G2.swu_G2_x_is_rfc t ht N Y D h

/-- **C10 (G2): sign and non-vanishing of `y`.**  `y = Y/D ≠ 0` and `sgn0(y) = sgn0(t)` for every reduced `t`, for
    the library's own `FQ2.sgn0` on `Y / D` and for RFC 9380's `sgn0` (`m = 2`) on the values in `Fp²`. -/
theorem swu_G2_sgn0 (t : F2) (ht : Canon t) (N Y D : F2)
    (h : Gen.ExtraSwu.optimized_swu_G2 t = .ok (N, Y, D)) :
    q Y / q D ≠ 0 ∧ Fqp.sgn0_fq2 (Y / D) = Fqp.sgn0_fq2 t ∧ sgn0K2 (q Y / q D) = sgn0K2 (q t) := by
  rw [Tie.optimized_swu_G2_eq] at h
  exact ⟨C10G2.swu_G2_y_ne_zero t ht N Y D h, C10G2.swu_G2_sgn0 t ht N Y D h⟩

/-- **C10 (G2): equality with the straight-line RFC procedure**, for every correct square-root function on `Fp²`. -/
theorem swu_G2_eq_rfc_function (sqrt : K2 → K2) (hsqrt : ∀ a, IsSquare a → sqrt a ^ 2 = a)
    (t : F2) (ht : Canon t) (N Y D : F2) (h : Gen.ExtraSwu.optimized_swu_G2 t = .ok (N, Y, D)) :
    (q N / q D, q Y / q D) = Spec.mapToCurveSimpleSwu sgn0K2 sqrt kA kB kZ (q t) := by
  rw [Tie.optimized_swu_G2_eq] at h; exact C10G2.swu_G2_eq_rfc_function sqrt hsqrt t ht N Y D h

/-- a correct square-root function on `Fp²` exists (non-vacuity of the hypothesis above) -/
example : ∃ sqrt : K2 → K2, ∀ a, IsSquare a → sqrt a ^ 2 = a := exists_sqrt

/-- **C10 (G2): exceptional inputs.**  If `Z²t⁴ + Zt² = 0` — in particular for `t = 0` — the generated
    `optimized_swu_G2` returns the point with `x = B'/(Z·A')`, RFC 9380's exceptional-case value. -/
theorem swu_G2_exceptional (t : F2) (ht : Canon t) (N Y D : F2)
    (h : Gen.ExtraSwu.optimized_swu_G2 t = .ok (N, Y, D))
    (h0 : kZ ^ 2 * q t ^ 4 + kZ * q t ^ 2 = 0) :
    q N / q D = kB / (kZ * kA) ∧ IsSquare (sswuG kA kB (kB / (kZ * kA))) := by
  rw [Tie.optimized_swu_G2_eq] at h; exact C10G2.swu_G2_exceptional t ht N Y D h h0

example : Canon (0 : F2) ∧ kZ ^ 2 * q (0 : F2) ^ 4 + kZ * q (0 : F2) ^ 2 = 0 :=
  ⟨goodHom_q.good_zero, by rw [goodHom_q.map_zero]; ring⟩

end G2swu

/-! ## the isogenies `iso_map_G1`, `iso_map_G2` and `map_to_curve` -/

/-- **The generated `iso_map_G1` never raises**: every `IndexError` branch of the translated list code
    (`mapped_values[i]`, `z_powers[…]`, `k_i[-1]`) is dead on the module's coefficient table, for all inputs. -/
theorem iso_map_G1_total (X Y Z : F1) : ∃ R, Gen.ExtraHashIso.iso_map_G1 X Y Z = .ok R :=
  ⟨_, Tie.iso_map_G1_eq X Y Z⟩

/-- **C10 (G1 isogeny): generated `iso_map_G1` maps `E1'` into `E1`.**  For every projective input `(X : Y : Z)`
    with `Z ≠ 0` whose affine point lies on the 11-isogenous curve `y² = x³ + A'x + B'` (RFC 9380 §8.8.1), the
    generated `iso_map_G1(X, Y, Z)` returns a triple that passes the generated `is_on_curve(·, b)`, `b = 4`. -/
theorem iso_map_G1_on_curve (X Y Z : F1) (hZ : Z ≠ 0)
    (h : (Fq.toZMod Y / Fq.toZMod Z) ^ 2
      = (Fq.toZMod X / Fq.toZMod Z) ^ 3 + A' * (Fq.toZMod X / Fq.toZMod Z) + B') :
    ∃ R, Gen.ExtraHashIso.iso_map_G1 X Y Z = .ok R ∧ Gen.OptBls.is_on_curve R blsB = true :=
  ⟨_, Tie.iso_map_G1_eq X Y Z, C10Iso.iso_map_G1_on_curve X Y Z hZ h⟩

/-- non-vacuity: the generated SWU output for `t = 0` is such an input (and so is the one for every `t`) -/
example : ∃ X Y Z : F1, Z ≠ 0 ∧ (Fq.toZMod Y / Fq.toZMod Z) ^ 2
    = (Fq.toZMod X / Fq.toZMod Z) ^ 3 + A' * (Fq.toZMod X / Fq.toZMod Z) + B' :=
  ⟨_, _, _, (swu_G1_on_iso_curve 0).1, (swu_G1_on_iso_curve 0).2.2⟩

/-- **C10 (G1 isogeny), affine reading.**  Under the same hypotheses the output `(X₃, Y₃, Z₃)` of the generated
    `iso_map_G1` is the point at infinity (`Z₃ = 0`) or its affine point satisfies `(Y₃/Z₃)² = (X₃/Z₃)³ + 4`. -/
theorem iso_map_G1_affine (X Y Z : F1) (hZ : Z ≠ 0)
    (h : (Fq.toZMod Y / Fq.toZMod Z) ^ 2
      = (Fq.toZMod X / Fq.toZMod Z) ^ 3 + A' * (Fq.toZMod X / Fq.toZMod Z) + B')
    (R : F1 × F1 × F1) (hR : Gen.ExtraHashIso.iso_map_G1 X Y Z = .ok R) :
    R.2.2 = 0 ∨ (Fq.toZMod R.2.1 / Fq.toZMod R.2.2) ^ 2 = (Fq.toZMod R.1 / Fq.toZMod R.2.2) ^ 3 + 4 := by
  rw [Tie.iso_map_G1_eq] at hR
  cases hR
  exact C10Iso.iso_map_G1_affine X Y Z hZ h

open PyEcc.IsoSem in
/-- **C10 (G1 isogeny): generated `iso_map_G1` is the rational map given by its coefficient table.**  For `Z ≠ 0`
    and `w = X/Z`, with `xn, xd, yn, yd` the polynomials whose coefficient lists are the four entries of
    `ISO_11_MAP_COEFFICIENTS`: the output `(X₃, Y₃, Z₃)` is the point at infinity exactly when `xd(w)·yd(w) = 0`, and
    otherwise `X₃/Z₃ = xn(w)/xd(w)` and `Y₃/Z₃ = (Y/Z)·yn(w)/yd(w)` (RFC 9380 Appendix E.2's shape). -/
theorem iso_map_G1_rational (X Y Z : F1) (hZ : Z ≠ 0)
    (R : F1 × F1 × F1) (hR : Gen.ExtraHashIso.iso_map_G1 X Y Z = .ok R) :
    (R.2.2 = 0 ↔ ev fZ (iso11 1) (X / Z) * ev fZ (iso11 3) (X / Z) = 0) ∧
    (R.2.2 ≠ 0 →
      R.1 / R.2.2 = ev fZ (iso11 0) (X / Z) / ev fZ (iso11 1) (X / Z) ∧
      R.2.1 / R.2.2 = (Y / Z) * ev fZ (iso11 2) (X / Z) / ev fZ (iso11 3) (X / Z)) := by
  rw [Tie.iso_map_G1_eq] at hR
  cases hR
  exact C10Iso.iso_map_G1_rational X Y Z hZ

/-- non-vacuity of `hR`: `iso_map_G1` returns on every input (`iso_map_G1_total`), e.g. -/
example : (1 : F1) ≠ 0 ∧ ∃ R, Gen.ExtraHashIso.iso_map_G1 (1 : F1) 1 1 = .ok R :=
  ⟨by decide +kernel, iso_map_G1_total 1 1 1⟩

/-- **Generated `map_to_curve_G1` is the generated `iso_map_G1` applied to the generated `optimized_swu_G1`**
    (`map_to_curve_G1(u) = iso_map_G1(*optimized_swu_G1(u))`), for every `u`. -/
theorem map_to_curve_G1_eq_iso_swu (u : F1) :
    Gen.ExtraHashIso.iso_map_G1 (Gen.ExtraSwu.optimized_swu_G1 u).1 (Gen.ExtraSwu.optimized_swu_G1 u).2.1
      (Gen.ExtraSwu.optimized_swu_G1 u).2.2 = .ok (Gen.ExtraSwu.map_to_curve_G1 u) := by
  rw [Tie.iso_map_G1_eq, Tie.optimized_swu_G1_eq, Tie.map_to_curve_G1_eq, C10.mapToCurveG1_eq]

/-- **C10 (G1): generated `map_to_curve_G1` lands on the curve, for every field element** `t ∈ Fp` (exceptional
    inputs included): the result passes the generated `is_on_curve(·, b)` — a point of `E1 : y² = x³ + 4`. -/
theorem map_to_curve_G1_on_curve (t : F1) :
    Gen.OptBls.is_on_curve (Gen.ExtraSwu.map_to_curve_G1 t) blsB = true := by
  rw [Tie.map_to_curve_G1_eq]; exact C10Iso.map_to_curve_G1_on_curve t

section G2iso
open PyEcc.Fqp PyEcc.FqpSem PyEcc.Swu2 PyEcc.IsoSem

/-- **The generated `iso_map_G2` never raises** on inputs whose `Z` is a reduced `FQ2` value (everything a Python
    `FQ2` object can be): every `IndexError` branch of the translated list code is dead. -/
theorem iso_map_G2_total (X Y Z : F2) (hZc : Canon Z) : ∃ R, Gen.ExtraHashIso.iso_map_G2 X Y Z = .ok R :=
  ⟨_, Tie.iso_map_G2_eq_wf X Y Z hZc.1 hZc.2⟩

/-- **C10 (G2 isogeny): generated `iso_map_G2` maps `E2'` into `E2`.**  For reduced `FQ2` inputs `X, Y, Z` with
    `Z ≠ 0` whose affine point lies on the 3-isogenous curve `y² = x³ + 240i·x + 1012(1+i)` (RFC 9380 §8.8.2), the
    generated `iso_map_G2(X, Y, Z)` returns a triple of reduced elements that passes the generated
    `is_on_curve(·, b2)`, `b2 = 4(1+i)`. -/
theorem iso_map_G2_on_curve (X Y Z : F2) (hX : Canon X) (hY : Canon Y) (hZc : Canon Z)
    (hZ : q Z ≠ 0) (h : (q Y / q Z) ^ 2 = (q X / q Z) ^ 3 + kA * (q X / q Z) + kB) :
    ∃ R, Gen.ExtraHashIso.iso_map_G2 X Y Z = .ok R ∧
      Transfer.CanonT R ∧ Gen.OptBls.is_on_curve R blsB2 = true :=
  ⟨_, Tie.iso_map_G2_eq_wf X Y Z hZc.1 hZc.2, C10Iso.iso_map_G2_on_curve X Y Z hX hY hZc hZ h⟩

/-- non-vacuity: the generated SWU output for `t = 1 + i` is such an input -/
example : ∃ X Y Z : F2, Canon X ∧ Canon Y ∧ Canon Z ∧ q Z ≠ 0 ∧
    (q Y / q Z) ^ 2 = (q X / q Z) ^ 3 + kA * (q X / q Z) + kB := by
  have ht : Canon (f2c [1, 1]) := cn_f2c (a := 1) (b := 1) (by decide) (by decide)
  obtain ⟨N, Y, D, hs⟩ := swu_G2_total _ ht
  have h := swu_G2_on_iso_curve _ ht N Y D hs
  exact ⟨_, _, _, h.1, h.2.1, h.2.2.1, h.2.2.2.2.1, h.2.2.2.2.2⟩

/-- **C10 (G2 isogeny): generated `iso_map_G2` is the rational map given by its coefficient table**
    (`ISO_3_MAP_COEFFICIENTS`): `Z₃ = Z⁷·xd(w)·yd(w)` with `w = X/Z`, and when this is non-zero
    `X₃/Z₃ = xn(w)/xd(w)` and `Y₃/Z₃ = (Y/Z)·yn(w)/yd(w)`. -/
theorem iso_map_G2_rational (X Y Z : F2) (hX : Canon X) (hY : Canon Y) (hZc : Canon Z) (hZ : q Z ≠ 0)
    (R : F2 × F2 × F2) (hR : Gen.ExtraHashIso.iso_map_G2 X Y Z = .ok R) :
    q R.2.2 = q Z ^ 7 * (ev fG (iso3 1) (q X / q Z) * ev fG (iso3 3) (q X / q Z)) ∧
    (q R.2.2 ≠ 0 →
      q R.1 / q R.2.2 = ev fG (iso3 0) (q X / q Z) / ev fG (iso3 1) (q X / q Z) ∧
      q R.2.1 / q R.2.2 = (q Y / q Z) * ev fG (iso3 2) (q X / q Z) / ev fG (iso3 3) (q X / q Z)) := by
  rw [Tie.iso_map_G2_eq_wf X Y Z hZc.1 hZc.2] at hR
  cases hR
  exact C10Iso.iso_map_G2_rational X Y Z hX hY hZc hZ

/-- **Generated `map_to_curve_G2` is the generated `iso_map_G2` applied to the generated `optimized_swu_G2`**, for
    every reduced `u`: with `(N, Y, D) = optimized_swu_G2(u)` (which never raises), `iso_map_G2(N, Y, D)` returns
    and `map_to_curve_G2(u)` returns the same triple. -/
theorem map_to_curve_G2_eq_iso_swu (u : F2) (hu : Canon u) :
    ∃ N Y D R, Gen.ExtraSwu.optimized_swu_G2 u = .ok (N, Y, D) ∧
      Gen.ExtraHashIso.iso_map_G2 N Y D = .ok R ∧ Gen.ExtraSwu.map_to_curve_G2 u = .ok R := by
  obtain ⟨N, Y, D, hs⟩ := swu_G2_total u hu
  have hD := (swu_G2_on_iso_curve u hu N Y D hs).2.2.1
  refine ⟨N, Y, D, isoMapG2 N Y D, hs, Tie.iso_map_G2_eq_wf N Y D hD.1 hD.2, ?_⟩
  rw [Tie.optimized_swu_G2_eq] at hs
  rw [Tie.map_to_curve_G2_eq, C10.mapToCurveG2_eq, hs]
  rfl

/-- **C10 (G2): generated `map_to_curve_G2` never raises and lands on the curve, for every reduced field element**
    `t = a + b·i`, `0 ≤ a, b < p`: it returns a triple of reduced elements accepted by the generated
    `is_on_curve(·, b2)` — a point of `E2 : y² = x³ + 4(1+i)`. -/
theorem map_to_curve_G2_on_curve (t : F2) (ht : Canon t) :
    ∃ Q, Gen.ExtraSwu.map_to_curve_G2 t = .ok Q ∧ Transfer.CanonT Q ∧
      Gen.OptBls.is_on_curve Q blsB2 = true := by
  rw [Tie.map_to_curve_G2_eq]; exact C10Iso.map_to_curve_G2_on_curve t ht

example : Canon (f2c [3, 5]) := cn_f2c (a := 3) (b := 5) (by decide) (by decide)

end G2iso

/-! ## `hash_to_field` with `count = 2` -/

/-- **Generated `hash_to_field_FQ(msg, 2, DST, H)`** raises what the generated `expand_message_xmd(msg, DST, 128, H)`
    raises, and otherwise returns exactly two `FQ` elements (so the tuple unpacking `u0, u1 = …` of `hash_to_G1`
    cannot fail). -/
theorem hash_to_field_FQ_two (H : HashFn) (msg dst : Bytes) :
    (∃ e, Gen.ExtraHash.expand_message_xmd msg dst 128 H = .error e ∧
      Gen.ExtraHash.hash_to_field_FQ msg 2 dst H = .error e) ∨
    (∃ prb u0 u1, Gen.ExtraHash.expand_message_xmd msg dst 128 H = .ok prb ∧
      Gen.ExtraHash.hash_to_field_FQ msg 2 dst H = .ok [u0, u1]) := by
  rw [Tie.expand_message_xmd_eq, Tie.hash_to_field_FQ_eq]
  rcases C10.h2f_fq_cases H msg dst with ⟨e, h1, h2⟩ | ⟨prb, u0, u1, h1, h2⟩
  · exact Or.inl ⟨e, h1, by rw [h2]; rfl⟩
  · exact Or.inr ⟨prb, f1c u0, f1c u1, h1, by rw [h2]; rfl⟩

/-- **Generated `hash_to_field_FQ2(msg, 2, DST, H)`** raises what the generated `expand_message_xmd(msg, DST, 256, H)`
    raises, and otherwise returns exactly two reduced `FQ2` elements. -/
theorem hash_to_field_FQ2_two (H : HashFn) (msg dst : Bytes) :
    (∃ e, Gen.ExtraHash.expand_message_xmd msg dst 256 H = .error e ∧
      Gen.ExtraHash.hash_to_field_FQ2 msg 2 dst H = .error e) ∨
    (∃ prb u0 u1, Gen.ExtraHash.expand_message_xmd msg dst 256 H = .ok prb ∧
      Gen.ExtraHash.hash_to_field_FQ2 msg 2 dst H = .ok [u0, u1] ∧
      FqpSem.Canon u0 ∧ FqpSem.Canon u1) := by
  rw [Tie.expand_message_xmd_eq, Tie.hash_to_field_FQ2_eq]
  rcases C10.h2f_fq2_cases H msg dst with ⟨e, h1, h2⟩ | ⟨prb, u0, u1, h1, h2⟩
  · exact Or.inl ⟨e, h1, by rw [h2]; rfl⟩
  · have hr := BlsSem.hashToFieldFq2_ok_range h2
    have r0 := hr u0 (by simp)
    have r1 := hr u1 (by simp)
    exact Or.inr ⟨prb, f2c [u0.1, u0.2], f2c [u1.1, u1.2], h1, by rw [h2]; rfl,
      Swu2.cn_f2c r0.1 r0.2, Swu2.cn_f2c r1.1 r1.2⟩

/-! ## `hash_to_G1` -/

/-- **C10 (structure, G1): generated `hash_to_G1` is RFC 9380 §3 `hash_to_curve` with `count = 2`**, written with
    generated functions only.  If the generated `hash_to_field_FQ(msg, 2, DST, H)` raises, `hash_to_G1` raises the
    same exception; otherwise it returned two field elements `u0, u1` and
    `hash_to_G1 = clear_cofactor_G1(add(map_to_curve_G1(u0), map_to_curve_G1(u1)))`.
    (The `ValueError` of the Python tuple-unpacking `u0, u1 = …` is unreachable.) -/
theorem hash_to_G1_skeleton (msg dst : Bytes) (H : HashFn) :
    (∀ e, Gen.ExtraHash.hash_to_field_FQ msg 2 dst H = .error e →
      Gen.ExtraSwu.hash_to_G1 msg dst H = .error e) ∧
    (∀ us, Gen.ExtraHash.hash_to_field_FQ msg 2 dst H = .ok us → ∃ u0 u1, us = [u0, u1] ∧
      Gen.ExtraSwu.hash_to_G1 msg dst H = .ok (Gen.ExtraSwu.clear_cofactor_G1
        (Gen.OptBls.add (Gen.ExtraSwu.map_to_curve_G1 u0) (Gen.ExtraSwu.map_to_curve_G1 u1)))) := by
  rw [Tie.hash_to_field_FQ_eq, Tie.hash_to_G1_eq]
  constructor
  · intro e h
    exact (C10.hashToG1_eq H msg dst).1 e (map_eq_error h)
  · intro us h
    obtain ⟨us', h', rfl⟩ := map_eq_ok h
    obtain ⟨u0, u1, rfl, hg⟩ := (C10.hashToG1_eq H msg dst).2 us' h'
    refine ⟨f1c u0, f1c u1, rfl, ?_⟩
    rw [hg, Tie.clear_cofactor_G1_eq, Tie.map_to_curve_G1_eq, Tie.map_to_curve_G1_eq]

/-- **C10 (G1): generated `hash_to_G1` returns a point of the prime-order subgroup.**  Whatever hash function,
    message and DST: if `hash_to_G1` returns a triple, it passes the generated `is_on_curve(·, b)` and the generated
    `subgroup_check` (SWU + isogeny land on `E1`; `add` preserves the curve; `clear_cofactor_G1` maps every curve
    point into the subgroup because `E(Fp)` has exponent `H_EFF_G1·r`). -/
theorem hash_to_G1_good (H : HashFn) (msg dst : Bytes) (P : F1 × F1 × F1)
    (h : Gen.ExtraSwu.hash_to_G1 msg dst H = .ok P) :
    Gen.OptBls.is_on_curve P blsB = true ∧ Gen.ExtraCodec.subgroup_check P = true := by
  rw [Tie.hash_to_G1_eq] at h
  rw [Tie.subgroup_check_eq]
  refine ⟨C10Iso.hash_to_G1_on_curve H msg dst P h, ?_⟩
  cases hf : hashToFieldFq H blsP msg 2 dst with
  | error e => rw [(C10.hashToG1_eq H msg dst).1 e hf] at h; cases h
  | ok us =>
    obtain ⟨u0, u1, _, hg⟩ := (C10.hashToG1_eq H msg dst).2 us hf
    rw [hg] at h
    have e := Except.ok.inj h
    subst e
    obtain ⟨p0, r0⟩ := Transfer.curveF1.exists_rep (Transfer.goodT_true _) (C10Iso.map_to_curve_G1_on_curve (f1c u0))
    obtain ⟨p1, r1⟩ := Transfer.curveF1.exists_rep (Transfer.goodT_true _) (C10Iso.map_to_curve_G1_on_curve (f1c u1))
    exact (C17O.clearCofactorG1_lands _ (r0.add r1).on_curve).2

/-- **C10 (exceptions of generated `hash_to_G1`).**  For a hash with positive digest size, `hash_to_G1` raises exactly
    when `expand_message_xmd` aborts for `len_in_bytes = 128`, i.e. iff `len(DST) > 255` or
    `ceil(128 / digest_size) > 255`, and the exception is then a `ValueError`.  Nothing else can be raised. -/
theorem hash_to_G1_error_iff (H : HashFn) (msg dst : Bytes) (hd : 0 < H.digestSize) (e : PyErr) :
    Gen.ExtraSwu.hash_to_G1 msg dst H = .error e ↔
      e = .value ∧ (dst.length > 255 ∨ Spec.ceilDiv 128 H.digestSize > 255) := by
  rw [Tie.hash_to_G1_eq]; exact C10.hashToG1_error_iff H msg dst hd e

example : 0 < sha256Fn.digestSize := by decide

/-- **Generated `hash_to_G1` returns for every message under a tag of at most 255 bytes** (hash with a digest of at
    least one byte and `ceil(128/digest_size) ≤ 255`; SHA-256 has 32), and the result is in the subgroup. -/
theorem hash_to_G1_total (H : HashFn) (msg dst : Bytes) (hd : 0 < H.digestSize)
    (hdst : dst.length ≤ 255) (hell : Spec.ceilDiv 128 H.digestSize ≤ 255) :
    ∃ P, Gen.ExtraSwu.hash_to_G1 msg dst H = .ok P ∧
      Gen.OptBls.is_on_curve P blsB = true ∧ Gen.ExtraCodec.subgroup_check P = true := by
  cases h : Gen.ExtraSwu.hash_to_G1 msg dst H with
  | error e =>
    have := ((hash_to_G1_error_iff H msg dst hd e).mp h).2
    omega
  | ok P => exact ⟨P, rfl, hash_to_G1_good H msg dst P h⟩

example : 0 < sha256Fn.digestSize ∧ ([] : Bytes).length ≤ 255 ∧ Spec.ceilDiv 128 sha256Fn.digestSize ≤ 255 := by
  decide

/-! ## `hash_to_G2` -/

/-- **C10 (structure, G2): generated `hash_to_G2` is RFC 9380 §3 `hash_to_curve` with `count = 2`**, written with
    generated functions only.  If the generated `hash_to_field_FQ2(msg, 2, DST, H)` raises, `hash_to_G2` raises the
    same exception; otherwise it returned two field elements `u0, u1` and `hash_to_G2` is
    `clear_cofactor_G2(add(map_to_curve_G2(u0), map_to_curve_G2(u1)))`, raising if one of the two `map_to_curve_G2`
    calls raises (the first one first; by `map_to_curve_G2_on_curve` neither does). -/
theorem hash_to_G2_skeleton (msg dst : Bytes) (H : HashFn) :
    (∀ e, Gen.ExtraHash.hash_to_field_FQ2 msg 2 dst H = .error e →
      Gen.ExtraSwu.hash_to_G2 msg dst H = .error e) ∧
    (∀ us, Gen.ExtraHash.hash_to_field_FQ2 msg 2 dst H = .ok us → ∃ u0 u1, us = [u0, u1] ∧
      Gen.ExtraSwu.hash_to_G2 msg dst H =
        (Gen.ExtraSwu.map_to_curve_G2 u0).bind fun q0 =>
        (Gen.ExtraSwu.map_to_curve_G2 u1).bind fun q1 =>
          .ok (Gen.ExtraSwu.clear_cofactor_G2 (Gen.OptBls.add q0 q1))) := by
  rw [Tie.hash_to_field_FQ2_eq, Tie.hash_to_G2_eq]
  constructor
  · intro e h
    exact (C10.hashToG2_eq H msg dst).1 e (map_eq_error h)
  · intro us h
    obtain ⟨us', h', rfl⟩ := map_eq_ok h
    obtain ⟨u0, u1, rfl, hg⟩ := (C10.hashToG2_eq H msg dst).2 us' h'
    refine ⟨f2c [u0.1, u0.2], f2c [u1.1, u1.2], rfl, ?_⟩
    rw [hg, Tie.map_to_curve_G2_eq, Tie.map_to_curve_G2_eq]
    simp only [Tie.clear_cofactor_G2_eq]

/-- **C10 / HT6: generated `hash_to_G2` lands in the prime-order subgroup.**  For every hash function `H` (any
    function with the `hashlib` interface), message and DST: whatever the generated `hash_to_G2` returns is a
    triple of reduced `FQ2` elements on the twist curve (generated `is_on_curve(·, b2)`) that passes the generated
    `subgroup_check`.  No hypothesis. -/
theorem hash_to_G2_good (H : HashFn) (msg dst : Bytes) (Q : G2Pt)
    (h : Gen.ExtraSwu.hash_to_G2 msg dst H = .ok Q) :
    Transfer.CanonT Q ∧ Gen.OptBls.is_on_curve Q blsB2 = true ∧ Gen.ExtraCodec.subgroup_check Q = true := by
  rw [Tie.hash_to_G2_eq] at h
  rw [Tie.subgroup_check_eq]
  exact C17O.hash_good_proved H msg dst Q h

/-- **C10: the result of the generated `hash_to_G2` is in the `r`-torsion of `E'(Fp²)`.**  It represents a point
    `P` of Mathlib's group of points of `y² = x³ + 4(1+i)` over `K2 = Fp[X]/(X²+1)` with `curve_order • P = 0`. -/
theorem hash_to_G2_torsion [DecidableEq Transfer.K2] (H : HashFn) (msg dst : Bytes) (Q : G2Pt)
    (h : Gen.ExtraSwu.hash_to_G2 msg dst H = .ok Q) :
    ∃ P : CurvePt (FqpSem.toQ blsB2 : Transfer.K2),
      Represents (Transfer.mapT FqpSem.toQ Q) P ∧ blsR • P = 0 := by
  rw [Tie.hash_to_G2_eq] at h
  obtain ⟨c, hon, hs⟩ := C17O.hash_good_proved H msg dst Q h
  obtain ⟨P, r, hiff⟩ := C17M.subgroupCheck_G2_of_on_curve c hon
  exact ⟨P, r, hiff.mp hs⟩

/-- **Generated `hash_to_G2` raises nothing but `ValueError`**, for every hash function, message and DST: the bare
    `Exception("Hash to Curve - Optimized SWU failure")` of `optimized_swu_G2` is unreachable. -/
theorem hash_to_G2_error_kind (H : HashFn) (msg dst : Bytes) (e : PyErr)
    (h : Gen.ExtraSwu.hash_to_G2 msg dst H = .error e) : e = .value := by
  rw [Tie.hash_to_G2_eq] at h
  rcases BlsSem.hashToG2_error h with h | ⟨_, hf⟩
  · exact h
  · exact (C10G2.not_swuFails hf).elim

/-- **C10 (exceptions of generated `hash_to_G2`, exact).**  For a hash with positive digest size, `hash_to_G2`
    raises exactly when `expand_message_xmd` aborts for `len_in_bytes = 256`, i.e. iff `len(DST) > 255` or
    `ceil(256 / digest_size) > 255`, and the exception is then a `ValueError`.  Nothing else can be raised. -/
theorem hash_to_G2_error_iff (H : HashFn) (msg dst : Bytes) (hd : 0 < H.digestSize) (e : PyErr) :
    Gen.ExtraSwu.hash_to_G2 msg dst H = .error e ↔
      e = .value ∧ (dst.length > 255 ∨ Spec.ceilDiv 256 H.digestSize > 255) := by
  rw [Tie.hash_to_G2_eq]
  constructor
  · intro h
    rcases C10.hashToG2_error_kinds H msg dst hd e h with hv | ⟨_, u0, u1, hf, hs⟩
    · exact hv
    · exfalso
      have hr := BlsSem.hashToFieldFq2_ok_range hf
      have r0 := hr u0 (by simp)
      have r1 := hr u1 (by simp)
      rcases hs with hs | hs
      · obtain ⟨r, hr'⟩ := C10G2.swuTotal u0.1 u0.2 r0.1 r0.2
        rw [hr'] at hs; cases hs
      · obtain ⟨r, hr'⟩ := C10G2.swuTotal u1.1 u1.2 r1.1 r1.2
        rw [hr'] at hs; cases hs
  · rintro ⟨rfl, hc⟩
    obtain ⟨e, hx⟩ := (C15.xmd_error_iff H msg dst 256 hd).mpr (by omega)
    have hk := C15.xmd_error_kind H msg dst 256 hd _ hx
    unfold C15.xmdErr at hk; rw [if_pos hc] at hk
    subst hk
    rcases C10.h2f_fq2_cases H msg dst with ⟨e', hx', h2⟩ | ⟨prb, _, _, hx', _⟩
    · rw [hx] at hx'
      injection hx' with hx'
      subst hx'
      exact (C10.hashToG2_eq H msg dst).1 _ h2
    · rw [hx] at hx'; cases hx'

/-- **Generated `hash_to_G2` never errors on admissible inputs.**  For every message, every tag of at most 255
    bytes and every hash function with a digest of at least 2 bytes (so that `ell = ceil(256/digest_size) ≤ 255`;
    SHA-256 has 32), `hash_to_G2` returns a triple of reduced elements on the twist curve that passes the generated
    `subgroup_check`. -/
theorem hash_to_G2_total (H : HashFn) (msg dst : Bytes) (hd : 2 ≤ H.digestSize) (hdst : dst.length ≤ 255) :
    ∃ Q, Gen.ExtraSwu.hash_to_G2 msg dst H = .ok Q ∧ Transfer.CanonT Q ∧
      Gen.OptBls.is_on_curve Q blsB2 = true ∧ Gen.ExtraCodec.subgroup_check Q = true := by
  cases h : Gen.ExtraSwu.hash_to_G2 msg dst H with
  | error e =>
    rw [Tie.hash_to_G2_eq] at h
    exact (C10G2.not_swuFails (BlsSem.hashToG2_error_of_dst hd hdst h).2).elim
  | ok Q => exact ⟨Q, rfl, hash_to_G2_good H msg dst Q h⟩

example : 2 ≤ sha256Fn.digestSize ∧ ([] : Bytes).length ≤ 255 := by decide

/-- **The `ValueError` case is real.**  A tag longer than 255 bytes makes the generated `hash_to_G2` raise
    `ValueError` (RFC 9380 §5.3.1: DST must be at most 255 bytes). -/
theorem hash_to_G2_long_dst (H : HashFn) (msg dst : Bytes) (hd : 0 < H.digestSize)
    (hl : dst.length > 255) : Gen.ExtraSwu.hash_to_G2 msg dst H = .error .value := by
  rw [Tie.hash_to_G2_eq]; exact C10.hashToG2_long_dst H msg dst hd hl

example : Gen.ExtraSwu.hash_to_G2 [] (List.replicate 256 0) sha256Fn = .error .value :=
  hash_to_G2_long_dst sha256Fn [] _ (by decide) (by rw [List.length_replicate]; decide)

end PyEcc.C10.Gen
