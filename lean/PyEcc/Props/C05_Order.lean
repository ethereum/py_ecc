/-
  Property C05, the clause "pairing values are `r`-th roots of unity; a
  value different from `1` has order exactly `r`".

  All four `pairing` functions of py_ecc end with `f ** ((field_modulus**12 − 1) // curve_order)`.
  `FQ12` is the field with `p¹²` elements (`C08F12.irreducible_bls12`, `irreducible_bn12`), `r` divides
  `p¹² − 1` (`finalExp_bls.dvd`, `finalExp_bn.dvd`), so by Fermat's little theorem in that field the value
  `v` returned by `pairing` satisfies `v ** r == 1` — unless the Miller value `f` is `0` (possible only
  for degenerate inputs; then `v == 0`).  Since `r` is prime (`prime_blsR`, `prime_bnR`), a value that
  is neither `0` nor `1` has multiplicative order exactly `r`.

  No hypothesis on the points: the statements hold for every input on which `pairing` returns.
-/
import PyEcc.Lemmas.FqpQuotFinite
import PyEcc.Lemmas.MillerPairing
import PyEcc.Props.C12
import PyEcc.Props.C08_Fq12
import PyEcc.Sem.Primes

namespace PyEcc.C05N
open Polynomial PyEcc PyEcc.Gen.Consts PyEcc.Fqp PyEcc.FqpSem PyEcc.PairingSem PyEcc.NondegSem

section general
variable {v : Variant} {p : ℕ} [Fact p.Prime] {mc : List Int} [Fact (Irreducible (modulus p mc))]

/-- **Final exponentiation lands in the `r`-th roots of unity** (model level, any `FQP` field class).
    If the modulus polynomial is irreducible (so the class is the field with `p^d` elements) and
    `r ∣ p^d − 1`, then for every element `m` with `d` coefficients, `v = m ** ((p^d − 1) // r)`
    satisfies `v ** r == 1` (as coefficient lists) or `v == 0` (the case of an `m` that is zero in the
    field). -/
theorem finalExp_root_of_unity (hd : 1 ≤ mc.length) (r : ℕ) (hr : (p ^ mc.length - 1) % r = 0)
    (hE : (p ^ mc.length - 1) / r ≠ 0) (m : Fqp v p mc) (hm : WF m) :
    (m ^ ((p ^ mc.length - 1) / r)) ^ r = 1 ∨ m ^ ((p ^ mc.length - 1) / r) = 0 := by
  have hp : 0 < p := (Fact.out : p.Prime).pos
  have cv : Canon (m ^ ((p ^ mc.length - 1) / r)) := pow_canon hp hd _ _
  have qv : toQ (m ^ ((p ^ mc.length - 1) / r)) = toQ m ^ ((p ^ mc.length - 1) / r) :=
    toQ_pow hd hm _
  by_cases h0 : toQ m = 0
  · right
    apply toQ_inj cv (canon_zero hp)
    rw [qv, h0, zero_pow hE]
    exact (toQ_zero).symm
  · left
    apply toQ_inj (pow_canon hp hd _ r) (canon_one hp hd)
    show toQ (Fqp.pow _ r) = toQ Fqp.one
    rw [toQ_pow hd cv.wf r, toQ_one, qv]
    exact finalExp_pow_r r hr _ h0

/-- **Order exactly `r`.**  With `r` prime: a final-exponentiation value `v = m ** ((p^d − 1) // r)`
    that is neither `0` nor `1` (as a coefficient list) has multiplicative order exactly `r` in the
    field `Fp[X]/(modulus)`. -/
theorem finalExp_orderOf (hd : 1 ≤ mc.length) (r : ℕ) (hrp : r.Prime)
    (hr : (p ^ mc.length - 1) % r = 0) (hE : (p ^ mc.length - 1) / r ≠ 0) (m : Fqp v p mc) (hm : WF m)
    (h1 : m ^ ((p ^ mc.length - 1) / r) ≠ 1) (h0 : m ^ ((p ^ mc.length - 1) / r) ≠ 0) :
    orderOf (toQ (m ^ ((p ^ mc.length - 1) / r))) = r := by
  have hp : 0 < p := (Fact.out : p.Prime).pos
  have cv : Canon (m ^ ((p ^ mc.length - 1) / r)) := pow_canon hp hd _ _
  have := Fact.mk hrp
  apply orderOf_eq_prime
  · rcases finalExp_root_of_unity hd r hr hE m hm with h | h
    · have := congrArg toQ h
      rwa [show toQ ((m ^ ((p ^ mc.length - 1) / r)) ^ r) = _ from toQ_pow hd cv.wf r,
        show toQ (1 : Fqp v p mc) = 1 from toQ_one] at this
    · exact absurd h h0
  · intro h
    apply h1
    apply toQ_inj cv (canon_one hp hd)
    rw [h]; exact toQ_one.symm

end general

/-- the value of `pairing(Q, P)` (optimized bls12_381) is a Miller value raised to `(p¹²−1)/r` -/
theorem pairingOptBls_is_pow {Q : OBls2 × OBls2 × OBls2} {P : Fq blsP × Fq blsP × Fq blsP} {v : OBls12}
    (h : pairingOptBls Q P true = .ok v) :
    ∃ m : OBls12, WF m ∧ pairingOptBls Q P false = .ok m ∧
      v = m ^ ((blsP ^ 12 - 1) / optimized_bls12_381_curve_order) := by
  rw [C12.pairingOptBls_finalExp] at h
  obtain ⟨m, hm, e⟩ := map_eq_ok h
  exact ⟨m, C12.pairingOptBls_wf Q P false m hm, hm, e.symm⟩

/-- the value of `pairing(Q, P)` (optimized bn128) is a Miller value raised to `(p¹²−1)/r` -/
theorem pairingOptBn_is_pow {Q : OBn2 × OBn2 × OBn2} {P : Fq bnP × Fq bnP × Fq bnP} {v : OBn12}
    (h : pairingOptBn Q P true = .ok v) :
    ∃ m : OBn12, WF m ∧ pairingOptBn Q P false = .ok m ∧
      v = m ^ ((bnP ^ 12 - 1) / optimized_bn128_curve_order) := by
  rw [C12.pairingOptBn_finalExp] at h
  obtain ⟨m, hm, e⟩ := map_eq_ok h
  exact ⟨m, C12.pairingOptBn_wf Q P false m hm, hm, e.symm⟩

/-- **`pairing(Q, P) ** curve_order == FQ12.one()`, optimized bls12_381.**  For every `Q`, `P` on
    which `optimized_bls12_381.pairing(Q, P)` returns a value `v` (i.e. both pass `is_on_curve`):
    `v ** curve_order == 1` as FQ12 coefficient lists, or `v == 0` (the case of a Miller value
    `f_num / f_den` that is `0`). -/
theorem pairingOptBls_pow_r (Q : OBls2 × OBls2 × OBls2) (P : Fq blsP × Fq blsP × Fq blsP) (v : OBls12)
    (h : pairingOptBls Q P true = .ok v) : v ^ optimized_bls12_381_curve_order = 1 ∨ v = 0 := by
  obtain ⟨m, wm, _, hv⟩ := pairingOptBls_is_pow h
  rw [hv, finalExp_bls.r_eq]
  exact finalExp_root_of_unity (p := blsP) (mc := blsMc12) (by decide) _ finalExp_bls.dvd finalExp_bls.ne_zero m wm

/-- **Order exactly `r`, optimized bls12_381**: a value `v` returned by `pairing(Q, P)` that is
    neither `FQ12.one()` nor `FQ12.zero()` has multiplicative order exactly `curve_order` in the
    field `FQ12 = Fp[w]/(w¹² − 2w⁶ + 2)`. -/
theorem pairingOptBls_orderOf (Q : OBls2 × OBls2 × OBls2) (P : Fq blsP × Fq blsP × Fq blsP) (v : OBls12)
    (h : pairingOptBls Q P true = .ok v) (h1 : v ≠ 1) (h0 : v ≠ 0) :
    orderOf (toQ v) = optimized_bls12_381_curve_order := by
  obtain ⟨m, wm, _, hv⟩ := pairingOptBls_is_pow h
  rw [hv, finalExp_bls.r_eq] at h1 h0 ⊢
  exact finalExp_orderOf (p := blsP) (mc := blsMc12) (by decide) _ prime_blsR finalExp_bls.dvd
    finalExp_bls.ne_zero m wm h1 h0

/-- **`pairing(Q, P) ** curve_order == FQ12.one()`, optimized bn128**: for every `Q`, `P` on which
    `optimized_bn128.pairing(Q, P)` returns `v`: `v ** curve_order == 1`, or `v == 0`. -/
theorem pairingOptBn_pow_r (Q : OBn2 × OBn2 × OBn2) (P : Fq bnP × Fq bnP × Fq bnP) (v : OBn12)
    (h : pairingOptBn Q P true = .ok v) : v ^ optimized_bn128_curve_order = 1 ∨ v = 0 := by
  obtain ⟨m, wm, _, hv⟩ := pairingOptBn_is_pow h
  rw [hv, finalExp_bn.r_eq]
  exact finalExp_root_of_unity (p := bnP) (mc := bnMc12) (by decide) _ finalExp_bn.dvd finalExp_bn.ne_zero m wm

/-- **Order exactly `r`, optimized bn128**: a value returned by `pairing(Q, P)` that is neither
    `1` nor `0` has multiplicative order exactly `curve_order` in `FQ12 = Fp[w]/(w¹² − 18w⁶ + 82)`. -/
theorem pairingOptBn_orderOf (Q : OBn2 × OBn2 × OBn2) (P : Fq bnP × Fq bnP × Fq bnP) (v : OBn12)
    (h : pairingOptBn Q P true = .ok v) (h1 : v ≠ 1) (h0 : v ≠ 0) :
    orderOf (toQ v) = optimized_bn128_curve_order := by
  obtain ⟨m, wm, _, hv⟩ := pairingOptBn_is_pow h
  rw [hv, finalExp_bn.r_eq] at h1 h0 ⊢
  exact finalExp_orderOf (p := bnP) (mc := bnMc12) (by decide) _ prime_bnR finalExp_bn.dvd
    finalExp_bn.ne_zero m wm h1 h0

section ref
variable {p : ℕ} {mc12 : List Int}

/-- the accumulator `f` of the reference Miller loop always has `d` coefficients -/
theorem refMillerStep_wf (ops : RefOps p mc12) (ate : ℕ)
    (Q P : Option (Fqp .ref p mc12 × Fqp .ref p mc12))
    (st st' : Fqp .ref p mc12 × Option (Fqp .ref p mc12 × Fqp .ref p mc12)) (i : ℕ)
    (h : refMillerStep ops ate Q P st i = .ok st') : WF st'.1 := by
  obtain ⟨f, R⟩ := st
  rw [MillerSem.refMillerStep_eq] at h
  obtain ⟨l, _, h⟩ := bind_eq_ok h
  split at h
  · obtain ⟨l2, _, h⟩ := bind_eq_ok h
    obtain ⟨R2, _, h⟩ := bind_eq_ok h
    cases h
    exact mul_wf _ _
  · cases h
    exact mul_wf _ _

/-- every value returned by the reference `miller_loop` is `m ** E` for an `m` with `d`
    coefficients (`m = 1` on the early return for a point at infinity) -/
theorem refMillerLoop_is_pow (hp : 0 < p) (hd : 1 ≤ mc12.length) (ops : RefOps p mc12)
    (ate logAte : ℕ) (frob : Bool) (E : ℕ) (Q P : Option (Fqp .ref p mc12 × Fqp .ref p mc12))
    (v : Fqp .ref p mc12) (h : refMillerLoop ops ate logAte frob E Q P = .ok v) :
    ∃ m : Fqp .ref p mc12, WF m ∧ v = m ^ E := by
  unfold refMillerLoop at h
  by_cases hn : (Q.isNone || P.isNone) = true
  · simp only [hn, if_true] at h
    cases h
    exact ⟨1, wf_one hd, (one_pow_model hp hd E).symm⟩
  · simp only [hn, Bool.false_eq_true, if_false] at h
    obtain ⟨⟨f, R⟩, h1, h⟩ := bind_eq_ok h
    have ws : WF f := foldlM_inv (fun st => WF st.1) (wf_one hd)
      (fun st i st' _ => refMillerStep_wf ops ate Q P st st' i) h1
    cases frob
    · cases h; exact ⟨f, ws, rfl⟩
    · cases Q with
      | none => cases h
      | some q =>
        obtain ⟨qx, qy⟩ := q
        rw [if_pos rfl] at h
        obtain ⟨l1, _, h⟩ := bind_eq_ok h
        obtain ⟨R1, _, h⟩ := bind_eq_ok h
        obtain ⟨l2, _, h⟩ := bind_eq_ok h
        cases h
        exact ⟨_, mul_wf _ _, rfl⟩

end ref

/-- the value of the reference bls12_381 `pairing(Q, P)` is a Miller value raised to `(p¹²−1)/r` -/
theorem pairingRefBls_is_pow {Q : Option (RBls2 × RBls2)} {P : Option (Fq blsP × Fq blsP)} {v : RBls12}
    (h : pairingRefBls Q P = .ok v) : ∃ m : RBls12, WF m ∧ v = m ^ blsFinalExp := by
  rw [MillerSem.pairingRefBls_eq] at h
  exact refMillerLoop_is_pow (by decide) (by decide) _ _ _ _ _ _ _ v (MillerSem.guard2_ok h).2.2

/-- the value of the reference bn128 `pairing(Q, P)` is a Miller value raised to `(p¹²−1)/r` -/
theorem pairingRefBn_is_pow {Q : Option (RBn2 × RBn2)} {P : Option (Fq bnP × Fq bnP)} {v : RBn12}
    (h : pairingRefBn Q P = .ok v) : ∃ m : RBn12, WF m ∧ v = m ^ bnFinalExp := by
  rw [MillerBnSem.pairingRefBn_eq] at h
  exact refMillerLoop_is_pow (by decide) (by decide) _ _ _ _ _ _ _ v (MillerSem.guard2_ok h).2.2

/-- **`pairing(Q, P) ** curve_order == FQ12.one()`, reference bls12_381**: for every `Q`, `P` on which
    `bls12_381.pairing(Q, P)` returns `v`: `v ** curve_order == 1`, or `v == 0`. -/
theorem pairingRefBls_pow_r (Q : Option (RBls2 × RBls2)) (P : Option (Fq blsP × Fq blsP)) (v : RBls12)
    (h : pairingRefBls Q P = .ok v) : v ^ bls12_381_curve_order = 1 ∨ v = 0 := by
  obtain ⟨m, wm, hv⟩ := pairingRefBls_is_pow h
  rw [hv]
  exact finalExp_root_of_unity (p := blsP) (mc := blsMc12) (by decide) _ finalExp_bls.dvd
    finalExp_bls.ne_zero m wm

/-- **Order exactly `r`, reference bls12_381**: a value returned by `pairing(Q, P)` that is neither
    `1` nor `0` has multiplicative order exactly `curve_order`. -/
theorem pairingRefBls_orderOf (Q : Option (RBls2 × RBls2)) (P : Option (Fq blsP × Fq blsP)) (v : RBls12)
    (h : pairingRefBls Q P = .ok v) (h1 : v ≠ 1) (h0 : v ≠ 0) :
    orderOf (toQ v) = bls12_381_curve_order := by
  obtain ⟨m, wm, hv⟩ := pairingRefBls_is_pow h
  rw [hv] at h1 h0 ⊢
  exact finalExp_orderOf (p := blsP) (mc := blsMc12) (by decide) _ prime_blsR finalExp_bls.dvd
    finalExp_bls.ne_zero m wm h1 h0

/-- **`pairing(Q, P) ** curve_order == FQ12.one()`, reference bn128**: for every `Q`, `P` on which
    `bn128.pairing(Q, P)` returns `v`: `v ** curve_order == 1`, or `v == 0`. -/
theorem pairingRefBn_pow_r (Q : Option (RBn2 × RBn2)) (P : Option (Fq bnP × Fq bnP)) (v : RBn12)
    (h : pairingRefBn Q P = .ok v) : v ^ bn128_curve_order = 1 ∨ v = 0 := by
  obtain ⟨m, wm, hv⟩ := pairingRefBn_is_pow h
  rw [hv]
  exact finalExp_root_of_unity (p := bnP) (mc := bnMc12) (by decide) _ finalExp_bn.dvd
    finalExp_bn.ne_zero m wm

/-- **Order exactly `r`, reference bn128**: a value returned by `pairing(Q, P)` that is neither
    `1` nor `0` has multiplicative order exactly `curve_order`. -/
theorem pairingRefBn_orderOf (Q : Option (RBn2 × RBn2)) (P : Option (Fq bnP × Fq bnP)) (v : RBn12)
    (h : pairingRefBn Q P = .ok v) (h1 : v ≠ 1) (h0 : v ≠ 0) :
    orderOf (toQ v) = bn128_curve_order := by
  obtain ⟨m, wm, hv⟩ := pairingRefBn_is_pow h
  rw [hv] at h1 h0 ⊢
  exact finalExp_orderOf (p := bnP) (mc := bnMc12) (by decide) _ prime_bnR finalExp_bn.dvd
    finalExp_bn.ne_zero m wm h1 h0

/-! ### non-vacuity: the pairings do return on concrete inputs -/

example : pairingOptBls (1, 1, 0) (1, 1, 0) true = .ok 1 := by
  rw [pairingOptBls_eq]; decide +kernel
example : pairingOptBn (1, 1, 0) (1, 1, 0) true = .ok 1 := by
  rw [pairingOptBn_eq]; decide +kernel
example : pairingRefBls none none = .ok 1 := by
  rw [MillerSem.pairingRefBls_eq]; decide +kernel

end PyEcc.C05N
