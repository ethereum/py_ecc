/-
  PyEcc.Props.C15 — `expand_message_xmd` and `hash_to_field_{FQ,FQ2}` of py_ecc are exactly
  RFC 9380 §5.3.1 / §5.2, for every hash function, message, tag, length and count.
  (Core Lean only.)
-/
import PyEcc.Lemmas.Xmd

namespace PyEcc.C15

/-! ### expand_message_xmd -/

/-- The exception kind raised by the implementation in the cases where RFC 9380 aborts:
    `ValueError` (the two explicit `raise`s) when `len(DST) > 255` or `ell > 255`; otherwise
    (`len_in_bytes > 65535` with `ell ≤ 255`) the `OverflowError` of `i2osp(len_in_bytes, 2)`. -/
def xmdErr (H : HashFn) (dst : Bytes) (len : Nat) : PyErr :=
  if dst.length > 255 ∨ Spec.ceilDiv len H.digestSize > 255 then .value else .overflow

/-- **C15 (expand_message_xmd = RFC 9380 §5.3.1).**  For every hash function `H` with a positive
    digest size, every message, tag and requested length, `expand_message_xmd(msg, DST, len, H)`
    returns exactly the bytes the RFC prescribes, and raises exactly when the RFC aborts:
    `ValueError` if `len(DST) > 255` or `ell = ceil(len/b) > 255`, `OverflowError` (from
    `i2osp(len, 2)`) if neither holds but `len > 65535`.
    The guard `0 < H.digestSize` is needed: with `digest_size = 0` Python raises
    `ZeroDivisionError`, which the model (Lean's `x / 0 = 0`) does not reproduce. -/
theorem xmd_eq_spec (H : HashFn) (msg dst : Bytes) (len : Nat) (hd : 0 < H.digestSize) :
    expandMessageXmd H msg dst len =
      match Spec.expandMessageXmd H msg dst len with
      | some b => .ok b
      | none => .error (xmdErr H dst len) := by
  unfold expandMessageXmd Spec.expandMessageXmd xmdErr
  simp only [ceilDiv_eq_spec len hd]
  generalize hell : Spec.ceilDiv len H.digestSize = ell
  by_cases h1 : dst.length > 255
  · simp [h1, throw, throwThe, MonadExceptOf.throw, bind, Except.bind]
  by_cases h2 : ell > 255
  · simp [h1, h2, throw, throwThe, MonadExceptOf.throw, bind, Except.bind]
  have hdl : i2osp dst.length 1 = .ok (Spec.I2OSP dst.length 1) := i2osp_eq_ok (by omega)
  by_cases h3 : len > 65535
  · have hl : i2osp len 2 = .error .overflow := BytesLem.i2osp_overflow (by omega)
    simp [h1, h2, h3, hdl, hl, bind, Except.bind]
  have hl : i2osp len 2 = .ok (Spec.I2OSP len 2) := i2osp_eq_ok (by omega)
  simp only [h1, h2, h3, hdl, hl, bind, Except.bind, pure, Except.pure, or_self, if_false]
  -- the common `b_0`
  have hb0 : H.run (List.replicate H.blockSize 0 ++ msg ++ Spec.I2OSP len 2 ++ [0] ++
      (dst ++ Spec.I2OSP dst.length 1)) = Spec.xmdB0 H msg (dst ++ Spec.I2OSP dst.length 1) len := by
    unfold Spec.xmdB0
    rw [I2OSP_zero, I2OSP_one]
    rfl
  rw [hb0]
  generalize Spec.xmdB0 H msg (dst ++ Spec.I2OSP dst.length 1) len = b0
  generalize dst ++ Spec.I2OSP dst.length 1 = dp
  have hb1 : [H.run (b0 ++ [1] ++ dp)] = specBs H b0 dp (0 + 1) := by
    simp only [specBs, List.range_succ, List.range_zero, List.nil_append, List.map_cons,
      List.map_nil, Spec.xmdB, I2OSP_one]
    rfl
  rw [hb1, xmdLoop_spec H b0 dp (ell + 1 - 2) 0 (by omega)]
  show Except.ok _ = Except.ok _
  congr 1
  unfold Spec.substr
  rw [List.drop_zero]
  by_cases hz : ell = 0
  · -- `ell = 0` happens exactly for `len = 0`: both sides are the empty string
    have : len = 0 := by
      have := (spec_ceilDiv_le_iff len 0 hd).mp (by omega)
      omega
    subst this
    simp
  · rw [show 0 + 1 + (ell + 1 - 2) = ell by omega]
    rfl

example : 0 < sha256Fn.digestSize := by decide

/-- **C15 (error characterisation).**  `expand_message_xmd` raises an exception if and only if
    `len(DST) > 255`, or `ceil(len_in_bytes / b_in_bytes) > 255`, or `len_in_bytes ≥ 65536`
    — exactly the ABORT condition of RFC 9380 §5.3.1 step 2. -/
theorem xmd_error_iff (H : HashFn) (msg dst : Bytes) (len : Nat) (hd : 0 < H.digestSize) :
    (∃ e, expandMessageXmd H msg dst len = .error e) ↔
      dst.length > 255 ∨ Spec.ceilDiv len H.digestSize > 255 ∨ len ≥ 65536 := by
  rw [xmd_eq_spec H msg dst len hd, ← spec_xmd_none_iff H msg dst len]
  cases Spec.expandMessageXmd H msg dst len with
  | none => simp
  | some b => simp

/-- **C15 (which exception).**  When it raises, the exception is `ValueError` if `len(DST) > 255` or
    `ell > 255`, and otherwise `OverflowError`. -/
theorem xmd_error_kind (H : HashFn) (msg dst : Bytes) (len : Nat) (hd : 0 < H.digestSize) (e : PyErr)
    (h : expandMessageXmd H msg dst len = .error e) : e = xmdErr H dst len := by
  rw [xmd_eq_spec H msg dst len hd] at h
  cases hs : Spec.expandMessageXmd H msg dst len with
  | none => rw [hs] at h; injection h with h; exact h.symm
  | some b => rw [hs] at h; cases h

/-- **C15 (the OverflowError branch is unreachable for real hashes).**  `OverflowError` (requested
    length ≥ 65536 although `ell ≤ 255`) requires a digest of at least 258 bytes; no hash in
    `hashlib` is that wide, so with SHA-2/SHA-3/BLAKE2 every failure is a `ValueError`. -/
theorem xmd_overflow_digest (H : HashFn) (msg dst : Bytes) (len : Nat) (hd : 0 < H.digestSize)
    (h : expandMessageXmd H msg dst len = .error .overflow) : 258 ≤ H.digestSize ∧ 65536 ≤ len := by
  have hk := xmd_error_kind H msg dst len hd _ h
  have he := (xmd_error_iff H msg dst len hd).mp ⟨_, h⟩
  unfold xmdErr at hk
  split at hk
  · cases hk
  · rename_i hn
    have hlen : 65536 ≤ len := by omega
    refine ⟨?_, hlen⟩
    have h255 : Spec.ceilDiv len H.digestSize ≤ 255 := by omega
    have := (spec_ceilDiv_le_iff len 255 hd).mp h255
    omega

/-- the overflow branch is reachable in the model for a (hypothetical) 258-byte digest -/
example : expandMessageXmd { digestSize := 258, blockSize := 1, run := fun _ => [] } [] [] 65536
    = .error .overflow := by rfl

/-- **C15 (output length).**  For a hash function whose digests all have `digest_size` bytes, a
    successful `expand_message_xmd(msg, DST, len_in_bytes, H)` returns exactly `len_in_bytes` bytes. -/
theorem xmd_length (H : HashFn) (hw : H.WF) (msg dst : Bytes) (len : Nat) (out : Bytes)
    (h : expandMessageXmd H msg dst len = .ok out) : out.length = len := by
  rw [xmd_eq_spec H msg dst len hw.digest_pos] at h
  cases hs : Spec.expandMessageXmd H msg dst len with
  | none => rw [hs] at h; cases h
  | some b =>
    rw [hs] at h
    injection h with h
    subst h
    exact spec_xmd_length H hw msg dst len b hs

example : sha256Fn.WF := sha256Fn_WF

/-! ### hash_to_field -/

/-- **C15 (hash_to_field_FQ2 = RFC 9380 §5.2 with m = 2, L = 64).**  For every hash function with
    positive digest size, modulus `p`, message, tag and `count`: `hash_to_field_FQ2(msg, count, DST, H)`
    returns the `count` elements `(e_0, e_1)` the RFC prescribes (`e_j = OS2IP(substr(uniform_bytes,
    64·(j + 2i), 64)) mod p`, big-endian), and raises exactly when `expand_message_xmd` aborts for
    `len_in_bytes = count·2·64`, with the same exception kind.  The model's pairs `(c0, c1)` are
    compared with the specification's coefficient lists `[e_0, e_1]`. -/
theorem h2f_fq2_eq_spec (H : HashFn) (p : Nat) (msg : Bytes) (count : Nat) (dst : Bytes)
    (hd : 0 < H.digestSize) :
    (hashToFieldFq2 H p msg count dst).map (fun u => u.map fun c => [c.1, c.2]) =
      match Spec.hashToField H p 2 64 msg dst count with
      | some u => .ok u
      | none => .error (xmdErr H dst (count * 2 * 64)) := by
  unfold hashToFieldFq2 Spec.hashToField
  dsimp only
  rw [xmd_eq_spec H msg dst _ hd]
  cases Spec.expandMessageXmd H msg dst (count * 2 * 64) with
  | none => rfl
  | some prb =>
    simp only [bind, Except.bind, pure, Except.pure, Except.map, Option.map, List.map_map]
    congr 1
    apply List.map_congr_left
    intro i _
    simp [List.range_succ, Spec.substr, OS2IP_eq_os2ip]

/-- **C15 (hash_to_field_FQ = RFC 9380 §5.2 with m = 1, L = 64).**  As `h2f_fq2_eq_spec`, for the
    base field: `u_i = OS2IP(substr(uniform_bytes, 64·i, 64)) mod p`, `len_in_bytes = count·1·64`.
    The model's integers `c` are compared with the specification's one-element lists `[e_0]`. -/
theorem h2f_fq_eq_spec (H : HashFn) (p : Nat) (msg : Bytes) (count : Nat) (dst : Bytes)
    (hd : 0 < H.digestSize) :
    (hashToFieldFq H p msg count dst).map (fun u => u.map fun c => [c]) =
      match Spec.hashToField H p 1 64 msg dst count with
      | some u => .ok u
      | none => .error (xmdErr H dst (count * 1 * 64)) := by
  unfold hashToFieldFq Spec.hashToField
  dsimp only
  rw [xmd_eq_spec H msg dst _ hd]
  cases Spec.expandMessageXmd H msg dst (count * 1 * 64) with
  | none => rfl
  | some prb =>
    simp only [bind, Except.bind, pure, Except.pure, Except.map, Option.map, List.map_map]
    congr 1
    apply List.map_congr_left
    intro i _
    simp [List.range_succ, Spec.substr, OS2IP_eq_os2ip]

/-- **C15 (SHA-256 instance).**  With SHA-256, `expand_message_xmd` succeeds (and then returns the
    RFC's value, by `xmd_eq_spec`) iff `len(DST) ≤ 255` and `len_in_bytes ≤ 255·32 = 8160`; for
    `hash_to_field` that is `count·m·64 ≤ 8160`. -/
theorem xmd_sha256_ok_iff (msg dst : Bytes) (len : Nat) :
    (∃ out, expandMessageXmd sha256Fn msg dst len = .ok out) ↔ dst.length ≤ 255 ∧ len ≤ 8160 := by
  have h := xmd_error_iff sha256Fn msg dst len (by decide)
  have hc := spec_ceilDiv_le_iff len 255 (b := sha256Fn.digestSize) (by decide)
  have h32 : sha256Fn.digestSize = 32 := rfl
  rw [h32] at h hc
  constructor
  · intro ⟨out, ho⟩
    have : ¬ ∃ e, expandMessageXmd sha256Fn msg dst len = .error e := by
      intro ⟨e, he⟩; rw [ho] at he; cases he
    rw [h] at this
    omega
  · intro hh
    cases ho : expandMessageXmd sha256Fn msg dst len with
    | ok out => exact ⟨out, rfl⟩
    | error e =>
      have := h.mp ⟨e, ho⟩
      omega

end PyEcc.C15
