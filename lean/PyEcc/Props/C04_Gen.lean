/-
  PyEcc.Props.C04_Gen — property C04 (**verification is total and rejects malformed input and never feeds unvalidated points
  to `pairing`**) stated DIRECTLY ABOUT THE GENERATED CODE `PyEcc.Gen.ExtraBls.*` (`py_ecc/bls/ciphersuites.py` as translated
  from the repository on this run:
  `KeyValidate`, `Verify`, `AggregateVerify`, `FastAggregateVerify`, `PopVerify`, with the real `try/except` structure and
  exception kinds), and about the generated primitives underneath (`Gen.ExtraCodec`: `pubkey_to_G1`, `signature_to_G2`,
  `decompress_G1/G2`, `G1_to_pubkey`, `subgroup_check`; `Gen.ExtraSwu.hash_to_G2`; `Gen.ExtraPairing.OptBls.pairing`,
  `final_exponentiate`).

  Each theorem is the model theorem of `Props/C04.lean` / `C04_Total.lean` / `C04_Canon.lean` rewritten with the tie theorems
  (`Props/TieBls.lean`, `TieBlsAgg.lean`, `TieCodec.lean`, `TieCofactor.lean`, `TieSwu.lean`, `TiePairing.lean`).  As there,
  NO theorem has a hypothesis beyond the one it is about: they hold for ALL byte strings of ANY length, all three suites, and
  an arbitrary hash function `H` (any digest size, any output).

  Outcomes.  The translator gives the functions containing a `try/except` the result type `Outcome`
  (`returned b` | `raised e`); `KeyValidate`, whose `try` re-raises every exception kind it does not list, has type
  `Except PyErr Bool`.
-/
import PyEcc.Props.TieBlsAgg
import PyEcc.Props.TieCodec
import PyEcc.Props.TieCofactor
import PyEcc.Props.TieSwu
import PyEcc.Props.TiePairing
import PyEcc.Props.C04_Total
import PyEcc.Props.C03_Logic
import PyEcc.Props.C04_Canon

namespace PyEcc.C04.Gen
open PyEcc PyEcc.Gen.Consts PyEcc.BlsSem

/-! ## 0. Canonical inputs, on the generated decoders -/

/-- `pk` is a canonical public key: exactly 48 bytes, the GENERATED `pubkey_to_G1` decodes it to `P`, `P` is not the identity
    (generated `is_inf`) and passes the GENERATED `subgroup_check` -/
def CanonPk (pk : Bytes) (P : G1Pt) : Prop :=
  pk.length = 48 ∧ Gen.ExtraCodec.pubkey_to_G1 pk = .ok P ∧ Gen.OptBls.is_inf P = false ∧
    Gen.ExtraCodec.subgroup_check P = true

/-- `sig` is a canonical signature: exactly 96 bytes, the GENERATED `signature_to_G2` decodes it to `S`, `S` passes the
    GENERATED `subgroup_check` -/
def CanonSig (sig : Bytes) (S : G2Pt) : Prop :=
  sig.length = 96 ∧ Gen.ExtraCodec.signature_to_G2 sig = .ok S ∧ Gen.ExtraCodec.subgroup_check S = true

theorem canonPk_eq : CanonPk = BlsSem.CanonPk := by
  funext pk P
  unfold CanonPk BlsSem.CanonPk
  rw [Tie.pubkey_to_G1_eq, Tie.subgroup_check_eq]

theorem canonSig_eq : CanonSig = BlsSem.CanonSig := by
  funext sig S
  unfold CanonSig BlsSem.CanonSig
  rw [Tie.signature_to_G2_eq, Tie.subgroup_check_eq]

theorem keyValidate_ok_iff (pk : Bytes) (b : Bool) :
    Gen.ExtraBls.KeyValidate pk = .ok b ↔ keyValidate pk = b := by
  rw [Tie.Bls.KeyValidate_eq]
  exact ⟨fun h => Except.ok.inj h, fun h => congrArg Except.ok h⟩

/-! ## 1. Exception kinds of the generated primitives -/

/-- **Exception kinds of every generated primitive under the verification APIs.**  The generated `decompress_G1` /
    `pubkey_to_G1`, `decompress_G2` / `signature_to_G2`, `pairing` and `hash_to_G2` raise nothing but `ValueError` (for
    `hash_to_G2`: a DST longer than 255 bytes or a digest so short that `ell > 255`; its "unreachable" SWU `raise Exception` is
    never taken); the generated `G1_to_pubkey` never raises and yields 48 bytes. -/
theorem primitive_error_kinds (H : HashFn) :
    (∀ z e, Gen.ExtraCodec.decompress_G1 z = .error e → e = .value) ∧
    (∀ pk e, Gen.ExtraCodec.pubkey_to_G1 pk = .error e → e = .value) ∧
    (∀ z1 z2 e, Gen.ExtraCodec.decompress_G2 (z1, z2) = .error e → e = .value) ∧
    (∀ sig e, Gen.ExtraCodec.signature_to_G2 sig = .error e → e = .value) ∧
    (∀ Q P fe e, Gen.ExtraPairing.OptBls.pairing Q P fe = .error e → e = .value) ∧
    (∀ msg dst e, Gen.ExtraSwu.hash_to_G2 msg dst H = .error e → e = .value) ∧
    (∀ pt, ∃ b, Gen.ExtraCodec.G1_to_pubkey pt = .ok b ∧ b.length = 48) := by
  simp only [Tie.decompress_G1_eq, Tie.pubkey_to_G1_eq, Tie.decompress_G2_eq, Tie.signature_to_G2_eq,
    Tie.pairing_optBls_eq, Tie.hash_to_G2_eq, Tie.G1_to_pubkey_eq]
  obtain ⟨h1, h2, h3, h4, h5, _, h7⟩ := C04.primitive_error_kinds H
  exact ⟨h1, h2, h3, h4, h5, fun msg dst e h => C04.hashToG2_error_kind' H msg dst e h, h7⟩

/-- **The generated `hash_to_G2` never raises at the suites' own tags.**  All four generated domain-separation tags (`DST` of
    the three classes and `POP_TAG`) are 43 bytes long, so the `len(DST) > 255` `ValueError` is impossible; if the hash function's
    digest has at least 2 bytes (SHA-256 has 32) the generated `hash_to_G2(msg, tag, H)` returns for every message. -/
theorem hash_to_G2_suite_total (H : HashFn) (hd : 2 ≤ H.digestSize) (msg : Bytes) :
    (∀ s : Suite, ∃ mp, Gen.ExtraSwu.hash_to_G2 msg (Gen.ExtraBls.DST s) H = .ok mp) ∧
    (∃ mp, Gen.ExtraSwu.hash_to_G2 msg Gen.ExtraBls.POP_TAG H = .ok mp) := by
  simp only [Tie.hash_to_G2_eq, Tie.Bls.DST_eq, Tie.Bls.POP_TAG_eq]
  exact ⟨fun s => C04.hashToG2_returns H hd msg (suite_dst_le s),
    C04.hashToG2_returns H hd msg popTag_le⟩

example : 2 ≤ sha256Fn.digestSize := by decide

/-- **The signature-side `pairing` calls cannot raise.**  For every byte string that the generated `signature_to_G2` decodes
    to `S`, the generated `pairing(S, G1)` (as called in `_CoreVerify`) and `pairing(S, neg(G1))` (as called in
    `_CoreAggregateVerify`) return. -/
theorem pairing_sig_cannot_raise (sig : Bytes) (S : G2Pt) (h : Gen.ExtraCodec.signature_to_G2 sig = .ok S) :
    (∃ e, Gen.ExtraPairing.OptBls.pairing S blsG1 false = .ok e) ∧
    (∃ e, Gen.ExtraPairing.OptBls.pairing S (Gen.OptBls.neg blsG1) false = .ok e) := by
  simp only [Tie.signature_to_G2_eq, Tie.pairing_optBls_eq] at h ⊢
  exact C04.pairing_sig_cannot_raise sig S h

/-! ## 2. Totality -/

/-- **The generated `KeyValidate` never raises, and its exact accept set.**  For every byte string `KeyValidate(pk)` returns a
    `bool` (the `try: pubkey_to_G1(PK) except (ValidationError, ValueError, AssertionError): return False` re-raises nothing,
    because `pubkey_to_G1` raises only `ValueError`); it returns `True` iff `pk` has exactly 48 bytes, decodes (generated
    `pubkey_to_G1`), is not the identity and passes the generated `subgroup_check`. -/
theorem KeyValidate_total (pk : Bytes) :
    (∃ b, Gen.ExtraBls.KeyValidate pk = .ok b) ∧
    (Gen.ExtraBls.KeyValidate pk = .ok true ↔ pk.length = 48 ∧ ∃ P, Gen.ExtraCodec.pubkey_to_G1 pk = .ok P ∧
      Gen.OptBls.is_inf P = false ∧ Gen.ExtraCodec.subgroup_check P = true) := by
  refine ⟨⟨keyValidate pk, (keyValidate_ok_iff pk _).mpr rfl⟩, ?_⟩
  simp only [keyValidate_ok_iff, Tie.pubkey_to_G1_eq, Tie.subgroup_check_eq]
  exact (C04.keyValidate_total pk).2

/-- **The generated `Verify(PK, message, signature)` always returns a `bool`** — it raises no exception of any kind, for any
    byte strings, in each of the three ciphersuites (basic, AUG, POP). -/
theorem Verify_total (H : HashFn) (s : Suite) (pk msg sig : Bytes) :
    ∃ b, Gen.ExtraBls.Verify H s pk msg sig = .returned b := by
  rw [Tie.Bls.Verify_eq]; exact C04.verify_total' H s pk msg sig

/-- **The generated `PopVerify(PK, proof)` always returns a `bool`**, for any byte strings. -/
theorem PopVerify_total (H : HashFn) (pk proof : Bytes) :
    ∃ b, Gen.ExtraBls.PopVerify H pk proof = .returned b := by
  rw [Tie.Bls.PopVerify_eq]; exact C04.popVerify_total' H pk proof

/-- **The generated `AggregateVerify(PKs, messages, signature)` always returns a `bool`**, for key and message lists of any
    (also different) lengths with entries of any length, all three suites (each with its own override). -/
theorem AggregateVerify_total (H : HashFn) (s : Suite) (pks msgs : List Bytes) (sig : Bytes) :
    ∃ b, Gen.ExtraBls.AggregateVerify H s pks msgs sig = .returned b := by
  rw [Tie.Bls.AggregateVerify_eq]; exact C04.aggregateVerify_total' H s pks msgs sig

/-- **The generated `FastAggregateVerify(PKs, message, signature)` always returns a `bool`**, for any inputs — in particular
    the narrower `except (ValidationError, AssertionError)` of its `try` block lets nothing through. -/
theorem FastAggregateVerify_total (H : HashFn) (pks : List Bytes) (msg sig : Bytes) :
    ∃ b, Gen.ExtraBls.FastAggregateVerify H pks msg sig = .returned b := by
  rw [Tie.Bls.FastAggregateVerify_eq]; exact C04.fastAggregateVerify_total' H pks msg sig

/-- **No generated verification API ever raises** (summary): none of `Verify`, `PopVerify`, `AggregateVerify`,
    `FastAggregateVerify` has an outcome `raised e`, and `KeyValidate` has no result `error e`. -/
theorem never_raises (H : HashFn) (e : PyErr) :
    (∀ s pk msg sig, Gen.ExtraBls.Verify H s pk msg sig ≠ .raised e) ∧
    (∀ pk proof, Gen.ExtraBls.PopVerify H pk proof ≠ .raised e) ∧
    (∀ s pks msgs sig, Gen.ExtraBls.AggregateVerify H s pks msgs sig ≠ .raised e) ∧
    (∀ pks msg sig, Gen.ExtraBls.FastAggregateVerify H pks msg sig ≠ .raised e) ∧
    (∀ pk, Gen.ExtraBls.KeyValidate pk ≠ .error e) := by
  simp only [Tie.Bls.Verify_eq, Tie.Bls.PopVerify_eq, Tie.Bls.AggregateVerify_eq, Tie.Bls.FastAggregateVerify_eq,
    Tie.Bls.KeyValidate_eq]
  obtain ⟨h1, h2, h3, h4⟩ := C04.never_raises H e
  exact ⟨h1, h2, h3, h4, fun pk h => by cases h⟩

/-! ## 3. Non-canonical input is rejected -/

/-- **The generated `Verify` returns `True` only on canonical key and signature.**  If `Verify(pk, msg, sig)` is `True` then
    `pk` has exactly 48 bytes and decodes (generated `pubkey_to_G1`) to a point `P` that is not the identity and passes the
    generated `subgroup_check`, and `sig` has exactly 96 bytes and decodes (generated `signature_to_G2`) to a point `S` that
    passes the generated `subgroup_check`.  (All suites, any hash function, byte strings of any length.) -/
theorem Verify_rejects_noncanonical (H : HashFn) (s : Suite) (pk msg sig : Bytes)
    (h : Gen.ExtraBls.Verify H s pk msg sig = .returned true) :
    pk.length = 48 ∧ sig.length = 96 ∧ ∃ P S, Gen.ExtraCodec.pubkey_to_G1 pk = .ok P ∧
      Gen.OptBls.is_inf P = false ∧ Gen.ExtraCodec.subgroup_check P = true ∧
      Gen.ExtraCodec.signature_to_G2 sig = .ok S ∧ Gen.ExtraCodec.subgroup_check S = true := by
  simp only [Tie.Bls.Verify_eq, Tie.pubkey_to_G1_eq, Tie.signature_to_G2_eq, Tie.subgroup_check_eq] at h ⊢
  exact C04.verify_rejects_noncanonical H s pk msg sig h

/-- **Malformed input makes the generated `Verify` return `False` — unconditionally.**  Unless `pk` is a canonical key and
    `sig` a canonical signature (`CanonPk`, `CanonSig` above: generated decoders and `subgroup_check`), `Verify` returns `False`
    (it does not raise). -/
theorem Verify_malformed_returns_false (H : HashFn) (s : Suite) (pk msg sig : Bytes)
    (h : ¬ ∃ P S, CanonPk pk P ∧ CanonSig sig S) : Gen.ExtraBls.Verify H s pk msg sig = .returned false := by
  simp only [canonPk_eq, canonSig_eq, Tie.Bls.Verify_eq] at h ⊢
  exact C04.verify_malformed_returns_false H s pk msg sig h

/-- non-vacuity: the empty key is malformed -/
example (H : HashFn) (s : Suite) (msg sig : Bytes) : Gen.ExtraBls.Verify H s [] msg sig = .returned false :=
  Verify_malformed_returns_false H s [] msg sig (by rintro ⟨P, S, ⟨hl, _⟩, _⟩; cases hl)

/-- non-vacuity of `CanonPk` / `CanonSig`: the generator's encoding is a canonical key and the encoding of infinity is a
    canonical signature -/
example : (∃ P, CanonPk C04.genPk P) ∧ (∃ S, CanonSig C04.infSig S) := by
  rw [canonPk_eq, canonSig_eq]; exact ⟨C04.genPk_canon, C04.infSig_canon⟩

/-- **Exact accept set of the generated `Verify`.**  `Verify(pk, msg, sig)` is `True` iff key and signature are canonical, the
    generated `hash_to_G2` of the (suite-augmented) message under the class's generated `DST` returns, both generated `pairing`
    calls return, and the generated `final_exponentiate` of the product is `FQ12.one()`. -/
theorem Verify_true_iff (H : HashFn) (s : Suite) (pk msg sig : Bytes) :
    Gen.ExtraBls.Verify H s pk msg sig = .returned true ↔
      ∃ P S mp e1 e2, CanonPk pk P ∧ CanonSig sig S ∧
        Gen.ExtraSwu.hash_to_G2 (vmsg s pk msg) (Gen.ExtraBls.DST s) H = .ok mp ∧
        Gen.ExtraPairing.OptBls.pairing S blsG1 false = .ok e1 ∧
        Gen.ExtraPairing.OptBls.pairing mp (Gen.OptBls.neg P) false = .ok e2 ∧
        Gen.ExtraPairing.OptBls.final_exponentiate (e1 * e2) = (1 : OBls12) := by
  simp only [canonPk_eq, canonSig_eq, Tie.Bls.Verify_eq, Tie.hash_to_G2_eq, Tie.Bls.DST_eq, Tie.pairing_optBls_eq,
    Tie.final_exponentiate_optBls_eq]
  exact C04.verify_true_iff H s pk msg sig

/-- **The generated `PopVerify` returns `True` only on canonical key and proof** (as `Verify_rejects_noncanonical`). -/
theorem PopVerify_rejects_noncanonical (H : HashFn) (pk proof : Bytes)
    (h : Gen.ExtraBls.PopVerify H pk proof = .returned true) :
    pk.length = 48 ∧ proof.length = 96 ∧ ∃ P S, Gen.ExtraCodec.pubkey_to_G1 pk = .ok P ∧
      Gen.OptBls.is_inf P = false ∧ Gen.ExtraCodec.subgroup_check P = true ∧
      Gen.ExtraCodec.signature_to_G2 proof = .ok S ∧ Gen.ExtraCodec.subgroup_check S = true := by
  simp only [Tie.Bls.PopVerify_eq, Tie.pubkey_to_G1_eq, Tie.signature_to_G2_eq, Tie.subgroup_check_eq] at h ⊢
  exact C04.popVerify_rejects_noncanonical H pk proof h

/-- **Malformed input makes the generated `PopVerify` return `False` — unconditionally.** -/
theorem PopVerify_malformed_returns_false (H : HashFn) (pk proof : Bytes)
    (h : ¬ ∃ P S, CanonPk pk P ∧ CanonSig proof S) : Gen.ExtraBls.PopVerify H pk proof = .returned false := by
  simp only [canonPk_eq, canonSig_eq, Tie.Bls.PopVerify_eq] at h ⊢
  exact C04.popVerify_malformed_returns_false H pk proof h

example (H : HashFn) (proof : Bytes) : Gen.ExtraBls.PopVerify H [] proof = .returned false :=
  PopVerify_malformed_returns_false H [] proof (by rintro ⟨P, S, ⟨hl, _⟩, _⟩; cases hl)

/-- **The generated `AggregateVerify` returns `True` only on canonical keys and signature.**  If
    `AggregateVerify(PKs, messages, sig)` is `True` then there is at least one key, as many messages as keys, EVERY key in the
    list is canonical (48 bytes, decodes, not the identity, in the subgroup — generated decoders and `subgroup_check`), the
    signature is canonical (96 bytes, decodes, in the subgroup), and in the basic suite the messages are pairwise distinct. -/
theorem AggregateVerify_rejects_noncanonical (H : HashFn) (s : Suite) (pks msgs : List Bytes) (sig : Bytes)
    (h : Gen.ExtraBls.AggregateVerify H s pks msgs sig = .returned true) :
    1 ≤ pks.length ∧ pks.length = msgs.length ∧ sig.length = 96 ∧
    (∀ pk ∈ pks, pk.length = 48 ∧ ∃ P, Gen.ExtraCodec.pubkey_to_G1 pk = .ok P ∧ Gen.OptBls.is_inf P = false ∧
      Gen.ExtraCodec.subgroup_check P = true) ∧
    (∃ S, Gen.ExtraCodec.signature_to_G2 sig = .ok S ∧ Gen.ExtraCodec.subgroup_check S = true) ∧
    (s = .basic → msgs.Nodup) := by
  simp only [Tie.Bls.AggregateVerify_eq, Tie.pubkey_to_G1_eq, Tie.signature_to_G2_eq, Tie.subgroup_check_eq] at h ⊢
  obtain ⟨a, b, c, d, e, f⟩ := C04.aggregateVerify_rejects_noncanonical H s pks msgs sig h
  refine ⟨a, b, c, d, e, fun hs => ?_⟩
  by_contra hn
  have := (C03.hasDup_iff_not_nodup msgs).mpr hn
  rw [f hs] at this
  cases this

/-- **A key failing the generated `KeyValidate` anywhere in the list makes the generated `AggregateVerify` return `False`**
    (all suites), unconditionally. -/
theorem AggregateVerify_badkey_false (H : HashFn) (s : Suite) (pks msgs : List Bytes) (sig : Bytes)
    (h : ∃ pk ∈ pks, Gen.ExtraBls.KeyValidate pk = .ok false) :
    Gen.ExtraBls.AggregateVerify H s pks msgs sig = .returned false := by
  simp only [keyValidate_ok_iff, Tie.Bls.AggregateVerify_eq] at h ⊢
  exact C04.aggregateVerify_badkey_false' H s pks msgs sig h

/-- non-vacuity: the empty string fails the generated `KeyValidate` -/
example : ∃ pk ∈ [([] : Bytes)], Gen.ExtraBls.KeyValidate pk = .ok false :=
  ⟨[], by simp, (keyValidate_ok_iff [] false).mpr (by decide)⟩

/-- **The generated `FastAggregateVerify` returns `True` only on canonical keys and signature.**  If
    `FastAggregateVerify(PKs, msg, sig)` is `True` then the list is non-empty, EVERY key in it is canonical, the generated
    `_AggregatePKs` returned a key `apk` and the generated `Verify(apk, msg, sig)` (POP suite) is `True` — so the aggregate key
    itself is canonical too, in particular it is NOT the identity — and the signature is canonical. -/
theorem FastAggregateVerify_rejects_noncanonical (H : HashFn) (pks : List Bytes) (msg sig : Bytes)
    (h : Gen.ExtraBls.FastAggregateVerify H pks msg sig = .returned true) :
    1 ≤ pks.length ∧ sig.length = 96 ∧
    (∀ pk ∈ pks, pk.length = 48 ∧ ∃ P, Gen.ExtraCodec.pubkey_to_G1 pk = .ok P ∧ Gen.OptBls.is_inf P = false ∧
      Gen.ExtraCodec.subgroup_check P = true) ∧
    ∃ apk, Gen.ExtraBls._AggregatePKs pks = .ok apk ∧ Gen.ExtraBls.Verify H .pop apk msg sig = .returned true ∧
      ∃ A S, Gen.ExtraCodec.pubkey_to_G1 apk = .ok A ∧ Gen.OptBls.is_inf A = false ∧
        Gen.ExtraCodec.subgroup_check A = true ∧ Gen.ExtraCodec.signature_to_G2 sig = .ok S ∧
        Gen.ExtraCodec.subgroup_check S = true := by
  rw [Tie.Bls.FastAggregateVerify_eq] at h
  simp only [Tie.pubkey_to_G1_eq, Tie.signature_to_G2_eq, Tie.subgroup_check_eq, Tie.Bls.AggregatePKs_eq,
    Tie.Bls.Verify_eq]
  exact C04.fastAggregateVerify_rejects_noncanonical H pks msg sig h

/-- **Malformed input makes the generated `FastAggregateVerify` return `False` — unconditionally**: an empty list, a key
    anywhere in the list that is not 48 bytes long or fails the generated `KeyValidate`, or a signature that is not 96 bytes
    long. -/
theorem FastAggregateVerify_malformed_returns_false (H : HashFn) (pks : List Bytes) (msg sig : Bytes)
    (h : ¬ ((∀ pk ∈ pks, pk.length = 48 ∧ Gen.ExtraBls.KeyValidate pk = .ok true) ∧ sig.length = 96 ∧
      1 ≤ pks.length)) :
    Gen.ExtraBls.FastAggregateVerify H pks msg sig = .returned false := by
  simp only [keyValidate_ok_iff, Tie.Bls.FastAggregateVerify_eq] at h ⊢
  exact C04.fastAggregateVerify_malformed_returns_false H pks msg sig h

example (H : HashFn) (msg sig : Bytes) : Gen.ExtraBls.FastAggregateVerify H [] msg sig = .returned false :=
  FastAggregateVerify_malformed_returns_false H [] msg sig (by simp)

/-! ## 4. Arguments that reach `pairing`

  The model's `coreVerifyBody` / `coreAggregateVerifyBody` additionally RECORD the list of pairing arguments (the
  correspondence harness compares that list with the arguments recorded from the running Python code); the generated bodies
  `_CoreVerify_try` / `_CoreAggregateVerify_try` are the plain Python bodies, without a trace (the tie is to the first
  component).  The theorems below state the content of `C04.pairing_args_safe_core` / `_agg` for the generated bodies: whenever
  the body returns, the values on which its `pairing` calls were made are validated. -/

/-- **Every argument the generated body of `_CoreVerify` passes to `pairing` is validated.**  Whenever the `try` body of
    `_CoreVerify` returns `b`, either the decoded signature failed the generated `subgroup_check` (then `b = False` and no
    `pairing` call was made), or its two `pairing` calls were exactly `pairing(S, G1)` and `pairing(hash_to_G2(msg, DST), neg(P))`
    where `S` is the decoded signature (canonical: 96 bytes, in the subgroup) and `P` the decoded key (canonical: 48 bytes, not
    the identity, in the subgroup), both returned, and `b` is the comparison of `final_exponentiate` of their product with
    `FQ12.one()`. -/
theorem CoreVerify_try_args_safe (H : HashFn) (s : Suite) (pk msg sig dst : Bytes) (b : Bool)
    (h : Gen.ExtraBls._CoreVerify_try H s pk msg sig dst = .ok b) :
    (b = false ∧ ∃ S, Gen.ExtraCodec.signature_to_G2 sig = .ok S ∧ Gen.ExtraCodec.subgroup_check S = false) ∨
    ∃ S P mp e1 e2, CanonSig sig S ∧ CanonPk pk P ∧ Gen.ExtraSwu.hash_to_G2 msg dst H = .ok mp ∧
      Gen.ExtraPairing.OptBls.pairing S blsG1 false = .ok e1 ∧
      Gen.ExtraPairing.OptBls.pairing mp (Gen.OptBls.neg P) false = .ok e2 ∧
      b = decide (Gen.ExtraPairing.OptBls.final_exponentiate (e1 * e2) = (1 : OBls12)) := by
  simp only [Tie.Bls.CoreVerify_try_eq, canonPk_eq, canonSig_eq] at h ⊢
  simp only [Tie.signature_to_G2_eq, Tie.subgroup_check_eq, Tie.hash_to_G2_eq, Tie.pairing_optBls_eq,
    Tie.final_exponentiate_optBls_eq]
  cases hb : coreVerifyBody H s pk msg sig dst with
  | error e => rw [hb] at h; cases h
  | ok r =>
    obtain ⟨b', tr⟩ := r
    rw [hb] at h
    have hbb : b' = b := Except.ok.inj h
    subst hbb
    rcases coreVerifyBody_ok hb with ⟨hf, _, hS⟩ | ⟨P, S, mp, e1, e2, hP, hS, hmp, he1, he2, hfe, _⟩
    · exact .inl ⟨hf, hS⟩
    · exact .inr ⟨S, P, mp, e1, e2, hS, hP, hmp, he1, he2, hfe⟩

/-- **Every argument the generated body of `_CoreAggregateVerify` passes to `pairing` is validated** (invariant over its
    `for pk, message in zip(PKs, messages)` loop).  Whenever the `try` body returns `b`, either the decoded signature failed the
    generated `subgroup_check` (then `b = False`, no `pairing` call), or the signature is canonical, `pairing(S, neg(G1))`
    returned, and for EVERY `(pk, message)` of the zipped lists the key is canonical (decodes to `P`, not the identity, in the
    subgroup) and `hash_to_G2(message, DST)` returned the point `Q` — these `(Q, P)` are the loop's `pairing` arguments. -/
theorem CoreAggregateVerify_try_args_safe (H : HashFn) (s : Suite) (pks msgs : List Bytes) (sig dst : Bytes)
    (b : Bool) (h : Gen.ExtraBls._CoreAggregateVerify_try H s pks msgs sig dst = .ok b) :
    (b = false ∧ ∃ S, Gen.ExtraCodec.signature_to_G2 sig = .ok S ∧ Gen.ExtraCodec.subgroup_check S = false) ∨
    ∃ S, CanonSig sig S ∧ (∃ e, Gen.ExtraPairing.OptBls.pairing S (Gen.OptBls.neg blsG1) false = .ok e) ∧
      ∀ pm ∈ List.zip pks msgs, ∃ P Q, CanonPk pm.1 P ∧ Gen.ExtraSwu.hash_to_G2 pm.2 dst H = .ok Q := by
  simp only [Tie.Bls.CoreAggregateVerify_try_eq, canonPk_eq, canonSig_eq, Tie.signature_to_G2_eq, Tie.subgroup_check_eq,
    Tie.hash_to_G2_eq, Tie.pairing_optBls_eq] at h ⊢
  cases hb : coreAggregateVerifyBody H s pks msgs sig dst with
  | error e => rw [hb] at h; cases h
  | ok r =>
    obtain ⟨b', tr⟩ := r
    rw [hb] at h
    have hbb : b' = b := Except.ok.inj h
    subst hbb
    rcases coreAggregateVerifyBody_ok hb with ⟨hf, _, hS⟩ | ⟨S, ext, _, e, hin, _, hall, he, _, _⟩
    · exact .inl ⟨hf, hS⟩
    · refine .inr ⟨S, hin.2.2.2, ⟨e, he⟩, fun pm hpm => ?_⟩
      obtain ⟨qp, _, ha⟩ := hall.mem_left pm hpm
      exact ⟨qp.2, qp.1, ha.canonPk, ha.2.2⟩

/-- **The fixed G1 arguments are sound too**: the generator `G1` and `neg(G1)` are on the curve `y² = x³ + 4`, are not the
    identity, and pass the generated `subgroup_check`. -/
theorem generator_args_safe :
    Gen.OptBls.is_on_curve blsG1 (Fq.ofInt optimized_bls12_381_b : Fq blsP) = true ∧
    Gen.OptBls.is_inf blsG1 = false ∧ Gen.ExtraCodec.subgroup_check blsG1 = true ∧
    Gen.OptBls.is_on_curve (Gen.OptBls.neg blsG1) (Fq.ofInt optimized_bls12_381_b : Fq blsP) = true ∧
    Gen.OptBls.is_inf (Gen.OptBls.neg blsG1) = false ∧
    Gen.ExtraCodec.subgroup_check (Gen.OptBls.neg blsG1) = true := by
  simp only [Tie.subgroup_check_eq]
  exact C04.generator_args_safe

end PyEcc.C04.Gen
