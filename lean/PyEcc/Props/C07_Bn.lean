/-
  Property C07, reference affine modules, for bn128 (`py_ecc/bn128/bn128_curve.py`).

  The generated functions `Gen.RefBn.{is_on_curve, double, add, multiply, neg}` are the same terms as
  `Gen.RefBls.*` (`Lemmas/TwinModules.lean`, checked against the files generated on this run), so every
  statement of `Props/C07_Bls.lean` and `Props/C07_BlsLaws.lean` (where each is explained) holds of them: by
  unfolding where the functions are not recursive, through the equation `multiply_eq` for the fuelled recursion.
-/
import PyEcc.Props.C07_BlsLaws
import PyEcc.Lemmas.TwinModules

set_option linter.unusedSectionVars false
set_option linter.unusedVariables false

namespace PyEcc.C07.Bn
open PyEcc.CurveSem WeierstrassCurve

variable {F : Type} [Field F] [DecidableEq F]

theorem gen_is_on_curve_iff (pt : Option (F × F)) (b : F) :
    Gen.RefBn.is_on_curve pt b = true ↔ sOn pt b :=
  Bls.gen_is_on_curve_iff pt b

theorem ref_add_refines {b : F} (h2 : (2 : F) ≠ 0) (P Q : (W b).Point) :
    Gen.RefBn.add (reprRef P) (reprRef Q) = .ok (reprRef (P + Q)) :=
  Bls.ref_add_refines h2 P Q

theorem ref_double_refines {b : F} (h2 : (2 : F) ≠ 0) (P : (W b).Point) :
    Gen.RefBn.double (reprRef P) = reprRef (P + P) :=
  Bls.ref_double_refines h2 P

theorem ref_neg_refines {b : F} (P : (W b).Point) :
    Gen.RefBn.neg (reprRef P) = reprRef (-P) :=
  Bls.ref_neg_refines P

theorem ref_multiply_refines {b : F} (h2 : (2 : F) ≠ 0) (P : (W b).Point) (n : Nat) :
    Gen.RefBn.multiply (reprRef P) n = .ok (reprRef (n • P)) := by
  rw [Gen.RefBn.multiply_eq]; exact Bls.ref_multiply_refines h2 P n

theorem ref_is_on_curve_iff {b : F} (h2 : (2 : F) ≠ 0) (h3 : (3 : F) ≠ 0) (hb : b ≠ 0)
    (pt : Option (F × F)) :
    Gen.RefBn.is_on_curve pt b = true ↔ ∃ P : (W b).Point, reprRef P = pt :=
  Bls.ref_is_on_curve_iff h2 h3 hb pt

example : (2 : ℚ) ≠ 0 ∧ (3 : ℚ) ≠ 0 ∧ (1 : ℚ) ≠ 0 := by norm_num

/-! ### the group laws, stated directly about the generated code on on-curve inputs -/

section laws
variable {b : F} (h2 : (2 : F) ≠ 0) (h3 : (3 : F) ≠ 0) (hb : b ≠ 0)
include h2 h3 hb

theorem ref_add_comm {p q : Option (F × F)} (hp : Gen.RefBn.is_on_curve p b = true)
    (hq : Gen.RefBn.is_on_curve q b = true) : Gen.RefBn.add p q = Gen.RefBn.add q p :=
  Bls.ref_add_comm h2 h3 hb hp hq

theorem ref_add_assoc {p q r : Option (F × F)} (hp : Gen.RefBn.is_on_curve p b = true)
    (hq : Gen.RefBn.is_on_curve q b = true) (hr : Gen.RefBn.is_on_curve r b = true) :
    (Gen.RefBn.add p q >>= fun s => Gen.RefBn.add s r)
      = (Gen.RefBn.add q r >>= fun t => Gen.RefBn.add p t) :=
  Bls.ref_add_assoc h2 h3 hb hp hq hr

theorem ref_add_neg {p : Option (F × F)} (hp : Gen.RefBn.is_on_curve p b = true) :
    Gen.RefBn.add p (Gen.RefBn.neg p) = .ok none ∧ Gen.RefBn.add (Gen.RefBn.neg p) p = .ok none :=
  Bls.ref_add_neg h2 h3 hb hp

theorem ref_add_closed {p q : Option (F × F)} (hp : Gen.RefBn.is_on_curve p b = true)
    (hq : Gen.RefBn.is_on_curve q b = true) :
    ∃ s, Gen.RefBn.add p q = .ok s ∧ Gen.RefBn.is_on_curve s b = true :=
  Bls.ref_add_closed h2 h3 hb hp hq

theorem ref_double_closed {p : Option (F × F)} (hp : Gen.RefBn.is_on_curve p b = true) :
    Gen.RefBn.is_on_curve (Gen.RefBn.double p) b = true :=
  Bls.ref_double_closed h2 h3 hb hp

theorem ref_neg_closed {p : Option (F × F)} (hp : Gen.RefBn.is_on_curve p b = true) :
    Gen.RefBn.is_on_curve (Gen.RefBn.neg p) b = true :=
  Bls.ref_neg_closed h2 h3 hb hp

theorem ref_multiply_closed {p : Option (F × F)} (hp : Gen.RefBn.is_on_curve p b = true) (n : Nat) :
    ∃ s, Gen.RefBn.multiply p n = .ok s ∧ Gen.RefBn.is_on_curve s b = true := by
  rw [Gen.RefBn.multiply_eq]; exact Bls.ref_multiply_closed h2 h3 hb hp n

theorem ref_multiply_add {p : Option (F × F)} (hp : Gen.RefBn.is_on_curve p b = true) (m n : Nat) :
    Gen.RefBn.multiply p (m + n)
      = (Gen.RefBn.multiply p m >>= fun s => Gen.RefBn.multiply p n >>= fun t => Gen.RefBn.add s t) := by
  rw [Gen.RefBn.multiply_eq]; exact Bls.ref_multiply_add h2 h3 hb hp m n

theorem ref_multiply_mul {p : Option (F × F)} (hp : Gen.RefBn.is_on_curve p b = true) (m n : Nat) :
    (Gen.RefBn.multiply p m >>= fun s => Gen.RefBn.multiply s n) = Gen.RefBn.multiply p (m * n) := by
  rw [Gen.RefBn.multiply_eq]; exact Bls.ref_multiply_mul h2 h3 hb hp m n

theorem ref_multiply_mod {p : Option (F × F)} (hp : Gen.RefBn.is_on_curve p b = true) (r : Nat)
    (hr : Gen.RefBn.multiply p r = .ok none) (n : Nat) :
    Gen.RefBn.multiply p n = Gen.RefBn.multiply p (n % r) := by
  rw [Gen.RefBn.multiply_eq] at hr ⊢; exact Bls.ref_multiply_mod h2 h3 hb hp r hr n

theorem ref_multiply_neg {p : Option (F × F)} (hp : Gen.RefBn.is_on_curve p b = true) (n : Nat) :
    Gen.RefBn.multiply (Gen.RefBn.neg p) n = (Gen.RefBn.multiply p n).map Gen.RefBn.neg := by
  rw [Gen.RefBn.multiply_eq]; exact Bls.ref_multiply_neg h2 h3 hb hp n

omit h2 h3 hb

theorem ref_add_zero (p : Option (F × F)) :
    Gen.RefBn.add p none = .ok p ∧ Gen.RefBn.add none p = .ok p :=
  Bls.ref_add_zero p

theorem ref_add_self (p : Option (F × F)) : Gen.RefBn.add p p = .ok (Gen.RefBn.double p) :=
  Bls.ref_add_self p

theorem ref_multiply_small (p : Option (F × F)) :
    Gen.RefBn.multiply p 0 = .ok none ∧ Gen.RefBn.multiply p 1 = .ok p
      ∧ Gen.RefBn.multiply p 2 = .ok (Gen.RefBn.double p) := by
  rw [Gen.RefBn.multiply_eq]; exact Bls.ref_multiply_small p

end laws

/-! ### non-vacuity: the hypotheses are satisfiable (the curve `y² = x³ + 1` over `ℚ`, which has the
    points `(0, 1)`, `(2, 3)` and the point `(-1, 0)` of order two) -/

example : Gen.RefBn.is_on_curve (some ((0 : ℚ), 1)) 1 = true
    ∧ Gen.RefBn.is_on_curve (some ((2 : ℚ), 3)) 1 = true
    ∧ Gen.RefBn.is_on_curve (some ((-1 : ℚ), 0)) 1 = true := by
  simp [Gen.RefBn.is_on_curve, Gen.RefBn.is_inf]; norm_num

example : Gen.RefBn.multiply (some ((-1 : ℚ), 0)) 2 = .ok none := by
  simp [Gen.RefBn.multiply, Gen.RefBn.multiplyAux, Gen.RefBn.double, Gen.RefBn.is_inf]

/-- the corollaries instantiated at these points (all hypotheses discharged) -/
example : Gen.RefBn.add (some ((0 : ℚ), 1)) (some (2, 3)) = Gen.RefBn.add (some (2, 3)) (some (0, 1)) :=
  ref_add_comm (b := 1) (by norm_num) (by norm_num) (by norm_num)
    (by simp [Gen.RefBn.is_on_curve, Gen.RefBn.is_inf])
    (by simp [Gen.RefBn.is_on_curve, Gen.RefBn.is_inf]; norm_num)

example (n : Nat) : Gen.RefBn.multiply (some ((-1 : ℚ), 0)) n = Gen.RefBn.multiply (some ((-1 : ℚ), 0)) (n % 2) :=
  ref_multiply_mod (b := 1) (by norm_num) (by norm_num) (by norm_num)
    (by simp [Gen.RefBn.is_on_curve, Gen.RefBn.is_inf]; norm_num) 2
    (by simp [Gen.RefBn.multiply, Gen.RefBn.multiplyAux, Gen.RefBn.double, Gen.RefBn.is_inf]) n

end PyEcc.C07.Bn
