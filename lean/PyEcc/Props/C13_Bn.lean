/-
  PyEcc.Props.C13_Bn — property C13 for the bn128 modules (`py_ecc/optimized_bn128/optimized_curve.py`,
  `optimized_pairing.py` against `py_ecc/bn128/bn128_curve.py`, `bn128_pairing.py`).

  The generated definitions `PyEcc.Gen.OptBn.*` / `PyEcc.Gen.RefBn.*` are the same terms as
  `PyEcc.Gen.OptBls.*` / `PyEcc.Gen.RefBls.*` (`Lemmas/TwinModules.lean`, checked against the files generated on
  this run), so every statement of `Props/C13_Bls.lean` (where each is explained) holds of them: by unfolding
  where the functions are not recursive, through the equations `multiply_eq` for the fuelled recursion.
-/
import PyEcc.Props.C13_Bls
import PyEcc.Lemmas.TwinModules

namespace PyEcc.C13.Bn
open PyEcc PyEcc.Gen
variable {F : Type} [Field F] [DecidableEq F]

theorem opt_is_inf_iff (T : F × F × F) :
    OptBn.is_inf T = true ↔ RefBn.is_inf (toAff T) = true :=
  Bls.opt_is_inf_iff T

theorem opt_neg_toAff (T : F × F × F) :
    toAff (OptBn.neg T) = RefBn.neg (toAff T) :=
  Bls.opt_neg_toAff T

theorem opt_normalize (T : F × F × F) (hz : T.2.2 ≠ 0) :
    toAff T = some (OptBn.normalize T) :=
  Bls.opt_normalize T hz

example : ((1 : ℚ), (2 : ℚ), (3 : ℚ)).2.2 ≠ 0 := by norm_num

theorem opt_normalize1_toAff (T : F × F × F) (hz : T.2.2 ≠ 0) :
    toAff (OptBn.normalize1 T) = toAff T :=
  Bls.opt_normalize1_toAff T hz

theorem opt_eq_iff (T₁ T₂ : F × F × F) :
    OptBn.eq T₁ T₂ = true ↔ toAff T₁ = toAff T₂ :=
  Bls.opt_eq_iff T₁ T₂

theorem opt_is_on_curve_iff (T : F × F × F) (b : F) :
    OptBn.is_on_curve T b = true ↔ RefBn.is_on_curve (toAff T) b = true :=
  Bls.opt_is_on_curve_iff T b

theorem opt_double_toAff (h2 : (2 : F) ≠ 0) (T : F × F × F) :
    toAff (OptBn.double T) = RefBn.double (toAff T) :=
  Bls.opt_double_toAff h2 T

example : (2 : ℚ) ≠ 0 := by norm_num

theorem opt_double_toAff_scale {l : F} (hl : l ≠ 0) (T : F × F × F) :
    toAff (OptBn.double (scale l T)) = toAff (OptBn.double T) :=
  Bls.opt_double_toAff_scale hl T

example : (5 : ℚ) ≠ 0 := by norm_num

theorem ref_add_ok (p q : Option (F × F)) : ∃ r, RefBn.add p q = .ok r :=
  Bls.ref_add_ok p q

theorem opt_add_toAff (h2 : (2 : F) ≠ 0) (T₁ T₂ : F × F × F) :
    RefBn.add (toAff T₁) (toAff T₂) = .ok (toAff (OptBn.add T₁ T₂)) :=
  Bls.opt_add_toAff h2 T₁ T₂

theorem opt_add_toAff_scale_left (h2 : (2 : F) ≠ 0) {l : F} (hl : l ≠ 0) (T₁ T₂ : F × F × F) :
    toAff (OptBn.add (scale l T₁) T₂) = toAff (OptBn.add T₁ T₂) :=
  Bls.opt_add_toAff_scale_left h2 hl T₁ T₂

theorem opt_add_toAff_scale_right (h2 : (2 : F) ≠ 0) {l : F} (hl : l ≠ 0) (T₁ T₂ : F × F × F) :
    toAff (OptBn.add T₁ (scale l T₂)) = toAff (OptBn.add T₁ T₂) :=
  Bls.opt_add_toAff_scale_right h2 hl T₁ T₂

theorem opt_neg_toAff_scale {l : F} (hl : l ≠ 0) (T : F × F × F) :
    toAff (OptBn.neg (scale l T)) = toAff (OptBn.neg T) :=
  Bls.opt_neg_toAff_scale hl T

theorem opt_eq_scale {l m : F} (hl : l ≠ 0) (hm : m ≠ 0) (T₁ T₂ : F × F × F) :
    OptBn.eq (scale l T₁) (scale m T₂) = OptBn.eq T₁ T₂ :=
  Bls.opt_eq_scale hl hm T₁ T₂

theorem opt_is_on_curve_scale {l : F} (hl : l ≠ 0) (T : F × F × F) (b : F) :
    OptBn.is_on_curve (scale l T) b = OptBn.is_on_curve T b :=
  Bls.opt_is_on_curve_scale hl T b

theorem opt_multiply_toAff (h2 : (2 : F) ≠ 0) (T : F × F × F) (n : Nat) :
    RefBn.multiply (toAff T) n = .ok (toAff (OptBn.multiply T n)) := by
  rw [RefBn.multiply_eq, OptBn.multiply_eq]; exact Bls.opt_multiply_toAff h2 T n

theorem opt_multiply_toAff_scale (h2 : (2 : F) ≠ 0) {l : F} (hl : l ≠ 0) (T : F × F × F) (n : Nat) :
    toAff (OptBn.multiply (scale l T) n) = toAff (OptBn.multiply T n) := by
  rw [OptBn.multiply_eq]; exact Bls.opt_multiply_toAff_scale h2 hl T n

theorem ref_linefunc_toAff_inf (P1 P2 T : F × F × F) (h : P1.2.2 = 0 ∨ P2.2.2 = 0 ∨ T.2.2 = 0) :
    RefBn.linefunc (toAff P1) (toAff P2) (toAff T) = .error PyErr.value :=
  Bls.ref_linefunc_toAff_inf P1 P2 T h

-- non-vacuity of the three branch hypotheses (chord / tangent with `y ≠ 0` / vertical), over ℚ
example : (3 : ℚ) * 1 ≠ 1 * 1 := by norm_num
example : (1 : ℚ) * 2 = 2 * 1 ∧ (2 : ℚ) * 2 = 4 * 1 ∧ (4 : ℚ) ≠ 0 := by norm_num
example : (1 : ℚ) * 2 = 2 * 1 ∧ (-2 : ℚ) * 2 ≠ 4 * 1 := by norm_num

theorem opt_linefunc_den_eq_zero_iff (h2 : (2 : F) ≠ 0) (P1 P2 T : F × F × F)
    (hz1 : P1.2.2 ≠ 0) (hz2 : P2.2.2 ≠ 0) (hzt : T.2.2 ≠ 0) :
    (OptBn.linefunc P1 P2 T).2 = 0 ↔ toAff P1 = toAff P2 ∧ P1.2.1 = 0 :=
  Bls.opt_linefunc_den_eq_zero_iff h2 P1 P2 T hz1 hz2 hzt

theorem opt_linefunc_toAff (P1 P2 T : F × F × F)
    (hz1 : P1.2.2 ≠ 0) (hz2 : P2.2.2 ≠ 0) (hzt : T.2.2 ≠ 0)
    (hden : (OptBn.linefunc P1 P2 T).2 ≠ 0) :
    RefBn.linefunc (toAff P1) (toAff P2) (toAff T) =
      .ok ((OptBn.linefunc P1 P2 T).1 / (OptBn.linefunc P1 P2 T).2) :=
  Bls.opt_linefunc_toAff P1 P2 T hz1 hz2 hzt hden

example : ((1 : ℚ), (2 : ℚ), (1 : ℚ)).2.2 ≠ 0 ∧ ((3 : ℚ), (5 : ℚ), (1 : ℚ)).2.2 ≠ 0 ∧
    ((7 : ℚ), (1 : ℚ), (2 : ℚ)).2.2 ≠ 0 ∧
    (OptBn.linefunc ((1 : ℚ), (2 : ℚ), (1 : ℚ)) ((3 : ℚ), (5 : ℚ), (1 : ℚ)) ((7 : ℚ), (1 : ℚ), (2 : ℚ))).2 ≠ 0 := by
  norm_num [OptBn.linefunc]

theorem opt_linefunc_scale {a b c : F} (ha : a ≠ 0) (hb : b ≠ 0) (hc : c ≠ 0) (P1 P2 T : F × F × F) :
    (OptBn.linefunc (scale a P1) (scale b P2) (scale c T)).1 /
        (OptBn.linefunc (scale a P1) (scale b P2) (scale c T)).2 =
      (OptBn.linefunc P1 P2 T).1 / (OptBn.linefunc P1 P2 T).2 :=
  Bls.opt_linefunc_scale ha hb hc P1 P2 T

end PyEcc.C13.Bn
