/-
  The BLS protocol theorems (C01, C02, C03) without the non-degeneracy field `nondeg` (ND) of the hypothesis bundle.

  `NdSem.PairingFacts'' e` (`Lemmas/NdFromModel.lean`) is `C17O.PairingFacts' e` (`Props/C01_ProtoHB2.lean`) without
  `nondeg`, `NdSem.PairingValueFacts'' e` its per-call form.  They assume

    HB1  (`add_left`, `add_right`) — there is a map `e : E'(Fp²) × E(Fp) → GT` (any commutative group `GT`)
         that is additive in each argument on points killed by `r = curve_order`;
    HB1′ (`miller`, resp. `value`) — the model computes that `e`: for pairing calls on canonical, on-curve,
         `r`-torsion arguments, `final_exponentiate(∏ miller values) == FQ12.one()` iff the product of the
         `e`-values of the REPRESENTED points is `1`  (per call: the value of
         `final_exponentiate(pairing(Q, P, False))` in `F_{p¹²}` is `e q p`).

  Nothing else: ND is the theorem `NdSem.PairingFacts''.nondeg` (`Lemmas/NdFromModel.lean`).  Its proof:
  the `r`-torsion of `E'(Fp²)` is cyclic, generated by the point `g2` of the constant `G2` (group order
  `#E'(Fp²) = h₂·r`, `C17O.torsion_E2_cyclic`); the model's `pairing(G2, G1)` is EVALUATED by the Lean kernel
  and is not `FQ12.one()` (`C05N.pairingOptBls_G2_G1_ne_one`, `PropsHeavy/C05_Nondeg.lean`); HB1′ at the single
  call `(G2, G1)` — whose side conditions "canonical, on curve, `r`-torsion" are proved
  (`C07M.blsG2_point`, `BlsProto.g1_rep`, `g1_torsion`) — turns this into `e g2 g1 ≠ 1`; a bilinear map that
  is non-trivial at a generator of a cyclic group of prime order is injective against it
  (`NdSem.nondeg_of_generator`, pure algebra).

  `PairingFacts'' e` / `PairingValueFacts'' e` are closed mathematical statements (standard — `e` = the reduced
  ate pairing — but they need divisors and Weil reciprocity, which Mathlib does not have); an "instance" would be
  their proof, so no `example` of them is given; they are hypotheses, never axioms.  `Props/C01_ProtoModel.lean`
  reduces them to bilinearity of the code's own `pairing`; the docstring of `BlsProto.PairingFacts` tells the whole chain.

  HEAVY: imports `PropsHeavy/C05_Nondeg.lean` (≈ 7 s of kernel evaluation, once).

  Naming: `X_nd` is `X` of `Props/C0{1,2,3}_Proto.lean` under `PairingFacts''`; `X_ndv` is `X` under the
  per-call bundle `PairingValueFacts''`.
-/
import PyEcc.Lemmas.NdFromModel

set_option linter.unusedSectionVars false

namespace PyEcc.C01
open PyEcc PyEcc.Gen PyEcc.Gen.Consts PyEcc.Transfer PyEcc.BlsSem PyEcc.BlsProto PyEcc.NdSem

section
variable [DecidableEq K2] {GT : Type} [CommGroup GT] {e : E2 → E1 → GT}

/-- **Honest signatures verify** (C01), assuming ONLY bilinearity (HB1) and "the model computes `e`" (HB1′):
    for every suite, hash function, `int` secret key `1 ≤ sk < r` and message, if `SkToPk(sk)` returned `pk`
    and `Sign(sk, m)` returned `sig`, then `Verify(pk, m, sig)` returns `True`. -/
theorem sign_verify_nd (pf : PairingFacts'' e) (H : HashFn) (s : Suite) (sk : ℤ)
    (hsk : 1 ≤ sk ∧ sk < (curveOrder : ℤ)) (m pk sig : Bytes) (hpk : skToPk (.int sk) = .ok pk)
    (hsig : sign H s (.int sk) m = .ok sig) : verify H s pk m sig = .returned true :=
  sign_verify pf.toPairingFacts H s sk hsk m pk sig hpk hsig

/-- **Honest possession proofs verify** (C01), assuming only HB1, HB1′: if `SkToPk(sk)` returned `pk` and
    `PopProve(sk)` returned `proof` then `PopVerify(pk, proof)` returns `True`. -/
theorem popProve_popVerify_nd (pf : PairingFacts'' e) (H : HashFn) (sk : ℤ)
    (hsk : 1 ≤ sk ∧ sk < (curveOrder : ℤ)) (pk proof : Bytes) (hpk : skToPk (.int sk) = .ok pk)
    (hproof : popProve H (.int sk) = .ok proof) : popVerify H pk proof = .returned true :=
  popProve_popVerify pf.toPairingFacts H sk hsk pk proof hpk hproof

/-- **Honest signatures exist and verify** (DESIGN's form of C01), assuming only HB1, HB1′: for every hash
    function with a digest of at least 2 bytes, `SkToPk(sk)` and `Sign(sk, m)` return, and `Verify` of the
    results returns `True`. -/
theorem sign_verify_exists_nd (pf : PairingFacts'' e) (H : HashFn) (hd : 2 ≤ H.digestSize) (s : Suite)
    (sk : ℤ) (hsk : 1 ≤ sk ∧ sk < (curveOrder : ℤ)) (m : Bytes) :
    ∃ pk sig, skToPk (.int sk) = .ok pk ∧ sign H s (.int sk) m = .ok sig ∧
      verify H s pk m sig = .returned true :=
  sign_verify_exists pf.toPairingFacts H hd s sk hsk m

/-- **Honest possession proofs exist and verify**, assuming only HB1, HB1′. -/
theorem popProve_popVerify_exists_nd (pf : PairingFacts'' e) (H : HashFn) (hd : 2 ≤ H.digestSize)
    (sk : ℤ) (hsk : 1 ≤ sk ∧ sk < (curveOrder : ℤ)) :
    ∃ pk proof, skToPk (.int sk) = .ok pk ∧ popProve H (.int sk) = .ok proof ∧
      popVerify H pk proof = .returned true :=
  popProve_popVerify_exists pf.toPairingFacts H hd sk hsk

end

section
variable [DecidableEq K2] {e : E2 → E1 → K12ˣ}

/-- `sign_verify` assuming only HB1 and the per-call value identification (`PairingValueFacts''`). -/
theorem sign_verify_ndv (pv : PairingValueFacts'' e) (H : HashFn) (s : Suite) (sk : ℤ)
    (hsk : 1 ≤ sk ∧ sk < (curveOrder : ℤ)) (m pk sig : Bytes) (hpk : skToPk (.int sk) = .ok pk)
    (hsig : sign H s (.int sk) m = .ok sig) : verify H s pk m sig = .returned true :=
  sign_verify pv.toPairingFacts H s sk hsk m pk sig hpk hsig

/-- `popProve_popVerify` assuming only HB1 and the per-call value identification. -/
theorem popProve_popVerify_ndv (pv : PairingValueFacts'' e) (H : HashFn) (sk : ℤ)
    (hsk : 1 ≤ sk ∧ sk < (curveOrder : ℤ)) (pk proof : Bytes) (hpk : skToPk (.int sk) = .ok pk)
    (hproof : popProve H (.int sk) = .ok proof) : popVerify H pk proof = .returned true :=
  popProve_popVerify pv.toPairingFacts H sk hsk pk proof hpk hproof

end

/-- non-vacuity of the key hypotheses: `sk = 1` is a valid key, `SkToPk(1)` returns the compressed generator
    (kernel evaluation, C09), and SHA-256 has a digest of at least 2 bytes -/
example : (1 ≤ (1 : ℤ) ∧ (1 : ℤ) < (curveOrder : ℤ)) ∧ skToPk (.int 1) = .ok C09.compressedG1 ∧
    2 ≤ sha256Fn.digestSize :=
  ⟨by decide, C09.skToPk_one, by decide⟩

end PyEcc.C01

namespace PyEcc.C02
open PyEcc PyEcc.Gen PyEcc.Gen.Consts PyEcc.Transfer PyEcc.BlsSem PyEcc.BlsProto PyEcc.NdSem

section
variable [DecidableEq K2] {GT : Type} [CommGroup GT] {e : E2 → E1 → GT}

/-- **`Verify` accepts exactly the canonical signature** (C02), assuming ONLY HB1 and HB1′: for every suite,
    hash function, `int` secret key `1 ≤ sk < r` with `pk = SkToPk(sk)`, message `m` and candidate byte string
    `cand` of any length: `Verify(pk, m, cand) = True ↔ Sign(sk, m) = cand`. -/
theorem verify_iff_nd (pf : PairingFacts'' e) (H : HashFn) (s : Suite) (sk : ℤ)
    (hsk : 1 ≤ sk ∧ sk < (curveOrder : ℤ)) (m pk cand : Bytes) (hpk : skToPk (.int sk) = .ok pk) :
    verify H s pk m cand = .returned true ↔ sign H s (.int sk) m = .ok cand :=
  verify_iff pf.toPairingFacts H s sk hsk m pk cand hpk

/-- **`PopVerify` accepts exactly the canonical proof** (C02), assuming only HB1, HB1′:
    `PopVerify(pk, cand) = True ↔ PopProve(sk) = cand`. -/
theorem popVerify_iff_nd (pf : PairingFacts'' e) (H : HashFn) (sk : ℤ)
    (hsk : 1 ≤ sk ∧ sk < (curveOrder : ℤ)) (pk cand : Bytes) (hpk : skToPk (.int sk) = .ok pk) :
    popVerify H pk cand = .returned true ↔ popProve H (.int sk) = .ok cand :=
  popVerify_iff pf.toPairingFacts H sk hsk pk cand hpk

/-- **Any string other than the canonical signature is rejected** (bit flips, truncations, extensions,
    re-encodings): if `Sign(sk, m)` returned `sig` and `cand ≠ sig` then `Verify(pk, m, cand)` returns
    `False` (it does not raise).  Assuming only HB1, HB1′. -/
theorem verify_rejects_ne_nd (pf : PairingFacts'' e) (H : HashFn) (s : Suite) (sk : ℤ)
    (hsk : 1 ≤ sk ∧ sk < (curveOrder : ℤ)) (m pk sig cand : Bytes) (hpk : skToPk (.int sk) = .ok pk)
    (hsig : sign H s (.int sk) m = .ok sig) (hne : cand ≠ sig) :
    verify H s pk m cand = .returned false :=
  verify_rejects_ne pf.toPairingFacts H s sk hsk m pk sig cand hpk hsig hne

/-- same for possession proofs: every string other than `PopProve(sk)` makes `PopVerify` return `False` -/
theorem popVerify_rejects_ne_nd (pf : PairingFacts'' e) (H : HashFn) (sk : ℤ)
    (hsk : 1 ≤ sk ∧ sk < (curveOrder : ℤ)) (pk proof cand : Bytes) (hpk : skToPk (.int sk) = .ok pk)
    (hproof : popProve H (.int sk) = .ok proof) (hne : cand ≠ proof) :
    popVerify H pk cand = .returned false :=
  popVerify_rejects_ne pf.toPairingFacts H sk hsk pk proof cand hpk hproof hne

/-- **`−S` is rejected**: with `mp = hash_to_G2(m')` not the identity, the encoding of
    `neg(multiply(mp, sk))` makes `Verify` return `False`.  Assuming only HB1, HB1′. -/
theorem verify_rejects_neg_nd (pf : PairingFacts'' e) (H : HashFn) (s : Suite) (sk : ℤ)
    (hsk : 1 ≤ sk ∧ sk < (curveOrder : ℤ)) (m pk cand : Bytes) (hpk : skToPk (.int sk) = .ok pk)
    (mp : G2Pt) (hmp : hashToG2 H (vmsg s pk m) s.dst = .ok mp) (hinf : OptBls.is_inf mp = false)
    (hc : g2ToSignature (OptBls.neg (OptBls.multiply mp sk.toNat)) = .ok cand) :
    verify H s pk m cand = .returned false :=
  verify_rejects_neg pf.toPairingFacts H s sk hsk m pk cand hpk mp hmp hinf hc

/-- **`2S` is rejected** (hash point not the identity).  Assuming only HB1, HB1′. -/
theorem verify_rejects_double_nd (pf : PairingFacts'' e) (H : HashFn) (s : Suite) (sk : ℤ)
    (hsk : 1 ≤ sk ∧ sk < (curveOrder : ℤ)) (m pk cand : Bytes) (hpk : skToPk (.int sk) = .ok pk)
    (mp : G2Pt) (hmp : hashToG2 H (vmsg s pk m) s.dst = .ok mp) (hinf : OptBls.is_inf mp = false)
    (hc : g2ToSignature (OptBls.double (OptBls.multiply mp sk.toNat)) = .ok cand) :
    verify H s pk m cand = .returned false :=
  verify_rejects_double pf.toPairingFacts H s sk hsk m pk cand hpk mp hmp hinf hc

/-- **`S + T` is rejected for every point `T ≠ ∞` of the twist curve** (a well-formed triple passing
    `is_on_curve`, in the `r`-torsion or not).  Assuming only HB1, HB1′. -/
theorem verify_rejects_add_nd (pf : PairingFacts'' e) (H : HashFn) (s : Suite) (sk : ℤ)
    (hsk : 1 ≤ sk ∧ sk < (curveOrder : ℤ)) (m pk cand : Bytes) (hpk : skToPk (.int sk) = .ok pk)
    (mp : G2Pt) (hmp : hashToG2 H (vmsg s pk m) s.dst = .ok mp) (T : G2Pt) (cT : CanonT T)
    (honT : OptBls.is_on_curve T blsB2 = true) (hT : OptBls.is_inf T = false)
    (hc : g2ToSignature (OptBls.add (OptBls.multiply mp sk.toNat) T) = .ok cand) :
    verify H s pk m cand = .returned false :=
  verify_rejects_add pf.toPairingFacts H s sk hsk m pk cand hpk mp hmp T cT honT hT hc

/-- **The identity encoding** `0xc0 00 … 00` is accepted iff the hash point itself is the identity.
    Assuming only HB1, HB1′. -/
theorem verify_identity_iff_nd (pf : PairingFacts'' e) (H : HashFn) (s : Suite) (sk : ℤ)
    (hsk : 1 ≤ sk ∧ sk < (curveOrder : ℤ)) (m pk cand : Bytes) (hpk : skToPk (.int sk) = .ok pk)
    (mp : G2Pt) (hmp : hashToG2 H (vmsg s pk m) s.dst = .ok mp) (hc : g2ToSignature Z2 = .ok cand) :
    verify H s pk m cand = .returned true ↔ OptBls.is_inf mp = true :=
  verify_identity_iff pf.toPairingFacts H s sk hsk m pk cand hpk mp hmp hc

/-- **Other key** (basic and POP suites): a signature of `m` under `sk`, presented with the public key of
    `sk'`, is accepted iff `sk = sk'` — provided the hash point of `m` is not the identity.
    Assuming only HB1, HB1′. -/
theorem verify_other_key_iff_nd (pf : PairingFacts'' e) (H : HashFn) (s : Suite) (hs : s ≠ .aug)
    (sk sk' : ℤ) (hsk : 1 ≤ sk ∧ sk < (curveOrder : ℤ)) (hsk' : 1 ≤ sk' ∧ sk' < (curveOrder : ℤ))
    (m pk pk' sig : Bytes) (hpk : skToPk (.int sk) = .ok pk) (hpk' : skToPk (.int sk') = .ok pk')
    (mp : G2Pt) (hmp : hashToG2 H m s.dst = .ok mp) (hinf : OptBls.is_inf mp = false)
    (hsig : sign H s (.int sk) m = .ok sig) :
    verify H s pk' m sig = .returned true ↔ sk = sk' :=
  verify_other_key_iff pf.toPairingFacts H s hs sk sk' hsk hsk' m pk pk' sig hpk hpk' mp hmp hinf hsig

/-- **Other message / other suite, same key**: `Sign_s(sk, m)` presented to `Verify_{s'}(pk, m', ·)` is
    rejected (`False`) as soon as the two hash points differ.  Assuming only HB1, HB1′. -/
theorem verify_rejects_other_msg_nd (pf : PairingFacts'' e) (H : HashFn) (s s' : Suite) (sk : ℤ)
    (hsk : 1 ≤ sk ∧ sk < (curveOrder : ℤ)) (m m' pk sig : Bytes) (hpk : skToPk (.int sk) = .ok pk)
    (mp mp' : G2Pt) (hmp : hashToG2 H (vmsg s pk m) s.dst = .ok mp)
    (hmp' : hashToG2 H (vmsg s' pk m') s'.dst = .ok mp') (hsig : sign H s (.int sk) m = .ok sig)
    (hne : OptBls.eq mp mp' = false) : verify H s' pk m' sig = .returned false :=
  verify_rejects_other_msg pf.toPairingFacts H s s' sk hsk m m' pk sig hpk mp mp' hmp hmp' hsig hne

end

section
variable [DecidableEq K2] {e : E2 → E1 → K12ˣ}

/-- `verify_iff` assuming only HB1 and the per-call value identification (`PairingValueFacts''`). -/
theorem verify_iff_ndv (pv : PairingValueFacts'' e) (H : HashFn) (s : Suite) (sk : ℤ)
    (hsk : 1 ≤ sk ∧ sk < (curveOrder : ℤ)) (m pk cand : Bytes) (hpk : skToPk (.int sk) = .ok pk) :
    verify H s pk m cand = .returned true ↔ sign H s (.int sk) m = .ok cand :=
  verify_iff pv.toPairingFacts H s sk hsk m pk cand hpk

/-- `popVerify_iff` assuming only HB1 and the per-call value identification. -/
theorem popVerify_iff_ndv (pv : PairingValueFacts'' e) (H : HashFn) (sk : ℤ)
    (hsk : 1 ≤ sk ∧ sk < (curveOrder : ℤ)) (pk cand : Bytes) (hpk : skToPk (.int sk) = .ok pk) :
    popVerify H pk cand = .returned true ↔ popProve H (.int sk) = .ok cand :=
  popVerify_iff pv.toPairingFacts H sk hsk pk cand hpk

end

/-- non-vacuity of the key hypotheses and of the identity candidate of `verify_identity_iff_nd` -/
example : (1 ≤ (1 : ℤ) ∧ (1 : ℤ) < (curveOrder : ℤ)) ∧ skToPk (.int 1) = .ok C09.compressedG1 ∧
    ∃ cand, g2ToSignature Z2 = .ok cand :=
  ⟨by decide, C09.skToPk_one, by
    obtain ⟨bs, h, _⟩ := C11.signatureToG2_g2ToSignature_roundtrip Z2 (by decide) (by decide)
    exact ⟨bs, h⟩⟩

end PyEcc.C02

namespace PyEcc.C03
open PyEcc PyEcc.Gen PyEcc.Gen.Consts PyEcc.Transfer PyEcc.BlsSem PyEcc.BlsProto PyEcc.NdSem

section
variable [DecidableEq K2] {GT : Type} [CommGroup GT] {e : E2 → E1 → GT}

/-- **`AggregateVerify` accepts exactly `Aggregate` of the honest signatures** (C03, all suites), assuming
    ONLY HB1 and HB1′: for secret keys `1 ≤ skᵢ < r` with `pkᵢ = SkToPk(skᵢ)`,
    `AggregateVerify(pks, msgs, sig) = True` iff there is at least one key, as many messages as keys, the
    messages are distinct (basic suite), and `sig = Aggregate([Sign(skᵢ, msgᵢ)])`. -/
theorem aggregateVerify_iff_aggregate_sign_nd (pf : PairingFacts'' e) (H : HashFn) (s : Suite)
    (sks : List ℤ) (hsks : ∀ sk ∈ sks, 1 ≤ sk ∧ sk < (curveOrder : ℤ)) (pks msgs : List Bytes)
    (sig : Bytes) (hpks : List.Forall₂ (fun sk pk => skToPk (.int sk) = .ok pk) sks pks) :
    aggregateVerify H s pks msgs sig = .returned true ↔
      1 ≤ pks.length ∧ pks.length = msgs.length ∧ (s = .basic → msgs.Nodup) ∧
        ∃ sigs, List.Forall₂ (fun (x : ℤ × Bytes) sg => sign H s (.int x.1) x.2 = .ok sg)
          (sks.zip msgs) sigs ∧ aggregate sigs = .ok sig :=
  aggregateVerify_iff_aggregate_sign pf.toPairingFacts H s sks hsks pks msgs sig hpks

/-- **`FastAggregateVerify` accepts exactly `Aggregate` of the honest signatures of the shared message**
    (C03), provided the aggregate key is not the identity (`r ∤ Σ skᵢ`); assuming only HB1, HB1′. -/
theorem fastAggregateVerify_iff_aggregate_sign_nd (pf : PairingFacts'' e) (H : HashFn) (sks : List ℤ)
    (hsks : ∀ sk ∈ sks, 1 ≤ sk ∧ sk < (curveOrder : ℤ)) (pks : List Bytes) (msg sig : Bytes)
    (hpks : List.Forall₂ (fun sk pk => skToPk (.int sk) = .ok pk) sks pks) :
    fastAggregateVerify H pks msg sig = .returned true ↔
      1 ≤ pks.length ∧ ¬ (blsR ∣ (sks.map Int.toNat).sum) ∧
        ∃ sigs, List.Forall₂ (fun sk sg => sign H .pop (.int sk) msg = .ok sg) sks sigs ∧
          aggregate sigs = .ok sig :=
  fastAggregateVerify_iff_aggregate_sign pf.toPairingFacts H sks hsks pks msg sig hpks

/-- **Order independence of `AggregateVerify`** (all suites): permuting the signers — the
    `(secret key, message)` pairs with their public keys — does not change whether `sig` is accepted.
    Assuming only HB1, HB1′. -/
theorem aggregateVerify_perm_nd (pf : PairingFacts'' e) (H : HashFn) (s : Suite)
    (l l' : List (ℤ × Bytes)) (hp : l.Perm l') (hsks : ∀ x ∈ l, 1 ≤ x.1 ∧ x.1 < (curveOrder : ℤ))
    (pks pks' : List Bytes) (sig : Bytes)
    (hpks : List.Forall₂ (fun (x : ℤ × Bytes) pk => skToPk (.int x.1) = .ok pk) l pks)
    (hpks' : List.Forall₂ (fun (x : ℤ × Bytes) pk => skToPk (.int x.1) = .ok pk) l' pks') :
    aggregateVerify H s pks (l.map (·.2)) sig = .returned true ↔
      aggregateVerify H s pks' (l'.map (·.2)) sig = .returned true :=
  aggregateVerify_perm pf.toPairingFacts H s l l' hp hsks pks pks' sig hpks hpks'

end

section
variable [DecidableEq K2] {e : E2 → E1 → K12ˣ}

/-- `aggregateVerify_iff_aggregate_sign` assuming only HB1 and the per-call value identification. -/
theorem aggregateVerify_iff_aggregate_sign_ndv (pv : PairingValueFacts'' e) (H : HashFn) (s : Suite)
    (sks : List ℤ) (hsks : ∀ sk ∈ sks, 1 ≤ sk ∧ sk < (curveOrder : ℤ)) (pks msgs : List Bytes)
    (sig : Bytes) (hpks : List.Forall₂ (fun sk pk => skToPk (.int sk) = .ok pk) sks pks) :
    aggregateVerify H s pks msgs sig = .returned true ↔
      1 ≤ pks.length ∧ pks.length = msgs.length ∧ (s = .basic → msgs.Nodup) ∧
        ∃ sigs, List.Forall₂ (fun (x : ℤ × Bytes) sg => sign H s (.int x.1) x.2 = .ok sg)
          (sks.zip msgs) sigs ∧ aggregate sigs = .ok sig :=
  aggregateVerify_iff_aggregate_sign pv.toPairingFacts H s sks hsks pks msgs sig hpks

/-- `fastAggregateVerify_iff_aggregate_sign` assuming only HB1 and the per-call value identification. -/
theorem fastAggregateVerify_iff_aggregate_sign_ndv (pv : PairingValueFacts'' e) (H : HashFn)
    (sks : List ℤ) (hsks : ∀ sk ∈ sks, 1 ≤ sk ∧ sk < (curveOrder : ℤ)) (pks : List Bytes)
    (msg sig : Bytes) (hpks : List.Forall₂ (fun sk pk => skToPk (.int sk) = .ok pk) sks pks) :
    fastAggregateVerify H pks msg sig = .returned true ↔
      1 ≤ pks.length ∧ ¬ (blsR ∣ (sks.map Int.toNat).sum) ∧
        ∃ sigs, List.Forall₂ (fun sk sg => sign H .pop (.int sk) msg = .ok sg) sks sigs ∧
          aggregate sigs = .ok sig :=
  fastAggregateVerify_iff_aggregate_sign pv.toPairingFacts H sks hsks pks msg sig hpks

end

/-- non-vacuity of the key hypotheses: the one-element key list `[1]` with `SkToPk(1)` = compressed generator -/
example : (∀ sk ∈ [(1 : ℤ)], 1 ≤ sk ∧ sk < (curveOrder : ℤ)) ∧
    List.Forall₂ (fun sk pk => skToPk (.int sk) = .ok pk) [(1 : ℤ)] [C09.compressedG1] :=
  ⟨by intro sk h; rw [List.mem_singleton] at h; subst h; decide, .cons C09.skToPk_one .nil⟩

end PyEcc.C03
