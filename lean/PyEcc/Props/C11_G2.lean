/-
  PyEcc.Props.C11_G2 — property C11 for G2, the part that does not need the `FQ2` square root:
  word ranges and flags of `compress_G2`, the 96-byte helper `G2_to_signature`, rejection of an
  out-of-range second word, the error kind of `decompress_G2`, and "whatever `decompress_G2` returns is
  on the twist curve" (the decoder re-checks), plus the shape of accepted words.

  The G2 round trip `decompress_G2(compress_G2(P)) ~ P`, full canonicity `compress_G2(decompress_G2(z)) = z` and the
  explicit accept set need `modular_squareroot_in_FQ2` to be correct (eighth-roots-of-unity argument): they are in
  `Props/C11_G2Full.lean`.

  Model: `PyEcc/Model/Codec.lean` (`compressG2`, `decompressG2`, `g2ToSignature`, `signatureToG2`).
-/
import PyEcc.Props.C11

set_option exponentiation.threshold 400

namespace PyEcc.C11
open PyEcc PyEcc.CodecSem PyEcc.BytesLem

/-! ### `compress_G2` -/

/-- `compress_G2(pt)` raises (a `ValueError`, nothing else) exactly when `pt` fails `is_on_curve(pt, b2)`. -/
theorem compressG2_ok_iff (P : G2Pt) :
    (∃ r, compressG2 P = .ok r) ↔ Gen.OptBls.is_on_curve P blsB2 = true := by
  rw [compressG2_eq]
  cases Gen.OptBls.is_on_curve P blsB2
  · simp
  · cases Gen.OptBls.is_inf P <;> simp

/-- see `compressG2_ok_iff` -/
theorem compressG2_error_kind (P : G2Pt) (e : PyErr) (h : compressG2 P = .error e) :
    e = .value ∧ Gen.OptBls.is_on_curve P blsB2 = false := by
  rw [compressG2_eq] at h
  cases hon : Gen.OptBls.is_on_curve P blsB2
  · rw [hon] at h
    cases h; exact ⟨rfl, rfl⟩
  · rw [hon] at h
    cases hi : Gen.OptBls.is_inf P <;> rw [hi] at h <;> cases h

/-- **Word ranges and flags of `compress_G2`.**  When `compress_G2(pt)` returns `(z1, z2)`:
    `z1` is a 384-bit word, `z2 < p` (so the second word never carries flag bits: `p < 2^381`),
    `c_flag(z1) = 1` and `b_flag(z1) = 1` exactly for infinity. -/
theorem compressG2_range (P : G2Pt) (z1 z2 : ℕ) (h : compressG2 P = .ok (z1, z2)) :
    z1 < 2 ^ 384 ∧ z2 < blsP ∧ z2 < 2 ^ 381 ∧
      (getFlags z1).1 = true ∧ (getFlags z1).2.1 = Gen.OptBls.is_inf P := by
  have hp := blsP_lt
  have hp0 := blsP_pos
  rw [compressG2_eq, pow2_381, pow2_382, pow2_383] at h
  split_ifs at h with hon hi
  · obtain ⟨rfl, rfl⟩ := Prod.mk.inj (Except.ok.inj h)
    rw [getFlags_inf.1, hi]
    exact ⟨by omega, hp0, by omega, rfl, rfl⟩
  · obtain ⟨rfl, rfl⟩ := Prod.mk.inj (Except.ok.inj h)
    obtain ⟨hx0, hx0'⟩ := getI_div_range P.1 P.2.2 0
    obtain ⟨hx1, hx1'⟩ := getI_div_range P.1 P.2.2 1
    obtain ⟨wf, _, wlt⟩ := compress_word hx1 hx1' (aflag_div_range P.2.1 P.2.2) rfl
    rw [wf, (Bool.not_eq_true _).mp hi]
    exact ⟨wlt, by omega, by omega, rfl, rfl⟩

/-- both words of `compress_G2` fit in 48 bytes, so `G2_to_signature` does not raise `OverflowError` -/
theorem compressG2_lt {P : G2Pt} {z1 z2 : ℕ} (h : compressG2 P = .ok (z1, z2)) :
    z1 < 256 ^ 48 ∧ z2 < 256 ^ 48 := by
  obtain ⟨h1, _, h2, _⟩ := compressG2_range P z1 z2 h
  have e := pow256_48
  omega

theorem g2ToSignature_ok {P : G2Pt} {z1 z2 : ℕ} (h : compressG2 P = .ok (z1, z2)) :
    g2ToSignature P = .ok (toBytesBE 48 z1 ++ toBytesBE 48 z2) := by
  unfold g2ToSignature
  rw [h]
  simp only [bind, Except.bind, i2osp_ok (compressG2_lt h).1, i2osp_ok (compressG2_lt h).2, pure, Except.pure]

/-- **`G2_to_signature(pt)` returns exactly 96 bytes** whenever it returns; it returns iff `pt` passes
    `is_on_curve`, and otherwise raises `ValueError` — in particular never `OverflowError`: both words always
    fit in 48 bytes. -/
theorem g2ToSignature_length (P : G2Pt) :
    (Gen.OptBls.is_on_curve P blsB2 = true → ∃ bs, g2ToSignature P = .ok bs ∧ bs.length = 96) ∧
    (Gen.OptBls.is_on_curve P blsB2 = false → g2ToSignature P = .error .value) := by
  constructor
  · intro hon
    obtain ⟨⟨z1, z2⟩, hr⟩ := (compressG2_ok_iff P).mpr hon
    exact ⟨_, g2ToSignature_ok hr, by simp⟩
  · intro hon
    unfold g2ToSignature
    cases hr : compressG2 P with
    | error e' =>
      obtain ⟨he, _⟩ := compressG2_error_kind P e' hr
      subst he; rfl
    | ok r =>
      have := (compressG2_ok_iff P).mp ⟨r, hr⟩
      rw [hon] at this; cases this

/-- the byte layer of G2 loses nothing: the two 48-byte halves of `G2_to_signature(pt)` are the two words -/
theorem signatureToG2_g2ToSignature (P : G2Pt) (z1 z2 : ℕ) (h : compressG2 P = .ok (z1, z2)) :
    ∃ bs, g2ToSignature P = .ok bs ∧ signatureToG2 bs = decompressG2 z1 z2 := by
  refine ⟨_, g2ToSignature_ok h, ?_⟩
  unfold signatureToG2
  have hl : (toBytesBE 48 z1).length = 48 := toBytesBE_length _ _
  rw [List.take_left' hl, List.drop_left' hl, os2ip_toBytesBE _ _ (compressG2_lt h).1,
    os2ip_toBytesBE _ _ (compressG2_lt h).2]

/-! ### `decompress_G2` -/

/-- `decompress_G2` raises nothing but `ValueError`. -/
theorem decompress_G2_error_kind (z1 z2 : ℕ) (e : PyErr) (h : decompressG2 z1 z2 = .error e) : e = .value :=
  decompressG2_error_kind h

/-- **The second word never carries flags / must be a reduced coordinate**: `decompress_G2((z1, z2))` rejects
    every `z2 ≥ p` with `ValueError`, whatever `z1` is — in particular every `z2` with one of the three top
    bits (or any higher bit) set, since `p < 2^381`. -/
theorem decompressG2_rejects_second_word (z1 z2 : ℕ) (h : blsP ≤ z2) : decompressG2 z1 z2 = .error .value := by
  apply rejects_of_error_kind decompressG2_error_kind
  intro Q hQ
  have := blsP_pos
  rcases decompressG2_ok_iff.mp hQ with ⟨_, _, _, h2, _⟩ | ⟨_, ⟨_, h0⟩, _⟩ <;> omega

/-- corollary of `decompressG2_rejects_second_word` in terms of bits -/
theorem decompressG2_rejects_second_word_flags (z1 z2 : ℕ) (h : 2 ^ 381 ≤ z2) :
    decompressG2 z1 z2 = .error .value :=
  decompressG2_rejects_second_word z1 z2 (le_trans (le_of_lt blsP_lt) h)

/-- **Whatever `decompress_G2` returns is on the twist curve** `y² = x³ + 4(1+i)` (the decoder re-checks
    `is_on_curve` before returning; infinity `Z2` is on the curve by definition). -/
theorem compress_decompress_G2_oncurve (z1 z2 : ℕ) (P : G2Pt) (h : decompressG2 z1 z2 = .ok P) :
    Gen.OptBls.is_on_curve P blsB2 = true :=
  decompressG2_on_curve h

/-- **Shape of accepted G2 words.**  If `decompress_G2((z1, z2))` returns `P` then `c_flag(z1) = 1` and either
    * `b_flag = 1`, `a_flag = 0`, `z1 % 2^381 = 0`, `z2 = 0` and `P = Z2` (infinity), or
    * `b_flag = 0`, both coordinate words are reduced (`z1 % 2^381 < p`, `z2 < p`), not both zero,
      `modular_squareroot_in_FQ2(x**3 + b2)` returned some `y`, and `P` is the normalized triple
      `(x, ±y, FQ2.one())` with `x = FQ2([z2, z1 % 2^381])`: the decoded `x` is exactly the encoded one. -/
theorem decompressG2_ok_shape (z1 z2 : ℕ) (P : G2Pt) (h : decompressG2 z1 z2 = .ok P) :
    (getFlags z1).1 = true ∧
    (((getFlags z1).2.1 = true ∧ (getFlags z1).2.2 = false ∧ z1 % 2 ^ 381 = 0 ∧ z2 = 0 ∧ P = Z2) ∨
     ((getFlags z1).2.1 = false ∧ z1 % 2 ^ 381 < blsP ∧ z2 < blsP ∧ ¬(z1 % 2 ^ 381 = 0 ∧ z2 = 0) ∧
        ∃ y, modularSquarerootInFq2 (rhsOf2 z1 z2) = some y ∧
          P = (encodedX2 z1 z2, pickY2 (getFlags z1).2.2 y, Fqp.ofInts [1, 0]))) := by
  rcases decompressG2_ok_iff.mp h with ⟨⟨a, hf⟩, hni, h1, h2, y, hy, rfl, _⟩ | ⟨hf, ⟨h1, h2⟩, rfl⟩
  · exact ⟨by rw [hf], Or.inr ⟨by rw [hf], h1, h2, hni, y, hy, rfl⟩⟩
  · exact ⟨by rw [hf], Or.inl ⟨by rw [hf], by rw [hf], h1, h2, rfl⟩⟩

/-- **Infinity round trip for G2.**  Every representative of infinity (`Z = 0`; these all pass `is_on_curve`)
    is encoded as `(2^383 + 2^382, 0)`, which decodes to `Z2`. -/
theorem decompress_compress_G2_inf (P : G2Pt) (hinf : Gen.OptBls.is_inf P = true) :
    compressG2 P = .ok (2 ^ 383 + 2 ^ 382, 0) ∧ decompressG2 (2 ^ 383 + 2 ^ 382) 0 = .ok Z2 := by
  constructor
  · have hon : Gen.OptBls.is_on_curve P blsB2 = true := by simp [Gen.OptBls.is_on_curve, hinf]
    rw [compressG2_eq, if_pos hon, if_pos hinf, pow2_382, pow2_383]
  · exact decompressG2_ok_iff.mpr (Or.inr ⟨getFlags_inf.1, ⟨getFlags_inf.2, rfl⟩, rfl⟩)

/-! ### non-vacuity -/

theorem blsG2_on_curve : Gen.OptBls.is_on_curve blsG2 blsB2 = true := by decide +kernel

set_option maxRecDepth 100000 in
/-- the G2 generator passes `is_on_curve`, so `compress_G2` / `G2_to_signature` succeed on it -/
example : Gen.OptBls.is_on_curve blsG2 blsB2 = true := blsG2_on_curve

/-- hence there are words `(z1, z2)` returned by `compress_G2` (hypothesis of `compressG2_range`) -/
example : ∃ r, compressG2 blsG2 = .ok r := (compressG2_ok_iff blsG2).mpr blsG2_on_curve

/-- and a word accepted by `decompress_G2` (hypothesis of `compress_decompress_G2_oncurve`, `decompressG2_ok_shape`) -/
example : ∃ z1 z2 P, decompressG2 z1 z2 = .ok P :=
  ⟨_, _, _, (decompress_compress_G2_inf Z2 (by decide)).2⟩

end PyEcc.C11
