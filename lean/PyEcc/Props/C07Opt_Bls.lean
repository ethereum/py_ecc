/-
  Property C07, OPTIMIZED projective modules.

  Composition of
    * C13 (`Props/C13_Bls.lean`): the generated optimized projective functions
      `Gen.OptBls.{add, double, neg, multiply, eq, is_on_curve, is_inf}` equal the generated reference
      affine functions through the affine reading `toAff (x, y, z) = if z = 0 then ∞ else (x/z, y/z)`,
      for ALL triples;
    * C07 for the reference modules (`Props/C07_Bls.lean`): the reference affine functions compute Mathlib's group law
      on `(W b).Point` (the curve `y² = x³ + b`) through `reprRef`.
  Result: the optimized Python functions compute Mathlib's group law through
  `Represents T P :≡ toAff T = reprRef P` ("the projective triple `T` is a representative — any
  scaling, any `z = 0` triple for ∞ — of the Mathlib point `P`"), and therefore satisfy the
  commutative-group laws up to the library's own projective equality `eq` (equivalently: up to
  equality of affine readings; `CurveHom.add_comm_eq`, … in `Sem/TransferRefineBls.lean`).  Everything is over an
  ARBITRARY field `F` with `2 ≠ 0` (plus `3 ≠ 0`, `b ≠ 0` where "every solution of the equation is a nonsingular
  point" is needed), so it covers `FQ`, `FQ2`, `FQ12` coordinates at once.

  The bn128 module `Gen.OptBn.*` is the same terms under other names (`Lemmas/TwinModules.lean`);
  `Props/C07Opt_Bn.lean` states the results for it.
-/
import PyEcc.Props.C13_Bls
import PyEcc.Props.C07_Bls
import PyEcc.Gen.OptBls
import Mathlib.Tactic.NormNum
import Mathlib.Algebra.Field.Rat

set_option linter.unusedSectionVars false
set_option linter.unusedVariables false

theorem PyEcc.Represents.toAff_eq {F : Type} [Field F] [DecidableEq F] {b : F} {T : F × F × F}
    {P : (PyEcc.W b).Point} (h : PyEcc.Represents T P) : PyEcc.toAff T = PyEcc.reprRef P := h

namespace PyEcc.C07Opt.Bls
open PyEcc PyEcc.Gen WeierstrassCurve

variable {F : Type} [Field F] [DecidableEq F]

/-- Any triple with `z = 0` (e.g. the library's `Z1 = (1, 1, 0)` but also the degenerate `(0, 0, 0)`
    that `double` can produce) represents the neutral element of the Mathlib group. -/
theorem represents_zero {b : F} {T : F × F × F} (hz : T.2.2 = 0) :
    Represents T (0 : (W b).Point) :=
  C13.toAff_of_z_eq_zero hz

/-- The finite triple `(x, y, z)`, `z ≠ 0`, represents the Mathlib point `(x/z, y/z)`. -/
theorem represents_some {b : F} {T : F × F × F} (hz : T.2.2 ≠ 0)
    (h : (W b).Nonsingular (T.1 / T.2.2) (T.2.1 / T.2.2)) :
    Represents T (Affine.Point.some _ _ h) :=
  C13.toAff_of_z_ne_zero hz

/-- A triple represents at most one Mathlib point. -/
theorem represents_unique {b : F} {T : F × F × F} {P Q : (W b).Point}
    (hP : Represents T P) (hQ : Represents T Q) : P = Q :=
  CurveSem.reprRef_injective (hP.symm.trans hQ)

/-- Scaling a triple by `λ ≠ 0` does not change the point it represents. -/
theorem represents_scale {b : F} {l : F} (hl : l ≠ 0) {T : F × F × F} {P : (W b).Point}
    (hP : Represents T P) : Represents (C13.scale l T) P :=
  (C13.toAff_scale hl T).trans hP

example : (5 : ℚ) ≠ 0 := by norm_num

/-- Optimized `add(p1, p2)`: if the triples `T₁`, `T₂` represent the Mathlib points `P`, `Q` (any
    representatives, ∞ included, `P = Q` and `P = −Q` included) then the returned triple represents
    `P + Q`. -/
theorem opt_add_refines {b : F} (h2 : (2 : F) ≠ 0) {T₁ T₂ : F × F × F} {P Q : (W b).Point}
    (h₁ : Represents T₁ P) (h₂ : Represents T₂ Q) : Represents (OptBls.add T₁ T₂) (P + Q) := by
  have h := C13.Bls.opt_add_toAff h2 T₁ T₂
  rw [h₁.toAff_eq, h₂.toAff_eq, C07.Bls.ref_add_refines h2] at h
  exact (Except.ok.inj h).symm

/-- Optimized `double(pt)`: the result represents `P + P` (points of order two included: the result
    then has `z = 0`). -/
theorem opt_double_refines {b : F} (h2 : (2 : F) ≠ 0) {T : F × F × F} {P : (W b).Point}
    (hT : Represents T P) : Represents (OptBls.double T) (P + P) := by
  rw [Represents, C13.Bls.opt_double_toAff h2, hT.toAff_eq, C07.Bls.ref_double_refines h2]

/-- Optimized `double(pt)` represents `2 • P`. -/
theorem opt_double_refines_two_smul {b : F} (h2 : (2 : F) ≠ 0) {T : F × F × F} {P : (W b).Point}
    (hT : Represents T P) : Represents (OptBls.double T) (2 • P) := by
  rw [two_smul]; exact opt_double_refines h2 hT

/-- Optimized `neg(pt)`: the result represents `−P`. -/
theorem opt_neg_refines {b : F} {T : F × F × F} {P : (W b).Point}
    (hT : Represents T P) : Represents (OptBls.neg T) (-P) := by
  rw [Represents, C13.Bls.opt_neg_toAff, hT.toAff_eq, C07.Bls.ref_neg_refines]

/-- Optimized `multiply(pt, n)` (double-and-add on projective triples): the result represents the
    Mathlib scalar multiple `n • P`, for EVERY natural `n` (0, multiples of the order, … included). -/
theorem opt_multiply_refines {b : F} (h2 : (2 : F) ≠ 0) {T : F × F × F} {P : (W b).Point}
    (hT : Represents T P) (n : Nat) : Represents (OptBls.multiply T n) (n • P) := by
  have h := C13.Bls.opt_multiply_toAff h2 T n
  rw [hT.toAff_eq, C07.Bls.ref_multiply_refines h2] at h
  exact (Except.ok.inj h).symm

/-- Optimized `eq(p1, p2)` decides equality of the represented Mathlib points (any representatives). -/
theorem opt_eq_refines {b : F} {T₁ T₂ : F × F × F} {P Q : (W b).Point}
    (h₁ : Represents T₁ P) (h₂ : Represents T₂ Q) : OptBls.eq T₁ T₂ = true ↔ P = Q := by
  rw [C13.Bls.opt_eq_iff, h₁.toAff_eq, h₂.toAff_eq]
  exact CurveSem.reprRef_injective.eq_iff

/-- Optimized `is_inf(pt)` (`z == 0`) holds exactly when the represented point is the neutral element. -/
theorem opt_is_inf_refines {b : F} {T : F × F × F} {P : (W b).Point}
    (hT : Represents T P) : OptBls.is_inf T = true ↔ P = 0 := by
  rw [OptBls.is_inf, decide_eq_true_iff, ← C13.toAff_eq_none_iff, hT.toAff_eq, ← reprRef_zero (b := b)]
  exact CurveSem.reprRef_injective.eq_iff

/-- Optimized `is_on_curve(pt, b)` accepts exactly the triples that represent a Mathlib point of
    `y² = x³ + b` (for `b ≠ 0`, `2, 3 ≠ 0` every solution of the equation is a nonsingular point). -/
theorem opt_on_curve_represents {b : F} (h2 : (2 : F) ≠ 0) (h3 : (3 : F) ≠ 0) (hb : b ≠ 0)
    (T : F × F × F) :
    OptBls.is_on_curve T b = true ↔ ∃ P : (W b).Point, Represents T P := by
  rw [C13.Bls.opt_is_on_curve_iff, C07.Bls.ref_is_on_curve_iff h2 h3 hb]
  exact ⟨fun ⟨P, h⟩ => ⟨P, h.symm⟩, fun ⟨P, h⟩ => ⟨P, Eq.symm h⟩⟩

/-- The converse direction needs no hypothesis on the field: a triple representing a Mathlib point
    passes `is_on_curve`. -/
theorem opt_on_curve_of_represents {b : F} {T : F × F × F} {P : (W b).Point}
    (hT : Represents T P) : OptBls.is_on_curve T b = true := by
  rw [C13.Bls.opt_is_on_curve_iff, hT.toAff_eq, C07.Bls.gen_is_on_curve_iff]
  exact CurveSem.sOn_reprRef P

example : (2 : ℚ) ≠ 0 ∧ (3 : ℚ) ≠ 0 ∧ (1 : ℚ) ≠ 0 := by norm_num

/-- "Reference and optimized modules agree" (headline form): for an on-curve triple the reference
    `multiply` applied to the affine reading returns normally, and returns the affine reading of the
    optimized `multiply`, which represents `n • P`. -/
theorem opt_agrees_with_ref {b : F} (h2 : (2 : F) ≠ 0) (h3 : (3 : F) ≠ 0) (hb : b ≠ 0)
    {T : F × F × F} (hT : OptBls.is_on_curve T b = true) (n : Nat) :
    RefBls.multiply (toAff T) n = .ok (toAff (OptBls.multiply T n))
      ∧ RefBls.is_on_curve (toAff (OptBls.multiply T n)) b = true
      ∧ ∃ P : (W b).Point, Represents T P ∧ Represents (OptBls.multiply T n) (n • P) := by
  obtain ⟨P, hP⟩ := (opt_on_curve_represents h2 h3 hb T).mp hT
  refine ⟨C13.Bls.opt_multiply_toAff h2 T n, ?_, P, hP, opt_multiply_refines h2 hP n⟩
  rw [← C13.Bls.opt_is_on_curve_iff]
  exact opt_on_curve_of_represents (opt_multiply_refines h2 hP n)

/-! Laws that hold for ALL triples (no curve membership, proved from the formulas), up to the library's own
  projective equality `eq` (by `C13.Bls.opt_eq_iff`: up to equality of affine readings).  Those that need curve
  membership are `CurveHom.add_comm_eq`, … in `Sem/TransferRefineBls.lean`. -/

/-- `add(T, Z) = T` literally when `Z` has `z = 0`. -/
theorem opt_add_zero_right (T Z : F × F × F) (hZ : Z.2.2 = 0) : OptBls.add T Z = T := by
  simp [OptBls.add, hZ]

example : ((1 : ℚ), (1 : ℚ), (0 : ℚ)).2.2 = 0 := rfl

/-- Identity: adding any representative `Z` of ∞ (any triple with `z = 0`) on either side returns a
    triple equal to `T` — for every triple `T`, on the curve or not. -/
theorem opt_add_zero_eq (T Z : F × F × F) (hZ : Z.2.2 = 0) :
    OptBls.eq (OptBls.add T Z) T = true ∧ OptBls.eq (OptBls.add Z T) T = true := by
  simp only [C13.Bls.opt_eq_iff, opt_add_zero_right T Z hZ, true_and]
  by_cases hT : T.2.2 = 0
  · simp [OptBls.add, hZ, hT, C13.toAff_of_z_eq_zero]
  · simp [OptBls.add, hZ, hT]

/-- `add(T, T)` equals `double(T)`, for every triple `T`. -/
theorem opt_add_self_eq (T : F × F × F) :
    OptBls.eq (OptBls.add T T) (OptBls.double T) = true := by
  rw [C13.Bls.opt_eq_iff]
  by_cases hT : T.2.2 = 0
  · have hd : (OptBls.double T).2.2 = 0 := by simp [OptBls.double, hT]
    rw [C13.toAff_of_z_eq_zero hd]
    simp [OptBls.add, hT, C13.toAff_of_z_eq_zero]
  · simp [OptBls.add, hT]

/-- `multiply(T, 0)` is ∞, `multiply(T, 1) = T`, `multiply(T, 2) = double(T)` (for every `T`). -/
theorem opt_multiply_small (T : F × F × F) :
    OptBls.is_inf (OptBls.multiply T 0) = true ∧ OptBls.multiply T 1 = T
      ∧ OptBls.multiply T 2 = OptBls.double T := by
  simp [OptBls.multiply, OptBls.multiplyAux, OptBls.is_inf]

/-- Inverse: `add(T, neg(T))` and `add(neg(T), T)` are ∞ (`z = 0`), for EVERY triple `T` (on the curve
    or not; for `y = 0` the doubling branch is taken and also returns `z = 0`). -/
theorem opt_add_neg (h2 : (2 : F) ≠ 0) (T : F × F × F) :
    OptBls.is_inf (OptBls.add T (OptBls.neg T)) = true
      ∧ OptBls.is_inf (OptBls.add (OptBls.neg T) T) = true := by
  have key : ∀ p : Option (F × F), CurveSem.sAdd p (CurveSem.sNeg p) = none
      ∧ CurveSem.sAdd (CurveSem.sNeg p) p = none := by
    intro p
    rcases p with _ | ⟨x, y⟩
    · exact ⟨rfl, rfl⟩
    · by_cases hy : y = 0
      · subst hy; simp [CurveSem.sAdd, CurveSem.sNeg, CurveSem.sDouble]
      · have hne' : ¬ (y = -y) := mt (CurveSem.eq_neg_self_iff h2).mp hy
        have hne : ¬ (-y = y) := fun h => hne' h.symm
        simp [CurveSem.sAdd, CurveSem.sNeg, hne, hne']
  have e1 := C13.Bls.opt_add_toAff h2 T (OptBls.neg T)
  have e2 := C13.Bls.opt_add_toAff h2 (OptBls.neg T) T
  rw [C13.Bls.opt_neg_toAff, C07.Bls.gen_neg_eq, C07.Bls.gen_add_eq] at e1 e2
  rw [(key (toAff T)).1] at e1
  rw [(key (toAff T)).2] at e2
  have i1 := (Except.ok.inj e1).symm
  have i2 := (Except.ok.inj e2).symm
  rw [C13.toAff_eq_none_iff] at i1 i2
  simp [OptBls.is_inf, i1, i2]

/-- `add` is compatible with `eq`: if `eq(A, A') ∧ eq(B, B')` (ANY triples, on the curve or not) then
    `eq(add(A, B), add(A', B'))` — the projective operation is well defined on projective points. -/
theorem opt_add_congr (h2 : (2 : F) ≠ 0) {A A' B B' : F × F × F}
    (hAA : OptBls.eq A A' = true) (hBB : OptBls.eq B B' = true) :
    OptBls.eq (OptBls.add A B) (OptBls.add A' B') = true := by
  rw [C13.Bls.opt_eq_iff] at hAA hBB ⊢
  have e1 := C13.Bls.opt_add_toAff h2 A B
  rw [hAA, hBB, C13.Bls.opt_add_toAff h2 A' B'] at e1
  exact (Except.ok.inj e1).symm

/-- `multiply` is compatible with `eq` in its point argument (ANY triples). -/
theorem opt_multiply_congr (h2 : (2 : F) ≠ 0) {A A' : F × F × F} (hAA : OptBls.eq A A' = true) (n : Nat) :
    OptBls.eq (OptBls.multiply A n) (OptBls.multiply A' n) = true := by
  rw [C13.Bls.opt_eq_iff] at hAA ⊢
  have e1 := C13.Bls.opt_multiply_toAff h2 A n
  rw [hAA, C13.Bls.opt_multiply_toAff h2 A' n] at e1
  exact (Except.ok.inj e1).symm

/-! ### non-vacuity: the curve `y² = x³ + 1` over `ℚ` with the points `(0, 1)`, `(2, 3)` — given by the
    non-normalised triples `(0, 2, 2)`, `(4, 6, 2)` — and the point `(-1, 0)` of order two -/

example : OptBls.is_on_curve ((0 : ℚ), (2 : ℚ), (2 : ℚ)) 1 = true
    ∧ OptBls.is_on_curve ((4 : ℚ), (6 : ℚ), (2 : ℚ)) 1 = true
    ∧ OptBls.is_on_curve ((-1 : ℚ), (0 : ℚ), (1 : ℚ)) 1 = true := by
  simp [OptBls.is_on_curve, OptBls.is_inf]; norm_num

example : OptBls.is_inf (OptBls.multiply ((-1 : ℚ), (0 : ℚ), (1 : ℚ)) 2) = true := by
  simp [OptBls.multiply, OptBls.multiplyAux, OptBls.double, OptBls.is_inf]

/-- a finite triple really represents a Mathlib point (so `Represents` hypotheses are satisfiable) -/
example : ∃ P : (W (1 : ℚ)).Point, Represents ((4 : ℚ), (6 : ℚ), (2 : ℚ)) P ∧ P ≠ 0 := by
  obtain ⟨P, hP⟩ := (opt_on_curve_represents (b := (1 : ℚ)) (by norm_num) (by norm_num) (by norm_num)
    ((4 : ℚ), (6 : ℚ), (2 : ℚ))).mp (by simp [OptBls.is_on_curve, OptBls.is_inf]; norm_num)
  refine ⟨P, hP, fun h0 => ?_⟩
  have := (opt_is_inf_refines hP).mpr h0
  simp [OptBls.is_inf] at this

end PyEcc.C07Opt.Bls
