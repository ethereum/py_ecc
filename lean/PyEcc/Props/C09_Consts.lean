/-
  PyEcc.Props.C09_Consts — property C09, constant level: the domain-separation tags of the three
  BLS ciphersuites and the proof-of-possession tag are the strings of
  draft-irtf-cfrg-bls-signature-04 §4.2; the length parameters (`KeyGen` `L = 48`,
  `hash_to_field` `L = 64`) and the SSWU / isogeny curve parameters are those of RFC 9380 §8.8.

  `Gen.Consts.suites_DST_*` / `suites_POP_TAG` are the library's byte strings, dumped hex-encoded
  from the working tree on every run; `Suite.dst` / `popTag` (Model/Bls.lean) decode them and are
  what the model of `Sign`/`Verify`/`PopProve` passes to `hash_to_G2`.  A changed tag makes a
  theorem here fail.  Closed-term kernel evaluation; core Lean only.
-/
import PyEcc.Spec.Standards
import PyEcc.Model.Bls
import PyEcc.Model.Swu


namespace PyEcc.C09.Consts
open PyEcc.Gen.Consts

/-- the bytes of an ASCII string, one byte per character (independent of `String.toUTF8`) -/
def asciiBytes (s : String) : Bytes := s.toList.map (fun c => UInt8.ofNat c.toNat)

/-! ### specification side -/

/-- The four tags are 43 ASCII characters each, so their UTF-8 encoding is one byte per character
    and both readings of "the bytes of the string" agree. -/
theorem spec_tags_ascii :
    [Spec.BlsSig.dstBasic, Spec.BlsSig.dstAug, Spec.BlsSig.dstPop, Spec.BlsSig.popTag].all
      (fun s => s.toList.all (fun c => c.toNat < 128) && s.length == 43
        && s.toUTF8.toList == asciiBytes s) = true := by decide +kernel

/-- `KeyGen`'s `L = ceil(3·ceil(log₂ r)/16) = 48` (`r` has 255 bits), and `hash_to_field`'s
    `L = ceil((ceil(log₂ p) + 128)/8) = 64` (`p` has 381 bits). -/
theorem spec_lengths :
    2 ^ 254 < Spec.BLS12381.r ∧ Spec.BLS12381.r < 2 ^ 255 ∧
    Spec.BlsSig.keygenL = (3 * 255 + 15) / 16 ∧
    2 ^ 380 < Spec.BLS12381.p ∧ Spec.BLS12381.p < 2 ^ 381 ∧
    Spec.H2C.hashToFieldL = (381 + 128 + 7) / 8 := by decide +kernel

/-- RFC 9380 §8.8.1 sanity: `Z = 11` is a non-square mod `p` (Euler's criterion, evaluated), as the
    simplified SWU map requires. -/
theorem spec_iso11Z_nonsquare :
    powMod Spec.H2C.iso11Z ((Spec.BLS12381.p - 1) / 2) Spec.BLS12381.p = Spec.BLS12381.p - 1 := by
  decide +kernel

/-- hence the two readings agree on each of them -/
theorem utf8_eq_ascii {s : String}
    (hs : s ∈ [Spec.BlsSig.dstBasic, Spec.BlsSig.dstAug, Spec.BlsSig.dstPop, Spec.BlsSig.popTag]) :
    s.toUTF8.toList = asciiBytes s := by
  have := List.all_eq_true.mp spec_tags_ascii s hs
  simp only [Bool.and_eq_true, beq_iff_eq] at this
  exact this.2

/-! ### the ciphersuite tags -/

/-- `bytes.fromhex` of a string literal reads the literal's characters: the kernel unfolds a literal to
    `String.ofList` of its characters, which is much cheaper than evaluating `String.toList` on it -/
theorem ofHex_ofList (l : List Char) : Bytes.ofHex (String.ofList l) = Bytes.ofHexChars l := by
  unfold Bytes.ofHex
  rw [String.toList_ofList]

theorem hexBytes_of_ofHex {s : String} {b : Bytes} (h : Bytes.ofHex s = some b) : hexBytes s = b := by
  unfold hexBytes
  rw [h]
  rfl

/-- kernel evaluation: the four stored hex strings decode to the UTF-8 bytes of the draft's strings -/
theorem ofHex_basic : Bytes.ofHex suites_DST_basic = some Spec.BlsSig.dstBasic.toUTF8.toList :=
  (ofHex_ofList _).trans (by decide +kernel)
theorem ofHex_aug : Bytes.ofHex suites_DST_aug = some Spec.BlsSig.dstAug.toUTF8.toList :=
  (ofHex_ofList _).trans (by decide +kernel)
theorem ofHex_pop : Bytes.ofHex suites_DST_pop = some Spec.BlsSig.dstPop.toUTF8.toList :=
  (ofHex_ofList _).trans (by decide +kernel)
theorem ofHex_popTag : Bytes.ofHex suites_POP_TAG = some Spec.BlsSig.popTag.toUTF8.toList :=
  (ofHex_ofList _).trans (by decide +kernel)

/-- `G2Basic.DST` is `BLS_SIG_BLS12381G2_XMD:SHA-256_SSWU_RO_NUL_`: the stored hex string decodes
    (successfully) to exactly the bytes of the draft's string. -/
theorem dst_basic :
    Suite.dst .basic = "BLS_SIG_BLS12381G2_XMD:SHA-256_SSWU_RO_NUL_".toUTF8.toList ∧
    Bytes.ofHex suites_DST_basic = some (asciiBytes Spec.BlsSig.dstBasic) :=
  ⟨hexBytes_of_ofHex ofHex_basic, ofHex_basic.trans (congrArg some (utf8_eq_ascii (by simp)))⟩

/-- `G2MessageAugmentation.DST` is `BLS_SIG_BLS12381G2_XMD:SHA-256_SSWU_RO_AUG_`. -/
theorem dst_aug :
    Suite.dst .aug = "BLS_SIG_BLS12381G2_XMD:SHA-256_SSWU_RO_AUG_".toUTF8.toList ∧
    Bytes.ofHex suites_DST_aug = some (asciiBytes Spec.BlsSig.dstAug) :=
  ⟨hexBytes_of_ofHex ofHex_aug, ofHex_aug.trans (congrArg some (utf8_eq_ascii (by simp)))⟩

/-- `G2ProofOfPossession.DST` is `BLS_SIG_BLS12381G2_XMD:SHA-256_SSWU_RO_POP_`. -/
theorem dst_pop :
    Suite.dst .pop = "BLS_SIG_BLS12381G2_XMD:SHA-256_SSWU_RO_POP_".toUTF8.toList ∧
    Bytes.ofHex suites_DST_pop = some (asciiBytes Spec.BlsSig.dstPop) :=
  ⟨hexBytes_of_ofHex ofHex_pop, ofHex_pop.trans (congrArg some (utf8_eq_ascii (by simp)))⟩

/-- `G2ProofOfPossession.POP_TAG` is `BLS_POP_BLS12381G2_XMD:SHA-256_SSWU_RO_POP_`. -/
theorem pop_tag :
    popTag = "BLS_POP_BLS12381G2_XMD:SHA-256_SSWU_RO_POP_".toUTF8.toList ∧
    Bytes.ofHex suites_POP_TAG = some (asciiBytes Spec.BlsSig.popTag) :=
  ⟨hexBytes_of_ofHex ofHex_popTag, ofHex_popTag.trans (congrArg some (utf8_eq_ascii (by simp)))⟩

/-- All four at once against `Spec.BlsSig`, and the abstract base class has the empty `DST`. -/
theorem tags_eq_spec :
    Suite.dst .basic = Spec.BlsSig.dstBasic.toUTF8.toList ∧
    Suite.dst .aug = Spec.BlsSig.dstAug.toUTF8.toList ∧
    Suite.dst .pop = Spec.BlsSig.dstPop.toUTF8.toList ∧
    popTag = Spec.BlsSig.popTag.toUTF8.toList ∧
    suites_DST_base = "" :=
  ⟨hexBytes_of_ofHex ofHex_basic, hexBytes_of_ofHex ofHex_aug, hexBytes_of_ofHex ofHex_pop,
    hexBytes_of_ofHex ofHex_popTag, rfl⟩

/-- The four tags are pairwise distinct (domain separation between the schemes, and between
    signatures and proofs of possession). -/
theorem tags_distinct :
    Suite.dst .basic ≠ Suite.dst .aug ∧ Suite.dst .basic ≠ Suite.dst .pop ∧
    Suite.dst .aug ≠ Suite.dst .pop ∧ popTag ≠ Suite.dst .basic ∧ popTag ≠ Suite.dst .aug ∧
    popTag ≠ Suite.dst .pop := by
  rw [tags_eq_spec.1, tags_eq_spec.2.1, tags_eq_spec.2.2.1, tags_eq_spec.2.2.2.1]
  decide +kernel

/-! ### length parameters -/

/-- `KeyGen` uses `L = 48`, `hash_to_field` uses `L = 64`, and the suites' `curve_order` is the
    standard `r`. -/
theorem lengths :
    suites_keygen_L = Spec.BlsSig.keygenL ∧ blsconst_HASH_TO_FIELD_L = Spec.H2C.hashToFieldL ∧
    curveOrder = Spec.BLS12381.r := by decide +kernel

/-! ### RFC 9380 §8.8 curve parameters of the SSWU maps -/

/-- G1 suite (§8.8.1): `Z = 11`, and `A'`, `B'` of the 11-isogenous curve. -/
theorem iso11_params :
    h2c_ISO_11_Z = Spec.H2C.iso11Z ∧ h2c_ISO_11_A = Spec.H2C.iso11A ∧ h2c_ISO_11_B = Spec.H2C.iso11B ∧
    h2c_ISO_11_A < Spec.BLS12381.p ∧ h2c_ISO_11_B < Spec.BLS12381.p := by decide +kernel

/-- G2 suite (§8.8.2): `A' = 240·i`, `B' = 1012·(1+i)`, `Z = −(2+i)` (stored as the canonical
    residues `[p−2, p−1]`). -/
theorem iso3_params :
    h2c_ISO_3_A = Spec.H2C.iso3A ∧ h2c_ISO_3_B = Spec.H2C.iso3B ∧ h2c_ISO_3_Z = Spec.H2C.iso3Z := by
  decide +kernel

/-- The model's typed `ISO_3_Z` is `−(2 + i)` computed in the model of the library's `FQ2`, and the
    typed `ISO_11_*` carry the standard residues. -/
theorem iso_params_typed :
    ISO_3_Z = -(Fqp.ofInts [2, 1] : F2) ∧
    ISO_3_A = (Fqp.ofInts [0, 240] : F2) ∧ ISO_3_B = (Fqp.ofInts [1012, 1012] : F2) ∧
    ISO_11_Z.n = 11 ∧ ISO_11_A.n = Spec.H2C.iso11A ∧ ISO_11_B.n = Spec.H2C.iso11B := by
  decide +kernel

end PyEcc.C09.Consts
