/-
  C08 (extension fields, inverse and division): `FQP.inv` / `FQP.__truediv__` (both the reference and the
  optimized class) compute the inverse / quotient in the field `(ZMod p)[X]/(m)` for ANY prime `p` and ANY
  irreducible modulus `m = X^d + Σ mcᵢ Xⁱ`.

  The proof does not assume that `poly_rounded_div` is polynomial division (it is not: only its leading
  coefficient is meaningful); see `PyEcc/Sem/FqpInv.lean` for the loop invariant.

  Side condition `Sane p mc` (`McSane` of DESIGN.md): every supplied modulus coefficient is `0` or not
  divisible by `p`, because `deg` tests raw Python ints with `== 0`.
  Instances: FQ2 (`mc = (1, 0)`) for every prime `p ≡ 3 (mod 4)`, in particular BLS12-381 and BN128.
-/
import PyEcc.Sem.FqpFq2
import PyEcc.Sem.Primes
import PyEcc.Model.Curve

namespace PyEcc.C08P
open PyEcc PyEcc.Fqp PyEcc.FqpSem

variable {v : Variant} {p : ℕ} {mc : List Int}

theorem toQ_ne_zero (hp : 0 < p) {a : Fqp v p mc} (ha : Canon a) (hne : a ≠ 0) : toQ a ≠ 0 := by
  intro h0
  apply hne
  apply toQ_inj ha (canon_zero hp)
  rw [h0]; exact toQ_zero.symm

/-- **`inv` is the inverse in the quotient** (general irreducible modulus, both classes):
`toQ (inv a) · toQ a = 1`, and the result is stored reduced. -/
theorem inv_refines [Fact p.Prime] (hd : 1 ≤ mc.length) (hirr : Irreducible (modulus p mc))
    (hmc : Sane p mc) {a : Fqp v p mc} (ha : Canon a) (hne : a ≠ 0) :
    Canon (Fqp.inv a) ∧ toQ (Fqp.inv a) * toQ a = 1 :=
  ⟨inv_canon (Fact.out : p.Prime).pos a, toQ_inv_mul hd hirr hmc ha.wf (sane_of_canonL ha)
    (toQ_ne_zero (Fact.out : p.Prime).pos ha hne)⟩

/-- **`x * inv x = 1`** for every reduced `x ≠ 0` of `FQP` over any prime field with any irreducible
modulus (`FQ2`, `FQ12`, user-defined extensions), reference and optimized class. -/
theorem mul_inv_cancel [Fact p.Prime] (hd : 1 ≤ mc.length) (hirr : Irreducible (modulus p mc))
    (hmc : Sane p mc) {a : Fqp v p mc} (ha : Canon a) (hne : a ≠ 0) :
    a * Fqp.inv a = 1 ∧ Fqp.inv a * a = 1 := by
  have hp : 0 < p := (Fact.out : p.Prime).pos
  have hq := (inv_refines hd hirr hmc ha hne).2
  constructor
  · apply toQ_inj (mul_canon hp a (Fqp.inv a)) (canon_one hp hd)
    rw [toQ_mul ha.wf (inv_wf a), toQ_one, _root_.mul_comm, hq]
  · apply toQ_inj (mul_canon hp (Fqp.inv a) a) (canon_one hp hd)
    rw [toQ_mul (inv_wf a) ha.wf, toQ_one, hq]

/-- `inv 0 = 0` (the `prime_field_inv(0) = 0` convention propagates), any `p`, any modulus. -/
theorem inv_zero : Fqp.inv (0 : Fqp v p mc) = 0 := congrArg Fqp.mk inv_zero_coeffs

/-- **`(x / y) * y = x`** for reduced `x`, `y ≠ 0`; `x / y` is `x * inv y` in the code. -/
theorem div_mul_cancel [Fact p.Prime] (hd : 1 ≤ mc.length) (hirr : Irreducible (modulus p mc))
    (hmc : Sane p mc) {a b : Fqp v p mc} (ha : Canon a) (hb : Canon b) (hne : b ≠ 0) :
    a / b * b = a := by
  apply toQ_inj (mul_canon (Fact.out : p.Prime).pos (mul a (Fqp.inv b)) b) ha
  rw [toQ_mul (mul_wf _ _) hb.wf, toQ_mul ha.wf (inv_wf b), _root_.mul_assoc,
    (inv_refines hd hirr hmc hb hne).2, _root_.mul_one]

/-- With the field structure of `AdjoinRoot` (modulus irreducible): `inv` and `/` are the field inverse
and division. -/
theorem inv_div_spec [Fact p.Prime] [Fact (Irreducible (modulus p mc))] (hd : 1 ≤ mc.length)
    (hmc : Sane p mc) {a b : Fqp v p mc} (ha : Canon a) (hb : Canon b) (hne : b ≠ 0) :
    toQ (Fqp.inv b) = (toQ b)⁻¹ ∧ toQ (a / b) = toQ a / toQ b := by
  have h1 : toQ (Fqp.inv b) = (toQ b)⁻¹ :=
    eq_inv_of_mul_eq_one_left (inv_refines hd Fact.out hmc hb hne).2
  refine ⟨h1, ?_⟩
  show toQ (mul a (Fqp.inv b)) = _
  rw [toQ_mul ha.wf (inv_wf b), h1, div_eq_mul_inv]

/-- **FQ2**: for every prime `p ≡ 3 (mod 4)` and the modulus `X² + 1`, `x * inv x = 1`,
`(y / x) * x = y` for reduced `x ≠ 0`, in the reference and the optimized class. -/
theorem fq2_mul_inv_cancel [Fact p.Prime] (h4 : p % 4 = 3) {a b : Fqp v p [1, 0]} (ha : Canon a)
    (hb : Canon b) (hne : a ≠ 0) :
    a * Fqp.inv a = 1 ∧ Fqp.inv a * a = 1 ∧ b / a * a = b :=
  ⟨(mul_inv_cancel (by decide) (irreducible_modulus_fq2 h4) sane_fq2 ha hne).1,
   (mul_inv_cancel (by decide) (irreducible_modulus_fq2 h4) sane_fq2 ha hne).2,
   div_mul_cancel (by decide) (irreducible_modulus_fq2 h4) sane_fq2 hb ha hne⟩

/-- BLS12-381 `FQ2` (both classes): `x * inv x = 1` for reduced `x ≠ 0`. -/
theorem bls_fq2_mul_inv_cancel {a : Fqp v blsP blsMc2} (ha : Canon a) (hne : a ≠ 0) :
    a * Fqp.inv a = 1 ∧ Fqp.inv a * a = 1 :=
  have h4 : blsP % 4 = 3 := by decide
  ⟨(fq2_mul_inv_cancel (p := blsP) h4 ha ha hne).1, (fq2_mul_inv_cancel (p := blsP) h4 ha ha hne).2.1⟩

/-- BN128 `FQ2` (both classes): `x * inv x = 1` for reduced `x ≠ 0`. -/
theorem bn_fq2_mul_inv_cancel {a : Fqp v bnP bnMc2} (ha : Canon a) (hne : a ≠ 0) :
    a * Fqp.inv a = 1 ∧ Fqp.inv a * a = 1 :=
  have h4 : bnP % 4 = 3 := by decide
  ⟨(fq2_mul_inv_cancel (p := bnP) h4 ha ha hne).1, (fq2_mul_inv_cancel (p := bnP) h4 ha ha hne).2.1⟩

/-! ### non-vacuity -/

example : Fact (Nat.Prime 7) := ⟨by norm_num⟩
example : Irreducible (modulus 7 [1, 0]) :=
  haveI : Fact (Nat.Prime 7) := ⟨by norm_num⟩
  irreducible_modulus_fq2 (by decide)
example : Canon (⟨[3, 5]⟩ : Fqp .ref 7 [1, 0]) ∧ (⟨[3, 5]⟩ : Fqp .ref 7 [1, 0]) ≠ 0 := by decide
example : (Fqp.inv (⟨[3, 5]⟩ : Fqp .ref 7 [1, 0])).coeffs = [4, 5] ∧
    ((⟨[3, 5]⟩ : Fqp .ref 7 [1, 0]) * Fqp.inv ⟨[3, 5]⟩).coeffs = [1, 0] := by decide
example : (Fqp.inv (⟨[3, 5]⟩ : Fqp .opt 7 [1, 0])).coeffs = [4, 5] := by decide
example : blsMc2 = [1, 0] ∧ bnMc2 = [1, 0] ∧ blsP % 4 = 3 ∧ bnP % 4 = 3 := by decide
example : Canon (⟨[3, 5]⟩ : Fqp .opt blsP blsMc2) ∧ (⟨[3, 5]⟩ : Fqp .opt blsP blsMc2) ≠ 0 := by
  decide
/-- the side condition holds for the real FQ12 moduli (their irreducibility: `C08F12.irreducible_bls12`,
    `irreducible_bn12` in `Props/C08_Fq12.lean`) -/
example : Sane blsP blsMc12 ∧ Sane bnP bnMc12 :=
  ⟨sane_of_natAbs_lt (by decide), sane_of_natAbs_lt (by decide)⟩

end PyEcc.C08P
