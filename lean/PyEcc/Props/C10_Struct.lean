/-
  PyEcc.Props.C10_Struct — property C10, structural part (core Lean only): `hash_to_G1` / `hash_to_G2`
  of `py_ecc/bls/hash_to_curve.py` follow the `hash_to_curve` skeleton of RFC 9380 §3
  (`u = hash_to_field(msg, 2); Q0 = map_to_curve(u[0]); Q1 = map_to_curve(u[1]); R = Q0 + Q1;
  P = clear_cofactor(R)`), `map_to_curve = iso_map ∘ optimized_swu`, `clear_cofactor = h_eff · _`,
  and the complete list of exceptions they can raise.
-/
import PyEcc.Lemmas.BlsSem
import PyEcc.Props.C15

namespace PyEcc.C10
open Gen.Consts

/-- over abstract types, which keeps the elaborator away from `Fq blsP` -/
theorem do2_eq {α β : Type} (m0 m1 : Except PyErr α) (g : α → α → β) :
    (do let q0 ← m0; let q1 ← m1; pure (g q0 q1) : Except PyErr β)
      = m0.bind fun q0 => m1.bind fun q1 => .ok (g q0 q1) := rfl

/-- below 65536 requested bytes `expand_message_xmd` raises only the `ValueError` of its two explicit `raise`s -/
theorem xmd_error_value (H : HashFn) (msg dst : Bytes) (len : Nat) (hd : 0 < H.digestSize) (hl : len < 65536)
    (e : PyErr) (h : expandMessageXmd H msg dst len = .error e) :
    e = .value ∧ (dst.length > 255 ∨ Spec.ceilDiv len H.digestSize > 255) := by
  have hc : dst.length > 255 ∨ Spec.ceilDiv len H.digestSize > 255 := by
    have := (C15.xmd_error_iff H msg dst len hd).mp ⟨_, h⟩
    omega
  exact ⟨(C15.xmd_error_kind H msg dst len hd e h).trans (if_pos hc), hc⟩

/-! ### `map_to_curve`, `clear_cofactor` -/

/-- `map_to_curve_G1(u) = iso_map_G1(*optimized_swu_G1(u))` -/
theorem mapToCurveG1_eq (u : F1) :
    mapToCurveG1 u = isoMapG1 (optimizedSwuG1 u).1 (optimizedSwuG1 u).2.1 (optimizedSwuG1 u).2.2 := by
  unfold mapToCurveG1
  generalize optimizedSwuG1 u = r
  obtain ⟨x, y, z⟩ := r
  rfl

/-- `map_to_curve_G2(u) = iso_map_G2(*optimized_swu_G2(u))`, propagating the exception of
    `optimized_swu_G2` -/
theorem mapToCurveG2_eq (u : F2) :
    mapToCurveG2 u = (optimizedSwuG2 u).map fun r => isoMapG2 r.1 r.2.1 r.2.2 := by
  unfold mapToCurveG2
  generalize optimizedSwuG2 u = r
  cases r with
  | error e => rfl
  | ok r => obtain ⟨x, y, z⟩ := r; rfl

/-- `clear_cofactor_G1(P) = multiply(P, H_EFF_G1)`, `clear_cofactor_G2(P) = multiply(P, H_EFF_G2)`
    (the effective cofactors of RFC 9380 §8.8, see `C17.H_EFF_G1_eq`, `C17.H_EFF_G2_eq`) -/
theorem clearCofactor_eq (p1 : F1 × F1 × F1) (p2 : F2 × F2 × F2) :
    clearCofactorG1 p1 = Gen.OptBls.multiply p1 h2c_H_EFF_G1 ∧
    clearCofactorG2 p2 = Gen.OptBls.multiply p2 h2c_H_EFF_G2 := ⟨rfl, rfl⟩

/-- the shape of `optimized_swu_G2(t)`: one final test, raising the bare `Exception` or returning -/
theorem optimizedSwuG2_shape (t : F2) : ∃ (c : Prop) (_ : Decidable c) (x : F2 × F2 × F2),
    optimizedSwuG2 t = if c then .error .other else .ok x :=
  ⟨_, _, _, Swu2.optimizedSwuG2_eq t⟩

/-! ### `hash_to_field` with `count = 2` -/

/-- `hash_to_field_FQ(msg, 2, DST, H)` raises what `expand_message_xmd(msg, DST, 128, H)` raises, and
    otherwise returns exactly two integers -/
theorem h2f_fq_cases (H : HashFn) (msg dst : Bytes) :
    (∃ e, expandMessageXmd H msg dst 128 = .error e ∧ hashToFieldFq H blsP msg 2 dst = .error e) ∨
    (∃ prb u0 u1, expandMessageXmd H msg dst 128 = .ok prb ∧
      hashToFieldFq H blsP msg 2 dst = .ok [u0, u1]) := by
  unfold hashToFieldFq
  dsimp only
  cases expandMessageXmd H msg dst (2 * 1 * 64) with
  | error e => exact .inl ⟨e, rfl, rfl⟩
  | ok prb => exact .inr ⟨prb, _, _, rfl, rfl⟩

/-- `hash_to_field_FQ2(msg, 2, DST, H)` raises what `expand_message_xmd(msg, DST, 256, H)` raises,
    and otherwise returns exactly two pairs -/
theorem h2f_fq2_cases (H : HashFn) (msg dst : Bytes) :
    (∃ e, expandMessageXmd H msg dst 256 = .error e ∧ hashToFieldFq2 H blsP msg 2 dst = .error e) ∨
    (∃ prb u0 u1, expandMessageXmd H msg dst 256 = .ok prb ∧
      hashToFieldFq2 H blsP msg 2 dst = .ok [u0, u1]) := by
  rcases BlsSem.hashToFieldFq2_cases H msg dst with ⟨e, h1, h2⟩ | ⟨prb, u0, u1, h1, h2, _⟩
  · exact Or.inl ⟨e, h1, h2⟩
  · exact Or.inr ⟨prb, u0, u1, h1, h2⟩

/-! ### `hash_to_G1`, `hash_to_G2` -/

/-- **C10 (structure, G1): `hash_to_G1` is RFC 9380 §3 `hash_to_curve` with `count = 2`.**
    If `hash_to_field_FQ(msg, 2, DST, H)` raises, `hash_to_G1` raises the same exception; otherwise
    it returned two integers `u0, u1` and
    `hash_to_G1 = clear_cofactor_G1(add(map_to_curve_G1(FQ(u0)), map_to_curve_G1(FQ(u1))))`.
    (The `ValueError` of the Python tuple-unpacking `u0, u1 = …` is unreachable.) -/
theorem hashToG1_eq (H : HashFn) (msg dst : Bytes) :
    (∀ e, hashToFieldFq H blsP msg 2 dst = .error e → hashToG1 H msg dst = .error e) ∧
    (∀ us, hashToFieldFq H blsP msg 2 dst = .ok us → ∃ u0 u1, us = [u0, u1] ∧
      hashToG1 H msg dst = .ok (clearCofactorG1
        (Gen.OptBls.add (mapToCurveG1 (f1c u0)) (mapToCurveG1 (f1c u1))))) := by
  constructor
  · intro e h
    unfold hashToG1; rw [h]; rfl
  · intro us h
    rcases h2f_fq_cases H msg dst with ⟨e, _, h2⟩ | ⟨_, u0, u1, _, h2⟩
    · rw [h2] at h; cases h
    · rw [h2] at h
      injection h with h
      refine ⟨u0, u1, h.symm, ?_⟩
      unfold hashToG1; rw [h2]; rfl

/-- **C10 (structure, G2): `hash_to_G2` is RFC 9380 §3 `hash_to_curve` with `count = 2`.**
    If `hash_to_field_FQ2(msg, 2, DST, H)` raises, `hash_to_G2` raises the same exception; otherwise
    it returned two pairs `u0, u1` and `hash_to_G2` is
    `clear_cofactor_G2(add(map_to_curve_G2(FQ2(u0)), map_to_curve_G2(FQ2(u1))))`, raising if one of
    the two `map_to_curve_G2` calls raises (the first one first). -/
theorem hashToG2_eq (H : HashFn) (msg dst : Bytes) :
    (∀ e, hashToFieldFq2 H blsP msg 2 dst = .error e → hashToG2 H msg dst = .error e) ∧
    (∀ us, hashToFieldFq2 H blsP msg 2 dst = .ok us → ∃ u0 u1, us = [u0, u1] ∧
      hashToG2 H msg dst =
        (mapToCurveG2 (f2c [u0.1, u0.2])).bind fun q0 =>
        (mapToCurveG2 (f2c [u1.1, u1.2])).bind fun q1 =>
          .ok (clearCofactorG2 (Gen.OptBls.add q0 q1))) := by
  constructor
  · intro e h
    unfold hashToG2; rw [h]; rfl
  · intro us h
    rcases h2f_fq2_cases H msg dst with ⟨e, _, h2⟩ | ⟨_, u0, u1, _, h2⟩
    · rw [h2] at h; cases h
    · rw [h2] at h
      injection h with h
      refine ⟨u0, u1, h.symm, ?_⟩
      unfold hashToG2
      rw [h2, ok_bind]
      dsimp only
      exact do2_eq _ _ _

/-- **C10 (exceptions of `hash_to_G1`).**  For a hash with positive digest size, `hash_to_G1` raises
    exactly when `expand_message_xmd` aborts for `len_in_bytes = 128`, i.e. iff `len(DST) > 255` or
    `ceil(128 / digest_size) > 255` (digest size 0 is excluded: Python would raise
    `ZeroDivisionError`), and the exception is then a `ValueError`.  Nothing else can be raised. -/
theorem hashToG1_error_iff (H : HashFn) (msg dst : Bytes) (hd : 0 < H.digestSize) (e : PyErr) :
    hashToG1 H msg dst = .error e ↔
      e = .value ∧ (dst.length > 255 ∨ Spec.ceilDiv 128 H.digestSize > 255) := by
  have hiff := C15.xmd_error_iff H msg dst 128 hd
  rcases h2f_fq_cases H msg dst with ⟨e', hx, h2⟩ | ⟨prb, u0, u1, hx, h2⟩
  · obtain ⟨hk, hc⟩ := xmd_error_value H msg dst 128 hd (by decide) _ hx
    rw [(hashToG1_eq H msg dst).1 _ h2, hk]
    exact ⟨fun h => ⟨(Except.error.inj h).symm, hc⟩, fun h => h.1 ▸ rfl⟩
  · obtain ⟨_, _, _, hg⟩ := (hashToG1_eq H msg dst).2 _ h2
    rw [hg]
    constructor
    · intro h; cases h
    · rintro ⟨_, hc⟩
      obtain ⟨e'', he⟩ := hiff.mpr (by omega)
      rw [hx] at he; cases he

example : 0 < sha256Fn.digestSize := by decide

/-- **C10 (exceptions of `hash_to_G2`, complete list).**  For a hash with positive digest size,
    if `hash_to_G2` raises then either
    * it is the `ValueError` of `expand_message_xmd` (`len_in_bytes = 256`): `len(DST) > 255` or
      `ceil(256 / digest_size) > 255`; or
    * it is the bare `Exception` of the branch commented "Unreachable" in `optimized_swu_G2`, raised
      for one of the two field elements `u0`, `u1` produced by `hash_to_field_FQ2`.
    (`OverflowError`, `TypeError`, … cannot occur.  That the second case never happens is
    `C10G2.swuTotal`, `Props/C10_G2.lean`.) -/
theorem hashToG2_error_kinds (H : HashFn) (msg dst : Bytes) (hd : 0 < H.digestSize) (e : PyErr)
    (h : hashToG2 H msg dst = .error e) :
    (e = .value ∧ (dst.length > 255 ∨ Spec.ceilDiv 256 H.digestSize > 255)) ∨
    (e = .other ∧ ∃ u0 u1, hashToFieldFq2 H blsP msg 2 dst = .ok [u0, u1] ∧
      (optimizedSwuG2 (f2c [u0.1, u0.2]) = .error .other ∨
       optimizedSwuG2 (f2c [u1.1, u1.2]) = .error .other)) := by
  rcases BlsSem.hashToG2_error_split h with hx | ⟨he, u0, u1, h2, hs⟩
  · exact .inl (xmd_error_value H msg dst 256 hd (by decide) _ hx)
  · exact .inr ⟨he, u0, u1, h2, hs.imp And.right And.right⟩

/-- **C10 (the `ValueError` case of `hash_to_G2` is real).**  A tag longer than 255 bytes makes
    `hash_to_G2` raise `ValueError` (RFC 9380 §5.3.1: DST must be at most 255 bytes). -/
theorem hashToG2_long_dst (H : HashFn) (msg dst : Bytes) (hd : 0 < H.digestSize)
    (hl : dst.length > 255) : hashToG2 H msg dst = .error .value := by
  obtain ⟨e, hx⟩ := (C15.xmd_error_iff H msg dst 256 hd).mpr (Or.inl hl)
  obtain rfl := (xmd_error_value H msg dst 256 hd (by decide) _ hx).1
  rcases h2f_fq2_cases H msg dst with ⟨e', hx', h2⟩ | ⟨prb, _, _, hx', _⟩
  · rw [hx] at hx'
    injection hx' with hx'
    subst hx'
    exact (hashToG2_eq H msg dst).1 _ h2
  · rw [hx] at hx'; cases hx'

/-- the hypotheses of the two theorems above are satisfiable (SHA-256, a 256-byte DST) -/
example : hashToG2 sha256Fn [] (List.replicate 256 0) = .error .value :=
  hashToG2_long_dst sha256Fn [] _ (by decide) (by rw [List.length_replicate]; decide)

end PyEcc.C10
