/-
  Property C12, the parts about final exponentiation (the integer identities are in `Props/C12_Exp.lean`).
  Two-step form: Miller values obtained with `final_exponentiate=False`, multiplied together and passed ONCE through
  `x ↦ x ** E`, equal the product of the individually exponentiated pairings, in any commutative monoid and in the
  executable FQ12 model; `pairing(Q, P, True)` is `pairing(Q, P, False) ** ((p¹²−1)/r)`, guards and early return on ∞
  included.  `exp_by_p(x) == x ** field_modulus` for every `x` in FQ12 (`expByP_eq_pow`: Frobenius is additive in
  characteristic `p`, `c^p = c` in `Fp`, and the module constant `exptable` holds `(wⁱ)^p`, `blsExptable_eq`).
  The fast `final_exponentiate` as a whole equals the plain power `x ** ((p¹²−1)/r)`, given that FQ12 is a field and
  `FQ12.inv` inverts (`final_exponentiate_of_inv`); `Props/C12_Final.lean` discharges both (it imports the
  irreducibility proof of `C08_Fq12`).
-/
import PyEcc.Lemmas.ExpByP
import PyEcc.Lemmas.BlsFrobW
import PyEcc.Props.C12_Exp

namespace PyEcc.C12
open Polynomial PyEcc PyEcc.Fqp PyEcc.FqpSem PyEcc.PairingSem PyEcc.Gen.Consts

/-- **Two-step form, abstract.**  In any commutative monoid, `(∏ fᵢ) ^ E = ∏ (fᵢ ^ E)`: if
    `final_exponentiate` is `x ↦ x ^ E`, exponentiating the product of Miller values once equals
    multiplying the individually exponentiated pairings. -/
theorem two_step_final_exp {M : Type*} [CommMonoid M] (fs : List M) (E : ℕ) :
    fs.prod ^ E = (fs.map (· ^ E)).prod := by
  induction fs with
  | nil => simp
  | cons f fs ih => rw [List.prod_cons, mul_pow, ih, List.map_cons, List.prod_cons]

/-- **Two-step form in the executable model** (both `FQP` classes, any modulus): for FQP values
    `f₁ … fₙ` (each with `d` coefficients), `(((1·f₁)·f₂)…·fₙ) ** E` and
    `((1·f₁**E)·f₂**E)…·fₙ**E` are the same coefficient list. -/
theorem two_step_final_exp_model {v : Variant} {p : ℕ} {mc : List Int} (hp : 0 < p)
    (hd : 1 ≤ mc.length) (fs : List (Fqp v p mc)) (hfs : ∀ f ∈ fs, WF f) (E : ℕ) :
    (fs.foldl (· * ·) 1) ^ E = (fs.map (· ^ E)).foldl (· * ·) 1 := by
  obtain ⟨w1, q1⟩ := foldl_mul_spec fs hfs 1 (wf_one hd)
  have hfs' : ∀ g ∈ fs.map (· ^ E), WF g := by
    intro g hg
    obtain ⟨f, hf, rfl⟩ := List.mem_map.mp hg
    exact pow_wf hd f E
  obtain ⟨_, q2⟩ := foldl_mul_spec (fs.map (· ^ E)) hfs' 1 (wf_one hd)
  have e1 : toQ ((fs.foldl (· * ·) 1) ^ E) = toQ (fs.foldl (· * ·) 1) ^ E := toQ_pow hd w1 E
  have t1 : toQ (1 : Fqp v p mc) = 1 := toQ_one
  have key : toQ ((fs.foldl (· * ·) 1) ^ E) = toQ ((fs.map (· ^ E)).foldl (· * ·) 1) := by
    rw [e1, q1, q2, t1, one_mul, one_mul, two_step_final_exp, List.map_map, List.map_map]
    apply congrArg List.prod
    apply List.map_congr_left
    intro f hf
    exact (toQ_pow hd (hfs f hf) E).symm
  exact toQ_inj (pow_canon hp hd _ E) (canon_foldl_mul hp _ _ (canon_one hp hd)) key

/-- non-vacuity: a list of well-formed FQ12 elements -/
example : ∀ f ∈ [(1 : OBls12), blsT1], WF f := by
  intro f hf
  simp only [List.mem_cons, List.not_mem_nil, or_false] at hf
  rcases hf with rfl | rfl
  · exact wf_one blsMc12_len
  · exact wf_blsT1

/-- **Optimized bls12_381**: `pairing(Q, P, final_exponentiate=True)` is
    `pairing(Q, P, final_exponentiate=False) ** ((field_modulus**12 − 1) // curve_order)` — same
    refusals (`ValueError`), and on the early return for a point at infinity `1 ** e = 1` holds in
    the executable FQ12 model. -/
theorem pairingOptBls_finalExp (Q : OBls2 × OBls2 × OBls2) (P : Fq blsP × Fq blsP × Fq blsP) :
    pairingOptBls Q P true =
      (pairingOptBls Q P false).map (· ^ ((blsP ^ 12 - 1) / optimized_bls12_381_curve_order)) := by
  rw [pairingOptBls_eq, pairingOptBls_eq, if_pos rfl, if_neg Bool.false_ne_true, optBlsMillerLoop_some]
  exact MillerSem.guard2_ite_pow _ _ _ (one_pow_model (p := blsP) (mc := blsMc12) (by decide) (by decide) _)

/-- **Optimized bn128**: `pairing(Q, P, True)` is
    `pairing(Q, P, False) ** ((field_modulus**12 − 1) // curve_order)`. -/
theorem pairingOptBn_finalExp (Q : OBn2 × OBn2 × OBn2) (P : Fq bnP × Fq bnP × Fq bnP) :
    pairingOptBn Q P true =
      (pairingOptBn Q P false).map (· ^ ((bnP ^ 12 - 1) / optimized_bn128_curve_order)) := by
  rw [pairingOptBn_eq, pairingOptBn_eq, if_pos rfl, if_neg Bool.false_ne_true, optBnMillerLoop_some]
  exact MillerSem.guard2_ite_pow _ _ _ (one_pow_model (p := bnP) (mc := bnMc12) (by decide) (by decide) _)

/-- The same with the standard exponent `(p¹²−1)/r` of BLS12-381 (`C12.Exp.bls_final_exp_eq`). -/
theorem pairingOptBls_finalExp_spec (Q : OBls2 × OBls2 × OBls2) (P : Fq blsP × Fq blsP × Fq blsP) :
    pairingOptBls Q P true =
      (pairingOptBls Q P false).map (· ^ ((Spec.BLS12381.p ^ 12 - 1) / Spec.BLS12381.r)) := by
  rw [pairingOptBls_finalExp, Exp.bls_final_exp_eq.2]

/-- The same with the standard exponent `(p¹²−1)/r` of alt_bn128 (`C12.Exp.bn_final_exp_eq`). -/
theorem pairingOptBn_finalExp_spec (Q : OBn2 × OBn2 × OBn2) (P : Fq bnP × Fq bnP × Fq bnP) :
    pairingOptBn Q P true =
      (pairingOptBn Q P false).map (· ^ ((Spec.BN254.p ^ 12 - 1) / Spec.BN254.r)) := by
  rw [pairingOptBn_finalExp, Exp.bn_final_exp_eq.2]

/-- every value returned by the optimized bls12_381 `pairing` has 12 coefficients -/
theorem pairingOptBls_wf (Q : OBls2 × OBls2 × OBls2) (P : Fq blsP × Fq blsP × Fq blsP) (fe : Bool)
    (f : OBls12) (h : pairingOptBls Q P fe = .ok f) : WF f := by
  have hd : 1 ≤ blsMc12.length := by decide
  rw [pairingOptBls_eq] at h
  rcases MillerSem.guard2_ite_ok h with e | e
  · rw [e]
    exact wf_one hd
  · rw [e]
    cases fe
    · rw [if_neg Bool.false_ne_true]
      exact optBlsMillerLoop_none_wf _ _ _
    · rw [if_pos rfl, optBlsMillerLoop_some]
      exact pow_wf hd _ _

/-- every value returned by the optimized bn128 `pairing` has 12 coefficients -/
theorem pairingOptBn_wf (Q : OBn2 × OBn2 × OBn2) (P : Fq bnP × Fq bnP × Fq bnP) (fe : Bool)
    (f : OBn12) (h : pairingOptBn Q P fe = .ok f) : WF f := by
  have hd : 1 ≤ bnMc12.length := by decide
  rw [pairingOptBn_eq] at h
  rcases MillerSem.guard2_ite_ok h with e | e
  · rw [e]
    exact wf_one hd
  · rw [e]
    cases fe
    · rw [if_neg Bool.false_ne_true]
      exact optBnMillerLoop_none_wf _ _ _
    · rw [if_pos rfl, optBnMillerLoop_some]
      exact pow_wf hd _ _

/-- **Two-step form at the pairing level**, for a function `pr` with `pr(Q, P, True) = pr(Q, P, False) ** E` whose
    values have `d` coefficients: if every `fᵢ` is a value returned by `pr(Qᵢ, Pᵢ, False)`, then multiplying them and
    exponentiating ONCE by `E` gives the product of the `fᵢ ** E`, which are values `pr(Qᵢ, Pᵢ, True)`. -/
theorem pairing_two_step {Qt Pt : Type} {v : Variant} {p : ℕ} {mc : List Int} (hp : 0 < p) (hd : 1 ≤ mc.length)
    {pr : Qt → Pt → Bool → Except PyErr (Fqp v p mc)} {E : ℕ}
    (hfe : ∀ Q P, pr Q P true = (pr Q P false).map (· ^ E))
    (hwf : ∀ Q P f, pr Q P false = .ok f → WF f) (fs : List (Fqp v p mc))
    (h : ∀ f ∈ fs, ∃ Q P, pr Q P false = .ok f) :
    (fs.foldl (· * ·) 1) ^ E = (fs.map (· ^ E)).foldl (· * ·) 1 ∧
      ∀ f ∈ fs, ∃ Q P, pr Q P true = .ok (f ^ E) := by
  refine ⟨two_step_final_exp_model hp hd fs (fun f hf => ?_) _, fun f hf => ?_⟩
  · obtain ⟨Q, P, hQP⟩ := h f hf
    exact hwf Q P f hQP
  · obtain ⟨Q, P, hQP⟩ := h f hf
    exact ⟨Q, P, by rw [hfe, hQP]; rfl⟩

/-- **Two-step form at the pairing level, optimized bls12_381**, with `E = (p¹²−1)/r`: the `fᵢ ** E` are the values
    `pairing(Qᵢ, Pᵢ, True)` by `pairingOptBls_finalExp`. -/
theorem pairingOptBls_two_step (fs : List OBls12)
    (h : ∀ f ∈ fs, ∃ Q P, pairingOptBls Q P false = .ok f) :
    (fs.foldl (· * ·) 1) ^ ((blsP ^ 12 - 1) / optimized_bls12_381_curve_order) =
      (fs.map (· ^ ((blsP ^ 12 - 1) / optimized_bls12_381_curve_order))).foldl (· * ·) 1 ∧
    ∀ f ∈ fs, ∃ Q P, pairingOptBls Q P true =
      .ok (f ^ ((blsP ^ 12 - 1) / optimized_bls12_381_curve_order)) :=
  pairing_two_step (by decide) (by decide) pairingOptBls_finalExp (fun Q P => pairingOptBls_wf Q P false) fs h

/-- **Two-step form at the pairing level, optimized bn128.** -/
theorem pairingOptBn_two_step (fs : List OBn12)
    (h : ∀ f ∈ fs, ∃ Q P, pairingOptBn Q P false = .ok f) :
    (fs.foldl (· * ·) 1) ^ ((bnP ^ 12 - 1) / optimized_bn128_curve_order) =
      (fs.map (· ^ ((bnP ^ 12 - 1) / optimized_bn128_curve_order))).foldl (· * ·) 1 ∧
    ∀ f ∈ fs, ∃ Q P, pairingOptBn Q P true =
      .ok (f ^ ((bnP ^ 12 - 1) / optimized_bn128_curve_order)) :=
  pairing_two_step (by decide) (by decide) pairingOptBn_finalExp (fun Q P => pairingOptBn_wf Q P false) fs h

/-- non-vacuity: `1 = pairing(∞, G1, False)` is such a value -/
example : ∀ f ∈ [(1 : OBls12)], ∃ Q P, pairingOptBls Q P false = .ok f := by
  intro f hf
  simp only [List.mem_cons, List.not_mem_nil, or_false] at hf
  subst hf
  refine ⟨(1, 1, 0), (1, 1, 0), ?_⟩
  rw [pairingOptBls_eq]
  decide +kernel

section expByP
variable {p : ℕ} {mc : List Int}

/-- **`exp_by_p(x)` is the table sum**: in the quotient ring,
    `exp_by_p(x) = Σᵢ exptable[i] · int(x.coeffs[i])` (over `zip(exptable, x.coeffs)`), for any table
    whose entries have `d` coefficients; and the result is stored reduced. -/
theorem expByP_eq_sum (hp : 0 < p) (table : List (Fqp .opt p mc)) (ht : ∀ t ∈ table, WF t)
    (x : Fqp .opt p mc) :
    toQ (expByP table x) =
      ((List.zip table x.coeffs).map fun tc =>
        toQ tc.1 * ((tc.2 : ℤ) : AdjoinRoot (modulus p mc))).sum ∧
    Canon (expByP table x) :=
  ⟨toQ_expByP table ht x, canon_expByP hp table ht x⟩

/-- **`exp_by_p` is additive**: `exp_by_p(x + y) = exp_by_p(x) + exp_by_p(y)` in the executable
    model, for `x`, `y` with `d` coefficients. -/
theorem expByP_add (hp : 0 < p) (table : List (Fqp .opt p mc)) (ht : ∀ t ∈ table, WF t)
    (x y : Fqp .opt p mc) (hx : WF x) (hy : WF y) :
    expByP table (x + y) = expByP table x + expByP table y := by
  have cx := canon_expByP hp table ht x
  have cy := canon_expByP hp table ht y
  have key : toQ (expByP table (x + y)) = toQ (expByP table x + expByP table y) := by
    have e : toQ (expByP table x + expByP table y) = toQ (expByP table x) + toQ (expByP table y) :=
      toQ_add cx.wf cy.wf
    rw [e, toQ_expByP table ht, toQ_expByP table ht, toQ_expByP table ht]
    exact tsum_add_mod table x.coeffs y.coeffs (hx.trans hy.symm)
  exact toQ_inj (canon_expByP hp table ht _) (canon_add hp cx.wf cy.wf) key

/-- **`exp_by_p` commutes with int scaling**: `exp_by_p(x * k) = exp_by_p(x) * k` for a Python int
    `k`, in the executable model. -/
theorem expByP_mulInt (hp : 0 < p) (table : List (Fqp .opt p mc)) (ht : ∀ t ∈ table, WF t)
    (x : Fqp .opt p mc) (k : Int) :
    expByP table (mulInt x k) = mulInt (expByP table x) k := by
  have cx := canon_expByP hp table ht x
  have key : toQ (expByP table (mulInt x k)) = toQ (mulInt (expByP table x) k) := by
    rw [toQ_mulInt, toQ_expByP table ht, toQ_expByP table ht]
    exact tsum_mul_mod table x.coeffs k
  exact toQ_inj (canon_expByP hp table ht _) (canon_mulInt hp cx.wf k) key

end expByP

/-- the entries of the module constant `exptable` have 12 coefficients (non-vacuity of the
    hypothesis `ht` above at the real table) -/
theorem blsExptable_wf : ∀ t ∈ blsExptable, WF t := by
  intro t ht
  rw [blsExptable_eq_map] at ht
  obtain ⟨i, hi, rfl⟩ := List.mem_map.mp ht
  exact (blsTab_spec (List.mem_range.mp hi)).1.wf

example : (0 : ℕ) < blsP := by decide

/-- **The table is the Frobenius table**: the module constant `exptable` of
    `optimized_bls12_381/optimized_pairing.py` equals
    `[FQ12([0]*i + [1] + [0]*(11-i)) ** field_modulus for i in range(12)]` — all twelve entries, as
    coefficient lists of the executable model.  (Proof: `exptable[1] = w^p` and
    `exptable[i] = wⁱ·(A + B·w⁶)ⁱ` by kernel computations in the quadratic subfield `Fp[w⁶]`
    (`Lemmas/BlsFrobW.lean`), and `(w^p)ⁱ = (wⁱ)^p`.) -/
theorem blsExptable_eq :
    blsExptable = (List.range 12).map (fun i => (basisElem i : OBls12) ^ blsP) := by
  have hd : 1 ≤ blsMc12.length := blsMc12_len
  rw [blsExptable_eq_map]
  apply List.map_congr_left
  intro i hi
  have hi' : i < blsMc12.length := List.mem_range.mp hi
  obtain ⟨c1, q1⟩ := blsTab_spec hi'
  have hb : WF (basisElem i : OBls12) := wf_basisElem hi'
  refine toQ_inj c1 (pow_canon (by decide) hd _ blsP) ?_
  rw [q1, show toQ ((basisElem i : OBls12) ^ blsP) = _ from toQ_pow hd hb blsP, toQ_basisElem,
    ← pow_mul, ← pow_mul, mul_comm]

/-- entry by entry: `exptable[i] == FQ12([0]*i + [1] + [0]*(11-i)) ** field_modulus`, `i = 0 … 11` -/
theorem blsExptable_entry (i : ℕ) (hi : i < 12) :
    blsExptable.getD i 0 = (basisElem i : OBls12) ^ blsP := by
  rw [blsExptable_eq, List.getD_eq_getElem?_getD, List.getElem?_map,
    List.getElem?_range hi, Option.map_some, Option.getD_some]

/-- **`exp_by_p(x) == x ** field_modulus` for every `x` in FQ12** (every `x` with 12 coefficients),
    as an equality of coefficient lists in the executable model of
    `optimized_bls12_381/optimized_pairing.py`. -/
theorem expByP_eq_pow (x : OBls12) (hx : WF x) : expByP blsExptable x = x ^ blsP := by
  rw [blsExptable_eq_map]
  exact expByP_eq_pow_of_table (p := blsP) (mc := blsMc12) blsMc12_len
    (fun i => blsExptable.getD i 0) (fun i hi => ⟨(blsTab_spec hi).1.wf, (blsTab_spec hi).2⟩) x hx

/-- non-vacuity: `exptable[1]` itself is an FQ12 element with 12 coefficients -/
example : WF blsT1 := wf_blsT1

/-- **The fast `final_exponentiate` is the plain power, given HB3 and `FQ12.inv`.**  Take HB3
    (`w¹² − 2w⁶ + 2` is irreducible over `Fp`, so FQ12 is a field) and the correctness of `FQ12.inv` on
    reduced elements (`hinv`: the result has 12 coefficients and denotes the field inverse, `0 ↦ 0`).
    Then for **every** `x` in FQ12 (zero included)
    `final_exponentiate(x) == x ** ((p¹² − 1) // r)` as coefficient lists of the executable model.
    Both hypotheses are discharged in `PyEcc.Props.C12_Final` (`finalExponentiateOptBls_eq_pow`);
    this file stays independent of the irreducibility proof.  Everything else that is needed is
    proved here and in `C12_Exp`: `exp_by_p = (· ** p)` (`expByP_eq_pow`), the exponent identity
    (`spec_bls_split`) and the algebra of the split (`split_final_exp`). -/
theorem final_exponentiate_of_inv [Fact (Irreducible (modulus blsP blsMc12))]
    (hinv : ∀ a : OBls12, Canon a → WF (Fqp.inv a) ∧ toQ (Fqp.inv a) = (toQ a)⁻¹)
    (x : OBls12) (hx : WF x) :
    finalExponentiateOptBls x = x ^ ((Spec.BLS12381.p ^ 12 - 1) / Spec.BLS12381.r) := by
  have hd : 1 ≤ blsMc12.length := blsMc12_len
  have hp0 : 0 < blsP := by decide
  -- `n` rounds of `exp_by_p`, in the quotient
  have he : ∀ (n : ℕ) (y : OBls12), WF y → WF ((expByP blsExptable)^[n] y) ∧
      toQ ((expByP blsExptable)^[n] y) = toQ y ^ Spec.BLS12381.p ^ n := by
    intro n
    induction n with
    | zero => exact fun y hy => ⟨hy, by rw [pow_zero, pow_one]; rfl⟩
    | succ n ih =>
      intro y hy
      obtain ⟨w, q⟩ := ih _ (canon_expByP hp0 _ blsExptable_wf y).wf
      refine ⟨w, q.trans ?_⟩
      rw [expByP_eq_pow y hy, show Spec.BLS12381.p = blsP by decide, show toQ (y ^ blsP) = _ from toQ_pow hd hy blsP,
        ← pow_mul, ← pow_succ']
  have hdiv : ∀ a b : OBls12, WF a → Canon b → toQ (a / b) = toQ a / toQ b := fun a b ha hb => by
    show toQ (mul a (Fqp.inv b)) = _
    rw [toQ_mul ha (hinv b hb).1, (hinv b hb).2, div_eq_mul_inv]
  rw [Exp.finalExponentiateOptBls_eq]
  unfold optBlsFinalExponentiate
  -- `he` is all that is used of `exp_by_p`: twice, then six times
  generalize expByP blsExptable = e at he ⊢
  show (e^[6] (e^[2] x * x) / (e^[2] x * x)) ^ _ = _
  obtain ⟨w2, q2⟩ := he 2 x hx
  have cp2 : Canon (e^[2] x * x) := mul_canon hp0 _ _
  obtain ⟨w6, q6⟩ := he 6 _ cp2.wf
  have wp3 : WF (e^[6] (e^[2] x * x) / (e^[2] x * x)) := mul_wf _ _
  refine toQ_inj (pow_canon hp0 hd _ _) (pow_canon hp0 hd _ _)
    ((toQ_pow hd wp3 _).trans (Eq.trans ?_ (toQ_pow hd hx _).symm))
  rw [hdiv _ _ w6 cp2, q6, show toQ (e^[2] x * x) = _ from toQ_mul w2 hx, q2]
  exact Exp.final_exponentiate_eq_pow (toQ x)

end PyEcc.C12
