/-
  PyEcc.Props.TieFieldsInv — TIE theorems ("generated = hand-written model") for the FIELD layer, part 5: the functions
  of the REFERENCE classes that work on Python lists MIXING ints and `FQ` objects (the kind of an entry changes from
  round to round): `py_ecc.utils.deg` / `poly_rounded_div` on such lists, `FQP.inv` (extended Euclid on coefficient
  lists) and the `FQP` branches of `FQP.__div__` / `__truediv__` of `py_ecc/fields/field_elements.py`.

  `Gen/ExtraFieldsInv.lean` is re-generated from the Python source on every run (tools/translate/gen_fieldsinv.py).  An
  entry of a mixed list is a `PyNum` (`int v` or `fq n`); `x - y`, `x * y`, `x / y`, `x == y`, `int(x)` on such values are
  the generated tables of Python's operator dispatch over the two kinds (entries: the generated methods of class `FQ`);
  `<int> / <int>` — FLOAT division in Python — is the explicit outcome `DynErr.floatDivision`.

  The hand-written model (`Fqp.polyRoundedDiv .ref`, `Fqp.invLoopP .ref`, `Fqp.inv`) keeps ONE integer per entry.  The
  theorems below say that this is exact:
    * `val x` (the int itself / the attribute `n`) is the integer the model keeps for `low`, `high`, `new` — literally;
    * inside `poly_rounded_div` the model leaves `temp` unreduced where Python's `FQ - int` reduces: there the model entry
      is only CONGRUENT to the attribute `n` modulo `p` (`Cong`), which is all the quotient `int(temp[..] / b[..])` (reduced
      modulo `p` in both) depends on; the returned list `o` (ints on both sides) is literally equal;
    * so `FQP.inv` returns `.ok` of the object of the model's `Fqp.inv` — in particular the float-division outcome and the
      `Exception("Length of .. is not ..")` checks are never reached on well-formed elements.
  No hypothesis on the modulus `p` is needed; the only hypothesis is well-formedness `len(coeffs) = len(modulus_coeffs)`
  (without it the generated code raises at the length checks inside the loop, which the model does not have).
-/
import PyEcc.Gen.ExtraFieldsInv
import PyEcc.Props.TieFieldsPoly

namespace PyEcc.Tie
open PyEcc

namespace InvRef
open Gen.ExtraFieldsFq.Ref Gen.ExtraFieldsFqp.Ref Gen.ExtraFieldsMul.Ref Gen.ExtraFieldsInv.Ref FqpRef
variable {p : Nat} {mc : List Int}

/-! ### values, kinds, lists -/

/-- the integer the model keeps for a Python int-or-FQ value: the int itself, the attribute `n` of an `FQ` object -/
def val : PyNum → Int
  | .int v => v
  | .fq n => n

def isFq : PyNum → Prop
  | .int _ => False
  | .fq _ => True

/-- the model's list for a Python list of int-or-FQ values -/
def vals (l : List PyNum) : List Int := l.map val

/-- the model integer `m` stands for the Python value `x` up to reduction: equal for an int, congruent modulo `p` to the
    attribute `n` for an `FQ` object -/
def Cong (p : Nat) (x : PyNum) (m : Int) : Prop :=
  match x with
  | .int v => m = v
  | .fq n => m % (p : Int) = n % (p : Int)

/-- entrywise `Cong` (same length; beyond the end both `l[i]` are the int 0) -/
def CongL (p : Nat) (l : List PyNum) (m : List Int) : Prop :=
  l.length = m.length ∧ ∀ i, Cong p (getN l i) (getI m i)

theorem cong_val (x : PyNum) : Cong p x (val x) := by cases x <;> simp [Cong, val]

@[simp] theorem length_vals (l : List PyNum) : (vals l).length = l.length := by simp [vals]

theorem getI_vals (l : List PyNum) (i : Nat) : getI (vals l) i = val (getN l i) := by
  induction l generalizing i with
  | nil => rfl
  | cons x xs ih =>
    cases i with
    | zero => rfl
    | succ i => exact ih i

theorem congL_vals (l : List PyNum) : CongL p l (vals l) :=
  ⟨(length_vals l).symm, fun i => by rw [getI_vals]; exact cong_val _⟩

@[simp] theorem length_updN (l : List PyNum) (i : Nat) (f : PyNum → PyNum) : (updN l i f).length = l.length := by
  induction l generalizing i with
  | nil => rfl
  | cons x xs ih => cases i <;> simp [updN, ih]

theorem getN_updN (l : List PyNum) (i : Nat) (f : PyNum → PyNum) (j : Nat) :
    getN (updN l i f) j = if j = i ∧ i < l.length then f (getN l i) else getN l j :=
  FqpSem.getD_upd updN (fun _ _ => rfl) (fun _ _ _ => rfl) (fun _ _ _ _ => rfl) _ l i f j

/-- an update that acts on the model integer as `g` -/
theorem vals_updN (l : List PyNum) (k : Nat) (f : PyNum → PyNum) (g : Int → Int)
    (h : k < l.length → val (f (getN l k)) = g (val (getN l k))) : vals (updN l k f) = updAt (vals l) k g := by
  induction l generalizing k with
  | nil => rfl
  | cons x xs ih =>
    cases k with
    | zero => simp only [updN, vals, List.map_cons, updAt, List.cons.injEq, and_true]; exact h (by simp)
    | succ k =>
      simp only [updN, vals, List.map_cons, updAt, List.cons.injEq, true_and]
      exact ih k (fun hk => h (by simpa using hk))

/-- an update that respects `Cong` entrywise -/
theorem CongL.upd {l : List PyNum} {m : List Int} (h : CongL p l m) (k : Nat) (f : PyNum → PyNum) (g : Int → Int)
    (hfg : ∀ x m, Cong p x m → Cong p (f x) (g m)) : CongL p (updN l k f) (updAt m k g) := by
  refine ⟨by simp [h.1], fun i => ?_⟩
  rw [getN_updN, FqpSem.getI_updAt, h.1]
  by_cases hc : i = k ∧ k < m.length
  · rw [if_pos hc, if_pos hc]; exact hfg _ _ (h.2 k)
  · rw [if_neg hc, if_neg hc]; exact h.2 i

/-! ### `deg` on a list of int-or-FQ values -/

theorem eq_zero_iff (x : PyNum) : PyNum.eq p x (PyNum.int 0) = true ↔ val x = 0 := by
  cases x <;> simp [PyNum.eq, FQ.eq_int, val]

set_option smartUnfolding false in
theorem deg_dyn_loop0_eq (l : List PyNum) :
    deg_dyn_loop0 p l = degLoop (fun d => PyNum.eq p (getN l d) (PyNum.int 0) = true) := rfl

/-- `deg(p)` of `py_ecc/utils.py` on a sequence of ints and `FQ` objects (`p[d] == 0` dispatches on the kind of the
    entry) is the model's `deg` of the integers of the entries, for every list. -/
theorem deg_dyn_eq (l : List PyNum) : deg_dyn p l = PyEcc.deg (vals l) := by
  unfold deg_dyn PyEcc.deg
  rw [length_vals, deg_dyn_loop0_eq]
  exact degLoop_eq _ (vals l) (fun d => by rw [getI_vals]; exact eq_zero_iff _) _ _ (Nat.le_refl _)

/-! ### `poly_rounded_div` -/

/-- `foldlM_ok_rel` followed by a sequel (in a `refine`, the pure fold is taken from the goal) -/
theorem foldlM_bind_ok_rel {α₁ α₂ β γ ε : Type} (r : α₂ → α₁ → Prop) {g₁ : α₁ → β → α₁} {g₂ : α₂ → β → Except ε α₂}
    {l : List β} {i₁ : α₁} {i₂ : α₂} {k : α₂ → Except ε γ} (k' : α₁ → γ) (hi : r i₂ i₁)
    (H : ∀ x₂ x₁ y, r x₂ x₁ → ∃ z, g₂ x₂ y = .ok z ∧ r z (g₁ x₁ y))
    (hk : ∀ z m, r z m → k z = .ok (k' m)) :
    (List.foldlM g₂ i₂ l >>= k) = .ok (k' (List.foldl g₁ i₁ l)) :=
  let ⟨z, hz, hr⟩ := foldlM_ok_rel r hi fun y _ x₂ x₁ => H x₂ x₁ y
  hz ▸ hk z _ hr

/-- `x / y` for an `FQ` object `y`: never float division; the attribute `n` of the result is the model's quotient -/
theorem truediv_fq (x : PyNum) (m q : Int) (h : Cong p x m) :
    ∃ n, PyNum.truediv p x (PyNum.fq q) = .ok (PyNum.fq n) ∧ n = (m * primeFieldInv q p) % (p : Int) := by
  cases x with
  | int v =>
    simp only [Cong] at h
    subst h
    refine ⟨_, rfl, ?_⟩
    simp only [FQ.rtruediv_int, FQ.rdiv_int, FQ.init_int, Int.emod_emod, Int.mul_comm]
  | fq n =>
    simp only [Cong] at h
    refine ⟨_, rfl, ?_⟩
    simp only [FQ.truediv_fq, FQ.div_fq, FQ.init_int, Int.emod_emod]
    rw [Int.mul_emod, ← h, ← Int.mul_emod]

/-- `x - c` for an int `c` respects `Cong` -/
theorem cong_sub_int (c : Int) (x : PyNum) (m : Int) (h : Cong p x m) :
    Cong p (PyNum.sub p x (PyNum.int c)) (m - c) := by
  cases x with
  | int v => simp only [Cong] at h; subst h; simp [PyNum.sub, Cong]
  | fq n =>
    simp only [Cong] at h
    simp only [PyNum.sub, Cong, FQ.sub_int, FQ.init_int, Int.emod_emod]
    rw [Int.sub_emod, h, ← Int.sub_emod]

/-- `poly_rounded_div(a, b)` of `py_ecc/utils.py` on sequences of ints and `FQ` objects: when the leading entry
    `b[deg(b)]` of the divisor is an `FQ` object (or the loop does not run: `deg(a) < deg(b)`), no `/` is a float division
    and the returned tuple of ints is LITERALLY the model's `polyRoundedDiv .ref` of the integers of the entries.  (The
    working list `temp` is only congruent modulo `p` to the model's, which does not reduce `FQ - int`.) -/
theorem poly_rounded_div_eq (a b : List PyNum)
    (hb : PyEcc.deg (vals b) ≤ PyEcc.deg (vals a) → isFq (getN b (PyEcc.deg (vals b)))) :
    poly_rounded_div p a b = .ok (Fqp.polyRoundedDiv .ref p (vals a) (vals b)) := by
  unfold poly_rounded_div Fqp.polyRoundedDiv
  simp only [deg_dyn_eq, deg_eq, List.map_const', length_vals]
  by_cases hlt : PyEcc.deg (vals a) < PyEcc.deg (vals b)
  · simp only [hlt, if_true, List.foldlM_nil, List.foldl_nil]
    rfl
  · simp only [hlt, if_false]
    have hfq := hb (by omega)
    generalize hq : getN b (PyEcc.deg (vals b)) = bq at hfq
    cases bq with
    | int v => exact absurd hfq (by simp [isFq])
    | fq q =>
      have hbq : getI (vals b) (PyEcc.deg (vals b)) = q := by rw [getI_vals, hq]; rfl
      refine foldlM_bind_ok_rel
        (r := fun (g : List PyNum × List Int) (m : List Int × List Int) => g.2 = m.2 ∧ CongL p g.1 m.1)
        (k' := fun m => List.take (PyEcc.deg m.2 + 1) m.2) ⟨rfl, congL_vals a⟩ ?_ ?_
      · rintro ⟨temp, o⟩ ⟨tempM, oM⟩ i ⟨ho, ht⟩
        simp only at ho ht
        subst ho
        obtain ⟨n, hn, hnq⟩ := truediv_fq (p := p) (getN temp (PyEcc.deg (vals b) + i)) _ q (ht.2 _)
        simp only [hn, bind, Except.bind, pure, Except.pure]
        refine ⟨_, rfl, ?_⟩
        simp only [PyNum.toInt, FQ.int, hbq, hnq, true_and]
        refine fields_foldl_rel (r := fun (g : List PyNum) (m : List Int) => CongL p g m) ht ?_
        intro x₂ x₁ c hx
        exact hx.upd _ _ _ (cong_sub_int _)
      · rintro ⟨temp, o⟩ ⟨tempM, oM⟩ ⟨ho, _⟩
        simp only at ho
        subst ho
        rfl

/-- the hypothesis of `poly_rounded_div_eq` cannot be dropped: when the loop runs and the leading entries `a[deg(a)]`,
    `b[deg(b)]` are BOTH ints, the first `temp[degb + i] / b[degb]` is Python's float division — the generated function
    reports `floatDivision` (Python itself would continue with `int(<float>)`, outside the integer model). -/
theorem poly_rounded_div_float (a b : List PyNum) (hab : PyEcc.deg (vals b) ≤ PyEcc.deg (vals a))
    (ha : ¬ isFq (getN a (PyEcc.deg (vals a)))) (hb : ¬ isFq (getN b (PyEcc.deg (vals b)))) :
    poly_rounded_div p a b = .error DynErr.floatDivision := by
  unfold poly_rounded_div
  simp only [deg_dyn_eq]
  have hr : ∀ n, (List.range (n + 1)).reverse = n :: (List.range n).reverse := fun n => by
    rw [List.range_succ, List.reverse_append, List.reverse_singleton, List.singleton_append]
  rw [if_neg (by omega), hr, List.foldlM_cons]
  have e : PyEcc.deg (vals b) + (PyEcc.deg (vals a) - PyEcc.deg (vals b)) = PyEcc.deg (vals a) := by omega
  simp only [e]
  generalize getN a (PyEcc.deg (vals a)) = x at ha
  generalize getN b (PyEcc.deg (vals b)) = y at hb
  cases x with
  | fq n => exact absurd trivial ha
  | int v =>
    cases y with
    | fq n => exact absurd trivial hb
    | int w => rfl

/-! ### the `while deg(low)` loop of `FQP.inv` -/

def AllFq (l : List PyNum) : Prop := ∀ k, k < l.length → isFq (getN l k)

/-- the shape of `low`: `FQ` objects, except that the last of the `d + 1` entries may be the int 0 -/
def LowShape (d : Nat) (low : List PyNum) : Prop :=
  (∀ i, i < d → isFq (getN low i)) ∧ (isFq (getN low d) ∨ getN low d = PyNum.int 0)

/-- when the loop continues (`deg(low) != 0`), the leading entry of `low` is an `FQ` object -/
theorem low_lead_fq {d : Nat} {low : List PyNum} (h3 : low.length = d + 1) (hs : LowShape d low)
    (hdeg : PyEcc.deg (vals low) ≠ 0) : isFq (getN low (PyEcc.deg (vals low))) := by
  have hle := FqpSem.deg_le (vals low)
  rw [length_vals, h3] at hle
  have hne := FqpSem.getI_deg_ne_zero (vals low) hdeg
  rw [getI_vals] at hne
  by_cases hk : PyEcc.deg (vals low) < d
  · exact hs.1 _ hk
  · have hk' : PyEcc.deg (vals low) = d := by omega
    rw [hk'] at hne ⊢
    rcases hs.2 with h | h
    · exact h
    · rw [h] at hne; exact absurd rfl hne

/-- `new[k] -= low[i] * int(r[j])`: unless BOTH `new[k]` and `low[i]` are ints, the result is an `FQ` object whose
    attribute `n` is literally the model's `(x - (low_i * r_j) % p) % p` -/
theorem upd_exact (x lowi : PyNum) (r : Int) (h : isFq lowi ∨ isFq x) :
    val (PyNum.sub p x (PyNum.mul p lowi (PyNum.int r))) = (val x - (val lowi * r) % (p : Int)) % (p : Int) ∧
    isFq (PyNum.sub p x (PyNum.mul p lowi (PyNum.int r))) := by
  cases lowi with
  | fq l =>
    cases x <;>
      simp [PyNum.sub, PyNum.mul, val, isFq, FQ.mul_int, FQ.sub_fq, FQ.rsub_int, FQ.init_int]
  | int l =>
    cases x with
    | int v => simp [isFq] at h
    | fq n =>
      simp only [PyNum.sub, PyNum.mul, val, isFq, FQ.sub_int, FQ.init_int, Int.emod_emod, and_true]
      exact (Int.sub_emod_emod _ _ _).symm

/-- an `FQ` entry stays an `FQ` object under `x -= ..` -/
theorem isFq_sub (x y : PyNum) (h : isFq x) : isFq (PyNum.sub p x y) := by
  cases x with
  | int v => exact absurd h (by simp [isFq])
  | fq n => cases y <;> simp [PyNum.sub, isFq]

/-- one round `j` of the inner loop on `new`, generated code -/
def stepG (p : Nat) (lowi : PyNum) (r : List Int) (i : Nat) (new : List PyNum) (j : Nat) : List PyNum :=
  updN new (i + j) (fun x' => PyNum.sub p x' (PyNum.mul p lowi (PyNum.int (getI r j))))

/-- one round `j` of the inner loop on `new`, model -/
def stepM (p : Nat) (lowi : Int) (r : List Int) (i : Nat) (new : List Int) (j : Nat) : List Int :=
  updAt new (i + j) (fun x => (x - (lowi * getI r j) % (p : Int)) % (p : Int))

/-- what `n` rounds of the inner loop `for j ..: new[i + j] -= low[i] * int(r[j])` keep and establish -/
structure PassInv (i n : Nat) (lowi : PyNum) (G0 G : List PyNum) (M : List Int) : Prop where
  ex : vals G = M
  len : G.length = G0.length
  mono : ∀ k, isFq (getN G0 k) → isFq (getN G k)
  hit : isFq lowi → ∀ k, i ≤ k → k < i + n → k < G0.length → isFq (getN G k)

theorem pass_rel (lowi : PyNum) (r : List Int) (i : Nat) (G0 : List PyNum) (hfq : isFq lowi ∨ AllFq G0) :
    ∀ n, PassInv i n lowi G0 (List.foldl (stepG p lowi r i) G0 (List.range n))
      (List.foldl (stepM p (val lowi) r i) (vals G0) (List.range n)) := by
  intro n
  induction n with
  | zero => exact ⟨rfl, rfl, fun _ h => h, fun _ k h1 h2 _ => by omega⟩
  | succ n ih =>
    rw [List.range_succ, List.foldl_append, List.foldl_append]
    generalize List.foldl (stepG p lowi r i) G0 (List.range n) = G at ih
    generalize List.foldl (stepM p (val lowi) r i) (vals G0) (List.range n) = M at ih
    simp only [List.foldl_cons, List.foldl_nil, stepG, stepM]
    have hstep : ∀ k, isFq (getN G k) → isFq (getN (updN G (i + n)
        (fun x' => PyNum.sub p x' (PyNum.mul p lowi (PyNum.int (getI r n))))) k) := by
      intro k hk
      rw [getN_updN]
      split
      · rename_i hc; rw [← hc.1]; exact isFq_sub _ _ hk
      · exact hk
    refine ⟨?_, by simp [ih.len], fun k hk => hstep k (ih.mono k hk), ?_⟩
    · rw [← ih.ex]
      apply vals_updN
      intro hk
      refine (upd_exact _ _ _ ?_).1
      rcases hfq with h | h
      · exact Or.inl h
      · exact Or.inr (ih.mono _ (h _ (by rw [← ih.len]; exact hk)))
    · intro hl k h1 h2 h3
      by_cases hk : k = i + n
      · rw [getN_updN, if_pos ⟨hk, by rw [ih.len]; omega⟩]
        exact (upd_exact _ _ _ (Or.inl hl)).2
      · exact hstep k (ih.hit hl k h1 (by omega) h3)

/-- the `new` half of the generated double loop: `for i in range(n): for j in range(n - i): new[i + j] -= low[i] * int(r[j])`
    on a list of int-or-FQ values -/
def newLoop (p : Nat) (low : List PyNum) (r : List Int) (n : Nat) (new : List PyNum) : List PyNum :=
  (List.range n).foldl (fun new i => (List.range (n - i)).foldl (stepG p (getN low i) r i) new) new

/-- what that loop establishes between the generated `new` and the model's: the integers of `new` are LITERALLY the
    model's list, the length is kept, and all entries of `new` are `FQ` objects -/
def LoopRel (d : Nat) (G : List PyNum) (M : List Int) : Prop :=
  vals G = M ∧ G.length = d + 1 ∧ AllFq G

/-- the generated `new` after the double loop against the model's `truncLoop` (the `new` half of `FqpSem.invRound .ref`):
    `LoopRel` holds afterwards (the pass `i = 0` subtracts an `FQ` object from each of the `d + 1` entries of `new`). -/
theorem double_loop {d : Nat} (r : List Int) (low high : List PyNum) (h0 : isFq (getN low 0)) (hlen : high.length = d + 1) :
    LoopRel d (newLoop p low r (d + 1) high)
      (FqpSem.truncLoop (d + 1) (FqpSem.newFref p (vals low) r) (vals high)) := by
  show LoopRel d _ (List.foldl (fun new i => List.foldl (stepM p (getI (vals low) i) r i) new (List.range (d + 1 - i)))
    (vals high) _)
  unfold newLoop
  rw [List.range_succ_eq_map, List.foldl_cons, List.foldl_cons]
  simp only [getI_vals]
  have h1 := pass_rel (p := p) (getN low 0) r 0 high (Or.inl h0) (d + 1 - 0)
  generalize List.foldl (stepG p (getN low 0) r 0) high (List.range (d + 1 - 0)) = G1 at h1
  generalize List.foldl (stepM p (val (getN low 0)) r 0) (vals high) (List.range (d + 1 - 0)) = M1 at h1
  have hl1 : G1.length = d + 1 := h1.len.trans hlen
  refine fields_foldl_rel (r := LoopRel d) ⟨h1.ex, hl1,
    fun k hk => h1.hit h0 k (Nat.zero_le k) (by omega) (by omega)⟩ ?_
  rintro G _ i ⟨rfl, a3, a5⟩
  have h2 := pass_rel (p := p) (getN low i) r i G (Or.inr a5) (d + 1 - i)
  exact ⟨h2.ex, h2.len.trans a3, fun k hk => h2.mono k (a5 k (h2.len ▸ hk))⟩

/-- one round of the generated `while deg(low)` loop, for any object `x`: when `poly_rounded_div` returns `r` and the four
    lists have `degree + 1` entries (so that none of the length checks raises), the round is, on `nm`, the model's
    `truncLoop` and, on `new`, `newLoop` (the two halves of the double loop do not depend on each other), followed by the
    swap `lm, low, hm, high = nm, new, lm, low` -/
theorem inv_loop0_succ (x : FQP) (f : Nat) (lm hm : List Int) (low high : List PyNum) (r : List Int)
    (hdeg : deg_dyn p low ≠ 0) (hr : poly_rounded_div p high low = .ok r) (h1 : lm.length = x.degree + 1)
    (h2 : hm.length = x.degree + 1) (h3 : low.length = x.degree + 1) (h4 : high.length = x.degree + 1) :
    FQP.inv_loop0 p mc x (f + 1) (lm, hm, low, high) =
      (fun r' => FQP.inv_loop0 p mc x f (FqpSem.truncLoop (x.degree + 1) (FqpSem.nmF lm r') hm, lm,
        newLoop p low r' (x.degree + 1) high, low)) (r ++ List.replicate (x.degree + 1 - r.length) 0) := by
  conv => lhs; unfold FQP.inv_loop0
  simp only [hdeg, hr, h1, h2, h3, h4, if_true, bind, Except.bind, _root_.ne_eq, not_true_eq_false, not_false_eq_true,
    if_false]
  exact congrArg (fun G : List Int × List PyNum => FQP.inv_loop0 p mc x f (G.1, lm, G.2, low))
    (FqpSem.foldl_pair2 (fun i j nm => updAt nm (i + j) (FqpSem.nmF lm _ i j))
      (fun i j new => stepG p (getN low i) _ i new j) _ (fun i => x.degree + 1 - i) (hm, high))

/-- the generated loop stops when `deg(low) == 0` -/
theorem inv_loop0_stop (x : FQP) (f : Nat) (st : List Int × List Int × List PyNum × List PyNum)
    (hdeg : ¬ deg_dyn p st.2.2.1 ≠ 0) : FQP.inv_loop0 p mc x (f + 1) st = .ok st := by
  unfold FQP.inv_loop0
  rw [if_neg hdeg]; rfl

theorem AllFq.lowShape {d : Nat} {l : List PyNum} (h : AllFq l) (hl : l.length = d + 1) : LowShape d l :=
  ⟨fun i hi => h i (hl ▸ Nat.lt_succ_of_lt hi), Or.inl (h d (hl ▸ Nat.lt_succ_self d))⟩

/-- the `while deg(low)` loop generated from the reference `FQP.inv` (state `(lm, hm, low, high)`, `low` and `high` lists
    of int-or-FQ values) never fails — no float division, no length exception — and computes the model's `invLoopP .ref`
    on the integers of the entries (the model returns `(lm, low)`), for every fuel.  Invariant: the four lists have
    `d + 1` entries, the entries of `low` are `FQ` objects except possibly a trailing int 0. -/
theorem inv_loop_eq (a : Fqp .ref p mc) : ∀ (f : Nat) (lm hm : List Int) (low high : List PyNum),
    lm.length = mc.length + 1 → hm.length = mc.length + 1 → low.length = mc.length + 1 → high.length = mc.length + 1 →
    LowShape mc.length low →
    ∃ lm' hm' low' high', FQP.inv_loop0 p mc (obj a) f (lm, hm, low, high) = .ok (lm', hm', low', high') ∧
      (lm', vals low') = Fqp.invLoopP .ref p mc.length f lm (vals low) hm (vals high) ∧ lm'.length = mc.length + 1 := by
  intro f
  induction f with
  | zero => intro lm hm low high h1 _ _ _ _; exact ⟨_, _, _, _, rfl, rfl, h1⟩
  | succ f ih =>
    intro lm hm low high h1 h2 h3 h4 hs
    rw [FqpSem.invLoopP_succ]
    by_cases hdeg : PyEcc.deg (vals low) ≠ 0
    · have hle : PyEcc.deg (vals low) ≤ mc.length := by
        have := FqpSem.deg_le (vals low); rwa [length_vals, h3] at this
      rw [if_pos hdeg, inv_loop0_succ (obj a) f lm hm low high _ (by rwa [deg_dyn_eq])
        (poly_rounded_div_eq high low (fun _ => low_lead_fq h3 hs hdeg)) h1 h2 h3 h4]
      obtain ⟨e, l, hall⟩ := double_loop (p := p) (FqpSem.padR .ref p mc.length (vals high) (vals low)) low high
        (hs.1 0 (Nat.lt_of_lt_of_le (Nat.pos_of_ne_zero hdeg) hle)) h4
      simp only [FqpSem.invRound]
      rw [← e]
      exact ih _ lm _ low ((FqpSem.length_truncLoop ..).trans h2) h1 l h3 (hall.lowShape l)
    · rw [if_neg hdeg, inv_loop0_stop _ _ _ (by rwa [deg_dyn_eq])]; exact ⟨_, _, _, _, rfl, rfl, h1⟩

/-! ### `FQP.inv`, `FQP.__div__`, `FQP.__truediv__` -/

@[simp] theorem vals_map_fq (l : List Int) : vals (l.map PyNum.fq) = l := by
  simp [vals, List.map_map, Function.comp_def, val]

@[simp] theorem vals_map_int (l : List Int) : vals (l.map PyNum.int) = l := by
  simp [vals, List.map_map, Function.comp_def, val]

@[simp] theorem vals_append (l l' : List PyNum) : vals (l ++ l') = vals l ++ vals l' := by simp [vals]

theorem isFq_getN_map_fq (l : List Int) (i : Nat) (h : i < l.length) : isFq (getN (l.map PyNum.fq) i) := by
  induction l generalizing i with
  | nil => simp at h
  | cons x xs ih =>
    cases i with
    | zero => simp [getN, isFq]
    | succ i => simp only [List.map_cons, getN, List.getD_cons_succ]; exact ih i (by simpa using h)

/-- the initial `low = list(self.coeffs + (0,))` of a well-formed element: `d` FQ objects and the int 0 -/
theorem lowShape_init (cs : List Int) (d : Nat) (h : cs.length = d) :
    LowShape d (cs.map PyNum.fq ++ [PyNum.int 0]) := by
  refine ⟨fun i hi => ?_, Or.inr ?_⟩
  · have : getN (cs.map PyNum.fq ++ [PyNum.int 0]) i = getN (cs.map PyNum.fq) i := by
      unfold getN; rw [List.getD_eq_getElem?_getD, List.getD_eq_getElem?_getD,
        List.getElem?_append_left (by simp; omega)]
    rw [this]; exact isFq_getN_map_fq cs i (by omega)
  · unfold getN
    rw [List.getD_eq_getElem?_getD, List.getElem?_append_right (by simp; omega)]
    simp [h]

theorem toInt_eq_val (x : PyNum) : PyNum.toInt p x = val x := by cases x <;> rfl

theorem wf_inv (a : Fqp .ref p mc) : (Fqp.inv a).coeffs.length = mc.length := FqpSem.inv_wf a

/-- REFERENCE `FQP.inv()` of `py_ecc/fields/field_elements.py` (extended Euclid on lists mixing ints and `FQ` objects,
    calling `poly_rounded_div` and `deg`), translated with Python's dynamic operator dispatch: for every well-formed
    element (`len(coeffs) = len(modulus_coeffs)`; any modulus, any coefficients, any `p`) the generated function returns
    `.ok` of the object of the model's `Fqp.inv a` — LITERALLY the model's coefficient list.  In particular the outcome is
    never `DynErr.floatDivision` (no `/` of the run divides two ints) and never the `Exception("Length of ..")` of the
    loop's length checks. -/
theorem inv_eq (a : Fqp .ref p mc) (ha : a.coeffs.length = mc.length) :
    FQP.inv p mc (obj a) = .ok (obj (Fqp.inv a)) := by
  have hd : (obj a).degree = mc.length := rfl
  have hc : (obj a).coeffs = a.coeffs := rfl
  have hm : (obj a).modulus_coeffs = mc := rfl
  unfold FQP.inv Fqp.inv
  simp only [hd, hc, hm, List.map_cons, List.map_nil]
  obtain ⟨lm', hm', low', high', hrun, hmod, hlen⟩ := inv_loop_eq a (4 * mc.length + 4)
    ([1] ++ List.replicate mc.length 0) (List.replicate (mc.length + 1) 0)
    (a.coeffs.map PyNum.fq ++ [PyNum.int 0]) ((mc ++ [1]).map PyNum.int)
    (by simp) (by simp) (by simp [ha]) (by simp) (lowShape_init _ _ ha)
  rw [hrun]
  have hv : vals [PyNum.int 0] = [0] := rfl
  simp only [vals_append, vals_map_fq, vals_map_int, hv, List.singleton_append] at hmod
  rw [← hmod]
  have e1 : (liftM (FQPsub.init_ints p mc (List.take mc.length lm')) : Except DynErr FQP) =
      .ok (obj (Fqp.ofInts (List.take mc.length lm') : Fqp .ref p mc)) := by
    rw [init_ints_eq, if_neg (by simp [hlen])]; rfl
  have e2 := truediv_int_eq (Fqp.ofInts (List.take mc.length lm') : Fqp .ref p mc) (val (getN low' 0))
    (by simp [Fqp.ofInts, hlen])
  simp only [bind, Except.bind, e1, toInt_eq_val, getI_vals]
  rw [e2]
  rfl

/-- the float-division outcome is never reached by the reference `FQP.inv()` on a well-formed element. -/
theorem inv_no_float (a : Fqp .ref p mc) (ha : a.coeffs.length = mc.length) :
    FQP.inv p mc (obj a) ≠ .error DynErr.floatDivision := by
  rw [inv_eq a ha]; exact fun h => nomatch h

/-- every object built by the class constructor (`FQ2(..)` / `FQ12(..)` on a sequence of ints, with the generated
    `FQPsub.init_ints`) is well-formed: its `inv()` is `.ok` of the model's inverse (no float division, no exception). -/
theorem inv_of_init_ints (cs : List Int) (x : FQP) (hx : FQPsub.init_ints p mc cs = .ok x) :
    FQP.inv p mc x = .ok (obj (Fqp.inv (Fqp.ofInts cs : Fqp .ref p mc))) := by
  rw [init_ints_eq] at hx
  by_cases h : cs.length = mc.length
  · rw [if_neg (by simp [h])] at hx
    injection hx with hx
    subst hx
    exact inv_eq _ (by simp [Fqp.ofInts, h])
  · rw [if_pos h] at hx; exact nomatch hx

/-- the same for the constructor applied to a sequence of `FQ` objects (`type(self)([..])` inside the methods). -/
theorem inv_of_init_fqs (cs : List Int) (x : FQP) (hx : FQPsub.init_fqs p mc cs = .ok x) :
    FQP.inv p mc x = .ok (obj (Fqp.inv (⟨cs⟩ : Fqp .ref p mc))) := by
  rw [init_fqs_eq] at hx
  by_cases h : cs.length = mc.length
  · rw [if_neg (by simp [h])] at hx
    injection hx with hx
    subst hx
    exact inv_eq _ h
  · rw [if_pos h] at hx; exact nomatch hx

/-- REFERENCE `FQP.__div__` with an `FQP` operand (`self * other.inv()`) is the model's `Fqp.div` (well-formed divisor;
    the product needs no well-formedness). -/
theorem div_fqp_eq (a b : Fqp .ref p mc) (hb : b.coeffs.length = mc.length) :
    FQP.div_fqp p mc (obj a) (obj b) = .ok (obj (Fqp.div a b)) := by
  unfold FQP.div_fqp Fqp.div
  rw [inv_eq b hb]
  simp only [bind, Except.bind]
  rw [MulRef.mul_fqp_eq a (Fqp.inv b)]
  rfl

/-- REFERENCE `FQP.__truediv__` with an `FQP` operand delegates to `__div__`. -/
theorem truediv_fqp_eq (a b : Fqp .ref p mc) (hb : b.coeffs.length = mc.length) :
    FQP.truediv_fqp p mc (obj a) (obj b) = .ok (obj (Fqp.div a b)) := by
  unfold FQP.truediv_fqp; exact div_fqp_eq a b hb

/- non-vacuity of the hypotheses, and the division by two ints made visible -/
example : FQP.inv 7 [1, 0] (obj (⟨[3, 6]⟩ : Fqp .ref 7 [1, 0])) = .ok (obj (Fqp.inv (⟨[3, 6]⟩ : Fqp .ref 7 [1, 0]))) :=
  inv_eq _ rfl
example : FQP.div_fqp 7 [1, 0] (obj (⟨[1, 2]⟩ : Fqp .ref 7 [1, 0])) (obj (⟨[3, 6]⟩ : Fqp .ref 7 [1, 0])) =
    .ok (obj (Fqp.div (⟨[1, 2]⟩ : Fqp .ref 7 [1, 0]) ⟨[3, 6]⟩)) := div_fqp_eq _ _ rfl
example : poly_rounded_div 7 [.int 1, .int 0, .int 1] [.fq 3, .fq 6, .int 0] =
    .ok (Fqp.polyRoundedDiv .ref 7 [1, 0, 1] [3, 6, 0]) :=
  poly_rounded_div_eq (p := 7) [.int 1, .int 0, .int 1] [.fq 3, .fq 6, .int 0] (fun _ => by show isFq (PyNum.fq 6); trivial)
/-- without the hypothesis of `poly_rounded_div_eq` Python's `/` IS a float division: two int lists -/
example : poly_rounded_div 7 [.int 1, .int 1] [.int 1, .int 1] = .error DynErr.floatDivision :=
  poly_rounded_div_float (p := 7) [.int 1, .int 1] [.int 1, .int 1] (by decide)
    (by show ¬ isFq (PyNum.int 1); exact id) (by show ¬ isFq (PyNum.int 1); exact id)
example : FQP.inv 7 [1, 0] { coeffs := [3, 6], modulus_coeffs := [1, 0], degree := 2 } =
    .ok (obj (Fqp.inv (Fqp.ofInts [10, -1] : Fqp .ref 7 [1, 0]))) := inv_of_init_ints [10, -1] _ rfl
/-- without well-formedness the generated `inv` raises at the length checks of the loop (the model has none) -/
example : FQP.inv 13 [2, 0, 5] (obj (⟨[3, 6]⟩ : Fqp .ref 13 [2, 0, 5])) = .error (DynErr.py PyErr.other) := rfl

end InvRef
end PyEcc.Tie
