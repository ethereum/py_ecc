/-
  PyEcc.Props.C03_Gen — property C03 (**`Aggregate` is the group sum; `AggregateVerify` / `FastAggregateVerify` accept only
  it**) stated DIRECTLY ABOUT THE GENERATED CODE `PyEcc.Gen.ExtraBls.*` (`py_ecc/bls/ciphersuites.py` as translated from the
  repository on this run), with the generated `signature_to_G2` (`Gen.ExtraCodec`) and `hash_to_G2` (`Gen.ExtraSwu`) where a
  statement speaks about decoding or hashing.

  Each theorem is the model theorem of `Props/C03_Logic.lean`, `Props/C03_Proto.lean`, `Props/C01_ProtoModel.lean` rewritten
  with the tie theorems (`Props/TieBls.lean`, `TieBlsAgg.lean`, `TieCodec.lean`, `TieSwu.lean`).  Hypotheses are unchanged:
    * Part 1 (`Aggregate`) and Part 2 (outright rejections) have NO hypothesis;
    * Part 3 (`AggregateVerify`, `FastAggregateVerify`) keeps the ONE named hypothesis `NdSem.ModelBilinearCode` (the code's
      `pairing` is bilinear on subgroup points — `C01.Gen.modelBilinearCode_iff_gen` reads it on the generated `pairing`) and
      honest keys `pkᵢ = SkToPk(skᵢ)`, `1 ≤ skᵢ < curve_order`.

  Specification-side vocabulary (Mathlib objects; no py_ecc function other than the generated ones named):
    `E2`               Mathlib's group of points of the twist curve `y² = x³ + 4(1+i)` over `K2 = F_p[X]/(X²+1)` (its group law
                       needs `[DecidableEq K2]`, which therefore appears in the statements that add points);
    `RepG2 S q`        the triple `S` of `FQ2`s has reduced coefficients and is a projective representative of `q`;
    `EncG2 bs q`       (here) `bs` has 96 bytes and the GENERATED `signature_to_G2(bs)` returns a representative of `q`;
    `HashPt H dst m h` (here) the GENERATED `hash_to_G2(m, dst, H)` returns a representative of `h`;
    `C03.sigSum sks hs`  the point `Σ skᵢ • hᵢ`;  `BlsProto.g1` the point represented by the generator constant `G1`.
-/
import PyEcc.Props.TieBlsAgg
import PyEcc.Props.TieCodec
import PyEcc.Props.TieSwu
import PyEcc.Props.C03_Logic
import PyEcc.Props.C01_ProtoModel
import PyEcc.Props.C04_Gen

set_option linter.unusedSectionVars false

namespace PyEcc.C03.Gen
open PyEcc PyEcc.Gen.Consts PyEcc.Transfer PyEcc.BlsSem PyEcc.BlsProto PyEcc.NdSem

/-! ## 0. Vocabulary on the generated decoders -/

section
variable [DecidableEq K2]

/-- the 96-byte string `bs` decodes — by the GENERATED `signature_to_G2` — to a canonical representative of the point `q` -/
def EncG2 (bs : Bytes) (q : E2) : Prop :=
  bs.length = 96 ∧ ∃ S, Gen.ExtraCodec.signature_to_G2 bs = .ok S ∧ RepG2 S q

/-- the GENERATED `hash_to_G2(msg, dst, H)` returned a canonical representative of the point `h` -/
def HashPt (H : HashFn) (dst : Bytes) (msg : Bytes) (h : E2) : Prop :=
  ∃ mp, Gen.ExtraSwu.hash_to_G2 msg dst H = .ok mp ∧ RepG2 mp h

theorem encG2_eq : EncG2 = BlsProto.EncG2 := by
  funext bs q
  unfold EncG2 BlsProto.EncG2
  rw [Tie.signature_to_G2_eq]

theorem hashPt_eq : HashPt = BlsProto.HashPt := by
  funext H dst msg h
  unfold HashPt BlsProto.HashPt
  rw [Tie.hash_to_G2_eq]

/-! ## Part 1: `Aggregate` (no hypotheses) -/

theorem map_decG2 {sigs : List Bytes} {qs : List E2} (h : List.Forall₂ BlsProto.EncG2 sigs qs) :
    sigs.map decG2 = qs := by
  induction h with
  | nil => rfl
  | cons a _ ih => rw [List.map_cons, a.decG2_eq, ih]

theorem enc_of_mem {sigs : List Bytes} {qs : List E2} (h : List.Forall₂ BlsProto.EncG2 sigs qs) :
    ∀ sg ∈ sigs, ∃ q, BlsProto.EncG2 sg q := by
  induction h with
  | nil => intro sg hsg; cases hsg
  | cons a _ ih =>
    intro sg hsg
    rcases List.mem_cons.mp hsg with rfl | hm
    · exact ⟨_, a⟩
    · exact ih sg hm

/-- **The generated `Aggregate` is the group sum.**  For a non-empty list of 96-byte strings `sᵢ` that all decode (generated
    `signature_to_G2`) — `sᵢ` to a representative of the point `qᵢ` — the generated `Aggregate(sigs)` returns the (unique)
    encoding of `Σ qᵢ`, the sum taken in Mathlib's elliptic-curve group. -/
theorem Aggregate_eq_sum (sigs : List Bytes) (qs : List E2) (hne : sigs ≠ [])
    (hall : List.Forall₂ EncG2 sigs qs) :
    ∃ bs, Gen.ExtraBls.Aggregate sigs = .ok bs ∧ EncG2 bs qs.sum := by
  rw [encG2_eq] at hall ⊢
  rw [Tie.Bls.Aggregate_eq, ← map_decG2 hall]
  apply C03.aggregate_eq_sum sigs hne
  intro sg hsg
  obtain ⟨q, hl, S, hS, _⟩ := enc_of_mem hall sg hsg
  exact ⟨hl, S, hS⟩

/-- **Exact characterisation of the generated `Aggregate`**: it returns `bs` iff the list is non-empty, every entry is a
    96-byte string that the generated `signature_to_G2` decodes (to points `qᵢ`), and `bs` is the encoding of `Σ qᵢ`.
    (Everything else raises: `Aggregate_errors`.) -/
theorem Aggregate_ok_iff (sigs : List Bytes) (bs : Bytes) :
    Gen.ExtraBls.Aggregate sigs = .ok bs ↔
      sigs ≠ [] ∧ ∃ qs, List.Forall₂ EncG2 sigs qs ∧ EncG2 bs qs.sum := by
  constructor
  · intro h
    rw [Tie.Bls.Aggregate_eq] at h
    obtain ⟨hne, hall, henc⟩ := (C03.aggregate_ok_iff sigs bs).mp h
    refine ⟨hne, sigs.map decG2, ?_, by rw [encG2_eq]; exact henc⟩
    rw [encG2_eq, List.forall₂_map_right_iff, List.forall₂_same]
    intro sg hsg
    obtain ⟨hl, S, hS⟩ := hall sg hsg
    exact encG2_decG2 hl hS
  · rintro ⟨hne, qs, hall, henc⟩
    obtain ⟨bs', hbs', henc'⟩ := Aggregate_eq_sum sigs qs hne hall
    rw [encG2_eq] at henc henc'
    rw [hbs', henc'.bytes_unique henc]

end

/-- **Order independence of the generated `Aggregate`**, for ALL lists (also those on which it raises: same exception). -/
theorem Aggregate_perm (xs ys : List Bytes) (h : xs.Perm ys) :
    Gen.ExtraBls.Aggregate xs = Gen.ExtraBls.Aggregate ys := by
  classical
  rw [Tie.Bls.Aggregate_eq, Tie.Bls.Aggregate_eq]
  exact C03.aggregate_perm xs ys h

/-- **Grouping independence of the generated `Aggregate`**: if `Aggregate(xs) = a` and `Aggregate(ys) = b` then
    `Aggregate(xs ++ ys) = Aggregate([a, b])`. -/
theorem Aggregate_append (xs ys : List Bytes) (a b : Bytes) (ha : Gen.ExtraBls.Aggregate xs = .ok a)
    (hb : Gen.ExtraBls.Aggregate ys = .ok b) :
    Gen.ExtraBls.Aggregate (xs ++ ys) = Gen.ExtraBls.Aggregate [a, b] := by
  classical
  simp only [Tie.Bls.Aggregate_eq] at ha hb ⊢
  exact C03.aggregate_append xs ys a b ha hb

/-- **Nested aggregation over any grouping** (generated `Aggregate`): aggregating the partial aggregates of the groups gives
    the aggregate of the concatenation. -/
theorem Aggregate_flatten (xss : List (List Bytes)) (parts : List Bytes)
    (h : List.Forall₂ (fun xs a => Gen.ExtraBls.Aggregate xs = .ok a) xss parts) (hne : xss ≠ []) :
    Gen.ExtraBls.Aggregate xss.flatten = Gen.ExtraBls.Aggregate parts := by
  classical
  simp only [Tie.Bls.Aggregate_eq] at h ⊢
  exact C03.aggregate_flatten xss parts h hne

/-- **Error behaviour of the generated `Aggregate`.**
    (1) `Aggregate([])` raises `ValidationError`;
    (2) if any entry — at any position — is not exactly 96 bytes long, `Aggregate` raises `ValidationError` (before decoding
        anything);
    (3) if the list is non-empty, all entries are 96 bytes long and some entry does not decode (the generated
        `signature_to_G2` raises), the `ValueError` of `signature_to_G2` propagates to the caller. -/
theorem Aggregate_errors :
    Gen.ExtraBls.Aggregate [] = .error .validation ∧
    (∀ sigs : List Bytes, (∃ sg ∈ sigs, sg.length ≠ 96) → Gen.ExtraBls.Aggregate sigs = .error .validation) ∧
    (∀ sigs : List Bytes, sigs ≠ [] → (∀ sg ∈ sigs, sg.length = 96) →
      (∃ sg ∈ sigs, ∃ e, Gen.ExtraCodec.signature_to_G2 sg = .error e) →
      Gen.ExtraBls.Aggregate sigs = .error .value) := by
  simp only [Tie.Bls.Aggregate_eq, Tie.signature_to_G2_eq]
  exact C03.aggregate_errors

/-- non-vacuity of (2) and (3): a 95-byte entry; a 96-byte all-zero entry (compression flag clear) -/
example : Gen.ExtraBls.Aggregate [List.replicate 95 0] = .error .validation ∧
    Gen.ExtraBls.Aggregate [List.replicate 96 0] = .error .value := by
  have hbad : ∃ e, Gen.ExtraCodec.signature_to_G2 (List.replicate 96 0) = .error e := by
    rw [Tie.signature_to_G2_eq]
    have h : (match signatureToG2 (List.replicate 96 0) with
      | .error _ => true | .ok _ => false) = true := by decide +kernel
    split at h
    · next e he => exact ⟨e, he⟩
    · cases h
  exact ⟨Aggregate_errors.2.1 _ ⟨_, List.mem_singleton.mpr rfl, by decide⟩,
    Aggregate_errors.2.2 _ (by simp) (by simp) ⟨_, List.mem_singleton.mpr rfl, hbad⟩⟩

/-- non-vacuity of `Aggregate_eq_sum`: the encoding of infinity is a decodable 96-byte string (C04), so the generated
    `Aggregate([inf, inf])` returns -/
example : ∃ bs, Gen.ExtraBls.Aggregate [C04.infSig, C04.infSig] = .ok bs := by
  classical
  obtain ⟨S, hl, hS, _⟩ := C04.infSig_canon
  have henc : BlsProto.EncG2 C04.infSig (decG2 C04.infSig) := encG2_decG2 hl hS
  obtain ⟨bs, h, _⟩ := Aggregate_eq_sum [C04.infSig, C04.infSig] [decG2 C04.infSig, decG2 C04.infSig] (by simp)
    (by rw [encG2_eq]; exact .cons henc (.cons henc .nil))
  exact ⟨bs, h⟩

/-! ## Part 2: inputs on which `AggregateVerify` / `FastAggregateVerify` return `False` outright (no hypotheses) -/

/-- **Inputs on which the generated `AggregateVerify` returns `False` outright** (all three suites, any hash function,
    unconditionally — no exception, no pairing): (1) an empty key list; (2) key and message lists of different lengths; (3) a
    signature that is not 96 bytes long; (4) a key that is not 48 bytes long anywhere in the list. -/
theorem AggregateVerify_false_early (H : HashFn) (s : Suite) (pks msgs : List Bytes) (sig : Bytes)
    (h : pks = [] ∨ pks.length ≠ msgs.length ∨ sig.length ≠ 96 ∨ ∃ pk ∈ pks, pk.length ≠ 48) :
    Gen.ExtraBls.AggregateVerify H s pks msgs sig = .returned false := by
  rw [Tie.Bls.AggregateVerify_eq]
  exact C03.aggregateVerify_false_early H s pks msgs sig h

example (H : HashFn) (s : Suite) (msgs : List Bytes) (sig : Bytes) :
    Gen.ExtraBls.AggregateVerify H s [] msgs sig = .returned false :=
  AggregateVerify_false_early H s [] msgs sig (.inl rfl)

/-- **Basic suite: repeated messages are rejected.**  If the messages are not pairwise distinct, the generated
    `G2Basic.AggregateVerify` (`len(messages) != len(set(messages))`) returns `False` without looking at keys or signature. -/
theorem AggregateVerify_basic_dup (H : HashFn) (pks msgs : List Bytes) (sig : Bytes) (h : ¬ msgs.Nodup) :
    Gen.ExtraBls.AggregateVerify H .basic pks msgs sig = .returned false := by
  rw [Tie.Bls.AggregateVerify_eq]
  exact C03.aggregateVerify_basic_dup H pks msgs sig h

example (H : HashFn) (pks : List Bytes) (m sig : Bytes) :
    Gen.ExtraBls.AggregateVerify H .basic pks [m, m] sig = .returned false :=
  AggregateVerify_basic_dup H pks [m, m] sig (by simp)

/-- **A key failing the generated `KeyValidate` anywhere in the list makes the generated `AggregateVerify` return `False`**
    (all suites), unconditionally. -/
theorem AggregateVerify_badkey_false (H : HashFn) (s : Suite) (pks msgs : List Bytes) (sig : Bytes)
    (h : ∃ pk ∈ pks, Gen.ExtraBls.KeyValidate pk = .ok false) :
    Gen.ExtraBls.AggregateVerify H s pks msgs sig = .returned false :=
  C04.Gen.AggregateVerify_badkey_false H s pks msgs sig h

/-- non-vacuity: the empty string fails the generated `KeyValidate` -/
example : ∃ pk ∈ [([] : Bytes)], Gen.ExtraBls.KeyValidate pk = .ok false :=
  ⟨[], by simp, by rw [Tie.Bls.KeyValidate_eq]; exact congrArg Except.ok (by decide : keyValidate [] = false)⟩

/-- **The generated `FastAggregateVerify([], m, sig)` is `False`** (the `n < 1` precondition, or before it the
    signature-length check, raises `ValidationError`, which the `except` turns into `False`). -/
theorem FastAggregateVerify_nil (H : HashFn) (m sig : Bytes) :
    Gen.ExtraBls.FastAggregateVerify H [] m sig = .returned false := by
  rw [Tie.Bls.FastAggregateVerify_eq]
  exact C03.fastAggregateVerify_nil H m sig

/-! ## Part 3: `AggregateVerify`, `FastAggregateVerify` (conditional on `ModelBilinearCode` only) -/

section
variable [DecidableEq K2]

/-- **The generated `_CoreAggregateVerify`, in terms of points** (`msgs'` = the messages actually hashed, `dst` any tag).
    Assuming only `ModelBilinearCode`, for honest keys: it returns `True` iff `n ≥ 1`, `|PKs| = |msgs'|`, every message hashes
    (generated `hash_to_G2`) to a point `hᵢ`, and `sig` is the encoding of `Σ skᵢ • hᵢ`. -/
theorem CoreAggregateVerify_iff (mc : ModelBilinearCode) (H : HashFn) (s : Suite) (sks : List ℤ)
    (hsks : ∀ sk ∈ sks, 1 ≤ sk ∧ sk < (suites_curve_order : ℤ)) (pks msgs' : List Bytes) (sig dst : Bytes)
    (hpks : List.Forall₂ (fun sk pk => Gen.ExtraBls.SkToPk (.int sk) = .ok pk) sks pks) :
    Gen.ExtraBls._CoreAggregateVerify H s pks msgs' sig dst = .returned true ↔
      1 ≤ pks.length ∧ pks.length = msgs'.length ∧
        ∃ hs, List.Forall₂ (HashPt H dst) msgs' hs ∧ EncG2 sig (C03.sigSum sks hs) := by
  simp only [Tie.Bls.SkToPk_eq, Tie.Bls.CoreAggregateVerify_eq, encG2_eq, hashPt_eq] at hpks ⊢
  exact C03.coreAggregateVerify_iff mc.toModelBilinear.toPairingFacts H s sks hsks pks msgs' sig dst hpks

/-- **Two accepted aggregates are equal iff the required sums are equal** (dropping / duplicating / substituting a signer,
    reordering, regrouping …): if `sig` is accepted by the generated `_CoreAggregateVerify` for `(PKs, msgs)` and `sig'` for
    `(PKs', msgs')`, then with `hs`, `hs'` the hash points, `sig = sig' ↔ Σ skᵢ•hᵢ = Σ sk'ᵢ•h'ᵢ`.  Assuming only
    `ModelBilinearCode`. -/
theorem CoreAggregateVerify_accept_eq_iff (mc : ModelBilinearCode) (H : HashFn) (s s' : Suite)
    (sks sks' : List ℤ) (hsks : ∀ sk ∈ sks, 1 ≤ sk ∧ sk < (suites_curve_order : ℤ))
    (hsks' : ∀ sk ∈ sks', 1 ≤ sk ∧ sk < (suites_curve_order : ℤ)) (pks pks' msgs msgs' : List Bytes)
    (sig sig' dst dst' : Bytes)
    (hpks : List.Forall₂ (fun sk pk => Gen.ExtraBls.SkToPk (.int sk) = .ok pk) sks pks)
    (hpks' : List.Forall₂ (fun sk pk => Gen.ExtraBls.SkToPk (.int sk) = .ok pk) sks' pks')
    (h : Gen.ExtraBls._CoreAggregateVerify H s pks msgs sig dst = .returned true)
    (h' : Gen.ExtraBls._CoreAggregateVerify H s' pks' msgs' sig' dst' = .returned true) :
    ∃ hs hs', List.Forall₂ (HashPt H dst) msgs hs ∧ List.Forall₂ (HashPt H dst') msgs' hs' ∧
      (sig = sig' ↔ C03.sigSum sks hs = C03.sigSum sks' hs') := by
  simp only [Tie.Bls.SkToPk_eq, Tie.Bls.CoreAggregateVerify_eq, hashPt_eq] at hpks hpks' h h' ⊢
  exact C03.coreAggregateVerify_accept_eq_iff mc.toModelBilinear.toPairingFacts H s s' sks sks' hsks hsks' pks pks'
    msgs msgs' sig sig' dst dst' hpks hpks' h h'

/-- **The generated `AggregateVerify`, all three suites, in terms of points.**  Assuming only `ModelBilinearCode`, for honest
    keys `pkᵢ = SkToPk(skᵢ)` (generated), `1 ≤ skᵢ < curve_order`: `AggregateVerify(PKs, msgs, sig) = True` iff `n ≥ 1`,
    `|PKs| = |msgs|`, (basic suite: the messages are pairwise distinct), every hashed message `mᵢ′` (`pkᵢ ‖ mᵢ` in the AUG
    suite, `mᵢ` otherwise) hashes — generated `hash_to_G2` with the class's generated `DST` — to a point `hᵢ`, and `sig` is the
    encoding of `Σ skᵢ • hᵢ`. -/
theorem AggregateVerify_iff (mc : ModelBilinearCode) (H : HashFn) (s : Suite) (sks : List ℤ)
    (hsks : ∀ sk ∈ sks, 1 ≤ sk ∧ sk < (suites_curve_order : ℤ)) (pks msgs : List Bytes) (sig : Bytes)
    (hpks : List.Forall₂ (fun sk pk => Gen.ExtraBls.SkToPk (.int sk) = .ok pk) sks pks) :
    Gen.ExtraBls.AggregateVerify H s pks msgs sig = .returned true ↔
      1 ≤ pks.length ∧ pks.length = msgs.length ∧ (s = .basic → msgs.Nodup) ∧
        ∃ hs, List.Forall₂ (HashPt H (Gen.ExtraBls.DST s)) (vmsgs s pks msgs) hs ∧
          EncG2 sig (C03.sigSum sks hs) := by
  simp only [Tie.Bls.SkToPk_eq, Tie.Bls.AggregateVerify_eq, Tie.Bls.DST_eq, encG2_eq, hashPt_eq] at hpks ⊢
  exact C03.aggregateVerify_iff mc.toModelBilinear.toPairingFacts H s sks hsks pks msgs sig hpks

/-- **The generated `G2Basic.AggregateVerify`** (`AggregateVerify_iff` for the basic suite, messages as given): `True` iff `n ≥ 1`,
    `|PKs| = |msgs|`, the messages are pairwise distinct, every message hashes (`hᵢ = hash_to_G2(mᵢ)`), and `sig` is the encoding
    of `Σ skᵢ • hᵢ`.  Assuming only `ModelBilinearCode`. -/
theorem AggregateVerify_iff_basic (mc : ModelBilinearCode) (H : HashFn) (sks : List ℤ)
    (hsks : ∀ sk ∈ sks, 1 ≤ sk ∧ sk < (suites_curve_order : ℤ)) (pks msgs : List Bytes) (sig : Bytes)
    (hpks : List.Forall₂ (fun sk pk => Gen.ExtraBls.SkToPk (.int sk) = .ok pk) sks pks) :
    Gen.ExtraBls.AggregateVerify H .basic pks msgs sig = .returned true ↔
      1 ≤ pks.length ∧ pks.length = msgs.length ∧ msgs.Nodup ∧
        ∃ hs, List.Forall₂ (HashPt H (Gen.ExtraBls.DST .basic)) msgs hs ∧ EncG2 sig (C03.sigSum sks hs) := by
  simp only [Tie.Bls.SkToPk_eq, Tie.Bls.AggregateVerify_eq, Tie.Bls.DST_eq, encG2_eq, hashPt_eq] at hpks ⊢
  exact C03.aggregateVerify_iff_basic mc.toModelBilinear.toPairingFacts H sks hsks pks msgs sig hpks

/-- **The generated `G2MessageAugmentation.AggregateVerify`**: as the basic suite without the distinctness condition, the
    hashed messages being `pkᵢ ‖ mᵢ`.  Assuming only `ModelBilinearCode`. -/
theorem AggregateVerify_iff_aug (mc : ModelBilinearCode) (H : HashFn) (sks : List ℤ)
    (hsks : ∀ sk ∈ sks, 1 ≤ sk ∧ sk < (suites_curve_order : ℤ)) (pks msgs : List Bytes) (sig : Bytes)
    (hpks : List.Forall₂ (fun sk pk => Gen.ExtraBls.SkToPk (.int sk) = .ok pk) sks pks) :
    Gen.ExtraBls.AggregateVerify H .aug pks msgs sig = .returned true ↔
      1 ≤ pks.length ∧ pks.length = msgs.length ∧
        ∃ hs, List.Forall₂ (HashPt H (Gen.ExtraBls.DST .aug)) (List.zipWith (· ++ ·) pks msgs) hs ∧
          EncG2 sig (C03.sigSum sks hs) := by
  simp only [Tie.Bls.SkToPk_eq, Tie.Bls.AggregateVerify_eq, Tie.Bls.DST_eq, encG2_eq, hashPt_eq] at hpks ⊢
  exact C03.aggregateVerify_iff_aug mc.toModelBilinear.toPairingFacts H sks hsks pks msgs sig hpks

/-- **The generated `G2ProofOfPossession.AggregateVerify`**: no distinctness condition, bare messages.  Assuming only
    `ModelBilinearCode`. -/
theorem AggregateVerify_iff_pop (mc : ModelBilinearCode) (H : HashFn) (sks : List ℤ)
    (hsks : ∀ sk ∈ sks, 1 ≤ sk ∧ sk < (suites_curve_order : ℤ)) (pks msgs : List Bytes) (sig : Bytes)
    (hpks : List.Forall₂ (fun sk pk => Gen.ExtraBls.SkToPk (.int sk) = .ok pk) sks pks) :
    Gen.ExtraBls.AggregateVerify H .pop pks msgs sig = .returned true ↔
      1 ≤ pks.length ∧ pks.length = msgs.length ∧
        ∃ hs, List.Forall₂ (HashPt H (Gen.ExtraBls.DST .pop)) msgs hs ∧ EncG2 sig (C03.sigSum sks hs) := by
  simp only [Tie.Bls.SkToPk_eq, Tie.Bls.AggregateVerify_eq, Tie.Bls.DST_eq, encG2_eq, hashPt_eq] at hpks ⊢
  exact C03.aggregateVerify_iff_pop mc.toModelBilinear.toPairingFacts H sks hsks pks msgs sig hpks

/-- **The generated `FastAggregateVerify`** (POP suite, one shared message), in terms of points.  Assuming only
    `ModelBilinearCode`, for honest keys: it returns `True` iff the list is non-empty, **the aggregate key `Σ pkᵢ = Σ skᵢ • g1`
    is not the identity** (so e.g. the key pair `sk`, `r − sk` is rejected although the signature equals the sum), the message
    hashes (generated `hash_to_G2`, generated `DST` of the POP class) to `h`, and `sig` is the encoding of `(Σ skᵢ) • h`. -/
theorem FastAggregateVerify_iff (mc : ModelBilinearCode) (H : HashFn) (sks : List ℤ)
    (hsks : ∀ sk ∈ sks, 1 ≤ sk ∧ sk < (suites_curve_order : ℤ)) (pks : List Bytes) (msg sig : Bytes)
    (hpks : List.Forall₂ (fun sk pk => Gen.ExtraBls.SkToPk (.int sk) = .ok pk) sks pks) :
    Gen.ExtraBls.FastAggregateVerify H pks msg sig = .returned true ↔
      1 ≤ pks.length ∧ ((sks.map Int.toNat).map fun k => k • g1).sum ≠ 0 ∧
        ∃ h, HashPt H (Gen.ExtraBls.DST .pop) msg h ∧ EncG2 sig ((sks.map Int.toNat).sum • h) := by
  simp only [Tie.Bls.SkToPk_eq, Tie.Bls.FastAggregateVerify_eq, Tie.Bls.DST_eq, encG2_eq, hashPt_eq] at hpks ⊢
  exact C03.fastAggregateVerify_iff mc.toModelBilinear.toPairingFacts H sks hsks pks msg sig hpks

end

/-- **The generated `AggregateVerify` accepts exactly the generated `Aggregate` of the honest generated signatures** (all
    suites, entirely in terms of the library's own functions as translated).  Assuming only `ModelBilinearCode`, for secret keys
    `1 ≤ skᵢ < curve_order` with `pkᵢ = SkToPk(skᵢ)`: `AggregateVerify(PKs, msgs, sig) = True` iff `n ≥ 1`, `|PKs| = |msgs|`,
    (basic suite: messages pairwise distinct) and there are byte strings `sigᵢ = Sign(skᵢ, mᵢ)` with
    `Aggregate([sig₁, …, sigₙ]) = sig`. -/
theorem AggregateVerify_iff_aggregate_sign (mc : ModelBilinearCode) (H : HashFn) (s : Suite) (sks : List ℤ)
    (hsks : ∀ sk ∈ sks, 1 ≤ sk ∧ sk < (suites_curve_order : ℤ)) (pks msgs : List Bytes) (sig : Bytes)
    (hpks : List.Forall₂ (fun sk pk => Gen.ExtraBls.SkToPk (.int sk) = .ok pk) sks pks) :
    Gen.ExtraBls.AggregateVerify H s pks msgs sig = .returned true ↔
      1 ≤ pks.length ∧ pks.length = msgs.length ∧ (s = .basic → msgs.Nodup) ∧
        ∃ sigs, List.Forall₂ (fun (x : ℤ × Bytes) sg => Gen.ExtraBls.Sign H s (.int x.1) x.2 = .ok sg)
          (sks.zip msgs) sigs ∧ Gen.ExtraBls.Aggregate sigs = .ok sig := by
  classical
  simp only [Tie.Bls.SkToPk_eq, Tie.Bls.AggregateVerify_eq, Tie.Bls.Sign_eq, Tie.Bls.Aggregate_eq] at hpks ⊢
  exact C03.aggregateVerify_iff_aggregate_sign_of_modelBilinearCode mc H s sks hsks pks msgs sig hpks

/-- **The generated `FastAggregateVerify` accepts exactly the generated `Aggregate` of the honest generated signatures of the
    shared message**, provided the aggregate key is not the identity (`r ∤ Σ skᵢ`; conjunct kept visible).  Assuming only
    `ModelBilinearCode`. -/
theorem FastAggregateVerify_iff_aggregate_sign (mc : ModelBilinearCode) (H : HashFn) (sks : List ℤ)
    (hsks : ∀ sk ∈ sks, 1 ≤ sk ∧ sk < (suites_curve_order : ℤ)) (pks : List Bytes) (msg sig : Bytes)
    (hpks : List.Forall₂ (fun sk pk => Gen.ExtraBls.SkToPk (.int sk) = .ok pk) sks pks) :
    Gen.ExtraBls.FastAggregateVerify H pks msg sig = .returned true ↔
      1 ≤ pks.length ∧ ¬ (blsR ∣ (sks.map Int.toNat).sum) ∧
        ∃ sigs, List.Forall₂ (fun sk sg => Gen.ExtraBls.Sign H .pop (.int sk) msg = .ok sg) sks sigs ∧
          Gen.ExtraBls.Aggregate sigs = .ok sig := by
  classical
  simp only [Tie.Bls.SkToPk_eq, Tie.Bls.FastAggregateVerify_eq, Tie.Bls.Sign_eq, Tie.Bls.Aggregate_eq] at hpks ⊢
  exact C03.fastAggregateVerify_iff_aggregate_sign_of_modelBilinearCode mc H sks hsks pks msg sig hpks

/-- **Order independence of the generated `AggregateVerify`** (all suites): permuting the signers — the `(secret key, message)`
    pairs, with their public keys — does not change whether `sig` is accepted.  Assuming only `ModelBilinearCode`. -/
theorem AggregateVerify_perm (mc : ModelBilinearCode) (H : HashFn) (s : Suite) (l l' : List (ℤ × Bytes))
    (hp : l.Perm l') (hsks : ∀ x ∈ l, 1 ≤ x.1 ∧ x.1 < (suites_curve_order : ℤ)) (pks pks' : List Bytes)
    (sig : Bytes)
    (hpks : List.Forall₂ (fun (x : ℤ × Bytes) pk => Gen.ExtraBls.SkToPk (.int x.1) = .ok pk) l pks)
    (hpks' : List.Forall₂ (fun (x : ℤ × Bytes) pk => Gen.ExtraBls.SkToPk (.int x.1) = .ok pk) l' pks') :
    Gen.ExtraBls.AggregateVerify H s pks (l.map (·.2)) sig = .returned true ↔
      Gen.ExtraBls.AggregateVerify H s pks' (l'.map (·.2)) sig = .returned true := by
  classical
  simp only [Tie.Bls.SkToPk_eq, Tie.Bls.AggregateVerify_eq] at hpks hpks' ⊢
  exact C03.aggregateVerify_perm_of_modelBilinear mc.toModelBilinear H s l l' hp hsks pks pks' sig hpks hpks'

/-- non-vacuity of the key hypotheses: the one-element key list `[1]` with the generated `SkToPk(1)` = compressed generator.
    (`ModelBilinearCode` is a closed mathematical statement — its instance would be its proof.) -/
example : (∀ sk ∈ [(1 : ℤ)], 1 ≤ sk ∧ sk < (suites_curve_order : ℤ)) ∧
    List.Forall₂ (fun sk pk => Gen.ExtraBls.SkToPk (.int sk) = .ok pk) [(1 : ℤ)] [C09.compressedG1] :=
  ⟨by intro sk h; rw [List.mem_singleton] at h; subst h; decide,
   .cons (by rw [Tie.Bls.SkToPk_eq]; exact C09.skToPk_one) .nil⟩

end PyEcc.C03.Gen
