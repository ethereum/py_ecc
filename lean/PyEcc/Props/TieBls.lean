/-
  PyEcc.Props.TieBls — TIE theorems ("generated = hand-written model") for `py_ecc/bls/ciphersuites.py`, part 1:
  input validation, `SkToPk`, `KeyValidate`, `_CoreSign`, `Sign`, `_CoreVerify`, `Verify`, `PopProve`, `PopVerify`.

  `Gen/ExtraBls.lean` is re-generated from the Python source on every run (tools/translate/gen_bls.py, py2lean_bls.py): every
  method of `BaseG2Ciphersuite`, `G2Basic`, `G2MessageAugmentation`, `G2ProofOfPossession` (including the overrides), the class
  attributes `DST` / `POP_TAG`, and one dispatcher `m (cls : Suite)` per overridden method, built from the method resolution
  order of the classes as they are in the source.  Each theorem here states that a generated function is, for ALL inputs, the
  hand-written model function of `Model/Bls.lean` that the property theorems are about.  A change to one of these Python
  methods changes the generated definition and breaks a theorem here statically.

  Where the model is not literally the Python function the statement says exactly how they are related:
  * `_is_valid_privkey` returns a `bool`; the model's `isValidPrivkey` returns the validated key as an `Option Nat`;
  * `KeyValidate` / the POP `_is_valid_pubkey` are translated with their real exception behaviour (`Except PyErr Bool`: the
    `try` around `pubkey_to_G1` catches three kinds and re-raises everything else); the model is a total `Bool` function.
    The tie PROVES that nothing is re-raised (`decompressG1` raises only `ValueError`).
  * `_CoreVerify`'s model body additionally returns the list of pairing arguments: the tie is to its first component.
-/
import PyEcc.Gen.ExtraBls
import PyEcc.Lemmas.BlsSem

namespace PyEcc.Tie
open PyEcc PyEcc.Gen.Consts

/-! ### class attributes -/

/-- The class attribute `DST`, as each of the three ciphersuite classes sees it in the current source, is the model's
    `Suite.dst` (which is read from the dumped module constants). -/
theorem Bls.DST_eq (s : Suite) : Gen.ExtraBls.DST s = s.dst := by
  obtain ⟨h1, h2, h3, _⟩ := C09.Consts.tags_eq_spec
  cases s
  · rw [h1]; decide +kernel
  · rw [h2]; decide +kernel
  · rw [h3]; decide +kernel

/-- `G2ProofOfPossession.POP_TAG` in the current source is the model's `popTag`. -/
theorem Bls.POP_TAG_eq : Gen.ExtraBls.POP_TAG = popTag := by
  rw [C09.Consts.tags_eq_spec.2.2.2.1]; decide +kernel

/-! ### input validation helpers -/

/-- `_is_valid_privkey(privkey)` (`isinstance(privkey, int) and privkey > 0 and privkey < curve_order`, on a dynamically
    typed argument): the model's `isValidPrivkey` is `some k` exactly when the generated predicate is true, and then `k`
    is the integer value the generated code uses after the guard (`natVal`). -/
theorem Bls.is_valid_privkey_eq (sk : PyArg) :
    isValidPrivkey sk =
      if Gen.ExtraBls._is_valid_privkey sk = true then some (Gen.ExtraBls.natVal sk) else none := by
  unfold Gen.ExtraBls._is_valid_privkey isValidPrivkey Gen.ExtraBls.natVal curveOrder
  cases sk with
  | other => rfl
  | int z => by_cases h : z > 0 ∧ z < (suites_curve_order : Int) <;> simp [h]

/-- `_is_valid_privkey(privkey)` as a `bool`: true exactly when the model accepts the key. -/
theorem Bls.is_valid_privkey_isSome (sk : PyArg) :
    Gen.ExtraBls._is_valid_privkey sk = (isValidPrivkey sk).isSome := by
  rw [Bls.is_valid_privkey_eq]
  cases Gen.ExtraBls._is_valid_privkey sk <;> rfl

/-- `BaseG2Ciphersuite._is_valid_pubkey(pubkey)` = `isinstance(pubkey, bytes) and len(pubkey) == 48` on a byte string. -/
theorem Bls.is_valid_pubkey_base_eq (pk : Bytes) :
    Gen.ExtraBls.BaseG2Ciphersuite._is_valid_pubkey pk = decide (pk.length = 48) := by
  unfold Gen.ExtraBls.BaseG2Ciphersuite._is_valid_pubkey
  simp

/-- `_is_valid_message(message)` = `isinstance(message, bytes)`: true for every byte string (the model omits the check). -/
theorem Bls.is_valid_message_eq (m : Bytes) : Gen.ExtraBls._is_valid_message m = true := by
  unfold Gen.ExtraBls._is_valid_message
  simp

/-- `_is_valid_signature(signature)` = `isinstance(signature, bytes) and len(signature) == 96` on a byte string. -/
theorem Bls.is_valid_signature_eq (sig : Bytes) :
    Gen.ExtraBls._is_valid_signature sig = decide (sig.length = 96) := by
  unfold Gen.ExtraBls._is_valid_signature
  simp

/-! ### SkToPk, KeyValidate -/

/-- `SkToPk(privkey)` as translated from the source (validity guard raising `ValidationError`, then
    `G1_to_pubkey(multiply(G1, privkey))`) is the model's `skToPk`, for every dynamically typed argument. -/
theorem Bls.SkToPk_eq (sk : PyArg) : Gen.ExtraBls.SkToPk sk = skToPk sk := by
  unfold Gen.ExtraBls.SkToPk skToPk
  rw [Bls.is_valid_privkey_eq]
  cases h : Gen.ExtraBls._is_valid_privkey sk <;> simp <;> rfl

/-- the model's `decompressG1` (tied to `decompress_G1` in TieCodec) raises only `ValueError` -/
theorem Bls.decompressG1_error (z : Nat) (e : PyErr) (h : decompressG1 z = .error e) : e = .value :=
  CodecSem.decompressG1_error_kind h

/-- `KeyValidate(PK)` as translated from the source — the length gate, `try: pubkey_to_G1(PK) except (ValidationError,
    ValueError, AssertionError): return False` with every OTHER exception kind re-raised, the infinity test, the subgroup
    test — never raises and returns the model's `keyValidate pk`, for every byte string. -/
theorem Bls.KeyValidate_eq (pk : Bytes) : Gen.ExtraBls.KeyValidate pk = pure (keyValidate pk) := by
  unfold Gen.ExtraBls.KeyValidate keyValidate
  by_cases hl : pk.length = 48
  · cases h : pubkeyToG1 pk with
    | error e =>
      have he := Bls.decompressG1_error _ e h
      subst he
      simp [hl] <;> rfl
    | ok pt =>
      -- both truth values of the two tests, then normalise: the proof does not depend on whether the source spells the
      -- tail as `if .. return False` steps or as one boolean expression
      cases h1 : Gen.OptBls.is_inf pt <;> cases h2 : subgroupCheck pt <;> simp [hl, h1, h2] <;> rfl
  · simp [hl] <;> rfl

/-- `G2ProofOfPossession._is_valid_pubkey(pubkey)` (the override: `super()._is_valid_pubkey` then `cls.KeyValidate`)
    never raises and returns the model's `isValidPubkey .pop`. -/
theorem Bls.is_valid_pubkey_pop_eq (pk : Bytes) :
    Gen.ExtraBls.G2ProofOfPossession._is_valid_pubkey pk = pure (isValidPubkey .pop pk) := by
  unfold Gen.ExtraBls.G2ProofOfPossession._is_valid_pubkey Gen.ExtraBls.BaseG2Ciphersuite._is_valid_pubkey isValidPubkey
  rw [Bls.KeyValidate_eq]
  by_cases hl : pk.length = 48 <;> simp [hl] <;> rfl

/-- `cls._is_valid_pubkey(pubkey)` for each of the three ciphersuite classes (resolved by the method resolution order of
    the current source: the base-class static method for `G2Basic` / `G2MessageAugmentation`, the override for
    `G2ProofOfPossession`) never raises and returns the model's `isValidPubkey s`. -/
theorem Bls.is_valid_pubkey_eq (s : Suite) (pk : Bytes) :
    Gen.ExtraBls._is_valid_pubkey s pk = pure (isValidPubkey s pk) := by
  cases s
  · unfold Gen.ExtraBls._is_valid_pubkey Gen.ExtraBls.BaseG2Ciphersuite._is_valid_pubkey isValidPubkey
    by_cases hl : pk.length = 48 <;> simp [hl]
  · unfold Gen.ExtraBls._is_valid_pubkey Gen.ExtraBls.BaseG2Ciphersuite._is_valid_pubkey isValidPubkey
    by_cases hl : pk.length = 48 <;> simp [hl]
  · exact Bls.is_valid_pubkey_pop_eq pk

/-! ### signing -/

/-- `_CoreSign(SK, message, DST)` as translated from the source (both validity guards, `hash_to_G2(message, DST,
    cls.xmd_hash_function)`, `multiply(·, SK)`, `G2_to_signature`) is the model's `coreSign`. -/
theorem Bls.CoreSign_eq (H : HashFn) (sk : PyArg) (msg dst : Bytes) :
    Gen.ExtraBls._CoreSign H sk msg dst = coreSign H sk msg dst := by
  unfold Gen.ExtraBls._CoreSign coreSign
  rw [Bls.is_valid_privkey_eq, Bls.is_valid_message_eq]
  cases h : Gen.ExtraBls._is_valid_privkey sk <;> simp <;> rfl

/-- `cls.Sign(SK, message)` for each of the three classes (`BaseG2Ciphersuite.Sign` for `G2Basic` and
    `G2ProofOfPossession`, the override `G2MessageAugmentation.Sign`, each with the class's own `DST`) is the model's `sign`. -/
theorem Bls.Sign_eq (H : HashFn) (s : Suite) (sk : PyArg) (msg : Bytes) :
    Gen.ExtraBls.Sign H s sk msg = sign H s sk msg := by
  cases s <;>
    simp only [Gen.ExtraBls.Sign, Gen.ExtraBls.BaseG2Ciphersuite.Sign, Gen.ExtraBls.G2MessageAugmentation.Sign, sign,
      Bls.CoreSign_eq, Bls.DST_eq, Bls.SkToPk_eq]

/-- `G2ProofOfPossession.PopProve(SK)` is the model's `popProve`. -/
theorem Bls.PopProve_eq (H : HashFn) (sk : PyArg) : Gen.ExtraBls.PopProve H sk = popProve H sk := by
  simp only [Gen.ExtraBls.PopProve, popProve, Bls.CoreSign_eq, Bls.POP_TAG_eq, Bls.SkToPk_eq]

/-! ### verification -/

/-- the exception tuple `(ValidationError, ValueError, AssertionError)` of the source is the model's `caught3` -/
theorem Bls.caught3_eq (e : PyErr) :
    (e = PyErr.validation ∨ e = PyErr.value ∨ e = PyErr.assertion) ↔ caught3 e = true := by
  cases e <;> simp [caught3]

/-! A generated `try` body is the model's body without its trace component: the two `do` blocks are walked
    in step (`map_ite_eq` for an `if c: raise` or a branch, `map_bind_eq` for a call, `map_pure_eq` at the `return`, all of
    `Lemmas/Control.lean`); the tests may be spelt differently on the two sides (`hc`). -/

/-- The body of the `try` statement of `_CoreVerify` as translated from the source (the three input checks in source order,
    `KeyValidate`, `signature_to_G2`, the subgroup check returning `False`, the two pairings in Python's evaluation order,
    `final_exponentiate`, the comparison with `FQ12.one()`) is the model's `coreVerifyBody` without its trace component. -/
theorem Bls.CoreVerify_try_eq (H : HashFn) (s : Suite) (pk msg sig dst : Bytes) :
    Gen.ExtraBls._CoreVerify_try H s pk msg sig dst = (coreVerifyBody H s pk msg sig dst).map (·.1) := by
  unfold Gen.ExtraBls._CoreVerify_try coreVerifyBody
  simp -zeta only [Bls.is_valid_pubkey_eq, Bls.KeyValidate_eq, Bls.is_valid_message_eq, Bls.is_valid_signature_eq,
    pure_bind]
  refine map_ite_eq Iff.rfl rfl ?_
  refine Eq.trans (if_neg ?_) ?_
  · decide
  refine map_ite_eq (by simp) rfl ?_
  refine map_ite_eq Iff.rfl rfl ?_
  refine map_bind_eq fun S => map_ite_eq Iff.rfl map_pure_eq ?_
  exact map_bind_eq fun e1 => map_bind_eq fun mp => map_bind_eq fun P => map_bind_eq fun e2 => map_pure_eq

/-- `_CoreVerify(PK, message, signature, DST)` as translated from the source (`try: <body> except (ValidationError, ValueError,
    AssertionError): return False`, any other exception propagating) is the model's `coreVerify`, for each class. -/
theorem Bls.CoreVerify_eq (H : HashFn) (s : Suite) (pk msg sig dst : Bytes) :
    Gen.ExtraBls._CoreVerify H s pk msg sig dst = coreVerify H s pk msg sig dst := by
  unfold Gen.ExtraBls._CoreVerify coreVerify catching
  rw [Bls.CoreVerify_try_eq]
  cases (coreVerifyBody H s pk msg sig dst).map (·.1) with
  | ok b => rfl
  | error e => simp only [Bls.caught3_eq]

/-- `cls.Verify(PK, message, signature)` for each of the three classes (base-class method, or the
    `G2MessageAugmentation` override which prepends `PK`) is the model's `verify`. -/
theorem Bls.Verify_eq (H : HashFn) (s : Suite) (pk msg sig : Bytes) :
    Gen.ExtraBls.Verify H s pk msg sig = verify H s pk msg sig := by
  cases s <;>
    simp only [Gen.ExtraBls.Verify, Gen.ExtraBls.BaseG2Ciphersuite.Verify, Gen.ExtraBls.G2MessageAugmentation.Verify, verify,
      Bls.CoreVerify_eq, Bls.DST_eq]

/-- `G2ProofOfPossession.PopVerify(PK, proof)` is the model's `popVerify`. -/
theorem Bls.PopVerify_eq (H : HashFn) (pk proof : Bytes) : Gen.ExtraBls.PopVerify H pk proof = popVerify H pk proof := by
  simp only [Gen.ExtraBls.PopVerify, popVerify, Bls.CoreVerify_eq, Bls.POP_TAG_eq]

end PyEcc.Tie
