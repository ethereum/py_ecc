/-
  C08 / C14 (FQ12 is a field): the degree-12 moduli of py_ecc,
      BLS12-381  `FQ12_MODULUS_COEFFS = (2, 0, 0, 0, 0, 0, −2, 0, 0, 0, 0, 0)`   i.e. `X¹² − 2X⁶ + 2`,
      BN128      `FQ12_MODULUS_COEFFS = (82, 0, 0, 0, 0, 0, −18, 0, 0, 0, 0, 0)` i.e. `X¹² − 18X⁶ + 82`,
  are irreducible over their prime fields (HB3 of DESIGN.md).  Hence `FQ12.inv`, `/` (reference and optimized
  classes) are the field inverse and division, without any hypothesis.

  Proof: `f = q ∘ X⁶` with `q = (X − a)² + 1` (`a = 1` resp. `9`) irreducible over `Fp` (`p ≡ 3 mod 4`);
  over `K = Fp[X]/(q) ≅ Fp²`, with `ξ` the root of `q` (`ξ = a + i`), `X⁶ − ξ` is irreducible because `ξ` is
  neither a square nor a cube in `K` (`ξ^((p²−1)/2) = −1`, `ξ^((p²−1)/3) ≠ 1`: kernel-evaluated on pairs of
  naturals, `Lemmas/Irred12Calc.lean`); `Polynomial.irreducible_comp` does the degree count.
-/
import PyEcc.Lemmas.Irred12Calc
import PyEcc.Props.C08_FqpInv
import PyEcc.Props.C14_FqpInv

namespace PyEcc.C08F12
open Polynomial PyEcc PyEcc.Fqp PyEcc.FqpSem PyEcc.Irred12

/-- **HB3, BLS12-381.** The FQ12 modulus of `py_ecc.fields` for BLS12-381, `X¹² − 2X⁶ + 2` (built from the
generated `FQ12_MODULUS_COEFFS` and `field_modulus`), is irreducible over `Fp`: `FQ12` is a field with
`p¹²` elements. -/
theorem irreducible_bls12 : Irreducible (modulus blsP blsMc12) := by
  rw [modulus_bls12]
  exact irreducible_comp_X_pow_six bls_side.1 1 bls_side.2.1 bls_sq blsOmega bls_cu bls_side.2.2

/-- **HB3, BN128.** The FQ12 modulus of `py_ecc.fields` for BN128 (alt_bn128), `X¹² − 18X⁶ + 82`, is
irreducible over `Fp`. -/
theorem irreducible_bn12 : Irreducible (modulus bnP bnMc12) := by
  rw [modulus_bn12]
  exact irreducible_comp_X_pow_six bn_side.1 9 bn_side.2.1 bn_sq bnOmega bn_cu bn_side.2.2

variable {v : Variant}

/-- **BLS12-381 `FQ12`, `x * inv x = 1`** (reference class `v = .ref` and optimized class `v = .opt`): for
every reduced element `a ≠ 0` (12 coefficients in `[0, p)`), `a * a.inv() = 1` and `a.inv() * a = 1`.
No hypothesis. -/
theorem bls_fq12_mul_inv_cancel {a : Fqp v blsP blsMc12} (ha : Canon a) (hne : a ≠ 0) :
    a * Fqp.inv a = 1 ∧ Fqp.inv a * a = 1 :=
  C08P.mul_inv_cancel (by decide) irreducible_bls12 sane_bls12 ha hne

/-- **BN128 `FQ12`, `x * inv x = 1`** (both classes), for every reduced `a ≠ 0`. No hypothesis. -/
theorem bn_fq12_mul_inv_cancel {a : Fqp v bnP bnMc12} (ha : Canon a) (hne : a ≠ 0) :
    a * Fqp.inv a = 1 ∧ Fqp.inv a * a = 1 :=
  C08P.mul_inv_cancel (by decide) irreducible_bn12 sane_bn12 ha hne

/-- **BLS12-381 `FQ12`, `(x / y) * y = x`** (both classes) for reduced `x`, `y ≠ 0`. -/
theorem bls_fq12_div_mul_cancel {a b : Fqp v blsP blsMc12} (ha : Canon a) (hb : Canon b) (hne : b ≠ 0) :
    a / b * b = a :=
  C08P.div_mul_cancel (by decide) irreducible_bls12 sane_bls12 ha hb hne

/-- **BN128 `FQ12`, `(x / y) * y = x`** (both classes) for reduced `x`, `y ≠ 0`. -/
theorem bn_fq12_div_mul_cancel {a b : Fqp v bnP bnMc12} (ha : Canon a) (hb : Canon b) (hne : b ≠ 0) :
    a / b * b = a :=
  C08P.div_mul_cancel (by decide) irreducible_bn12 sane_bn12 ha hb hne

instance : Fact (Irreducible (modulus blsP blsMc12)) := ⟨irreducible_bls12⟩
instance : Fact (Irreducible (modulus bnP bnMc12)) := ⟨irreducible_bn12⟩

/-- **BLS12-381 `FQ12`: `inv` and `/` are the inverse and the division of the field
`Fp[X]/(X¹² − 2X⁶ + 2)`** (both classes), the result being stored reduced. -/
theorem bls_fq12_inv_div_spec {a b : Fqp v blsP blsMc12} (ha : Canon a) (hb : Canon b) (hne : b ≠ 0) :
    Canon (Fqp.inv b) ∧ toQ (Fqp.inv b) = (toQ b)⁻¹ ∧ toQ (a / b) = toQ a / toQ b :=
  ⟨(C08P.inv_refines (by decide) irreducible_bls12 sane_bls12 hb hne).1,
   C08P.inv_div_spec (by decide) sane_bls12 ha hb hne⟩

/-- **BN128 `FQ12`: `inv` and `/` are the inverse and the division of the field
`Fp[X]/(X¹² − 18X⁶ + 82)`** (both classes). -/
theorem bn_fq12_inv_div_spec {a b : Fqp v bnP bnMc12} (ha : Canon a) (hb : Canon b) (hne : b ≠ 0) :
    Canon (Fqp.inv b) ∧ toQ (Fqp.inv b) = (toQ b)⁻¹ ∧ toQ (a / b) = toQ a / toQ b :=
  ⟨(C08P.inv_refines (by decide) irreducible_bn12 sane_bn12 hb hne).1,
   C08P.inv_div_spec (by decide) sane_bn12 ha hb hne⟩

/-- **C14 at FQ12, BLS12-381**: the optimized `FQ12.inv` / `/` return the same coefficients as the
reference ones on every reduced coefficient list (including `0`). -/
theorem bls_fq12_inv_opt_eq_ref {a b : List Int} (ha : CanonL blsP 12 a) (hb : CanonL blsP 12 b) :
    (Fqp.inv (⟨a⟩ : Fqp .opt blsP blsMc12)).coeffs = (Fqp.inv (⟨a⟩ : Fqp .ref blsP blsMc12)).coeffs ∧
    (Fqp.div (⟨a⟩ : Fqp .opt blsP blsMc12) ⟨b⟩).coeffs = (Fqp.div (⟨a⟩ : Fqp .ref blsP blsMc12) ⟨b⟩).coeffs :=
  ⟨C14P.inv_opt_eq_ref (by decide) irreducible_bls12 sane_bls12 ha,
   C14P.div_opt_eq_ref (by decide) irreducible_bls12 sane_bls12 ha hb⟩

/-- **C14 at FQ12, BN128**: optimized `FQ12.inv` / `/` = reference ones on reduced coefficient lists. -/
theorem bn_fq12_inv_opt_eq_ref {a b : List Int} (ha : CanonL bnP 12 a) (hb : CanonL bnP 12 b) :
    (Fqp.inv (⟨a⟩ : Fqp .opt bnP bnMc12)).coeffs = (Fqp.inv (⟨a⟩ : Fqp .ref bnP bnMc12)).coeffs ∧
    (Fqp.div (⟨a⟩ : Fqp .opt bnP bnMc12) ⟨b⟩).coeffs = (Fqp.div (⟨a⟩ : Fqp .ref bnP bnMc12) ⟨b⟩).coeffs :=
  ⟨C14P.inv_opt_eq_ref (by decide) irreducible_bn12 sane_bn12 ha,
   C14P.div_opt_eq_ref (by decide) irreducible_bn12 sane_bn12 ha hb⟩

/-! ### non-vacuity -/

example : Canon (⟨[3, 5, 0, 0, 0, 0, 7, 0, 0, 0, 0, 1]⟩ : Fqp .ref blsP blsMc12) ∧
    (⟨[3, 5, 0, 0, 0, 0, 7, 0, 0, 0, 0, 1]⟩ : Fqp .ref blsP blsMc12) ≠ 0 := by decide
example : Canon (⟨[3, 5, 0, 0, 0, 0, 7, 0, 0, 0, 0, 1]⟩ : Fqp .opt bnP bnMc12) ∧
    (⟨[3, 5, 0, 0, 0, 0, 7, 0, 0, 0, 0, 1]⟩ : Fqp .opt bnP bnMc12) ≠ 0 := by decide
example : CanonL blsP 12 [3, 5, 0, 0, 0, 0, 7, 0, 0, 0, 0, 1] ∧
    CanonL bnP 12 [3, 5, 0, 0, 0, 0, 7, 0, 0, 0, 0, 1] := by decide

end PyEcc.C08F12
