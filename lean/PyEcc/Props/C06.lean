/-
  PyEcc.Props.C06 — property C06, shape part: `ecdsa_raw_sign` / `deterministic_generate_k` of
  `py_ecc/secp256k1/secp256k1.py` (modelled as `PyEcc.Ecdsa.rawSignWithK`, `ecdsaRawSign`,
  `deterministicGenerateK` around the GENERATED Jacobian arithmetic): the signature never fails, `v ∈ {27, 28}`,
  `s` is low, `v` records the parity of `R.y` corrected for the low-`s` flip, and the nonce is the first
  candidate of RFC 6979 §3.2. (Sign-then-recover — the group-theoretic part — is in `Props/C06_Recover.lean`.)
-/
import PyEcc.Sem.EcdsaSem
import PyEcc.Spec.Rfc6979
import PyEcc.Lemmas.HashBytes
import PyEcc.Lemmas.Bytes

namespace PyEcc.C06
open PyEcc PyEcc.Gen.Secp PyEcc.SecpSem PyEcc.Ecdsa PyEcc.EcdsaSem

/-- **`ecdsa_raw_sign` never raises** (for any message hash, key bytes and nonce `k`, also `k ≤ 0` or `k ≥ N`). -/
theorem sign_total (h priv : Bytes) (k : ℤ) : ∃ v r s, rawSignWithK h priv k = .ok (v, r, s) := by
  obtain ⟨⟨r, y⟩, hm⟩ := multiply_ok G k
  exact ⟨_, _, _, rawSignWithK_of_ok hm⟩

theorem N_odd : N % 2 = 1 := by decide

/-- **Shape of a signature.** Whenever `ecdsa_raw_sign` (run with nonce `k`) returns `(v, r, s)`: `(r, y) = multiply(G, k)`
for some `y`; with `s₀ = inv(k, N)·(z + r·d) % N` the un-normalised `s` (`z`, `d` the big-endian ints of the hash
and the key): `v ∈ {27, 28}`; `s` is LOW: `0 ≤ s` and `2s < N`; `s = s₀` or `s = N − s₀` according to whether `2s₀ < N`;
`s ≥ 1` unless `s₀ = 0`; `s ≡ 0 (mod N)` only if `s₀ = 0`; and `v − 27` is the parity of `y` XOR "the low-`s` flip
happened": `v = 28` exactly when (`y` is odd) ≠ (`2s₀ ≥ N`). -/
theorem sign_shape (h priv : Bytes) (k v r s : ℤ) (hs : rawSignWithK h priv k = .ok (v, r, s)) :
    ∃ y : ℤ, multiply G k = .ok (r, y) ∧
      (v = 27 ∨ v = 28) ∧ 0 ≤ s ∧ s * 2 < N ∧
      s = (if signS0 h priv k r * 2 < N then signS0 h priv k r else N - signS0 h priv k r) ∧
      (signS0 h priv k r ≠ 0 → 1 ≤ s) ∧ (signS0 h priv k r ≠ 0 ↔ s % N ≠ 0) ∧
      (v = 28 ↔ ¬ (y % 2 = 1 ↔ N ≤ signS0 h priv k r * 2)) := by
  obtain ⟨⟨r', y⟩, hm⟩ := multiply_ok G k
  obtain ⟨hv, hrs⟩ := Prod.mk.inj (Except.ok.inj ((rawSignWithK_of_ok hm).symm.trans hs))
  obtain ⟨rfl, hs'⟩ := Prod.mk.inj hrs
  have h0 : 0 ≤ signS0 h priv k r' := Int.emod_nonneg _ (by decide)
  have hN : signS0 h priv k r' < N := Int.emod_lt_of_pos _ N_pos
  have hodd := N_odd
  have hy : y % 2 = 0 ∨ y % 2 = 1 := by omega
  refine ⟨y, hm, ?_⟩
  generalize signS0 h priv k r' = s0 at *
  generalize y % 2 = b at *
  -- the two branches of the low-`s` normalisation; in both `s` is a reduced residue
  by_cases hlow : s0 * 2 < N
  · rw [if_pos hlow] at hv hs' ⊢
    rw [(pyXor_bit hy).1] at hv
    subst hs'
    refine ⟨by omega, h0, hlow, rfl, by omega, ?_, ?_⟩
    · rw [Int.emod_eq_of_lt h0 hN]
    · rw [iff_false_right (not_le.mpr hlow), not_not]
      omega
  · rw [if_neg hlow] at hv hs' ⊢
    rw [(pyXor_bit hy).2] at hv
    subst hs'
    refine ⟨by omega, by omega, by omega, rfl, by omega, ?_, ?_⟩
    · rw [Int.emod_eq_of_lt (by omega) (by omega)]
      omega
    · rw [iff_true_right (not_lt.mp hlow)]
      omega

/-- non-vacuity: `sign_total` provides a signature for every input -/
example : ∃ v r s, rawSignWithK [1] [1] 1 = .ok (v, r, s) := sign_total _ _ _

/-- **Determinism.** `ecdsa_raw_sign(msghash, priv)` is a function of its two arguments (and of the hash function):
it is `ecdsa_raw_sign` run with the nonce `deterministic_generate_k(msghash, priv)`; no other state or randomness
enters. -/
theorem sign_deterministic (H : HashFn) (h priv : Bytes) :
    ecdsaRawSign H h priv = rawSignWithK h priv (deterministicGenerateK H h priv) := rfl

/-! ### the nonce is RFC 6979's first candidate -/

/-- one HMAC chain, whatever the hash function: the nonce is the big-endian integer of the string `T` of
RFC 6979 §3.2 (steps b–h.2 for `hlen = qlen = 256`) computed with Python's `hmac.new(key, msg, H).digest()` as HMAC
and with the octet strings `priv`, `msghash` fed AS GIVEN (in this order) -/
theorem nonce_chain (H : HashFn) (h priv : Bytes) :
    deterministicGenerateK H h priv = (Spec.OS2IP (Spec.rfc6979T (hmac H) 32 256 priv h) : ℤ) := by
  rw [C15.OS2IP_eq_os2ip]
  rfl

/-- **The nonce is RFC 6979's first candidate.** For every hash function `H` with 32-byte digests (in particular
SHA-256, which the code uses) and ALL byte strings `msghash`, `priv`: `deterministic_generate_k(msghash, priv)` equals
the first candidate `k = bits2int(T)` of RFC 6979 §3.2 (`V = 0x01³²`, `K = 0x00³²`, `K = HMAC_K(V‖0x00‖x‖h)`,
`V = HMAC_K(V)`, `K = HMAC_K(V‖0x01‖x‖h)`, `V = HMAC_K(V)`, `T = V = HMAC_K(V)`) with HMAC as specified in RFC 2104,
where the octet strings `x = priv` and `h = msghash` are fed as given (note the order: key first). -/
theorem nonce_is_rfc6979 (H : HashFn) (hw : H.WF) (h32 : H.digestSize = 32) (h priv : Bytes) :
    deterministicGenerateK H h priv = (Spec.rfc6979FirstCandidate H priv h : ℤ) := by
  -- RFC 2104's HMAC is the model's, for every key: the chain is the same function of `priv`, `h`
  have hm : Spec.hmac H = hmac H := funext₂ fun key msg =>
    (C16.hmac_eq_spec_aux H key msg (C16.hmacKeyOk_of_WF hw key)).symm
  have hl : ∀ key msg, (hmac H key msg).length = 32 := by
    intro key msg; unfold hmac; rw [hw.run_length, h32]
  rw [nonce_chain]
  unfold Spec.rfc6979FirstCandidate
  rw [h32, hm]
  have hTl : (Spec.rfc6979T (hmac H) 32 256 priv h).length = 32 := by
    have hc : Spec.ceilDiv 256 (8 * 32) = 1 := by decide
    unfold Spec.rfc6979T
    simp only [hc, Spec.rfc6979Fill, List.nil_append]
    exact hl _ _
  unfold Spec.bits2int
  simp only [hTl]
  rfl

/-- non-vacuity of the hypotheses of `nonce_is_rfc6979`: SHA-256 -/
example : sha256Fn.WF ∧ sha256Fn.digestSize = 32 := ⟨C15.sha256Fn_WF, rfl⟩

/-- **With the RFC's own input conversion.** If the key is a 32-byte string (`int2octets(x) = priv` for `x` its
big-endian int) and the message hash is a 32-byte string whose int is `< N` (so that `bits2octets(h1) = h1`), the
nonce is RFC 6979's first candidate for private key `x`, hash value `h1 = msghash`, group order `q = N`.
For `int(msghash) ≥ N` the RFC feeds the hash REDUCED mod `N`, the code feeds it unreduced: there the two differ. -/
theorem nonce_is_rfc6979_int (H : HashFn) (hw : H.WF) (h32 : H.digestSize = 32) (h priv : Bytes)
    (hp : priv.length = 32) (hh : h.length = 32) (hz : bytesToInt h < N) :
    deterministicGenerateK H h priv = (Spec.rfc6979FirstCandidateInt H N.toNat (os2ip priv) h : ℤ) := by
  rw [nonce_is_rfc6979 H hw h32]
  unfold Spec.rfc6979FirstCandidateInt
  have hc : Spec.ceilDiv 256 8 = 32 := by decide
  have h1 : Spec.int2octets 256 (os2ip priv) = priv := by
    unfold Spec.int2octets
    rw [hc, C15.I2OSP_eq_toBytesBE, BytesLem.toBytesBE_os2ip 32 priv hp]
  have h2 : Spec.bits2octets N.toNat 256 h = h := by
    unfold Spec.bits2octets Spec.bits2int Spec.int2octets
    simp only [hh]
    rw [hc, C15.OS2IP_eq_os2ip]
    have hlt : os2ip h < N.toNat := by
      unfold bytesToInt at hz
      omega
    rw [if_neg (by decide), Nat.mod_eq_of_lt hlt, C15.I2OSP_eq_toBytesBE, BytesLem.toBytesBE_os2ip 32 h hh]
  rw [h1, h2]

example : ([0,0,0,0,0,0,0,0,0,0,0,0,0,0,0,0,0,0,0,0,0,0,0,0,0,0,0,0,0,0,0,1] : Bytes).length = 32 ∧
    bytesToInt [0,0,0,0,0,0,0,0,0,0,0,0,0,0,0,0,0,0,0,0,0,0,0,0,0,0,0,0,0,0,0,1] < N := by decide

end PyEcc.C06

section AxiomAudit
open PyEcc.C06
#print axioms sign_total
#print axioms sign_shape
#print axioms sign_deterministic
#print axioms nonce_chain
#print axioms nonce_is_rfc6979
#print axioms nonce_is_rfc6979_int
end AxiomAudit
