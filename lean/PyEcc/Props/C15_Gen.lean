/-
  PyEcc.Props.C15_Gen — property C15 restated about the GENERATED code: `expand_message_xmd` of `py_ecc/bls/hash.py` and
  `hash_to_field_FQ`, `hash_to_field_FQ2` of `py_ecc/bls/hash_to_curve.py`, as translated from the Python source on this run
  (`PyEcc.Gen.ExtraHash.*`), are exactly RFC 9380 §5.3.1 / §5.2 (`PyEcc.Spec.expandMessageXmd`, `PyEcc.Spec.hashToField`) for every
  hash function, message, tag, length and count — including the refusals.
  Every theorem is the model theorem of `Props/C15.lean` composed with the tie theorem of `Props/TieHash.lean`
  (`Gen.ExtraHash.f = model f`).  No hypothesis is added.  (Core Lean only.)
-/
import PyEcc.Props.C15
import PyEcc.Props.TieHash

namespace PyEcc.C15.Gen
open PyEcc PyEcc.Gen.Consts

/-! ### expand_message_xmd -/

/-- **C15, generated code (expand_message_xmd = RFC 9380 §5.3.1).**  For every hash function `H` with a positive digest size,
    every message, tag and requested length, the function translated from `expand_message_xmd(msg, DST, len_in_bytes, H)`
    returns exactly the bytes the RFC prescribes, and raises exactly when the RFC aborts: `ValueError` if `len(DST) > 255` or
    `ell = ceil(len/b) > 255`, `OverflowError` (from `i2osp(len, 2)`) if neither holds but `len > 65535` (`C15.xmdErr`).
    (`0 < H.digestSize`: with `digest_size = 0` Python raises `ZeroDivisionError`, which the translation does not represent.) -/
theorem xmd_eq_spec (H : HashFn) (msg dst : Bytes) (len : Nat) (hd : 0 < H.digestSize) :
    PyEcc.Gen.ExtraHash.expand_message_xmd msg dst len H =
      match Spec.expandMessageXmd H msg dst len with
      | some b => .ok b
      | none => .error (C15.xmdErr H dst len) := by
  rw [Tie.expand_message_xmd_eq]
  exact C15.xmd_eq_spec H msg dst len hd

example : 0 < sha256Fn.digestSize := by decide

/-- **C15, generated code (error characterisation).**  The translated `expand_message_xmd` raises an exception if and only if
    `len(DST) > 255`, or `ceil(len_in_bytes / b_in_bytes) > 255`, or `len_in_bytes ≥ 65536` — exactly the ABORT condition of
    RFC 9380 §5.3.1. -/
theorem xmd_error_iff (H : HashFn) (msg dst : Bytes) (len : Nat) (hd : 0 < H.digestSize) :
    (∃ e, PyEcc.Gen.ExtraHash.expand_message_xmd msg dst len H = .error e) ↔
      dst.length > 255 ∨ Spec.ceilDiv len H.digestSize > 255 ∨ len ≥ 65536 := by
  rw [Tie.expand_message_xmd_eq]
  exact C15.xmd_error_iff H msg dst len hd

/-- **C15, generated code (which exception).**  When the translated `expand_message_xmd` raises, the exception is `ValueError` if
    `len(DST) > 255` or `ell > 255`, and otherwise `OverflowError`; in particular the `IndexError` branch that the translation
    of `b[i - 2]` contains (`PyErr.other`) is never taken. -/
theorem xmd_error_kind (H : HashFn) (msg dst : Bytes) (len : Nat) (hd : 0 < H.digestSize) (e : PyErr)
    (h : PyEcc.Gen.ExtraHash.expand_message_xmd msg dst len H = .error e) : e = C15.xmdErr H dst len := by
  rw [Tie.expand_message_xmd_eq] at h
  exact C15.xmd_error_kind H msg dst len hd e h

/-- non-vacuity of `xmd_error_kind`: a 256-byte tag is refused -/
example : ∃ e, PyEcc.Gen.ExtraHash.expand_message_xmd [] (List.replicate 256 0) 0 sha256Fn = .error e :=
  (xmd_error_iff sha256Fn [] (List.replicate 256 0) 0 (by decide)).mpr (.inl (by rw [List.length_replicate]; decide))

/-- **C15, generated code (the OverflowError branch is unreachable for real hashes).**  `OverflowError` from the translated
    `expand_message_xmd` requires a digest of at least 258 bytes and a requested length ≥ 65536; no hash in `hashlib` is that
    wide, so with SHA-2/SHA-3/BLAKE2 every failure is a `ValueError`. -/
theorem xmd_overflow_digest (H : HashFn) (msg dst : Bytes) (len : Nat) (hd : 0 < H.digestSize)
    (h : PyEcc.Gen.ExtraHash.expand_message_xmd msg dst len H = .error .overflow) :
    258 ≤ H.digestSize ∧ 65536 ≤ len := by
  rw [Tie.expand_message_xmd_eq] at h
  exact C15.xmd_overflow_digest H msg dst len hd h

/-- the overflow branch is reachable in the generated code for a (hypothetical) 258-byte digest -/
example : PyEcc.Gen.ExtraHash.expand_message_xmd [] [] 65536 { digestSize := 258, blockSize := 1, run := fun _ => [] }
    = .error .overflow := by rfl

/-- **C15, generated code (output length).**  For a hash function whose digests all have `digest_size` bytes, a successful call
    of the translated `expand_message_xmd(msg, DST, len_in_bytes, H)` returns exactly `len_in_bytes` bytes. -/
theorem xmd_length (H : HashFn) (hw : H.WF) (msg dst : Bytes) (len : Nat) (out : Bytes)
    (h : PyEcc.Gen.ExtraHash.expand_message_xmd msg dst len H = .ok out) : out.length = len := by
  rw [Tie.expand_message_xmd_eq] at h
  exact C15.xmd_length H hw msg dst len out h

example : sha256Fn.WF := C15.sha256Fn_WF

/-- **C15, generated code (SHA-256 instance).**  With SHA-256, the translated `expand_message_xmd` succeeds (and then returns the
    RFC's value, by `xmd_eq_spec`) iff `len(DST) ≤ 255` and `len_in_bytes ≤ 255·32 = 8160`. -/
theorem xmd_sha256_ok_iff (msg dst : Bytes) (len : Nat) :
    (∃ out, PyEcc.Gen.ExtraHash.expand_message_xmd msg dst len sha256Fn = .ok out) ↔ dst.length ≤ 255 ∧ len ≤ 8160 := by
  rw [Tie.expand_message_xmd_eq]
  exact C15.xmd_sha256_ok_iff msg dst len

/-! ### hash_to_field -/

theorem f1c_n_mod (x : Nat) : (f1c ((x % blsP : Nat) : Int)).n = x % blsP := by
  show pmod ((x % blsP : Nat) : Int) blsP = x % blsP
  unfold pmod
  rw [← Int.natCast_emod, Int.toNat_natCast, Nat.mod_mod]

/-- **C15, generated code (hash_to_field_FQ = RFC 9380 §5.2 with m = 1, L = 64).**  For every hash function with positive digest
    size, message, tag and `count`: the function translated from `hash_to_field_FQ(msg, count, DST, H)` returns the `count` field
    elements the RFC prescribes for `p = field_modulus` of BLS12-381 (`u_i = OS2IP(substr(uniform_bytes, 64·i, 64)) mod p`,
    big-endian), and raises exactly when `expand_message_xmd` aborts for `len_in_bytes = count·1·64`, with the same exception kind.
    The returned `FQ` objects are compared through their attribute `n` with the specification's one-element lists `[e_0]`. -/
theorem h2f_fq_eq_spec (H : HashFn) (msg : Bytes) (count : Nat) (dst : Bytes) (hd : 0 < H.digestSize) :
    (PyEcc.Gen.ExtraHash.hash_to_field_FQ msg count dst H).map (fun u => u.map fun (c : F1) => [c.n]) =
      match Spec.hashToField H blsP 1 64 msg dst count with
      | some u => .ok u
      | none => .error (C15.xmdErr H dst (count * 1 * 64)) := by
  refine Eq.trans ?_ (C15.h2f_fq_eq_spec H blsP msg count dst hd)
  rw [Tie.hash_to_field_FQ_eq]
  unfold hashToFieldFq
  dsimp only
  cases expandMessageXmd H msg dst (count * 1 * 64) with
  | error e => rfl
  | ok prb =>
    show Except.ok _ = Except.ok _
    congr 1
    simp only [List.map_map]
    apply List.map_congr_left
    intro i _
    simp only [Function.comp_def, f1c_n_mod]

/-- **C15, generated code (hash_to_field_FQ2 = RFC 9380 §5.2 with m = 2, L = 64).**  For every hash function with positive
    digest size, message, tag and `count`: the function translated from `hash_to_field_FQ2(msg, count, DST, H)` returns the `count`
    elements `(e_0, e_1)` the RFC prescribes for `p = field_modulus` of BLS12-381
    (`e_j = OS2IP(substr(uniform_bytes, 64·(j + 2i), 64)) mod p`), and raises exactly when `expand_message_xmd` aborts for
    `len_in_bytes = count·2·64`, with the same exception kind (so the `FQ2(e)` length check of the translation never fires).
    The returned `FQ2` objects are compared through their coefficient lists (Python ints) with the specification's lists
    `[e_0, e_1]` of naturals. -/
theorem h2f_fq2_eq_spec (H : HashFn) (msg : Bytes) (count : Nat) (dst : Bytes) (hd : 0 < H.digestSize) :
    (PyEcc.Gen.ExtraHash.hash_to_field_FQ2 msg count dst H).map (fun u => u.map fun (c : F2) => c.coeffs) =
      match Spec.hashToField H blsP 2 64 msg dst count with
      | some u => .ok (u.map fun e => e.map fun (c : Nat) => (c : Int))
      | none => .error (C15.xmdErr H dst (count * 2 * 64)) := by
  have hm := C15.h2f_fq2_eq_spec H blsP msg count dst hd
  rw [Tie.hash_to_field_FQ2_eq]
  cases hs : Spec.hashToField H blsP 2 64 msg dst count with
  | none =>
    rw [hs] at hm
    cases hr : hashToFieldFq2 H blsP msg count dst with
    | error e => rw [hr] at hm; injection hm with hm; subst hm; rfl
    | ok r => rw [hr] at hm; cases hm
  | some u =>
    rw [hs] at hm
    cases hr : hashToFieldFq2 H blsP msg count dst with
    | error e => rw [hr] at hm; cases hm
    | ok r =>
      rw [hr] at hm
      injection hm with hm
      subst hm
      show Except.ok _ = Except.ok _
      congr 1
      simp [List.map_map, Function.comp_def, f2c]

/-- **C15, generated code (hash_to_field with SHA-256 succeeds iff the RFC's bounds hold).**  With SHA-256, the translated
    `hash_to_field_FQ2(msg, count, DST)` returns a value iff `len(DST) ≤ 255` and `count·2·64 ≤ 8160` (i.e. `count ≤ 63`), and
    the translated `hash_to_field_FQ` iff `len(DST) ≤ 255` and `count·64 ≤ 8160` (i.e. `count ≤ 127`). -/
theorem h2f_sha256_ok_iff (msg : Bytes) (count : Nat) (dst : Bytes) :
    ((∃ u, PyEcc.Gen.ExtraHash.hash_to_field_FQ2 msg count dst sha256Fn = .ok u) ↔ dst.length ≤ 255 ∧ count * 2 * 64 ≤ 8160) ∧
    ((∃ u, PyEcc.Gen.ExtraHash.hash_to_field_FQ msg count dst sha256Fn = .ok u) ↔ dst.length ≤ 255 ∧ count * 1 * 64 ≤ 8160) := by
  constructor
  · rw [← C15.xmd_sha256_ok_iff msg dst (count * 2 * 64), Tie.hash_to_field_FQ2_eq]
    unfold hashToFieldFq2
    dsimp only
    cases expandMessageXmd sha256Fn msg dst (count * 2 * 64) with
    | error e => exact ⟨fun ⟨_, h⟩ => (by cases h), fun ⟨_, h⟩ => (by cases h)⟩
    | ok prb => exact ⟨fun _ => ⟨_, rfl⟩, fun _ => ⟨_, rfl⟩⟩
  · rw [← C15.xmd_sha256_ok_iff msg dst (count * 1 * 64), Tie.hash_to_field_FQ_eq]
    unfold hashToFieldFq
    dsimp only
    cases expandMessageXmd sha256Fn msg dst (count * 1 * 64) with
    | error e => exact ⟨fun ⟨_, h⟩ => (by cases h), fun ⟨_, h⟩ => (by cases h)⟩
    | ok prb => exact ⟨fun _ => ⟨_, rfl⟩, fun _ => ⟨_, rfl⟩⟩

end PyEcc.C15.Gen

section AxiomAudit
open PyEcc.C15.Gen
#print axioms xmd_eq_spec
#print axioms xmd_error_iff
#print axioms xmd_error_kind
#print axioms xmd_overflow_digest
#print axioms xmd_length
#print axioms xmd_sha256_ok_iff
#print axioms h2f_fq_eq_spec
#print axioms h2f_fq2_eq_spec
#print axioms h2f_sha256_ok_iff
end AxiomAudit
