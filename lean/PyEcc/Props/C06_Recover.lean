/-
  PyEcc.Props.C06_Recover — property C06, sign-then-recover: a signature produced by `ecdsa_raw_sign` of
  `py_ecc/secp256k1/secp256k1.py` (model `PyEcc.Ecdsa.rawSignWithK` / `ecdsaRawSign`) is accepted by
  `ecdsa_raw_recover` and recovers exactly the signer's public key `privtopub(priv) = d • G`; the other recovery id does
  not; and the signature verifies by the textbook algorithm. Built on C18 (`Gen.Secp` arithmetic = Mathlib's group
  `E(F_P)` of prime order `N`).
-/
import PyEcc.Sem.EcdsaGroup
import PyEcc.Props.C06

namespace PyEcc.C06
open WeierstrassCurve PyEcc PyEcc.Gen.Secp PyEcc.SecpSem PyEcc.Gen.Consts PyEcc.Ecdsa PyEcc.EcdsaSem

/-- **Sign, then recover.** Let `(v, r, s)` be returned by `ecdsa_raw_sign` for message hash `h`, key bytes `priv`
(ANY byte strings; `z`, `d` their big-endian ints) and nonce `k` (ANY int), and suppose `r ≢ 0` and `s ≢ 0 (mod N)`
(the two conditions under which ECDSA asks for a new nonce; they are exactly what `ecdsa_raw_recover` tests). Then
`k ≢ 0 (mod N)`; `ecdsa_raw_recover(h, (v, r, s))` returns the public key `privtopub(priv)`, the representation of
`d • G`; with the OTHER recovery id `55 − v` (28 ↔ 27) it returns something else (`N` is odd and `s₀ ≠ 0`); `r` is the
`x`-coordinate of `k • G` as an int in `[0, P)` (NOT reduced mod `N`); and `(r, s)` verifies for `z` and `d • G` by the
textbook algorithm: `x((z/s) • G + (r/s) • (d • G)) = r`. -/
theorem sign_recover (h priv : Bytes) (k v r s : ℤ) (hsig : rawSignWithK h priv k = .ok (v, r, s))
    (hr : r % N ≠ 0) (hs : s % N ≠ 0) :
    k % N ≠ 0 ∧
    ecdsaRawRecover h v r s = privtopub priv ∧
    ecdsaRawRecover h v r s = .ok (reprSecp ((bytesToInt priv) • Gpt)) ∧
    ecdsaRawRecover h (55 - v) r s ≠ privtopub priv ∧
    (∃ y, reprSecp (k • Gpt) = (r, y)) ∧
    Verifies (bytesToInt h) r s ((bytesToInt priv) • Gpt) := by
  obtain ⟨hk, hv, hy, X, Y, hns, hX, hpar, hsR⟩ := sign_sem hsig fun e => hr (by rw [e]; decide)
  -- the recovered key: `r⁻¹ • (s • R − z • G) = r⁻¹ • ((z + r d) • G − z • G) = d • G`
  have hQ : (r : Fn)⁻¹ • ((s : Fn) • (Affine.Point.some X Y hns : E.Point) - ((bytesToInt h : ℤ) : Fn) • Gpt) =
      (bytesToInt priv) • Gpt := by
    rw [hsR, ← sub_smul, smul_smul, add_sub_cancel_left, inv_mul_cancel_left₀ (fn_ne_zero_iff.mpr hr), cast_smul]
  have hrec : ecdsaRawRecover h v r s = .ok (reprSecp ((bytesToInt priv) • Gpt)) :=
    recover_sem.mpr ⟨hv, hr, hs, X, Y, hns, by rw [← hX, val_cast_cast], hpar, by rw [hQ]⟩
  have hpub := C18.privtopub_refines priv
  exact ⟨hk, hrec.trans hpub.symm, hrec, hpub ▸ recover_other_ne hrec, hy,
    verifies_of_eq hr hs hns (by rw [hX]) ((key_eq_iff hr _ _ _ _).mpr hQ.symm)⟩

/-- non-vacuity of the hypotheses of `sign_recover` (kernel evaluation of the model): a signature with
`r, s ≢ 0 (mod N)`; `multiply(G, 1) = G`, so `r = Gx`. -/
example : ∃ v s, rawSignWithK [1] [1] 1 = .ok (v, Gx, s) ∧ Gx % N ≠ 0 ∧ s % N ≠ 0 := by
  have hm : multiply G 1 = .ok (Gx, Gy) := by
    have := C18.multiply_refines Gpt 1
    rwa [one_smul, reprSecp_Gpt] at this
  refine ⟨_, _, rawSignWithK_of_ok hm, by decide, ?_⟩
  decide

/-- **The deterministic entry point.** The same for `ecdsa_raw_sign(msghash, priv)` itself (nonce from
`deterministic_generate_k`, any hash function `H` in place of SHA-256): whenever the returned `(v, r, s)` has
`r, s ≢ 0 (mod N)`, `ecdsa_raw_recover(msghash, (v, r, s)) = privtopub(priv)`. -/
theorem sign_recover_deterministic (H : HashFn) (h priv : Bytes) (v r s : ℤ)
    (hsig : ecdsaRawSign H h priv = .ok (v, r, s)) (hr : r % N ≠ 0) (hs : s % N ≠ 0) :
    ecdsaRawRecover h v r s = privtopub priv ∧ ecdsaRawRecover h (55 - v) r s ≠ privtopub priv ∧
      Verifies (bytesToInt h) r s ((bytesToInt priv) • Gpt) := by
  rw [sign_deterministic] at hsig
  obtain ⟨-, h1, -, h2, -, h3⟩ := sign_recover h priv _ v r s hsig hr hs
  exact ⟨h1, h2, h3⟩

end PyEcc.C06

section AxiomAudit
open PyEcc.C06
#print axioms sign_recover
#print axioms sign_recover_deterministic
end AxiomAudit
