/-
  Property C12: the fast `final_exponentiate` of `optimized_bls12_381/optimized_pairing.py` IS the plain power,
  without hypothesis.  Combines `C12.final_exponentiate_of_inv` (Frobenius table, exponent split) with `C08_Fq12`
  (FQ12 is a field, which is that theorem's hypothesis HB3, and `FQ12.inv` is the field inverse).
-/
import PyEcc.Props.C12
import PyEcc.Props.C08_Fq12

namespace PyEcc.C12
open Polynomial PyEcc PyEcc.Fqp PyEcc.FqpSem PyEcc.PairingSem PyEcc.Gen.Consts

/-- `FQ12.inv` on every reduced element of the optimized BLS12-381 FQ12, zero included: 12
    coefficients, and the value is the field inverse (`0⁻¹ = 0`). -/
theorem bls_fq12_inv_total (a : OBls12) (ha : Canon a) :
    WF (Fqp.inv a) ∧ toQ (Fqp.inv a) = (toQ a)⁻¹ := by
  by_cases h0 : a = 0
  · subst h0
    rw [C08P.inv_zero]
    refine ⟨wf_zero, ?_⟩
    show toQ zero = (toQ zero)⁻¹
    rw [toQ_zero, inv_zero]
  · obtain ⟨c, q, _⟩ := C08F12.bls_fq12_inv_div_spec ha ha h0
    exact ⟨c.wf, q⟩

/-- **`final_exponentiate(x) == x ** ((field_modulus**12 − 1) // curve_order)` for every `x` in
    FQ12** (every `x` with 12 coefficients, `0` included), as an equality of coefficient lists in the
    executable model of `optimized_bls12_381/optimized_pairing.py`: the fast three-step
    exponentiation (`exp_by_p` twice, six times, a division, the cofactor power) computes exactly the
    plain power by the standard exponent `(p¹²−1)/r`.  No hypothesis. -/
theorem finalExponentiateOptBls_eq_pow (x : OBls12) (hx : WF x) :
    finalExponentiateOptBls x = x ^ ((Spec.BLS12381.p ^ 12 - 1) / Spec.BLS12381.r) :=
  final_exponentiate_of_inv bls_fq12_inv_total x hx

/-- The same with the module's own constants:
    `final_exponentiate(x) == x ** ((field_modulus**12 - 1) // curve_order)`. -/
theorem finalExponentiateOptBls_eq_pow' (x : OBls12) (hx : WF x) :
    finalExponentiateOptBls x = x ^ ((blsP ^ 12 - 1) / optimized_bls12_381_curve_order) := by
  rw [finalExponentiateOptBls_eq_pow x hx, Exp.bls_final_exp_eq.2]

/-- **Two routes to the pairing agree**: for every Miller value `f` returned by
    `pairing(Q, P, final_exponentiate=False)`, `final_exponentiate(f)` is the value returned by
    `pairing(Q, P, final_exponentiate=True)`. -/
theorem pairingOptBls_false_then_final (Q : OBls2 × OBls2 × OBls2) (P : Fq blsP × Fq blsP × Fq blsP)
    (f : OBls12) (h : pairingOptBls Q P false = .ok f) :
    pairingOptBls Q P true = .ok (finalExponentiateOptBls f) := by
  rw [finalExponentiateOptBls_eq_pow' f (pairingOptBls_wf Q P false f h), pairingOptBls_finalExp, h]
  rfl

/-- non-vacuity: `pairing(∞, ∞, False)` returns `1` -/
example : pairingOptBls (1, 1, 0) (1, 1, 0) false = .ok 1 := by
  rw [pairingOptBls_eq]; decide +kernel

end PyEcc.C12
