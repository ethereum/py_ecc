/-
  PyEcc.Props.C17 — property C17: the subgroup test is exact and cofactor clearing lands in the
  subgroup.  This file has (1) the group theory, in an arbitrary commutative group (no curve, no
  hypotheses beyond what is written), and (2) the ties between the model functions
  `subgroupCheck`, `clearCofactorG1`, `clearCofactorG2` and the standard scalars.

  How the pieces combine: by C07/C13 (other files) `Gen.OptBls.multiply T n` represents `n • P`
  when `T` represents `P`, and `is_inf` tests `P = 0`; hence `subgroup_check T` decides `r • P = 0`.
  The theorems below say what `r • P = 0` means (order divides `r`; for the prime `r` of BLS12-381:
  `P = 0` or `P` has order exactly `r`), that it accepts all multiples of a generator, that it
  rejects every `k•G + T` with `T ≠ 0` in the cofactor part (`Nat.Coprime h r` is proved for the
  real cofactors in `Props/C17_Consts.lean`), and that multiplying by the cofactor `h` — or by any
  multiple `h_eff` of it — sends every point of a group of exponent `h·r` into the `r`-torsion.
-/
import Mathlib.GroupTheory.OrderOfElement
import Mathlib.Data.Nat.GCD.Basic
import Mathlib.Data.Nat.ModEq
import PyEcc.Sem.Primes
import PyEcc.Model.Swu
import PyEcc.Model.Codec
import PyEcc.Props.C07_Consts
import PyEcc.Props.C17_Consts

namespace PyEcc.C17
open PyEcc.Gen.Consts

/-! ### group theory -/

section group
variable {G : Type*} [AddCommGroup G]

/-- The subgroup test accepts every multiple of a generator of order dividing `r`:
    if `r • g = 0` then `r • (k • g) = 0`. -/
theorem accepts_multiples {r : ℕ} (g : G) (k : ℕ) (hr : r • g = 0) : r • (k • g) = 0 := by
  rw [nsmul_left_comm, hr, nsmul_zero]

/-- The subgroup test accepts the identity. -/
theorem accepts_zero (r : ℕ) : r • (0 : G) = 0 := nsmul_zero r

/-- `r • P = 0` says exactly that the order of `P` divides `r`. -/
theorem subgroup_iff_order_dvd {r : ℕ} (P : G) : r • P = 0 ↔ addOrderOf P ∣ r :=
  addOrderOf_dvd_iff_nsmul_eq_zero.symm

/-- For prime `r`, `r • P = 0` says exactly that `P` is the identity or has order exactly `r`. -/
theorem subgroup_iff_prime {r : ℕ} (hp : r.Prime) (P : G) :
    r • P = 0 ↔ P = 0 ∨ addOrderOf P = r := by
  rw [subgroup_iff_order_dvd, Nat.dvd_prime hp, AddMonoid.addOrderOf_eq_one_iff]

/-- A point killed by two coprime scalars is the identity. -/
theorem eq_zero_of_coprime {h r : ℕ} (hc : Nat.Coprime h r) (T : G) (hT : h • T = 0)
    (hrT : r • T = 0) : T = 0 := by
  have h1 : addOrderOf T ∣ h := addOrderOf_dvd_iff_nsmul_eq_zero.mpr hT
  have h2 : addOrderOf T ∣ r := addOrderOf_dvd_iff_nsmul_eq_zero.mpr hrT
  have h3 : addOrderOf T ∣ 1 := hc ▸ Nat.dvd_gcd h1 h2
  exact AddMonoid.addOrderOf_eq_one_iff.mp (Nat.dvd_one.mp h3)

/-- The subgroup test is exact on mixed points: if the cofactor `h` is coprime to `r`, `g` is in the
    `r`-torsion and `T ≠ 0` is in the `h`-torsion, then `r • (k • g + T) ≠ 0`, for every `k`. -/
theorem reject_mixed {h r : ℕ} (hc : Nat.Coprime h r) (g T : G) (k : ℕ) (hr : r • g = 0)
    (hT : h • T = 0) (hne : T ≠ 0) : r • (k • g + T) ≠ 0 := by
  intro h0
  rw [nsmul_add, accepts_multiples g k hr, zero_add] at h0
  exact hne (eq_zero_of_coprime hc T hT h0)

/-- Clearing the cofactor lands in the `r`-torsion: if `(h·r) • P = 0` then `r • (h • P) = 0`. -/
theorem clear_lands {h r : ℕ} (P : G) (hP : (h * r) • P = 0) : r • (h • P) = 0 := by
  rw [← mul_nsmul]; exact hP

/-- Clearing by an *effective* cofactor (any multiple of the true cofactor `h`, such as
    `H_EFF_G2 = h₂·(3x²−3)`) lands in the `r`-torsion too. -/
theorem clear_eff {h heff r : ℕ} (hd : h ∣ heff) (P : G) (hP : (h * r) • P = 0) :
    r • (heff • P) = 0 := by
  obtain ⟨c, rfl⟩ := hd
  rw [← mul_nsmul, Nat.mul_right_comm, mul_nsmul, hP, nsmul_zero]

/-- In a group of exponent dividing `h·r` with `h`, `r` coprime, the `r`-torsion is exactly the
    image of multiplication by `h`: the subgroup test accepts `P` iff `P` is a cleared point. -/
theorem subgroup_iff_cleared {h r : ℕ} (hc : Nat.Coprime h r) (hexp : ∀ Q : G, (h * r) • Q = 0)
    (P : G) : r • P = 0 ↔ ∃ Q : G, P = h • Q := by
  constructor
  · intro hP
    -- Bézout over ℤ: `1 = h * a + r * b`; the second summand kills `P`
    have hb : (1 : ℤ) = h * Nat.gcdA h r + r * Nat.gcdB h r := by
      rw [← Nat.gcd_eq_gcd_ab, hc, Nat.cast_one]
    refine ⟨Nat.gcdA h r • P, ?_⟩
    conv_lhs => rw [← one_zsmul P, hb, add_zsmul, mul_zsmul' _ (r : ℤ), natCast_zsmul, hP, zsmul_zero,
      add_zero, mul_zsmul, natCast_zsmul]
  · rintro ⟨Q, rfl⟩
    exact clear_lands Q (hexp Q)

/-- Multiplication by a scalar coprime to `r` is injective on the `r`-torsion: clearing by
    `H_EFF` (coprime to `r`, `Props/C17_Consts.lean`) does not collapse the subgroup. -/
theorem clear_injective_on_torsion {heff r : ℕ} (hc : Nat.Coprime heff r) (P Q : G)
    (hP : r • P = 0) (hQ : r • Q = 0) (hPQ : heff • P = heff • Q) : P = Q := by
  have h1 : heff • (P - Q) = 0 := by rw [nsmul_sub, hPQ, sub_self]
  have h2 : r • (P - Q) = 0 := by rw [nsmul_sub, hP, hQ, sub_self]
  exact sub_eq_zero.mp (eq_zero_of_coprime hc _ h1 h2)

end group

/-! non-vacuity of the hypotheses: `G = ZMod 6`, `r = 3`, `h = 2`, `g = 2`, `T = 3` -/
example : Nat.Coprime 2 3 ∧ (3 • (2 : ZMod 6) = 0) ∧ (2 • (3 : ZMod 6) = 0) ∧ (3 : ZMod 6) ≠ 0 ∧
    (∀ Q : ZMod 6, (2 * 3) • Q = 0) := by decide

/-! ### the BLS12-381 instance -/

/-- `curve_order` (the model's `blsR`) is prime -/
theorem blsR_prime : Nat.Prime blsR := prime_blsR

/-- For the library's `curve_order` (a proved prime), the relation the subgroup check decides means:
    the point is the identity or has order exactly `curve_order`. -/
theorem subgroup_iff_blsR {G : Type*} [AddCommGroup G] (P : G) :
    blsR • P = 0 ↔ P = 0 ∨ addOrderOf P = blsR := subgroup_iff_prime blsR_prime P

/-- `reject_mixed` at the real constants, G1: in any commutative group, a point `k•g + T` with
    `curve_order • g = 0`, `h₁ • T = 0`, `T ≠ 0` fails `curve_order • · = 0`. -/
theorem reject_mixed_G1 {G : Type*} [AddCommGroup G] (g T : G) (k : ℕ) (hr : blsR • g = 0)
    (hT : Spec.BLS12381.h1 • T = 0) (hne : T ≠ 0) : blsR • (k • g + T) ≠ 0 :=
  reject_mixed coprime_h1_r g T k hr hT hne

/-- `reject_mixed` at the real constants, G2 (`h₂ = G2_COFACTOR`). -/
theorem reject_mixed_G2 {G : Type*} [AddCommGroup G] (g T : G) (k : ℕ) (hr : blsR • g = 0)
    (hT : blsconst_G2_COFACTOR • T = 0) (hne : T ≠ 0) : blsR • (k • g + T) ≠ 0 :=
  reject_mixed coprime_h2_r g T k hr hT hne

/-- `clear_cofactor_G2` lands in the `r`-torsion of any group of exponent `h₂·r`: the library's
    `H_EFF_G2` is a multiple of `G2_COFACTOR`. -/
theorem clear_G2_lands {G : Type*} [AddCommGroup G] (P : G)
    (hP : (blsconst_G2_COFACTOR * blsR) • P = 0) : blsR • (h2c_H_EFF_G2 • P) = 0 :=
  clear_eff H_EFF_G2_eq.2.2 P hP

/-! ### the model functions use these scalars -/

section model
variable {F : Type} [Zero F] [One F] [Add F] [Sub F] [Mul F] [Neg F] [Div F] [NatCast F] [Pow F Nat]
  [DecidableEq F]

/-- `subgroup_check(P)` is `is_inf(multiply(P, curve_order))` with the *standard* group order
    `r = 0x73eda753…00000001`, for points over any coefficient type. -/
theorem subgroupCheck_eq (T : F × F × F) :
    subgroupCheck T = Gen.OptBls.is_inf (Gen.OptBls.multiply T Spec.BLS12381.r) := by
  have h : blsR = Spec.BLS12381.r := C07.Consts.bls_model_p_r.2
  unfold subgroupCheck
  rw [h]

/-- The same with the library's own constant (definitional). -/
theorem subgroupCheck_def (T : F × F × F) :
    subgroupCheck T = Gen.OptBls.is_inf (Gen.OptBls.multiply T blsR) := rfl

/-- `subgroup_check(P)` is true exactly when the `z` coordinate of `multiply(P, r)` is zero. -/
theorem subgroupCheck_iff (T : F × F × F) :
    subgroupCheck T = true ↔ (Gen.OptBls.multiply T Spec.BLS12381.r).2.2 = 0 := by
  rw [subgroupCheck_eq]; unfold Gen.OptBls.is_inf; exact decide_eq_true_iff

end model

/-- `clear_cofactor_G1(P) = multiply(P, H_EFF_G1)` with RFC 9380's `h_eff = 0xd201000000010001`. -/
theorem clearCofactorG1_eq (T : F1 × F1 × F1) :
    clearCofactorG1 T = Gen.OptBls.multiply T Spec.H2C.hEffG1 := by
  have h : h2c_H_EFF_G1 = Spec.H2C.hEffG1 := H_EFF_G1_eq.1
  unfold clearCofactorG1
  rw [h]

/-- `clear_cofactor_G2(P) = multiply(P, H_EFF_G2)` with RFC 9380's `h_eff` for G2
    (`= h₂·(3x²−3)`, `spec_hEffG2_from_seed`). -/
theorem clearCofactorG2_eq (T : F2 × F2 × F2) :
    clearCofactorG2 T = Gen.OptBls.multiply T Spec.H2C.hEffG2 := by
  have h : h2c_H_EFF_G2 = Spec.H2C.hEffG2 := H_EFF_G2_eq.1
  unfold clearCofactorG2
  rw [h]

end PyEcc.C17
