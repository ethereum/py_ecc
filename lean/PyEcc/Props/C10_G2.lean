/-
  PyEcc.Props.C10_G2 — property C10, G2 half: `optimized_swu_G2` / `sqrt_division_FQ2` of
  `py_ecc/optimized_bls12_381/optimized_swu.py` (model: `optimizedSwuG2`, `sqrtDivisionFq2` in
  `PyEcc/Model/Swu.lean`)
    * NEVER takes the "unreachable" `raise Exception("Hash to Curve - Optimized SWU failure")`
      (`swuTotal`, which discharges the hypothesis `SwuTotal` of `Props/C04.lean`), and
    * computes the simplified SWU map of RFC 9380 §6.6.2 for the curve
      `E2' : y² = x³ + 240i·x + 1012(1+i)` 3-isogenous to BLS12-381 G2, with `Z = −(2+i)` (§8.8.2),
  for EVERY reduced input `t = a + b·i`, `0 ≤ a, b < p` (`Canon t`), exceptional inputs included.

  The model's optimized `FQ2` objects (`F2`, coefficient lists) are read in the field
  `K2 = Fp[X]/(X²+1)` through the value map `q = toQ` of `Sem/Fq2K2.lean` (a ring homomorphism on
  reduced elements, injective on them).  With `(N, Y, D) = optimized_swu_G2(t)` the affine point is
  `(x, y) = (N/D, Y/D)`.
-/
import PyEcc.Lemmas.Swu2
import PyEcc.Lemmas.Swu2NoRoot
import PyEcc.Lemmas.BlsSem
import PyEcc.Props.C10_Consts

namespace PyEcc.C10G2
open PyEcc PyEcc.Fqp PyEcc.FqpSem PyEcc.Spec PyEcc.SwuSem PyEcc.Swu2 Gen.Consts

/-- The three constants of the G2 SSWU map in `optimized_bls12_381/constants.py` are RFC 9380
    §8.8.2's `A' = 240·I`, `B' = 1012·(1+I)`, `Z = −(2+I)`: as coefficient lists
    (`Spec.H2C.iso3A/B/Z`) and as elements of `K2`. -/
theorem iso3_consts :
    (h2c_ISO_3_A = Spec.H2C.iso3A ∧ h2c_ISO_3_B = Spec.H2C.iso3B ∧ h2c_ISO_3_Z = Spec.H2C.iso3Z) ∧
    q ISO_3_A = kA ∧ q ISO_3_B = kB ∧ q ISO_3_Z = kZ :=
  ⟨⟨C10.iso3_literals.1, C10.iso3_literals.2.1, C10.iso3_literals.2.2.1⟩, q_consts⟩

/-! ## 1. Totality -/

/-- **`optimized_swu_G2` never raises.**  For every reduced field element `t` (two coefficients in
    `[0, p)`), `optimized_swu_G2(t)` returns a triple: the branch
    `raise Exception("Hash to Curve - Optimized SWU failure")` is unreachable.  Reason: `u/v` is either
    a square — then one of the four `POSITIVE_EIGHTH_ROOTS_OF_UNITY` turns `γ` into a square root
    (`success`) — or it is not, and then one of the four `ETAS` turns `γ·t³` into a square root of
    `Z³t⁶·u/v` (`success_2`). -/
theorem swu_G2_total (t : F2) (ht : Canon t) :
    optimizedSwuG2 t = .ok (sN' t, sY t * sD t, sD t) := Swu2.swu_total ht

example : Canon (f2c [3, 5]) := cn_f2c (a := 3) (b := 5) (by decide) (by decide)

/-- **`SwuTotal`.**  `optimized_swu_G2` returns on every `a + b·i`, `0 ≤ a, b < p` — exactly the
    hypothesis under which `Props/C04.lean` proves that `Verify`, `PopVerify`, `AggregateVerify` and
    `FastAggregateVerify` are total (`Props/C04_Total.lean` applies it). -/
theorem swuTotal : BlsSem.SwuTotal := fun _ _ ha hb => ⟨_, swu_G2_total _ (cn_f2c ha hb)⟩

/-- the other form: no input makes `optimized_swu_G2` fail -/
theorem not_swuFails : ¬ BlsSem.SwuFails := BlsSem.not_swuFails_iff.mpr swuTotal

/-! ## 2. `sqrt_division_FQ2` -/

/-- **`sqrt_division_FQ2(u, v)` is correct** for reduced `u`, `v ≠ 0`: it returns `(True, r)` exactly
    when `u/v` is a square in `Fp²`, and then `r² = u/v`. -/
theorem sqrt_division_FQ2_correct (u v : F2) (hu : Canon u) (hv : Canon v) (hv0 : v ≠ 0) :
    ((sqrtDivisionFq2 u v).1 = true ↔ IsSquare (q u / q v)) ∧
    ((sqrtDivisionFq2 u v).1 = true → q (sqrtDivisionFq2 u v).2 ^ 2 = q u / q v) := by
  have hV : q v ≠ 0 := mt (Swu2.q_eq_zero hv).mp hv0
  obtain ⟨_, h1, h2, _⟩ := sqrt_spec hu hv hV
  exact ⟨h1, fun h => by rw [eq_div_iff hV, h2 h]⟩

example : Canon (1 : F2) ∧ (1 : F2) ≠ 0 := by decide +kernel

/-! ## 3. The result is RFC 9380's point -/

/-- **C10, summary (G2): `optimized_swu_G2` = RFC 9380 `map_to_curve_simple_swu`.**  For every reduced
    field element `t`, with `(N, Y, D) = optimized_swu_G2(t)`: the affine point `(N/D, Y/D)` is related
    to `t` by the specification `Spec.IsSswu` of RFC 9380 §6.6.2 with the constants `A' = 240i`,
    `B' = 1012(1+i)`, `Z = −(2+i)` of §8.8.2 and `sgn0` of §4.1 (`m = 2`): its `x` is the RFC's `x1` if
    `g(x1)` is a square in `Fp²` and `x2 = Z t² x1` otherwise, `y² = g(x)`, and `y` has the sign of `t`.
    (`Spec.IsSswu` determines `(x, y)` uniquely: `SwuSem.IsSswu.unique`.) -/
theorem swu_G2_is_sswu (t : F2) (ht : Canon t) (N Y D : F2) (h : optimizedSwuG2 t = .ok (N, Y, D)) :
    Spec.IsSswu sgn0K2 kA kB kZ (q t) (q N / q D) (q Y / q D) :=
  (Swu2.swu_core ht h).2.2.2.2.2

/-- **C10 (G2): the returned denominator is non-zero and the point is on the isogenous curve.**
    For every reduced `t`, `optimized_swu_G2(t) = (N, Y, D)` has `D ≠ 0`, and `(x, y) = (N/D, Y/D)`
    satisfies `y² = x³ + 240i·x + 1012(1+i)` in `Fp²`. -/
theorem swu_G2_on_iso_curve (t : F2) (ht : Canon t) (N Y D : F2)
    (h : optimizedSwuG2 t = .ok (N, Y, D)) :
    Canon N ∧ Canon Y ∧ Canon D ∧ D ≠ 0 ∧ q D ≠ 0 ∧
    (q Y / q D) ^ 2 = (q N / q D) ^ 3 + kA * (q N / q D) + kB :=
  have ⟨hN, hY, hD, hD0, hqD, hs⟩ := Swu2.swu_core ht h
  ⟨hN, hY, hD, hD0, hqD, IsSswu.on_curve hs⟩

/-- non-vacuity of the hypotheses `Canon t`, `optimized_swu_G2(t) = (N, Y, D)` used below: they hold
    e.g. for `t = 1 + i` (and, by `swu_G2_total`, the second one for every reduced `t`) -/
example : Canon (f2c [1, 1]) ∧ ∃ N Y D, optimizedSwuG2 (f2c [1, 1]) = .ok (N, Y, D) :=
  ⟨cn_f2c (a := 1) (b := 1) (by decide) (by decide), _, _, _,
    swu_G2_total _ (cn_f2c (a := 1) (b := 1) (by decide) (by decide))⟩

/-- **C10 (G2): the `x`-coordinate is the RFC's, and the branch is the RFC's.**  If `g(x1)` is a
    square in `Fp²` then `N/D = x1`, otherwise `N/D = x2 = Z·t²·x1`, where
    `x1 = (−B'/A')(1 + inv0(Z²t⁴ + Zt²))`, replaced by `B'/(Z·A')` when `Z²t⁴ + Zt² = 0`
    (`Spec.sswuX1`, RFC 9380 §6.6.2 steps 1–3), `g(x) = x³ + A'x + B'`. -/
theorem swu_G2_x_is_rfc (t : F2) (ht : Canon t) (N Y D : F2) (h : optimizedSwuG2 t = .ok (N, Y, D)) :
    (IsSquare (sswuG kA kB (sswuX1 kA kB kZ (q t))) → q N / q D = sswuX1 kA kB kZ (q t)) ∧
    (¬ IsSquare (sswuG kA kB (sswuX1 kA kB kZ (q t))) →
      q N / q D = kZ * q t ^ 2 * sswuX1 kA kB kZ (q t)) :=
  IsSswu.x_eq (swu_G2_is_sswu t ht N Y D h)

/-- **C10 (G2): the code takes the first branch exactly when the RFC does.**  The flag `success`
    returned by `sqrt_division_FQ2(u, v)` inside `optimized_swu_G2(t)` (`Swu2.sOk t`; the intermediate
    values are named in `Lemmas/Swu2Shape.lean`, tied to the model by `Swu2.optimizedSwuG2_eq`) is
    `True` iff `g(x1)` is a square in `Fp²` (RFC step 7). -/
theorem swu_G2_branch_iff (t : F2) (ht : Canon t) :
    sOk t = true ↔ IsSquare (sswuG kA kB (sswuX1 kA kB kZ (q t))) := (Swu2.swu_isSswu ht).1

/-- **C10 (G2): `y` is never zero.**  The isogenous curve has no point with `y = 0`
    (`x³ + A'x + B'` has no root in `Fp²`; kernel computation of `x^(p²) mod g`). -/
theorem swu_G2_y_ne_zero (t : F2) (ht : Canon t) (N Y D : F2) (h : optimizedSwuG2 t = .ok (N, Y, D)) :
    q Y / q D ≠ 0 :=
  (IsSswu.sgn0_eq (swu_G2_is_sswu t ht N Y D h) Swu2.sswuG_ne_zero).1

/-- **C10 (G2): sign.**  `sgn0(y) = sgn0(t)` for every reduced `t`, both for the library's own
    `FQ2.sgn0` applied to `Y / D` computed with `FQ2.__truediv__`, and for RFC 9380's `sgn0` (`m = 2`,
    `Swu2.sgn0K2`) of the elements `y = Y/D` and `t` of `Fp²`. -/
theorem swu_G2_sgn0 (t : F2) (ht : Canon t) (N Y D : F2) (h : optimizedSwuG2 t = .ok (N, Y, D)) :
    Fqp.sgn0_fq2 (Y / D) = Fqp.sgn0_fq2 t ∧ sgn0K2 (q Y / q D) = sgn0K2 (q t) := by
  obtain ⟨_, hY, hD, _, _, hs⟩ := Swu2.swu_core ht h
  have hs := (IsSswu.sgn0_eq hs Swu2.sswuG_ne_zero).2
  obtain ⟨hc, hq⟩ := (Rq.of hY).div (Rq.of hD)
  exact ⟨by rw [sgn0_eq_spec hc, hq, hs, sgn0_eq_spec ht], hs⟩

/-- **C10 (G2): equality with the straight-line RFC procedure.**  For every correct square-root
    function `sqrt` on `Fp²` (one that returns *a* root of each square), the affine point computed by
    `optimized_swu_G2(t)` equals the output of RFC 9380 §6.6.2 `map_to_curve_simple_swu(t)`
    (`Spec.mapToCurveSimpleSwu`, steps 1–10 verbatim) — whichever root `sqrt` picks, step 9 fixes the
    sign. -/
theorem swu_G2_eq_rfc_function (sqrt : K2 → K2) (hsqrt : ∀ a, IsSquare a → sqrt a ^ 2 = a)
    (t : F2) (ht : Canon t) (N Y D : F2) (h : optimizedSwuG2 t = .ok (N, Y, D)) :
    (q N / q D, q Y / q D) = Spec.mapToCurveSimpleSwu sgn0K2 sqrt kA kB kZ (q t) :=
  IsSswu.eq_rfc (swu_G2_is_sswu t ht N Y D h) sqrt hsqrt sgn0K2_neg_ne sgn0K2_lt_two

/-- a correct square-root function on `Fp²` exists (non-vacuity of the hypothesis above) -/
example : ∃ sqrt : K2 → K2, ∀ a, IsSquare a → sqrt a ^ 2 = a := exists_sqrt

/-- **C10 (G2): exceptional inputs.**  If `Z²t⁴ + Zt² = 0` — in particular for `t = 0` — the code
    replaces its zero denominator by `Z·A'` and returns the point with `x = B'/(Z·A')`, RFC 9380's
    exceptional-case value (and `g` of it is a square, so this is the RFC's output). -/
theorem swu_G2_exceptional (t : F2) (ht : Canon t) (N Y D : F2) (h : optimizedSwuG2 t = .ok (N, Y, D))
    (h0 : kZ ^ 2 * q t ^ 4 + kZ * q t ^ 2 = 0) :
    q N / q D = kB / (kZ * kA) ∧ IsSquare (sswuG kA kB (kB / (kZ * kA))) := by
  have hT : q (sT t) = 0 := by rw [(rq_T ht).2, ← h0]; ring
  have hsq := (swu_G2_branch_iff t ht).mp (Swu2.swu_of_T_eq ht hT).2
  have hx := (swu_G2_x_is_rfc t ht N Y D h).1 hsq
  rw [sswuX1_of_eq kA kB kZ (q t) h0] at hsq hx
  exact ⟨hx, hsq⟩

example : Canon (0 : F2) ∧ kZ ^ 2 * q (0 : F2) ^ 4 + kZ * q (0 : F2) ^ 2 = 0 :=
  ⟨goodHom_q.good_zero, by rw [goodHom_q.map_zero]; ring⟩

end PyEcc.C10G2
