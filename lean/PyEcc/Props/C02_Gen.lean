/-
  PyEcc.Props.C02_Gen — property C02 (**`Verify` accepts EXACTLY the canonical signature**) stated DIRECTLY ABOUT THE
  GENERATED CODE `PyEcc.Gen.ExtraBls.*` (`py_ecc/bls/ciphersuites.py` as translated from the repository on this run), with the
  generated `hash_to_G2` (`Gen.ExtraSwu`), `G2_to_signature` (`Gen.ExtraCodec`) and curve operations (`Gen.OptBls`) wherever a
  theorem names the candidate signature by how it was produced.

  Each theorem is the model theorem of `Props/C02_Proto.lean` / `Props/C01_ProtoModel.lean` rewritten with the tie theorems
  (`Props/TieBls.lean`, `TieCodec.lean`, `TieSwu.lean`).  Hypotheses are unchanged: the ONE named hypothesis
  `NdSem.ModelBilinearCode` (the code's `pairing` is bilinear on subgroup points; `C01.Gen.modelBilinearCode_iff_gen` reads it
  on the generated `pairing`), honest key `1 ≤ sk < curve_order`, and — in the cross-suite/cross-message theorems — the
  visible hash-(in)equality hypothesis (the random-oracle question, not provable).  `[DecidableEq K2]` of the model theorems is
  discharged classically inside the proofs.

  `vmsg s pk m` (`Lemmas/BlsSem.lean`) is plain list notation for the message the suite hashes: `pk ++ m` in the
  message-augmentation suite, `m` otherwise.
-/
import PyEcc.Props.TieBls
import PyEcc.Props.TieCodec
import PyEcc.Props.TieSwu
import PyEcc.Props.C01_ProtoModel

namespace PyEcc.C02.Gen
open PyEcc PyEcc.Gen.Consts PyEcc.Transfer PyEcc.BlsSem PyEcc.NdSem

/-! ## 1. The two headline equivalences -/

/-- **The generated `Verify` accepts exactly the canonical signature.**  Assuming only `ModelBilinearCode`: for every suite,
    hash function, `int` secret key `1 ≤ sk < curve_order` with `pk = SkToPk(sk)` (generated), message `m` and candidate byte
    string `cand` of ANY length: generated `Verify(pk, m, cand) = True  ↔  generated Sign(sk, m) = cand`. -/
theorem verify_iff (mc : ModelBilinearCode) (H : HashFn) (s : Suite) (sk : ℤ)
    (hsk : 1 ≤ sk ∧ sk < (suites_curve_order : ℤ)) (m pk cand : Bytes)
    (hpk : Gen.ExtraBls.SkToPk (.int sk) = .ok pk) :
    Gen.ExtraBls.Verify H s pk m cand = .returned true ↔ Gen.ExtraBls.Sign H s (.int sk) m = .ok cand := by
  classical
  simp only [Tie.Bls.SkToPk_eq, Tie.Bls.Verify_eq, Tie.Bls.Sign_eq] at hpk ⊢
  exact C02.verify_iff_of_modelBilinearCode mc H s sk hsk m pk cand hpk

/-- **The generated `PopVerify` accepts exactly the canonical proof**: `PopVerify(pk, cand) = True ↔ PopProve(sk) = cand`,
    assuming only `ModelBilinearCode`. -/
theorem popVerify_iff (mc : ModelBilinearCode) (H : HashFn) (sk : ℤ)
    (hsk : 1 ≤ sk ∧ sk < (suites_curve_order : ℤ)) (pk cand : Bytes)
    (hpk : Gen.ExtraBls.SkToPk (.int sk) = .ok pk) :
    Gen.ExtraBls.PopVerify H pk cand = .returned true ↔ Gen.ExtraBls.PopProve H (.int sk) = .ok cand := by
  classical
  simp only [Tie.Bls.SkToPk_eq, Tie.Bls.PopVerify_eq, Tie.Bls.PopProve_eq] at hpk ⊢
  exact C02.popVerify_iff_of_modelBilinearCode mc H sk hsk pk cand hpk

/-! ## 2. Corollaries: every class of wrong candidate -/

/-- **Any string other than the canonical signature is rejected by the generated `Verify`** — single-bit flips anywhere (data
    or flag bits), truncations, extensions, re-encodings: if the generated `Sign(sk, m)` returned `sig` and `cand ≠ sig` then
    `Verify(pk, m, cand)` returns `False` (it does not raise).  Assuming only `ModelBilinearCode`. -/
theorem verify_rejects_ne (mc : ModelBilinearCode) (H : HashFn) (s : Suite) (sk : ℤ)
    (hsk : 1 ≤ sk ∧ sk < (suites_curve_order : ℤ)) (m pk sig cand : Bytes)
    (hpk : Gen.ExtraBls.SkToPk (.int sk) = .ok pk) (hsig : Gen.ExtraBls.Sign H s (.int sk) m = .ok sig)
    (hne : cand ≠ sig) : Gen.ExtraBls.Verify H s pk m cand = .returned false := by
  classical
  simp only [Tie.Bls.SkToPk_eq, Tie.Bls.Sign_eq, Tie.Bls.Verify_eq] at hpk hsig ⊢
  exact C02.verify_rejects_ne_of_modelBilinear mc.toModelBilinear H s sk hsk m pk sig cand hpk hsig hne

/-- **Any string other than the generated `PopProve(sk)` makes the generated `PopVerify` return `False`**, assuming only
    `ModelBilinearCode`. -/
theorem popVerify_rejects_ne (mc : ModelBilinearCode) (H : HashFn) (sk : ℤ)
    (hsk : 1 ≤ sk ∧ sk < (suites_curve_order : ℤ)) (pk proof cand : Bytes)
    (hpk : Gen.ExtraBls.SkToPk (.int sk) = .ok pk) (hproof : Gen.ExtraBls.PopProve H (.int sk) = .ok proof)
    (hne : cand ≠ proof) : Gen.ExtraBls.PopVerify H pk cand = .returned false := by
  classical
  simp only [Tie.Bls.SkToPk_eq, Tie.Bls.PopProve_eq, Tie.Bls.PopVerify_eq] at hpk hproof ⊢
  exact C02.popVerify_rejects_ne_of_modelBilinear mc.toModelBilinear H sk hsk pk proof cand hpk hproof hne

/-- **`−S` is rejected.**  With `mp = hash_to_G2(m', DST)` (generated; `m'` the suite-augmented message) not the identity, the
    generated `G2_to_signature(neg(multiply(mp, sk)))` makes the generated `Verify` return `False`.  Assuming only
    `ModelBilinearCode`. -/
theorem verify_rejects_neg (mc : ModelBilinearCode) (H : HashFn) (s : Suite) (sk : ℤ)
    (hsk : 1 ≤ sk ∧ sk < (suites_curve_order : ℤ)) (m pk cand : Bytes)
    (hpk : Gen.ExtraBls.SkToPk (.int sk) = .ok pk) (mp : G2Pt)
    (hmp : Gen.ExtraSwu.hash_to_G2 (vmsg s pk m) (Gen.ExtraBls.DST s) H = .ok mp)
    (hinf : Gen.OptBls.is_inf mp = false)
    (hc : Gen.ExtraCodec.G2_to_signature (Gen.OptBls.neg (Gen.OptBls.multiply mp sk.toNat)) = .ok cand) :
    Gen.ExtraBls.Verify H s pk m cand = .returned false := by
  classical
  simp only [Tie.Bls.SkToPk_eq, Tie.hash_to_G2_eq, Tie.Bls.DST_eq, Tie.G2_to_signature_eq, Tie.Bls.Verify_eq] at hpk hmp hc ⊢
  exact C02.verify_rejects_neg_of_modelBilinear mc.toModelBilinear H s sk hsk m pk cand hpk mp hmp hinf hc

/-- **`2S` is rejected** (hash point not the identity): the generated `G2_to_signature(double(multiply(mp, sk)))` makes the
    generated `Verify` return `False`.  Assuming only `ModelBilinearCode`. -/
theorem verify_rejects_double (mc : ModelBilinearCode) (H : HashFn) (s : Suite) (sk : ℤ)
    (hsk : 1 ≤ sk ∧ sk < (suites_curve_order : ℤ)) (m pk cand : Bytes)
    (hpk : Gen.ExtraBls.SkToPk (.int sk) = .ok pk) (mp : G2Pt)
    (hmp : Gen.ExtraSwu.hash_to_G2 (vmsg s pk m) (Gen.ExtraBls.DST s) H = .ok mp)
    (hinf : Gen.OptBls.is_inf mp = false)
    (hc : Gen.ExtraCodec.G2_to_signature (Gen.OptBls.double (Gen.OptBls.multiply mp sk.toNat)) = .ok cand) :
    Gen.ExtraBls.Verify H s pk m cand = .returned false := by
  classical
  simp only [Tie.Bls.SkToPk_eq, Tie.hash_to_G2_eq, Tie.Bls.DST_eq, Tie.G2_to_signature_eq, Tie.Bls.Verify_eq] at hpk hmp hc ⊢
  exact C02.verify_rejects_double_of_modelBilinear mc.toModelBilinear H s sk hsk m pk cand hpk mp hmp hinf hc

/-- **`S + T` is rejected for every point `T ≠ ∞` of the twist curve** (a triple `T` of `FQ2`s with reduced coefficients passing
    the generated `is_on_curve`): whether `T` lies in the `r`-torsion (then the pairing equation fails) or not (e.g. cofactor
    torsion: then the candidate fails `subgroup_check`), the generated `G2_to_signature(add(multiply(mp, sk), T))` makes the
    generated `Verify` return `False`.  Assuming only `ModelBilinearCode`. -/
theorem verify_rejects_add (mc : ModelBilinearCode) (H : HashFn) (s : Suite) (sk : ℤ)
    (hsk : 1 ≤ sk ∧ sk < (suites_curve_order : ℤ)) (m pk cand : Bytes)
    (hpk : Gen.ExtraBls.SkToPk (.int sk) = .ok pk) (mp : G2Pt)
    (hmp : Gen.ExtraSwu.hash_to_G2 (vmsg s pk m) (Gen.ExtraBls.DST s) H = .ok mp)
    (T : G2Pt) (cT : CanonT T) (honT : Gen.OptBls.is_on_curve T blsB2 = true) (hT : Gen.OptBls.is_inf T = false)
    (hc : Gen.ExtraCodec.G2_to_signature (Gen.OptBls.add (Gen.OptBls.multiply mp sk.toNat) T) = .ok cand) :
    Gen.ExtraBls.Verify H s pk m cand = .returned false := by
  classical
  simp only [Tie.Bls.SkToPk_eq, Tie.hash_to_G2_eq, Tie.Bls.DST_eq, Tie.G2_to_signature_eq, Tie.Bls.Verify_eq] at hpk hmp hc ⊢
  exact C02.verify_rejects_add_of_modelBilinear mc.toModelBilinear H s sk hsk m pk cand hpk mp hmp T cT honT hT hc

/-- **The identity encoding** (what the generated `G2_to_signature(Z2)` returns: `0xc0 00 … 00`) is accepted by the generated
    `Verify` iff the hash point itself is the identity — so it is rejected for every message whose hash is not `∞`.  Assuming
    only `ModelBilinearCode`. -/
theorem verify_identity_iff (mc : ModelBilinearCode) (H : HashFn) (s : Suite) (sk : ℤ)
    (hsk : 1 ≤ sk ∧ sk < (suites_curve_order : ℤ)) (m pk cand : Bytes)
    (hpk : Gen.ExtraBls.SkToPk (.int sk) = .ok pk) (mp : G2Pt)
    (hmp : Gen.ExtraSwu.hash_to_G2 (vmsg s pk m) (Gen.ExtraBls.DST s) H = .ok mp)
    (hc : Gen.ExtraCodec.G2_to_signature Z2 = .ok cand) :
    Gen.ExtraBls.Verify H s pk m cand = .returned true ↔ Gen.OptBls.is_inf mp = true := by
  classical
  simp only [Tie.Bls.SkToPk_eq, Tie.hash_to_G2_eq, Tie.Bls.DST_eq, Tie.G2_to_signature_eq, Tie.Bls.Verify_eq] at hpk hmp hc ⊢
  exact C02.verify_identity_iff_of_modelBilinear mc.toModelBilinear H s sk hsk m pk cand hpk mp hmp hc

/-- **Other key** (suites that hash the bare message: basic and POP).  A generated signature of `m` under `sk`, presented to the
    generated `Verify` with the public key of `sk'`, is accepted iff `sk = sk'` — provided the hash point of `m` is not the
    identity.  Assuming only `ModelBilinearCode`. -/
theorem verify_other_key_iff (mc : ModelBilinearCode) (H : HashFn) (s : Suite) (hs : s ≠ .aug) (sk sk' : ℤ)
    (hsk : 1 ≤ sk ∧ sk < (suites_curve_order : ℤ)) (hsk' : 1 ≤ sk' ∧ sk' < (suites_curve_order : ℤ))
    (m pk pk' sig : Bytes) (hpk : Gen.ExtraBls.SkToPk (.int sk) = .ok pk)
    (hpk' : Gen.ExtraBls.SkToPk (.int sk') = .ok pk') (mp : G2Pt)
    (hmp : Gen.ExtraSwu.hash_to_G2 m (Gen.ExtraBls.DST s) H = .ok mp) (hinf : Gen.OptBls.is_inf mp = false)
    (hsig : Gen.ExtraBls.Sign H s (.int sk) m = .ok sig) :
    Gen.ExtraBls.Verify H s pk' m sig = .returned true ↔ sk = sk' := by
  classical
  simp only [Tie.Bls.SkToPk_eq, Tie.hash_to_G2_eq, Tie.Bls.DST_eq, Tie.Bls.Sign_eq, Tie.Bls.Verify_eq] at hpk hpk' hmp hsig ⊢
  exact C02.verify_other_key_iff_of_modelBilinear mc.toModelBilinear H s hs sk sk' hsk hsk' m pk pk' sig hpk hpk'
    mp hmp hinf hsig

/-! ## 3. Cross-suite / cross-message / cross-tag acceptance (visible hash-equality condition) -/

/-- **Cross acceptance, general form** (other key and/or other message, other suite).  `sig = Sign_s(sk, m)` (generated) presented
    to the generated `Verify_{s'}(pk', m', ·)` is accepted iff the two signature POINTS coincide:
    `multiply(H_s(m), sk) = multiply(H_{s'}(m'), sk')` as projective points (generated `eq`).  Whether two hash points coincide is
    the random-oracle question and stays a hypothesis of the corollaries below.  Assuming only `ModelBilinearCode`. -/
theorem verify_cross_iff (mc : ModelBilinearCode) (H : HashFn) (s s' : Suite) (sk sk' : ℤ)
    (hsk : 1 ≤ sk ∧ sk < (suites_curve_order : ℤ)) (hsk' : 1 ≤ sk' ∧ sk' < (suites_curve_order : ℤ))
    (m m' pk pk' sig : Bytes) (hpk : Gen.ExtraBls.SkToPk (.int sk) = .ok pk)
    (hpk' : Gen.ExtraBls.SkToPk (.int sk') = .ok pk') (mp mp' : G2Pt)
    (hmp : Gen.ExtraSwu.hash_to_G2 (vmsg s pk m) (Gen.ExtraBls.DST s) H = .ok mp)
    (hmp' : Gen.ExtraSwu.hash_to_G2 (vmsg s' pk' m') (Gen.ExtraBls.DST s') H = .ok mp')
    (hsig : Gen.ExtraBls.Sign H s (.int sk) m = .ok sig) :
    Gen.ExtraBls.Verify H s' pk' m' sig = .returned true ↔
      Gen.OptBls.eq (Gen.OptBls.multiply mp sk.toNat) (Gen.OptBls.multiply mp' sk'.toNat) = true := by
  classical
  simp only [Tie.Bls.SkToPk_eq, Tie.hash_to_G2_eq, Tie.Bls.DST_eq, Tie.Bls.Sign_eq, Tie.Bls.Verify_eq] at hpk hpk' hmp hmp' hsig ⊢
  exact C02.verify_cross_iff mc.toModelBilinear.toPairingFacts H s s' sk sk' hsk hsk' m m' pk pk' sig hpk hpk'
    mp mp' hmp hmp' hsig

/-- **Other message / other suite, same key.**  The generated `Sign_s(sk, m)` presented to the generated `Verify_{s'}(pk, m', ·)`
    is accepted iff the two hash points are equal (generated `eq`).  Assuming only `ModelBilinearCode`. -/
theorem verify_other_msg_iff (mc : ModelBilinearCode) (H : HashFn) (s s' : Suite) (sk : ℤ)
    (hsk : 1 ≤ sk ∧ sk < (suites_curve_order : ℤ)) (m m' pk sig : Bytes)
    (hpk : Gen.ExtraBls.SkToPk (.int sk) = .ok pk) (mp mp' : G2Pt)
    (hmp : Gen.ExtraSwu.hash_to_G2 (vmsg s pk m) (Gen.ExtraBls.DST s) H = .ok mp)
    (hmp' : Gen.ExtraSwu.hash_to_G2 (vmsg s' pk m') (Gen.ExtraBls.DST s') H = .ok mp')
    (hsig : Gen.ExtraBls.Sign H s (.int sk) m = .ok sig) :
    Gen.ExtraBls.Verify H s' pk m' sig = .returned true ↔ Gen.OptBls.eq mp mp' = true := by
  classical
  simp only [Tie.Bls.SkToPk_eq, Tie.hash_to_G2_eq, Tie.Bls.DST_eq, Tie.Bls.Sign_eq, Tie.Bls.Verify_eq] at hpk hmp hmp' hsig ⊢
  exact C02.verify_other_msg_iff mc.toModelBilinear.toPairingFacts H s s' sk hsk m m' pk sig hpk mp mp' hmp hmp' hsig

/-- **Another message or another suite is rejected** under the visible hash-inequality hypothesis: if the two hash points differ
    (generated `eq(H_s(m), H_{s'}(m')) = False`) the generated `Verify_{s'}(pk, m', Sign_s(sk, m))` returns `False` (it does not
    raise).  Assuming only `ModelBilinearCode`. -/
theorem verify_rejects_other_msg (mc : ModelBilinearCode) (H : HashFn) (s s' : Suite) (sk : ℤ)
    (hsk : 1 ≤ sk ∧ sk < (suites_curve_order : ℤ)) (m m' pk sig : Bytes)
    (hpk : Gen.ExtraBls.SkToPk (.int sk) = .ok pk) (mp mp' : G2Pt)
    (hmp : Gen.ExtraSwu.hash_to_G2 (vmsg s pk m) (Gen.ExtraBls.DST s) H = .ok mp)
    (hmp' : Gen.ExtraSwu.hash_to_G2 (vmsg s' pk m') (Gen.ExtraBls.DST s') H = .ok mp')
    (hsig : Gen.ExtraBls.Sign H s (.int sk) m = .ok sig) (hne : Gen.OptBls.eq mp mp' = false) :
    Gen.ExtraBls.Verify H s' pk m' sig = .returned false := by
  classical
  simp only [Tie.Bls.SkToPk_eq, Tie.hash_to_G2_eq, Tie.Bls.DST_eq, Tie.Bls.Sign_eq, Tie.Bls.Verify_eq] at hpk hmp hmp' hsig ⊢
  exact C02.verify_rejects_other_msg mc.toModelBilinear.toPairingFacts H s s' sk hsk m m' pk sig hpk mp mp' hmp hmp'
    hsig hne

/-- **A signature is not a possession proof**: the generated `Sign_s(sk, m)` presented to the generated `PopVerify(pk, ·)` is
    accepted iff `hash_to_G2(m', DST_s) = hash_to_G2(pk, POP_TAG)` as points (generated `hash_to_G2`, `eq`, class attributes
    `DST`, `POP_TAG`).  Assuming only `ModelBilinearCode`. -/
theorem popVerify_of_sig_iff (mc : ModelBilinearCode) (H : HashFn) (s : Suite) (sk : ℤ)
    (hsk : 1 ≤ sk ∧ sk < (suites_curve_order : ℤ)) (m pk sig : Bytes)
    (hpk : Gen.ExtraBls.SkToPk (.int sk) = .ok pk) (mp mp' : G2Pt)
    (hmp : Gen.ExtraSwu.hash_to_G2 (vmsg s pk m) (Gen.ExtraBls.DST s) H = .ok mp)
    (hmp' : Gen.ExtraSwu.hash_to_G2 pk Gen.ExtraBls.POP_TAG H = .ok mp')
    (hsig : Gen.ExtraBls.Sign H s (.int sk) m = .ok sig) :
    Gen.ExtraBls.PopVerify H pk sig = .returned true ↔ Gen.OptBls.eq mp mp' = true := by
  classical
  simp only [Tie.Bls.SkToPk_eq, Tie.hash_to_G2_eq, Tie.Bls.DST_eq, Tie.Bls.POP_TAG_eq, Tie.Bls.Sign_eq,
    Tie.Bls.PopVerify_eq] at hpk hmp hmp' hsig ⊢
  exact C02.popVerify_of_sig_iff mc.toModelBilinear.toPairingFacts H s sk hsk m pk sig hpk mp mp' hmp hmp' hsig

/-- **A possession proof is not a signature**: the generated `PopProve(sk)` presented to the generated `Verify_s(pk, m, ·)` is
    accepted iff `hash_to_G2(pk, POP_TAG) = hash_to_G2(m', DST_s)` as points.  Assuming only `ModelBilinearCode`. -/
theorem verify_of_proof_iff (mc : ModelBilinearCode) (H : HashFn) (s : Suite) (sk : ℤ)
    (hsk : 1 ≤ sk ∧ sk < (suites_curve_order : ℤ)) (m pk proof : Bytes)
    (hpk : Gen.ExtraBls.SkToPk (.int sk) = .ok pk) (mp mp' : G2Pt)
    (hmp : Gen.ExtraSwu.hash_to_G2 pk Gen.ExtraBls.POP_TAG H = .ok mp)
    (hmp' : Gen.ExtraSwu.hash_to_G2 (vmsg s pk m) (Gen.ExtraBls.DST s) H = .ok mp')
    (hproof : Gen.ExtraBls.PopProve H (.int sk) = .ok proof) :
    Gen.ExtraBls.Verify H s pk m proof = .returned true ↔ Gen.OptBls.eq mp mp' = true := by
  classical
  simp only [Tie.Bls.SkToPk_eq, Tie.hash_to_G2_eq, Tie.Bls.POP_TAG_eq, Tie.Bls.DST_eq, Tie.Bls.PopProve_eq,
    Tie.Bls.Verify_eq] at hpk hmp hmp' hproof ⊢
  exact C02.verify_of_proof_iff mc.toModelBilinear.toPairingFacts H s sk hsk m pk proof hpk mp mp' hmp hmp' hproof

/-- non-vacuity of the key hypotheses and of the identity candidate of `verify_identity_iff`: `sk = 1` is a valid key, the generated
    `SkToPk(1)` returns the compressed generator (kernel evaluation, C09), and the generated `G2_to_signature(Z2)` returns.
    (`ModelBilinearCode` is a closed mathematical statement — its instance would be its proof.) -/
example : (1 ≤ (1 : ℤ) ∧ (1 : ℤ) < (suites_curve_order : ℤ)) ∧
    Gen.ExtraBls.SkToPk (.int 1) = .ok C09.compressedG1 ∧ ∃ cand, Gen.ExtraCodec.G2_to_signature Z2 = .ok cand :=
  ⟨by decide, by rw [Tie.Bls.SkToPk_eq]; exact C09.skToPk_one, by
    obtain ⟨bs, h, _⟩ := C11.signatureToG2_g2ToSignature_roundtrip Z2 (by decide) (by decide)
    exact ⟨bs, by rw [Tie.G2_to_signature_eq]; exact h⟩⟩

end PyEcc.C02.Gen
