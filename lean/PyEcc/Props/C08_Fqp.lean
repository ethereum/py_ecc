/-
  C08 (extension-field part): `FQP` / `FQ2` / `FQ12` arithmetic is the arithmetic of the quotient ring
  `(ZMod p)[X] / (X^d + Σ mcᵢ Xⁱ)`, for ANY field modulus `p > 0` (primality not used), ANY modulus
  coefficients `mc` with `d = mc.length ≥ 1`, both the reference (`.ref`) and the optimized (`.opt`)
  class.  Consequences: the commutative-ring axioms, `**` is the n-fold product, int operands act as
  residues, all results are stored reduced so that coefficient-wise equality is value equality.

  `WF x`    : `x` has exactly `d` coefficients (every object of the Python classes does)
  `Canon x` : `WF x` and all coefficients are in `[0, p)` (every constructor/operation result is)
  `toQ x`   : the class of `Σ xᵢ Xⁱ` in the quotient ring
-/
import PyEcc.Sem.FqpQuot
import PyEcc.Model.Curve

namespace PyEcc.C08P
open PyEcc PyEcc.Fqp PyEcc.FqpSem

variable {v : Variant} {p : ℕ} {mc : List Int}

/-- **Refinement theorem.** For both Python classes (reference `FQP`: `v = .ref`, optimized `FQP`:
`v = .opt`), any `field_modulus = p`, any `modulus_coeffs = mc` of length `d ≥ 1`, and operands having
`d` coefficients, the value map `toQ : Fqp → (ZMod p)[X]/(X^d + Σ mcᵢ Xⁱ)` sends `zero/one/int scalars`
to `0/1/k`, and `+ - neg * (·*int) **` to the ring operations of the quotient.  In particular the
schoolbook double loop followed by either reduction loop computes the product modulo the modulus. -/
theorem refines_quotient (hd : 1 ≤ mc.length) :
    toQ (0 : Fqp v p mc) = 0 ∧ toQ (1 : Fqp v p mc) = 1 ∧
    (∀ k : Int, toQ (ofIntScalar k : Fqp v p mc) = (k : AdjoinRoot (modulus p mc))) ∧
    (∀ a b : Fqp v p mc, WF a → WF b → toQ (a + b) = toQ a + toQ b) ∧
    (∀ a b : Fqp v p mc, WF a → WF b → toQ (a - b) = toQ a - toQ b) ∧
    (∀ a : Fqp v p mc, toQ (-a) = -toQ a) ∧
    (∀ a b : Fqp v p mc, WF a → WF b → toQ (a * b) = toQ a * toQ b) ∧
    (∀ (a : Fqp v p mc) (k : Int), toQ (mulInt a k) = toQ a * (k : AdjoinRoot (modulus p mc))) ∧
    (∀ (a : Fqp v p mc) (n : Nat), WF a → toQ (a ^ n) = toQ a ^ n) :=
  ⟨toQ_zero, toQ_one, toQ_ofIntScalar, fun _ _ => toQ_add, fun _ _ => toQ_sub, toQ_neg,
   fun _ _ => toQ_mul, toQ_mulInt, fun _ n ha => toQ_pow hd ha n⟩

/-- **Results are stored reduced.** Every constructor and operation returns an element with exactly `d`
coefficients, each in `[0, p)`. -/
theorem results_canonical (hp : 0 < p) (hd : 1 ≤ mc.length) :
    Canon (0 : Fqp v p mc) ∧ Canon (1 : Fqp v p mc) ∧
    (∀ k : Int, Canon (ofIntScalar k : Fqp v p mc)) ∧
    (∀ cs : List Int, cs.length = mc.length → Canon (ofInts cs : Fqp v p mc)) ∧
    (∀ a b : Fqp v p mc, WF a → WF b → Canon (a + b)) ∧
    (∀ a b : Fqp v p mc, WF a → WF b → Canon (a - b)) ∧
    (∀ a : Fqp v p mc, WF a → Canon (-a)) ∧
    (∀ a b : Fqp v p mc, WF a → WF b → Canon (a * b)) ∧
    (∀ (a : Fqp v p mc) (k : Int), WF a → Canon (mulInt a k)) ∧
    (∀ (a : Fqp v p mc) (n : Nat), WF a → Canon (a ^ n)) :=
  ⟨canon_zero hp, canon_one hp hd, canon_ofIntScalar hp hd, fun _ h => canon_ofInts hp h,
   fun _ _ => canon_add hp, fun _ _ => canon_sub hp, fun _ => canon_neg hp,
   fun a b _ _ => mul_canon hp a b, fun _ k ha => canon_mulInt hp ha k,
   fun a n _ => pow_canon hp hd a n⟩

/-- **Equality is value equality.** Two reduced elements are equal (as coefficient lists, which is what
`__eq__` compares) iff they denote the same element of the quotient ring. -/
theorem eq_iff_toQ_eq {a b : Fqp v p mc} (ha : Canon a) (hb : Canon b) : a = b ↔ toQ a = toQ b :=
  ⟨fun h => h ▸ rfl, toQ_inj ha hb⟩

/-- Python `__eq__` (the `zip` comparison) on well-formed elements decides equality of the elements. -/
theorem beq_iff {a b : Fqp v p mc} (ha : WF a) (hb : WF b) : beq a b = true ↔ a = b := by
  cases a with | mk a => cases b with | mk b =>
  simp only [beq, Fqp.mk.injEq]
  have hl : a.length = b.length := ha.trans hb.symm
  clear ha hb
  induction a generalizing b with
  | nil => cases b with
    | nil => simp
    | cons y ys => simp at hl
  | cons x xs ih =>
    cases b with
    | nil => simp at hl
    | cons y ys =>
      simp only [List.zip_cons_cons, List.all_cons, Bool.and_eq_true, beq_iff_eq,
        ih ys (Nat.succ_injective hl), List.cons.injEq]

/-! ### Commutative-ring axioms (operands only need `d` coefficients; neutral-element laws need a
reduced operand because the result is always reduced) -/

/-- `(a + b) + c = a + (b + c)` -/
theorem add_assoc (hp : 0 < p) {a b c : Fqp v p mc} (ha : WF a) (hb : WF b) (hc : WF c) :
    a + b + c = a + (b + c) := by
  apply toQ_inj (canon_add hp (wf_add ha hb) hc) (canon_add hp ha (wf_add hb hc))
  rw [toQ_add (wf_add ha hb) hc, toQ_add ha hb, toQ_add ha (wf_add hb hc), toQ_add hb hc,
    _root_.add_assoc]

/-- `a + b = b + a` -/
theorem add_comm (hp : 0 < p) {a b : Fqp v p mc} (ha : WF a) (hb : WF b) : a + b = b + a := by
  apply toQ_inj (canon_add hp ha hb) (canon_add hp hb ha)
  rw [toQ_add ha hb, toQ_add hb ha, _root_.add_comm]

/-- `a + 0 = a` for reduced `a` -/
theorem add_zero (hp : 0 < p) {a : Fqp v p mc} (ha : Canon a) : a + 0 = a := by
  apply toQ_inj (canon_add hp ha.wf wf_zero) ha
  rw [toQ_add ha.wf wf_zero, toQ_zero, _root_.add_zero]

/-- `0 + a = a` for reduced `a` -/
theorem zero_add (hp : 0 < p) {a : Fqp v p mc} (ha : Canon a) : 0 + a = a := by
  apply toQ_inj (canon_add hp wf_zero ha.wf) ha
  rw [toQ_add wf_zero ha.wf, toQ_zero, _root_.zero_add]

/-- `a + (-a) = 0` -/
theorem add_neg_cancel (hp : 0 < p) {a : Fqp v p mc} (ha : WF a) : a + -a = 0 := by
  apply toQ_inj (canon_add hp ha (wf_neg ha)) (canon_zero hp)
  rw [toQ_add ha (wf_neg ha), toQ_neg, toQ_zero, _root_.add_neg_cancel]

/-- `a - b = a + (-b)` -/
theorem sub_eq_add_neg (hp : 0 < p) {a b : Fqp v p mc} (ha : WF a) (hb : WF b) :
    a - b = a + -b := by
  apply toQ_inj (canon_sub hp ha hb) (canon_add hp ha (wf_neg hb))
  rw [toQ_sub ha hb, toQ_add ha (wf_neg hb), toQ_neg, _root_.sub_eq_add_neg]

/-- `(a * b) * c = a * (b * c)` -/
theorem mul_assoc (hp : 0 < p) {a b c : Fqp v p mc} (ha : WF a) (hb : WF b) (hc : WF c) :
    a * b * c = a * (b * c) := by
  apply toQ_inj (mul_canon hp (mul a b) c) (mul_canon hp a (mul b c))
  rw [toQ_mul (mul_wf a b) hc, toQ_mul ha hb, toQ_mul ha (mul_wf b c), toQ_mul hb hc,
    _root_.mul_assoc]

/-- `a * b = b * a` -/
theorem mul_comm (hp : 0 < p) {a b : Fqp v p mc} (ha : WF a) (hb : WF b) : a * b = b * a := by
  apply toQ_inj (mul_canon hp a b) (mul_canon hp b a)
  rw [toQ_mul ha hb, toQ_mul hb ha, _root_.mul_comm]

/-- `a * 1 = a` for reduced `a` -/
theorem mul_one (hp : 0 < p) (hd : 1 ≤ mc.length) {a : Fqp v p mc} (ha : Canon a) : a * 1 = a := by
  apply toQ_inj (mul_canon hp a one) ha
  rw [toQ_mul ha.wf (wf_one hd), toQ_one, _root_.mul_one]

/-- `1 * a = a` for reduced `a` -/
theorem one_mul (hp : 0 < p) (hd : 1 ≤ mc.length) {a : Fqp v p mc} (ha : Canon a) : 1 * a = a := by
  apply toQ_inj (mul_canon hp one a) ha
  rw [toQ_mul (wf_one hd) ha.wf, toQ_one, _root_.one_mul]

/-- `a * 0 = 0` -/
theorem mul_zero (hp : 0 < p) {a : Fqp v p mc} (ha : WF a) : a * 0 = 0 := by
  apply toQ_inj (mul_canon hp a zero) (canon_zero hp)
  rw [toQ_mul ha wf_zero, toQ_zero, MulZeroClass.mul_zero]

/-- `a * (b + c) = a * b + a * c` -/
theorem left_distrib (hp : 0 < p) {a b c : Fqp v p mc} (ha : WF a) (hb : WF b) (hc : WF c) :
    a * (b + c) = a * b + a * c := by
  apply toQ_inj (mul_canon hp a (add b c)) (canon_add hp (mul_wf a b) (mul_wf a c))
  rw [toQ_mul ha (wf_add hb hc), toQ_add hb hc, toQ_add (mul_wf a b) (mul_wf a c),
    toQ_mul ha hb, toQ_mul ha hc, _root_.mul_add]

/-- `(a + b) * c = a * c + b * c` -/
theorem right_distrib (hp : 0 < p) {a b c : Fqp v p mc} (ha : WF a) (hb : WF b) (hc : WF c) :
    (a + b) * c = a * c + b * c := by
  apply toQ_inj (mul_canon hp (add a b) c) (canon_add hp (mul_wf a c) (mul_wf b c))
  rw [toQ_mul (wf_add ha hb) hc, toQ_add ha hb, toQ_add (mul_wf a c) (mul_wf b c),
    toQ_mul ha hc, toQ_mul hb hc, _root_.add_mul]

/-! ### `**` is the n-fold product -/

/-- `a ** 0 = 1` (by computation, for every `a`) -/
theorem pow_zero (a : Fqp v p mc) : a ^ 0 = 1 := rfl

/-- `a ** (n+1) = (a ** n) * a`: the square-and-multiply loop computes the n-fold product. -/
theorem pow_succ (hp : 0 < p) (hd : 1 ≤ mc.length) {a : Fqp v p mc} (ha : WF a) (n : Nat) :
    a ^ (n + 1) = a ^ n * a := by
  apply toQ_inj (pow_canon hp hd a (n + 1)) (mul_canon hp (Fqp.pow a n) a)
  rw [toQ_pow hd ha, toQ_mul (pow_wf hd a n) ha, toQ_pow hd ha, _root_.pow_succ]

/-- `a ** (m+n) = (a ** m) * (a ** n)` -/
theorem pow_add (hp : 0 < p) (hd : 1 ≤ mc.length) {a : Fqp v p mc} (ha : WF a) (m n : Nat) :
    a ^ (m + n) = a ^ m * a ^ n := by
  apply toQ_inj (pow_canon hp hd a (m + n)) (mul_canon hp (Fqp.pow a m) (Fqp.pow a n))
  rw [toQ_pow hd ha, toQ_mul (pow_wf hd a m) (pow_wf hd a n), toQ_pow hd ha, toQ_pow hd ha,
    _root_.pow_add]

/-! ### int operands act as residues -/

/-- `a * k` for a Python int `k` (also the reflected `k * a`) equals `a * FQP([k,0,…,0])`. -/
theorem mulInt_eq_mul_ofIntScalar (hp : 0 < p) (hd : 1 ≤ mc.length) {a : Fqp v p mc} (ha : WF a)
    (k : Int) : mulInt a k = a * ofIntScalar k := by
  apply toQ_inj (canon_mulInt hp ha k) (mul_canon hp a (ofIntScalar k))
  rw [toQ_mulInt, toQ_mul ha (wf_ofIntScalar hd k), toQ_ofIntScalar]

/-- an int operand only matters modulo `p` (negative and `> p` ints included) -/
theorem mulInt_mod (hp : 0 < p) {a : Fqp v p mc} (ha : WF a) (k : Int) :
    mulInt a (k % (p : Int)) = mulInt a k := by
  apply toQ_inj (canon_mulInt hp ha _) (canon_mulInt hp ha k)
  rw [toQ_mulInt, toQ_mulInt]
  congr 1
  rw [← map_intCast (AdjoinRoot.of (modulus p mc)) (k % (p : Int)),
    ← map_intCast (AdjoinRoot.of (modulus p mc)) k, ZMod.intCast_mod]

/-- the scalar embedding only depends on the residue of the int -/
theorem ofIntScalar_mod (k : Int) :
    (ofIntScalar (k % (p : Int)) : Fqp v p mc) = ofIntScalar k := by
  simp [ofIntScalar, ofInts]

/-- `a / k` for a Python int `k` is multiplication by `prime_field_inv(k, p)` (definitional in both
classes) -/
theorem divInt_eq_mulInt (a : Fqp v p mc) (k : Int) : divInt a k = mulInt a (primeFieldInv k p) := rfl

/-! ### non-vacuity: a small instance and the real BLS12-381 FQ12 parameters -/

example : (0 : ℕ) < 7 ∧ 1 ≤ ([1, 0] : List Int).length := by decide
example : Canon (⟨[3, 5]⟩ : Fqp .ref 7 [1, 0]) ∧ Canon (⟨[6, 0]⟩ : Fqp .opt 7 [1, 0]) := by decide
example : WF (⟨[-3, 12]⟩ : Fqp .opt 7 [1, 0]) := by decide
/-- (3 + 5i)(2 + 6i) = 6 - 30 + (18 + 10) i = -24 + 28 i = 4 + 0 i  (mod 7) -/
example : ((⟨[3, 5]⟩ : Fqp .ref 7 [1, 0]) * ⟨[2, 6]⟩).coeffs = [4, 0] := by decide
example : ((⟨[3, 5]⟩ : Fqp .opt 7 [1, 0]) * ⟨[2, 6]⟩).coeffs = [4, 0] := by decide
example : 0 < blsP ∧ 1 ≤ blsMc12.length ∧ blsMc12.length = 12 := by decide
example : WF (1 : Fqp .opt blsP blsMc12) ∧ WF (1 : Fqp .ref blsP blsMc12) := by decide

end PyEcc.C08P
