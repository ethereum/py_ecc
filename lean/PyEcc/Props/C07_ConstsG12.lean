/-
  PyEcc.Props.C07_ConstsG12 — property C07, constant level, the degree-12 constants: `G12` of each curve module is
  `twist(G2)` as the model computes it.  Closed-term evaluation like `Props/C07_Consts.lean`, apart from it because
  these three evaluations run the model's list-based `FQ12` arithmetic (divisions by `w²`, `w³`) and only the laws on
  `E(Fp¹²)` (`Props/C07_Model12.lean`) use them.  Core Lean only.
-/
import PyEcc.Model.Curve

namespace PyEcc.C07.Consts
open PyEcc.Gen.Consts

/-- `G12` of the reference BLS12-381 module is `twist(G2)` as computed by the model's `twistRefBls`
    (this evaluates two FQ12 divisions by `w²`, `w³` in the kernel). -/
theorem bls_G12_ref :
    twistRefBls (p := blsP) (mc2 := blsMc2) (mc12 := blsMc12)
        (some (⟨bls12_381_G2.getD 0 []⟩, ⟨bls12_381_G2.getD 1 []⟩))
      = some (⟨bls12_381_G12.getD 0 []⟩, ⟨bls12_381_G12.getD 1 []⟩) ∧
    bls12_381_G12.length = 2 := by decide +kernel

/-- `G12` of the optimized BLS12-381 module is `twist(G2)` as computed by the model's `twistOptBls`. -/
theorem bls_G12_opt :
    twistOptBls (p := blsP) (mc2 := blsMc2) (mc12 := blsMc12) blsG2
      = (⟨optimized_bls12_381_G12.getD 0 []⟩, ⟨optimized_bls12_381_G12.getD 1 []⟩,
         ⟨optimized_bls12_381_G12.getD 2 []⟩) ∧
    optimized_bls12_381_G12.length = 3 := by decide +kernel

/-- `G12` of both alt_bn128 modules is `twist(G2)` as computed by the model's `twistRefBn` /
    `twistOptBn`. -/
theorem bn_G12 :
    twistRefBn (p := bnP) (mc2 := bnMc2) (mc12 := bnMc12)
        (some (⟨bn128_G2.getD 0 []⟩, ⟨bn128_G2.getD 1 []⟩))
      = some (⟨bn128_G12.getD 0 []⟩, ⟨bn128_G12.getD 1 []⟩) ∧
    bn128_G12.length = 2 ∧
    twistOptBn (p := bnP) (mc2 := bnMc2) (mc12 := bnMc12)
        (⟨optimized_bn128_G2.getD 0 []⟩, ⟨optimized_bn128_G2.getD 1 []⟩, ⟨optimized_bn128_G2.getD 2 []⟩)
      = (⟨optimized_bn128_G12.getD 0 []⟩, ⟨optimized_bn128_G12.getD 1 []⟩, ⟨optimized_bn128_G12.getD 2 []⟩) ∧
    optimized_bn128_G12.length = 3 := by decide +kernel

end PyEcc.C07.Consts
