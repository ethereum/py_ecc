/-
  PyEcc.Props.C04 — verification is total and rejects malformed / unsafe input
  (py_ecc/bls/ciphersuites.py: KeyValidate, Verify, AggregateVerify, FastAggregateVerify, PopVerify).

  Every theorem is about the model functions of `PyEcc/Model/Bls.lean` exactly as defined, for ALL
  byte strings of ANY length, all three suites, and an arbitrary hash function `H`.

  The one exception kind that the `try/except (ValidationError, ValueError, AssertionError)` blocks do
  NOT catch and that the code underneath can syntactically raise is the bare
  `Exception("Hash to Curve - Optimized SWU failure")` of `optimized_swu_G2`.  Excluding it is a
  number-theoretic fact about `optimized_swu_G2`, proved with Mathlib as `C10G2.swuTotal` (`Props/C10_G2.lean`), above
  this core-Lean file.  Here the `…_total_or_swu` theorems are hypothesis-free and say precisely that this is the
  only thing that can escape (`verify_total` has it as the explicit hypothesis `SwuTotal`: `optimized_swu_G2` returns on
  every `a + b·i`, `0 ≤ a, b < p`); `Props/C04_Total.lean` puts the two together for the four APIs.
-/
import PyEcc.Lemmas.BlsSem

namespace PyEcc.C04
open PyEcc PyEcc.BlsSem Gen.Consts

/-! ## 1. Exception kinds of the primitives -/

/-- **Exception kinds of every primitive under the verification APIs.**
    `decompress_G1`/`pubkey_to_G1`, `decompress_G2`/`signature_to_G2` and `pairing` raise nothing but
    `ValueError`; `hash_to_G2` raises nothing but `ValueError` or (only if `optimized_swu_G2` fails on some
    field element) the bare `Exception`; `G1_to_pubkey` never raises (`compress_G1(pt) < 2^384`, so
    `to_bytes(48)` cannot overflow) and yields 48 bytes. -/
theorem primitive_error_kinds (H : HashFn) :
    (∀ z e, decompressG1 z = .error e → e = .value) ∧
    (∀ pk e, pubkeyToG1 pk = .error e → e = .value) ∧
    (∀ z1 z2 e, decompressG2 z1 z2 = .error e → e = .value) ∧
    (∀ sig e, signatureToG2 sig = .error e → e = .value) ∧
    (∀ Q P fe e, pairingOptBls Q P fe = .error e → e = .value) ∧
    (∀ msg dst e, hashToG2 H msg dst = .error e → e = .value ∨ (e = .other ∧ SwuFails)) ∧
    (∀ pt, ∃ b, g1ToPubkey pt = .ok b ∧ b.length = 48) :=
  ⟨fun _ _ h => CodecSem.decompressG1_error_kind h, fun _ _ h => pubkeyToG1_error h,
   fun _ _ _ h => CodecSem.decompressG2_error_kind h, fun _ _ h => signatureToG2_error h,
   fun _ _ _ _ h => pairingOptBls_error h, fun _ _ _ h => hashToG2_error h,
   fun pt => ⟨_, g1ToPubkey_ok pt, BytesLem.toBytesBE_length _ _⟩⟩

-- SHA-256 meets the digest-size condition of `hashToG2_returns` (`Props/C04_Total.lean`)
example : 2 ≤ sha256Fn.digestSize := by decide

/-- **The signature-side `pairing` calls cannot raise.**  For every byte string that `signature_to_G2`
    decodes to `S`, `pairing(S, G1)` (in `_CoreVerify`) and `pairing(S, −G1)` (in `_CoreAggregateVerify`)
    return: `decompress_G2` only returns points it has checked with `is_on_curve` (or `Z2`), and `±G1` are on
    the curve.  (The key-side calls `pairing(hash_to_G2(m), ∓P)` additionally need "`hash_to_G2` lands on the
    twist" — `C10Iso.hash_to_G2_on_curve` — and C11's "decoded keys are on the curve"; here their only possible
    exception, `ValueError`, is shown to be caught.) -/
theorem pairing_sig_cannot_raise (sig : Bytes) (S : G2Pt) (h : signatureToG2 sig = .ok S) :
    (∃ e, pairingOptBls S blsG1 false = .ok e) ∧
    (∃ e, pairingOptBls S (Gen.OptBls.neg blsG1) false = .ok e) :=
  pairing_sig_ok h

/-! ## 2. Totality -/

/-- `KeyValidate` is a `Bool`-valued function in the model: its only callee that can raise,
    `pubkey_to_G1`, raises nothing but `ValueError` (`primitive_error_kinds`), which the
    `except (ValidationError, ValueError, AssertionError)` turns into `False`.  Totality is therefore
    immediate; the content is the exact accept set: `KeyValidate(pk)` is `True` iff `pk` has exactly 48
    bytes, decodes, is not the identity and passes the subgroup check. -/
theorem keyValidate_total (pk : Bytes) :
    (∃ b, keyValidate pk = b) ∧
    (keyValidate pk = true ↔ pk.length = 48 ∧ ∃ P, pubkeyToG1 pk = .ok P ∧
      Gen.OptBls.is_inf P = false ∧ subgroupCheck P = true) :=
  ⟨⟨_, rfl⟩, keyValidate_true_iff pk⟩

/-- the shape of every totality statement: a bool is returned, or the un-caught SWU `Exception` escapes -/
def ReturnsOrSwu (o : Outcome) : Prop := (∃ b, o = .returned b) ∨ (o = .raised .other ∧ SwuFails)

theorem ReturnsOrSwu.total {o : Outcome} (h : ReturnsOrSwu o) (hs : SwuTotal) : ∃ b, o = .returned b := by
  rcases h with h | ⟨_, hf⟩
  · exact h
  · exact (not_swuFails_iff.mpr hs hf).elim

theorem ReturnsOrSwu.raised {o : Outcome} {e : PyErr} (h : ReturnsOrSwu o) (he : o = .raised e) :
    e = .other ∧ SwuFails := by
  rcases h with ⟨b, hb⟩ | ⟨ho, hf⟩
  · rw [hb] at he; cases he
  · rw [ho] at he; cases he; exact ⟨rfl, hf⟩

/-- **`Verify` is total up to SWU (hypothesis-free).**  For every suite, hash function and byte strings
    `pk`, `msg`, `sig` of any length, `Verify(pk, msg, sig)` returns a bool — or the bare
    `Exception("… SWU failure")` escapes, which requires `optimized_swu_G2` to fail on some field element.
    No `ValueError`, `ValidationError`, `OverflowError`, `TypeError` or `AssertionError` can escape. -/
theorem verify_total_or_swu (H : HashFn) (s : Suite) (pk msg sig : Bytes) :
    ReturnsOrSwu (verify H s pk msg sig) := by
  rw [verify_eq]; exact coreVerify_cases ..

/-- **`Verify` is total**, given that `optimized_swu_G2` never takes its "unreachable" raise.
    (`SwuTotal` is a closed statement about `optimized_swu_G2`, proved as `C10G2.swuTotal`; `Props/C04_Total.lean` puts
    the two together.) -/
theorem verify_total (H : HashFn) (hswu : SwuTotal) (s : Suite) (pk msg sig : Bytes) :
    ∃ b, verify H s pk msg sig = .returned b :=
  (verify_total_or_swu H s pk msg sig).total hswu

/-- **`PopVerify` is total up to SWU (hypothesis-free).** -/
theorem popVerify_total_or_swu (H : HashFn) (pk proof : Bytes) :
    ReturnsOrSwu (popVerify H pk proof) :=
  coreVerify_cases ..

/-- **`AggregateVerify` is total up to SWU (hypothesis-free)**, for all three suites, key and message
    lists of any (also different) lengths with entries of any length. -/
theorem aggregateVerify_total_or_swu (H : HashFn) (s : Suite) (pks msgs : List Bytes) (sig : Bytes) :
    ReturnsOrSwu (aggregateVerify H s pks msgs sig) := by
  rw [BlsProto.aggregateVerify_eq]
  split
  · exact .inl ⟨false, rfl⟩
  · exact coreAggregateVerify_cases ..

/-- the `try` block of `FastAggregateVerify` (input validation, precondition, `_AggregatePKs`) -/
def fastPre (pks : List Bytes) (sig : Bytes) : Except PyErr Bytes := do
  if !(pks.all (isValidPubkey .pop)) then throw .validation
  if sig.length ≠ 96 then throw .validation
  if pks.length < 1 then throw .validation
  aggregatePKs pks

theorem fastAggregateVerify_eq (H : HashFn) (pks : List Bytes) (msg sig : Bytes) :
    fastAggregateVerify H pks msg sig =
      match fastPre pks sig with
      | .error e => if caught2 e then .returned false else .raised e
      | .ok apk => verify H .pop apk msg sig := rfl

/-- **The `try` block of `FastAggregateVerify` cannot leak an exception.**  Its `except` lists only
    `(ValidationError, AssertionError)`, while `_AggregatePKs` calls `pubkey_to_G1` (can raise `ValueError`)
    and `G1_to_pubkey` (`int.to_bytes`, can raise `OverflowError`).  Neither can happen: the block either
    raises `ValidationError` — exactly when some key fails the POP suite's `_is_valid_pubkey` (48 bytes and
    `KeyValidate`), the signature is not 96 bytes, or the list is empty — or returns a 48-byte aggregate key,
    because every key has already passed `KeyValidate` (so it decodes) and `compress_G1 < 2^384`. -/
theorem fastPre_cases (pks : List Bytes) (sig : Bytes) :
    (¬ ((∀ pk ∈ pks, pk.length = 48 ∧ keyValidate pk = true) ∧ sig.length = 96 ∧ 1 ≤ pks.length) ∧
        fastPre pks sig = .error .validation) ∨
    ((∀ pk ∈ pks, pk.length = 48 ∧ keyValidate pk = true) ∧ sig.length = 96 ∧ 1 ≤ pks.length ∧
        ∃ apk, fastPre pks sig = .ok apk ∧ aggregatePKs pks = .ok apk ∧ apk.length = 48) := by
  have hiff : pks.all (isValidPubkey .pop) = true ↔ ∀ pk ∈ pks, pk.length = 48 ∧ keyValidate pk = true := by
    simp only [List.all_eq_true, isValidPubkey_pop_iff]
  generalize hr : fastPre pks sig = r
  unfold fastPre at hr
  simp only [throw, throwThe, MonadExceptOf.throw, error_bind] at hr
  rcases guard_cases hr with ⟨h1, hr⟩ | ⟨h1, hr⟩
  · exact .inl ⟨fun h => by simp [hiff.mpr h.1] at h1, hr⟩
  have hall := hiff.mp (by simpa using h1)
  rcases guard_cases hr with ⟨h2, hr⟩ | ⟨h2, hr⟩
  · exact .inl ⟨fun h => h2 h.2.1, hr⟩
  rcases guard_cases hr with ⟨h3, hr⟩ | ⟨h3, hr⟩
  · exact .inl ⟨fun h => by omega, hr⟩
  obtain ⟨apk, hapk, hlen⟩ := aggregatePKs_ok pks (by omega) (fun pk hpk => (hall pk hpk).2)
  exact .inr ⟨hall, by simpa using h2, by omega, apk, hr ▸ hapk, hapk, hlen⟩

/-- **`FastAggregateVerify` is total up to SWU (hypothesis-free).**  In particular the narrower
    `except (ValidationError, AssertionError)` of its first block lets nothing through. -/
theorem fastAggregateVerify_total_or_swu (H : HashFn) (pks : List Bytes) (msg sig : Bytes) :
    ReturnsOrSwu (fastAggregateVerify H pks msg sig) := by
  rw [fastAggregateVerify_eq]
  rcases fastPre_cases pks sig with ⟨_, hp⟩ | ⟨_, _, _, apk, hp, _, _⟩
  · rw [hp]; exact .inl ⟨false, rfl⟩
  · rw [hp]; exact verify_total_or_swu ..

/-! ## 3. Non-canonical input is rejected

  Non-vacuity.  The hypotheses `… = .returned true` below are satisfiable (C01 proves that honest
  signatures verify; the correspondence harness runs such cases), but a kernel-checked instance here would
  mean evaluating `hash_to_G2`, two Miller loops and a final exponentiation inside the kernel, so none is
  included.  Instead: (i) the theorems for `Verify`, `PopVerify` and `FastAggregateVerify` are paired with
  their hypothesis-free contrapositives `…_malformed_returns_false`, the first and the last with a concrete
  instance; (ii) `genPk_canon` / `infSig_canon` (`Props/C04_Canon.lean`) exhibit a canonical key and a
  canonical signature, so the conclusions are satisfiable. -/

/-- **`Verify` returns `True` only on canonical key and signature.**  If `Verify(pk, msg, sig)` is `True`
    then `pk` has exactly 48 bytes and decodes to a point `P` that is not the identity and passes the
    subgroup check, and `sig` has exactly 96 bytes and decodes to a point `S` that passes the subgroup
    check.  (All suites, any hash function, byte strings of any length.) -/
theorem verify_rejects_noncanonical (H : HashFn) (s : Suite) (pk msg sig : Bytes)
    (h : verify H s pk msg sig = .returned true) :
    pk.length = 48 ∧ sig.length = 96 ∧ ∃ P S, pubkeyToG1 pk = .ok P ∧ Gen.OptBls.is_inf P = false ∧
      subgroupCheck P = true ∧ signatureToG2 sig = .ok S ∧ subgroupCheck S = true := by
  rw [verify_eq] at h
  obtain ⟨P, S, _, _, _, hP, hS, _⟩ := coreVerify_true_iff.mp h
  exact ⟨hP.1, hS.1, P, S, hP.2.1, hP.2.2.1, hP.2.2.2, hS.2.1, hS.2.2⟩

/-- the compressed generator of G1 (the public key of secret key 1) -/
def genPk : Bytes :=
  hexBytes "97f1d3a73197d7942695638c4fa9ac0fc3688c4f9774b905a14e3a3f171bac586c55e83ff97a1aeffb3af00adb22c6bb"

/-- the 96-byte encoding of the point at infinity of G2 -/
def infSig : Bytes := 0xc0 :: List.replicate 95 0

/-- **Malformed input makes `Verify` return `False` — unconditionally.**  Unless `pk` is a canonical key
    and `sig` a canonical signature (as in `verify_rejects_noncanonical`), `Verify` returns `False` (it does
    not raise, and it does so before any hashing or pairing; no hypothesis on SWU is needed). -/
theorem verify_malformed_returns_false (H : HashFn) (s : Suite) (pk msg sig : Bytes)
    (h : ¬ ∃ P S, CanonPk pk P ∧ CanonSig sig S) : verify H s pk msg sig = .returned false := by
  rw [verify_eq]; exact coreVerify_malformed h

/-- non-vacuity: the empty key is malformed -/
example (H : HashFn) (s : Suite) (msg sig : Bytes) : verify H s [] msg sig = .returned false :=
  verify_malformed_returns_false H s [] msg sig (by rintro ⟨P, S, ⟨hl, _⟩, _⟩; cases hl)

/-- **Exact accept set of `Verify`.**  `Verify(pk, msg, sig)` is `True` iff key and signature are canonical,
    `hash_to_G2` of the (suite-augmented) message returns, both `pairing` calls return, and the final
    exponentiation of the product is one. -/
theorem verify_true_iff (H : HashFn) (s : Suite) (pk msg sig : Bytes) :
    verify H s pk msg sig = .returned true ↔
      ∃ P S mp e1 e2, CanonPk pk P ∧ CanonSig sig S ∧ hashToG2 H (vmsg s pk msg) s.dst = .ok mp ∧
        pairingOptBls S blsG1 false = .ok e1 ∧
        pairingOptBls mp (Gen.OptBls.neg P) false = .ok e2 ∧
        finalExponentiateOptBls (e1 * e2) = (1 : OBls12) := by
  rw [verify_eq]; exact coreVerify_true_iff

/-- **`PopVerify` returns `True` only on canonical key and proof** (as `verify_rejects_noncanonical`). -/
theorem popVerify_rejects_noncanonical (H : HashFn) (pk proof : Bytes)
    (h : popVerify H pk proof = .returned true) :
    pk.length = 48 ∧ proof.length = 96 ∧ ∃ P S, pubkeyToG1 pk = .ok P ∧
      Gen.OptBls.is_inf P = false ∧ subgroupCheck P = true ∧ signatureToG2 proof = .ok S ∧
      subgroupCheck S = true := by
  obtain ⟨P, S, _, _, _, hP, hS, _⟩ := coreVerify_true_iff.mp h
  exact ⟨hP.1, hS.1, P, S, hP.2.1, hP.2.2.1, hP.2.2.2, hS.2.1, hS.2.2⟩

/-- **Malformed input makes `PopVerify` return `False` — unconditionally.** -/
theorem popVerify_malformed_returns_false (H : HashFn) (pk proof : Bytes)
    (h : ¬ ∃ P S, CanonPk pk P ∧ CanonSig proof S) : popVerify H pk proof = .returned false :=
  coreVerify_malformed h

/-- what `_CoreAggregateVerify` returning `True` implies -/
theorem coreAggregateVerify_rejects_noncanonical {H : HashFn} {s : Suite} {pks msgs : List Bytes}
    {sig dst : Bytes} (h : coreAggregateVerify H s pks msgs sig dst = .returned true) :
    1 ≤ pks.length ∧ pks.length = msgs.length ∧
    (∀ pk ∈ pks, ∃ P, CanonPk pk P) ∧ ∃ S, CanonSig sig S := by
  obtain ⟨S, _, ext, _, ⟨_, hlen, hne, hS⟩, hr, _⟩ := coreAggregateVerify_true_iff.mp h
  refine ⟨hne, hlen, fun pk hpk => ?_, S, hS⟩
  obtain ⟨m, hm⟩ := mem_zip_left pks msgs hlen pk hpk
  obtain ⟨_, _, hkv, _, _⟩ := (aggLoop_allArgs hr).mem_left _ hm
  exact (keyValidate_iff_canon pk).mp hkv

/-- **`AggregateVerify` returns `True` only on canonical keys and signature.**  If
    `AggregateVerify(PKs, messages, sig)` is `True` then there is at least one key, as many messages as
    keys, EVERY key in the list is canonical (48 bytes, decodes, not the identity, in the subgroup), the
    signature is canonical (96 bytes, decodes, in the subgroup), and in the basic suite the messages are
    pairwise distinct (`hasDup messages = false`). -/
theorem aggregateVerify_rejects_noncanonical (H : HashFn) (s : Suite) (pks msgs : List Bytes)
    (sig : Bytes) (h : aggregateVerify H s pks msgs sig = .returned true) :
    1 ≤ pks.length ∧ pks.length = msgs.length ∧ sig.length = 96 ∧
    (∀ pk ∈ pks, pk.length = 48 ∧ ∃ P, pubkeyToG1 pk = .ok P ∧ Gen.OptBls.is_inf P = false ∧
      subgroupCheck P = true) ∧
    (∃ S, signatureToG2 sig = .ok S ∧ subgroupCheck S = true) ∧
    (s = .basic → hasDup msgs = false) := by
  rw [BlsProto.aggregateVerify_eq] at h
  split at h
  · cases h
  next hpre =>
  obtain ⟨hne, hlen, hpk, S, hS⟩ := coreAggregateVerify_rejects_noncanonical h
  refine ⟨hne, ?_, hS.1, fun pk hp => ?_, ⟨S, hS.2⟩, fun hs => ?_⟩
  · cases s
    · exact hlen
    · exact Decidable.not_not.mp fun hl => hpre (.inr ⟨rfl, hl⟩)
    · exact hlen
  · obtain ⟨P, hP⟩ := hpk pk hp
    exact ⟨hP.1, P, hP.2⟩
  · exact Bool.eq_false_iff.mpr fun hd => hpre (.inl ⟨hs, hd⟩)

/-- **`FastAggregateVerify` returns `True` only on canonical keys and signature.**  If
    `FastAggregateVerify(PKs, msg, sig)` is `True` then the list is non-empty, EVERY key in it is canonical,
    `_AggregatePKs` returned a key `apk` and `Verify(apk, msg, sig)` (POP suite) is `True` — so the aggregate
    key itself is canonical too, in particular it is NOT the identity — and the signature is canonical. -/
theorem fastAggregateVerify_rejects_noncanonical (H : HashFn) (pks : List Bytes) (msg sig : Bytes)
    (h : fastAggregateVerify H pks msg sig = .returned true) :
    1 ≤ pks.length ∧ sig.length = 96 ∧
    (∀ pk ∈ pks, pk.length = 48 ∧ ∃ P, pubkeyToG1 pk = .ok P ∧ Gen.OptBls.is_inf P = false ∧
      subgroupCheck P = true) ∧
    ∃ apk, aggregatePKs pks = .ok apk ∧ verify H .pop apk msg sig = .returned true ∧
      ∃ A S, pubkeyToG1 apk = .ok A ∧ Gen.OptBls.is_inf A = false ∧ subgroupCheck A = true ∧
        signatureToG2 sig = .ok S ∧ subgroupCheck S = true := by
  rw [fastAggregateVerify_eq] at h
  rcases fastPre_cases pks sig with ⟨_, hp⟩ | ⟨hall, hsl, hne, apk, hp, hagg, _⟩
  · rw [hp] at h; cases h
  · rw [hp] at h
    simp only at h
    obtain ⟨_, _, A, S, hA⟩ := verify_rejects_noncanonical H .pop apk msg sig h
    refine ⟨hne, hsl, ?_, apk, hagg, h, A, S, hA⟩
    intro pk hpk
    obtain ⟨hl, hk⟩ := hall pk hpk
    obtain ⟨_, P, hP⟩ := (keyValidate_true_iff pk).mp hk
    exact ⟨hl, P, hP⟩

/-- **Malformed input makes `FastAggregateVerify` return `False` — unconditionally**: an empty list, a key
    that is not canonical anywhere in the list, or a signature that is not 96 bytes long. -/
theorem fastAggregateVerify_malformed_returns_false (H : HashFn) (pks : List Bytes) (msg sig : Bytes)
    (h : ¬ ((∀ pk ∈ pks, pk.length = 48 ∧ keyValidate pk = true) ∧ sig.length = 96 ∧ 1 ≤ pks.length)) :
    fastAggregateVerify H pks msg sig = .returned false := by
  rw [fastAggregateVerify_eq]
  rcases fastPre_cases pks sig with ⟨_, hp⟩ | ⟨hall, hsl, hne, _⟩
  · rw [hp]; rfl
  · exact (h ⟨hall, hsl, hne⟩).elim

example (H : HashFn) (msg sig : Bytes) : fastAggregateVerify H [] msg sig = .returned false :=
  fastAggregateVerify_malformed_returns_false H [] msg sig (by simp)

/-! ## 4. Arguments that reach `pairing` -/

/-- a G1 point that may safely be handed to `pairing`: the generator or its negation, or the decoding of a
    `KeyValidate`d key (on the curve by decoding, not the identity, in the subgroup) or its negation -/
def SafeG1 (P : G1Pt) : Prop :=
  P = blsG1 ∨ P = Gen.OptBls.neg blsG1 ∨
  ∃ pk P0, keyValidate pk = true ∧ CanonPk pk P0 ∧ (P = P0 ∨ P = Gen.OptBls.neg P0)

/-- a G2 point that may safely be handed to `pairing`: the decoded signature, having passed the subgroup
    check, or an output of `hash_to_G2` -/
def SafeG2 (H : HashFn) (sig : Bytes) (Q : G2Pt) : Prop :=
  CanonSig sig Q ∨ ∃ msg dst, hashToG2 H msg dst = .ok Q

/-- **Every argument `_CoreVerify` passes to `pairing` is validated.**  Whenever the `try` body of
    `_CoreVerify` returns, the recorded list of `(Q, P)` pairing arguments is either empty (the signature
    failed the subgroup check: no pairing was computed) or exactly
    `[(S, G1), (hash_to_G2(msg, DST), −P)]` where `S` is the decoded signature with `subgroup_check(S)`, and
    `P` is the decoding of the key, which passed `KeyValidate` (48 bytes, not the identity, in the subgroup). -/
theorem pairing_args_safe_core (H : HashFn) (s : Suite) (pk msg sig dst : Bytes) (b : Bool)
    (tr : List (G2Pt × G1Pt)) (h : coreVerifyBody H s pk msg sig dst = .ok (b, tr)) :
    (tr = [] ∧ b = false) ∨
    ∃ S P mp, tr = [(S, blsG1), (mp, Gen.OptBls.neg P)] ∧ CanonSig sig S ∧ CanonPk pk P ∧
      keyValidate pk = true ∧ hashToG2 H msg dst = .ok mp := by
  rcases coreVerifyBody_ok h with ⟨hf, ht, _⟩ | ⟨P, S, mp, _, _, hP, hS, hmp, _, _, _, ht⟩
  · exact .inl ⟨ht, hf⟩
  · exact .inr ⟨S, P, mp, ht, hS, hP, (keyValidate_iff_canon pk).mpr ⟨P, hP⟩, hmp⟩

/-- `pairing_args_safe_core` in membership form: every recorded pair is `(SafeG2, SafeG1)`. -/
theorem pairing_args_safe_core_mem (H : HashFn) (s : Suite) (pk msg sig dst : Bytes) (b : Bool)
    (tr : List (G2Pt × G1Pt)) (h : coreVerifyBody H s pk msg sig dst = .ok (b, tr)) :
    ∀ qp ∈ tr, SafeG2 H sig qp.1 ∧ SafeG1 qp.2 := by
  rcases pairing_args_safe_core H s pk msg sig dst b tr h with ⟨ht, _⟩ | ⟨S, P, mp, ht, hS, hP, hkv, hmp⟩
  · subst ht; intro qp hqp; cases hqp
  · subst ht
    intro qp hqp
    simp only [List.mem_cons, List.not_mem_nil, or_false] at hqp
    rcases hqp with rfl | rfl
    · exact ⟨.inl hS, .inl rfl⟩
    · exact ⟨.inr ⟨_, _, hmp⟩, .inr (.inr ⟨pk, P, hkv, hP, .inr rfl⟩)⟩

/-- **Every argument `_CoreAggregateVerify` passes to `pairing` is validated** (invariant over its
    `for pk, message in zip(PKs, messages)` loop).  Whenever the `try` body returns, the recorded list of
    `(Q, P)` pairing arguments is either empty (signature failed the subgroup check) or consists of one pair
    per `(pk, message)` entry, in order, with `pk` having passed `KeyValidate`, `P = pubkey_to_G1(pk)` and
    `Q = hash_to_G2(message, DST)`, followed by the single pair `(S, −G1)` with `S` the decoded signature
    that passed `subgroup_check`. -/
theorem pairing_args_safe_agg (H : HashFn) (s : Suite) (pks msgs : List Bytes) (sig dst : Bytes)
    (b : Bool) (tr : List (G2Pt × G1Pt))
    (h : coreAggregateVerifyBody H s pks msgs sig dst = .ok (b, tr)) :
    (tr = [] ∧ b = false) ∨
    ∃ S ext, tr = ext ++ [(S, Gen.OptBls.neg blsG1)] ∧ CanonSig sig S ∧
      ext.length = (List.zip pks msgs).length ∧
      AllArgs H dst (List.zip pks msgs) ext := by
  rcases coreAggregateVerifyBody_ok h with ⟨hf, ht, _⟩ | ⟨S, ext, _, _, hin, _, hall, _, _, ht⟩
  · exact .inl ⟨ht, hf⟩
  · exact .inr ⟨S, ext, ht, hin.2.2.2, hall.length_eq, hall⟩

/-- `pairing_args_safe_agg` in membership form: every recorded pair is `(SafeG2, SafeG1)`. -/
theorem pairing_args_safe_agg_mem (H : HashFn) (s : Suite) (pks msgs : List Bytes) (sig dst : Bytes)
    (b : Bool) (tr : List (G2Pt × G1Pt))
    (h : coreAggregateVerifyBody H s pks msgs sig dst = .ok (b, tr)) :
    ∀ qp ∈ tr, SafeG2 H sig qp.1 ∧ SafeG1 qp.2 := by
  rcases pairing_args_safe_agg H s pks msgs sig dst b tr h with ⟨ht, _⟩ | ⟨S, ext, ht, hS, _, hall⟩
  · subst ht; intro qp hqp; cases hqp
  · subst ht
    intro qp hqp
    rcases List.mem_append.mp hqp with hq | hq
    · obtain ⟨pm, _, ha⟩ := hall.mem qp hq
      exact ⟨.inr ⟨_, _, ha.2.2⟩, .inr (.inr ⟨pm.1, _, ha.1, ha.canonPk, .inl rfl⟩)⟩
    · simp only [List.mem_cons, List.not_mem_nil, or_false] at hq
      subst hq
      exact ⟨.inl hS, .inr (.inl rfl)⟩

end PyEcc.C04
