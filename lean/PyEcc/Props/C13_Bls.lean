/-
  PyEcc.Props.C13_Bls — property C13:
  the optimized projective curve formulas (`py_ecc/optimized_*/optimized_curve.py`, `optimized_pairing.py`)
  equal the reference affine law (`py_ecc/*/…_curve.py`, `…_pairing.py`) on every control path, through the
  affine reading `toAff (x, y, z) = if z = 0 then ∞ else (x/z, y/z)`.

  Everything is proved about the GENERATED definitions `PyEcc.Gen.OptBls.*` / `PyEcc.Gen.RefBls.*`,
  over an arbitrary field `F`, for ALL triples (no curve-membership hypothesis anywhere); the only
  hypotheses are `(2 : F) ≠ 0` where a formula divides by 2, `λ ≠ 0` for scalings, `z ≠ 0` where a
  totalised division would otherwise be read, and `den ≠ 0` for `linefunc`.  `(3 : F) ≠ 0` is needed nowhere.

  The bn128 modules `PyEcc.Gen.OptBn.*` / `PyEcc.Gen.RefBn.*` are the same terms under other names
  (`Lemmas/TwinModules.lean`); `Props/C13_Bn.lean` states the results for them.
-/
import Mathlib.Tactic.FieldSimp
import Mathlib.Tactic.Ring
import Mathlib.Tactic.LinearCombination
import Mathlib.Tactic.NormNum
import Mathlib.Algebra.Field.Rat
import PyEcc.Sem.Affine
import PyEcc.Lemmas.C13Aux
import PyEcc.Gen.OptBls
import PyEcc.Gen.RefBls

namespace PyEcc.C13.Bls
open PyEcc PyEcc.Gen
variable {F : Type} [Field F] [DecidableEq F]

/-- Optimized `is_inf` (`z == 0`) holds exactly when the affine reading is the reference ∞ (`None`). -/
theorem opt_is_inf_iff (T : F × F × F) :
    OptBls.is_inf T = true ↔ RefBls.is_inf (toAff T) = true := by
  simp [OptBls.is_inf, RefBls.is_inf, toAff_eq_none_iff]

/-- Optimized `neg` is the reference `neg` through the affine reading, for every triple (∞ ↦ ∞). -/
theorem opt_neg_toAff (T : F × F × F) :
    toAff (OptBls.neg T) = RefBls.neg (toAff T) := by
  obtain ⟨x, y, z⟩ := T
  by_cases hz : z = 0
  · subst hz; simp [toAff, OptBls.neg, RefBls.neg]
  · simp [toAff, OptBls.neg, RefBls.neg, hz, neg_div]

/-- For a finite triple (`z ≠ 0`), optimized `normalize` returns the affine reading.  The guard is
    necessary: for `z = 0` the affine reading is ∞ (`none`), while `normalize` still returns a pair
    (computed with the library's `inv0(0) = 0` convention, which is also Lean's `x / 0 = 0`). -/
theorem opt_normalize (T : F × F × F) (hz : T.2.2 ≠ 0) :
    toAff T = some (OptBls.normalize T) := by
  simp [toAff, OptBls.normalize, hz]

example : ((1 : ℚ), (2 : ℚ), (3 : ℚ)).2.2 ≠ 0 := by norm_num

/-- For a finite triple, `normalize1` (pairing module: `(x/z, y/z, 1)`) is another representative of
    the same affine point. -/
theorem opt_normalize1_toAff (T : F × F × F) (hz : T.2.2 ≠ 0) :
    toAff (OptBls.normalize1 T) = toAff T := by
  simp [toAff, OptBls.normalize1, OptBls.normalize, hz]

/-- Optimized `eq` decides equality of the affine readings for ALL triples: any two representatives
    of ∞ (any `z = 0`, including the degenerate `(0,0,0)` the library itself produces) are equal, ∞ is
    different from every finite point, and finite points are compared by cross-multiplication.
    (The `is_inf` guard of `eq` is the `fix:` commit for defect F4: cross-multiplication alone equates `(0,0,0)`
    with every point.) -/
theorem opt_eq_iff (T₁ T₂ : F × F × F) :
    OptBls.eq T₁ T₂ = true ↔ toAff T₁ = toAff T₂ := by
  by_cases h1 : T₁.2.2 = 0
  · by_cases h2 : T₂.2.2 = 0
    · simp [OptBls.eq, OptBls.is_inf, toAff_of_z_eq_zero, h1, h2]
    · simp [OptBls.eq, OptBls.is_inf, toAff_of_z_eq_zero h1, toAff_of_z_ne_zero h2, h1, h2]
  · by_cases h2 : T₂.2.2 = 0
    · simp [OptBls.eq, OptBls.is_inf, toAff_of_z_eq_zero h2, toAff_of_z_ne_zero h1, h1, h2]
    · rw [toAff_eq_iff_of_ne_zero h1 h2]
      simp [OptBls.eq, OptBls.is_inf, h1, h2]

/-- Optimized `is_on_curve` (`y²z − x³ = b z³`, ∞ accepted) holds exactly when the reference
    `is_on_curve` (`y² − x³ = b`, ∞ accepted) holds for the affine reading — for every triple and every `b`. -/
theorem opt_is_on_curve_iff (T : F × F × F) (b : F) :
    OptBls.is_on_curve T b = true ↔ RefBls.is_on_curve (toAff T) b = true := by
  obtain ⟨x, y, z⟩ := T
  by_cases hz : z = 0
  · subst hz; simp [toAff, OptBls.is_on_curve, OptBls.is_inf, RefBls.is_on_curve, RefBls.is_inf]
  · have key : (y / z) ^ 2 - (x / z) ^ 3 - b = (y ^ 2 * z - x ^ 3 - b * z ^ 3) / z ^ 3 := by
      field_simp
    have hz3 : z ^ 3 ≠ 0 := pow_ne_zero 3 hz
    have : (y / z) ^ 2 - (x / z) ^ 3 = b ↔ y ^ 2 * z - x ^ 3 = b * z ^ 3 := by
      rw [← sub_eq_zero, key, div_eq_zero_iff, or_iff_left hz3, sub_eq_zero]
    simp [toAff, OptBls.is_on_curve, OptBls.is_inf, RefBls.is_on_curve, RefBls.is_inf, hz, this]

/-- Optimized projective `double` equals the reference affine `double` through the affine reading, for
    EVERY triple: ∞ (any `z = 0`) ↦ ∞, a point with `y = 0` (order two) ↦ ∞ (`z' = 8(yz)³ = 0`),
    otherwise the tangent formula.  Needs only `2 ≠ 0` (the reference slope divides by `2y`). -/
theorem opt_double_toAff (h2 : (2 : F) ≠ 0) (T : F × F × F) :
    toAff (OptBls.double T) = RefBls.double (toAff T) := by
  obtain ⟨x, y, z⟩ := T
  have h8 : (8 : F) ≠ 0 := by
    have : (8 : F) = 2 * 2 * 2 := by norm_num
    rw [this]; exact mul_ne_zero (mul_ne_zero h2 h2) h2
  by_cases hz : z = 0
  · subst hz; simp [toAff, OptBls.double, RefBls.double, RefBls.is_inf]
  by_cases hy : y = 0
  · subst hy; simp [toAff, OptBls.double, RefBls.double, RefBls.is_inf, hz]
  have hyz : y / z ≠ 0 := div_ne_zero hy hz
  have hyz' : y * z ≠ 0 := mul_ne_zero hy hz
  have hz' : (OptBls.double (x, y, z)).2.2 ≠ 0 := by
    simp only [OptBls.double, Nat.cast_ofNat]
    exact mul_ne_zero (mul_ne_zero h8 hyz') (mul_ne_zero hyz' hyz')
  rw [toAff_of_z_ne_zero hz']
  simp only [toAff, OptBls.double, RefBls.double, RefBls.is_inf, hz, hyz, ↓reduceIte, Nat.cast_ofNat,
    reduceCtorEq, decide_false, Bool.false_eq_true, or_self]
  congr 1
  ext
  · simp only; field_simp; ring
  · simp only; field_simp; ring

example : (2 : ℚ) ≠ 0 := by norm_num

omit [DecidableEq F] in
/-- `double` is homogeneous of degree 6: `double (λ•T) = λ⁶ • double T` (no hypothesis at all). -/
theorem opt_double_scale (l : F) (T : F × F × F) :
    OptBls.double (scale l T) = scale (l ^ 6) (OptBls.double T) := by
  obtain ⟨x, y, z⟩ := T
  simp only [OptBls.double, scale_mk, Nat.cast_ofNat]
  ext <;> simp only <;> ring

/-- Representative independence of `double`: scaling the input triple by `λ ≠ 0` does not change the
    affine reading of the result. -/
theorem opt_double_toAff_scale {l : F} (hl : l ≠ 0) (T : F × F × F) :
    toAff (OptBls.double (scale l T)) = toAff (OptBls.double T) := by
  rw [opt_double_scale, toAff_scale (pow_ne_zero 6 hl)]

example : (5 : ℚ) ≠ 0 := by norm_num

/-- Reference `add` on two finite points with different `x`: the chord formula; the internal sanity
    check `newy == -m*newx + m*x2 - y2` is an identity and never raises. -/
theorem ref_add_chord {a1 b1 a2 b2 : F} (h : a2 ≠ a1) :
    RefBls.add (some (a1, b1)) (some (a2, b2)) =
      .ok (some (((b2 - b1) / (a2 - a1)) ^ 2 - a1 - a2,
        -((b2 - b1) / (a2 - a1)) * (((b2 - b1) / (a2 - a1)) ^ 2 - a1 - a2)
          + ((b2 - b1) / (a2 - a1)) * a1 - b1)) := by
  have hd : a2 - a1 ≠ 0 := sub_ne_zero.mpr h
  simp only [RefBls.add, reduceCtorEq, or_self, ↓reduceIte, h, false_and]
  rw [if_neg]
  rw [not_not]; field_simp; ring

/-- The reference `add` never raises (its `ValueError` sanity check is dead code), for all operands. -/
theorem ref_add_ok (p q : Option (F × F)) : ∃ r, RefBls.add p q = .ok r := by
  rcases p with _ | ⟨a1, b1⟩
  · exact ⟨_, by simp [RefBls.add]; rfl⟩
  rcases q with _ | ⟨a2, b2⟩
  · exact ⟨_, by simp [RefBls.add]; rfl⟩
  by_cases h : a2 = a1
  · by_cases h' : b2 = b1
    · exact ⟨_, by simp only [RefBls.add, reduceCtorEq, or_self, ↓reduceIte, h, h', and_self]; rfl⟩
    · exact ⟨_, by simp only [RefBls.add, reduceCtorEq, or_self, ↓reduceIte, h, h', and_false]; rfl⟩
  · exact ⟨_, ref_add_chord h⟩

/-- Optimized projective `add` equals the reference affine `add` through the affine reading, on every
    control path and for EVERY pair of triples: either operand ∞ (any representative with `z = 0`),
    doubling reached through addition (`V1 = V2 ∧ U1 = U2`), inverse points (↦ ∞), generic chord.  In
    particular the reference `add` returns normally (its internal `ValueError` check never fires). -/
theorem opt_add_toAff (h2 : (2 : F) ≠ 0) (T₁ T₂ : F × F × F) :
    RefBls.add (toAff T₁) (toAff T₂) = .ok (toAff (OptBls.add T₁ T₂)) := by
  obtain ⟨x1, y1, z1⟩ := T₁
  obtain ⟨x2, y2, z2⟩ := T₂
  by_cases hz1 : z1 = 0
  · subst hz1
    by_cases hz2 : z2 = 0
    · subst hz2; simp [OptBls.add, RefBls.add, toAff]
    · simp [OptBls.add, RefBls.add, toAff, hz2]
  by_cases hz2 : z2 = 0
  · subst hz2; simp [OptBls.add, RefBls.add, toAff, hz1]
  -- both finite
  have hx : (x2 / z2 = x1 / z1) ↔ (x2 * z1 = x1 * z2) := by rw [div_eq_div_iff hz2 hz1]
  have hy : (y2 / z2 = y1 / z1) ↔ (y2 * z1 = y1 * z2) := by rw [div_eq_div_iff hz2 hz1]
  have hA1 : toAff (x1, y1, z1) = some (x1 / z1, y1 / z1) := toAff_of_z_ne_zero hz1
  have hA2 : toAff (x2, y2, z2) = some (x2 / z2, y2 / z2) := toAff_of_z_ne_zero hz2
  by_cases hV : x2 * z1 = x1 * z2
  · by_cases hU : y2 * z1 = y1 * z2
    · -- doubling through add
      have hopt : OptBls.add (x1, y1, z1) (x2, y2, z2) = OptBls.double (x1, y1, z1) := by
        simp only [OptBls.add, hz1, hz2, or_self, ↓reduceIte, hV, hU, and_self]
      rw [hopt, opt_double_toAff h2, hA1, hA2]
      simp only [RefBls.add, reduceCtorEq, or_self, ↓reduceIte, hx.mpr hV, hy.mpr hU, and_self]
    · -- inverse points
      have hopt : toAff (OptBls.add (x1, y1, z1) (x2, y2, z2)) = none := by
        simp only [OptBls.add, hz1, hz2, or_self, ↓reduceIte, hV, hU, and_false, toAff_mk_zero]
      have hyne : ¬ (y2 / z2 = y1 / z1) := fun h => hU (hy.mp h)
      rw [hopt, hA1, hA2]
      simp only [RefBls.add, reduceCtorEq, or_self, ↓reduceIte, hx.mpr hV, hyne, and_false]
  · -- generic chord
    have hVne : x2 * z1 - x1 * z2 ≠ 0 := sub_ne_zero.mpr hV
    have hxne : ¬ (x2 / z2 = x1 / z1) := fun h => hV (hx.mp h)
    have hz' : (OptBls.add (x1, y1, z1) (x2, y2, z2)).2.2 ≠ 0 := by
      simp only [OptBls.add, hz1, hz2, or_self, ↓reduceIte, hV, false_and]
      exact mul_ne_zero (mul_ne_zero hVne (mul_ne_zero hVne hVne)) (mul_ne_zero hz1 hz2)
    rw [hA1, hA2, ref_add_chord hxne, slope_norm hz1 hz2, toAff_of_z_ne_zero hz']
    simp only [OptBls.add, hz1, hz2, or_self, ↓reduceIte, hV, false_and, Nat.cast_ofNat]
    set D := x2 * z1 - x1 * z2 with hD
    congr 2
    -- the slope numerator `U` and the numerator `W` of the new `x` are kept as variables: the `y`
    -- coordinate then follows from the `x` coordinate by an identity in `U`, `W`, `D` alone
    generalize y2 * z1 - y1 * z2 = U
    generalize hW : U * U * (z1 * z2) - D * (D * D) - 2 * (D * D * (x1 * z2)) = W
    have hX : (U / D) ^ 2 - x1 / z1 - x2 / z2 = D * W / (D * (D * D) * (z1 * z2)) := by
      rw [← hW]; field_simp; ring
    ext
    · exact hX
    · simp only
      rw [hX]
      field_simp
      ring

/-- Representative independence of `add` in the first argument (scaling by `λ ≠ 0`). -/
theorem opt_add_toAff_scale_left (h2 : (2 : F) ≠ 0) {l : F} (hl : l ≠ 0) (T₁ T₂ : F × F × F) :
    toAff (OptBls.add (scale l T₁) T₂) = toAff (OptBls.add T₁ T₂) := by
  have h := opt_add_toAff h2 (scale l T₁) T₂
  rw [toAff_scale hl, opt_add_toAff h2 T₁ T₂] at h
  exact (Except.ok.inj h).symm

/-- Representative independence of `add` in the second argument (scaling by `λ ≠ 0`). -/
theorem opt_add_toAff_scale_right (h2 : (2 : F) ≠ 0) {l : F} (hl : l ≠ 0) (T₁ T₂ : F × F × F) :
    toAff (OptBls.add T₁ (scale l T₂)) = toAff (OptBls.add T₁ T₂) := by
  have h := opt_add_toAff h2 T₁ (scale l T₂)
  rw [toAff_scale hl, opt_add_toAff h2 T₁ T₂] at h
  exact (Except.ok.inj h).symm

/-- Representative independence of `neg`. -/
theorem opt_neg_toAff_scale {l : F} (hl : l ≠ 0) (T : F × F × F) :
    toAff (OptBls.neg (scale l T)) = toAff (OptBls.neg T) := by
  rw [opt_neg_toAff, opt_neg_toAff, toAff_scale hl]

/-- `eq` is invariant under scaling either operand by non-zero factors. -/
theorem opt_eq_scale {l m : F} (hl : l ≠ 0) (hm : m ≠ 0) (T₁ T₂ : F × F × F) :
    OptBls.eq (scale l T₁) (scale m T₂) = OptBls.eq T₁ T₂ := by
  rw [Bool.eq_iff_iff, opt_eq_iff, opt_eq_iff, toAff_scale hl, toAff_scale hm]

/-- `is_on_curve` is invariant under scaling the triple by a non-zero factor. -/
theorem opt_is_on_curve_scale {l : F} (hl : l ≠ 0) (T : F × F × F) (b : F) :
    OptBls.is_on_curve (scale l T) b = OptBls.is_on_curve T b := by
  rw [Bool.eq_iff_iff, opt_is_on_curve_iff, opt_is_on_curve_iff, toAff_scale hl]

/-- fuelled double-and-add: as long as the fuel exceeds the scalar, the reference recursion returns
    normally and agrees with the optimized recursion through the affine reading -/
theorem opt_multiplyAux_toAff (h2 : (2 : F) ≠ 0) (fuel : Nat) :
    ∀ (T : F × F × F) (n : Nat), n < fuel →
      RefBls.multiplyAux fuel (toAff T) n = .ok (toAff (OptBls.multiplyAux fuel T n)) := by
  induction fuel with
  | zero => intro T n h; omega
  | succ fuel ih =>
    intro T n hn
    by_cases h0 : n = 0
    · subst h0; simp [RefBls.multiplyAux, OptBls.multiplyAux]
    by_cases h1 : n = 1
    · subst h1; simp [RefBls.multiplyAux, OptBls.multiplyAux]
    have hlt : n / 2 < fuel := by omega
    have ih' := ih (OptBls.double T) (n / 2) hlt
    rw [opt_double_toAff h2] at ih'
    by_cases hp : n % 2 = 0
    · simp only [RefBls.multiplyAux, OptBls.multiplyAux, h0, h1, hp, ↓reduceIte, ih']
    · simp only [RefBls.multiplyAux, OptBls.multiplyAux, h0, h1, hp, ↓reduceIte, ih',
        opt_add_toAff h2]

/-- Optimized `multiply` (double-and-add on projective triples) equals the reference affine
    `multiply` through the affine reading, for every triple and every `n : ℕ`; in particular the
    reference `multiply` returns normally (the recursion's fuel `n + 1` never runs out and the `add`
    sanity check never fires). -/
theorem opt_multiply_toAff (h2 : (2 : F) ≠ 0) (T : F × F × F) (n : Nat) :
    RefBls.multiply (toAff T) n = .ok (toAff (OptBls.multiply T n)) :=
  opt_multiplyAux_toAff h2 (n + 1) T n (Nat.lt_succ_self n)

/-- Representative independence of `multiply`. -/
theorem opt_multiply_toAff_scale (h2 : (2 : F) ≠ 0) {l : F} (hl : l ≠ 0) (T : F × F × F) (n : Nat) :
    toAff (OptBls.multiply (scale l T) n) = toAff (OptBls.multiply T n) := by
  have h := opt_multiply_toAff h2 (scale l T) n
  rw [toAff_scale hl, opt_multiply_toAff h2 T n] at h
  exact (Except.ok.inj h).symm

/-- The reference `linefunc` refuses ∞: if any of the three operands is `None` it raises `ValueError`. -/
theorem ref_linefunc_inf (P1 P2 T : Option (F × F)) (h : P1 = none ∨ P2 = none ∨ T = none) :
    RefBls.linefunc P1 P2 T = .error PyErr.value := by
  simp only [RefBls.linefunc, if_pos h]

/-- Through the affine reading: if any of the three triples has `z = 0`, the reference `linefunc`
    raises `ValueError` (so no equation between the two `linefunc`s is claimed for ∞ operands). -/
theorem ref_linefunc_toAff_inf (P1 P2 T : F × F × F) (h : P1.2.2 = 0 ∨ P2.2.2 = 0 ∨ T.2.2 = 0) :
    RefBls.linefunc (toAff P1) (toAff P2) (toAff T) = .error PyErr.value := by
  apply ref_linefunc_inf
  simpa only [toAff_eq_none_iff] using h

/-- Chord branch of the optimized `linefunc` (finite operands, `x₁/z₁ ≠ x₂/z₂`): the denominator is
    non-zero and `num / den` is the affine chord value `m (x_T − x₁) − (y_T − y₁)`. -/
theorem opt_linefunc_chord {x1 y1 z1 x2 y2 z2 xt yt zt : F} (hz1 : z1 ≠ 0) (hz2 : z2 ≠ 0) (hzt : zt ≠ 0)
    (hV : x2 * z1 ≠ x1 * z2) :
    (OptBls.linefunc (x1, y1, z1) (x2, y2, z2) (xt, yt, zt)).2 ≠ 0 ∧
    (OptBls.linefunc (x1, y1, z1) (x2, y2, z2) (xt, yt, zt)).1 /
        (OptBls.linefunc (x1, y1, z1) (x2, y2, z2) (xt, yt, zt)).2 =
      (y2 / z2 - y1 / z1) / (x2 / z2 - x1 / z1) * (xt / zt - x1 / z1) - (yt / zt - y1 / z1) := by
  have hD : x2 * z1 - x1 * z2 ≠ 0 := sub_ne_zero.mpr hV
  rw [slope_norm hz1 hz2]
  simp only [OptBls.linefunc, ne_eq, hD, not_false_eq_true, ↓reduceIte]
  set D := x2 * z1 - x1 * z2 with hDdef
  refine ⟨mul_ne_zero (mul_ne_zero hD hzt) hz1, ?_⟩
  field_simp
  try ring

/-- Tangent branch (finite operands, `P1` and `P2` the same affine point): the denominator is
    `2 y₁ z₁ · z_T z₁`, non-zero iff `y₁ ≠ 0`; then `num / den` is the affine tangent value with slope
    `3x² / 2y`. -/
theorem opt_linefunc_tangent (h2 : (2 : F) ≠ 0) {x1 y1 z1 x2 y2 z2 xt yt zt : F}
    (hz1 : z1 ≠ 0) (hzt : zt ≠ 0)
    (hV : x2 * z1 = x1 * z2) (hU : y2 * z1 = y1 * z2) (hy1 : y1 ≠ 0) :
    (OptBls.linefunc (x1, y1, z1) (x2, y2, z2) (xt, yt, zt)).2 ≠ 0 ∧
    (OptBls.linefunc (x1, y1, z1) (x2, y2, z2) (xt, yt, zt)).1 /
        (OptBls.linefunc (x1, y1, z1) (x2, y2, z2) (xt, yt, zt)).2 =
      (3 * (x1 / z1) ^ 2) / (2 * (y1 / z1)) * (xt / zt - x1 / z1) - (yt / zt - y1 / z1) := by
  have hV' : x2 * z1 - x1 * z2 = 0 := sub_eq_zero.mpr hV
  have hU' : y2 * z1 - y1 * z2 = 0 := sub_eq_zero.mpr hU
  simp only [OptBls.linefunc, ne_eq, hV', hU', not_true_eq_false, ↓reduceIte, Nat.cast_ofNat]
  refine ⟨mul_ne_zero (mul_ne_zero (mul_ne_zero (mul_ne_zero h2 hy1) hz1) hzt) hz1, ?_⟩
  field_simp
  try ring

/-- Vertical branch (finite operands, same `x`, different `y`): the denominator `z₁ z_T` is non-zero
    and `num / den = x_T − x₁`. -/
theorem opt_linefunc_vertical {x1 y1 z1 x2 y2 z2 xt yt zt : F} (hz1 : z1 ≠ 0) (hzt : zt ≠ 0)
    (hV : x2 * z1 = x1 * z2) (hU : y2 * z1 ≠ y1 * z2) :
    (OptBls.linefunc (x1, y1, z1) (x2, y2, z2) (xt, yt, zt)).2 ≠ 0 ∧
    (OptBls.linefunc (x1, y1, z1) (x2, y2, z2) (xt, yt, zt)).1 /
        (OptBls.linefunc (x1, y1, z1) (x2, y2, z2) (xt, yt, zt)).2 = xt / zt - x1 / z1 := by
  have hV' : x2 * z1 - x1 * z2 = 0 := sub_eq_zero.mpr hV
  have hU' : ¬ (y2 * z1 - y1 * z2 = 0) := fun h => hU (sub_eq_zero.mp h)
  simp only [OptBls.linefunc, ne_eq, hV', hU', not_true_eq_false, ↓reduceIte]
  refine ⟨mul_ne_zero hz1 hzt, ?_⟩
  field_simp
  try ring

-- non-vacuity of the three branch hypotheses (chord / tangent with `y ≠ 0` / vertical), over ℚ
example : (3 : ℚ) * 1 ≠ 1 * 1 := by norm_num
example : (1 : ℚ) * 2 = 2 * 1 ∧ (2 : ℚ) * 2 = 4 * 1 ∧ (4 : ℚ) ≠ 0 := by norm_num
example : (1 : ℚ) * 2 = 2 * 1 ∧ (-2 : ℚ) * 2 ≠ 4 * 1 := by norm_num

/-- For finite operands (and `2 ≠ 0`) the denominator returned by the optimized `linefunc` vanishes in
    exactly one situation: the tangent branch (`P1`, `P2` the same affine point) at a point with `y = 0`. -/
theorem opt_linefunc_den_eq_zero_iff (h2 : (2 : F) ≠ 0) (P1 P2 T : F × F × F)
    (hz1 : P1.2.2 ≠ 0) (hz2 : P2.2.2 ≠ 0) (hzt : T.2.2 ≠ 0) :
    (OptBls.linefunc P1 P2 T).2 = 0 ↔ toAff P1 = toAff P2 ∧ P1.2.1 = 0 := by
  rw [toAff_eq_iff_of_ne_zero hz1 hz2]
  obtain ⟨x1, y1, z1⟩ := P1
  obtain ⟨x2, y2, z2⟩ := P2
  obtain ⟨xt, yt, zt⟩ := T
  simp only at hz1 hz2 hzt ⊢
  by_cases hV : x2 * z1 = x1 * z2
  · by_cases hU : y2 * z1 = y1 * z2
    · by_cases hy1 : y1 = 0
      · have hV' : x2 * z1 - x1 * z2 = 0 := sub_eq_zero.mpr hV
        have hU' : y2 * z1 - y1 * z2 = 0 := sub_eq_zero.mpr hU
        have : (OptBls.linefunc (x1, y1, z1) (x2, y2, z2) (xt, yt, zt)).2 = 0 := by
          simp only [OptBls.linefunc, ne_eq, hV', hU', not_true_eq_false, ↓reduceIte]
          simp [hy1]
        simp only [this, true_iff]
        exact ⟨⟨hV.symm, hU.symm⟩, hy1⟩
      · have := (opt_linefunc_tangent h2 (xt := xt) (yt := yt) hz1 hzt hV hU hy1).1
        simp only [this, false_iff, not_and]
        exact fun _ => hy1
    · have := (opt_linefunc_vertical (xt := xt) (yt := yt) hz1 hzt hV hU).1
      simp only [this, false_iff, not_and]
      exact fun h => absurd h.2.symm hU
  · have := (opt_linefunc_chord (y1 := y1) (y2 := y2) (xt := xt) (yt := yt) hz1 hz2 hzt hV).1
    simp only [this, false_iff, not_and]
    exact fun h => absurd h.1.symm hV

/-- The optimized `linefunc` returns a pair `(num, den)`; for finite operands (all three `z ≠ 0`) and
    `den ≠ 0`, `num / den` is exactly the value the reference affine `linefunc` returns on the affine
    readings, on each of its three branches (chord, tangent, vertical).  By
    `opt_linefunc_den_eq_zero_iff`, `den ≠ 0` excludes exactly the tangent at a point with `y = 0`
    (where the reference code divides by `2y = 0`). -/
theorem opt_linefunc_toAff (P1 P2 T : F × F × F)
    (hz1 : P1.2.2 ≠ 0) (hz2 : P2.2.2 ≠ 0) (hzt : T.2.2 ≠ 0)
    (hden : (OptBls.linefunc P1 P2 T).2 ≠ 0) :
    RefBls.linefunc (toAff P1) (toAff P2) (toAff T) =
      .ok ((OptBls.linefunc P1 P2 T).1 / (OptBls.linefunc P1 P2 T).2) := by
  obtain ⟨x1, y1, z1⟩ := P1
  obtain ⟨x2, y2, z2⟩ := P2
  obtain ⟨xt, yt, zt⟩ := T
  simp only at hz1 hz2 hzt
  have hx : (x1 / z1 = x2 / z2) ↔ (x2 * z1 = x1 * z2) := by rw [div_eq_div_iff hz1 hz2, eq_comm]
  have hy : (y1 / z1 = y2 / z2) ↔ (y2 * z1 = y1 * z2) := by rw [div_eq_div_iff hz1 hz2, eq_comm]
  simp only [toAff, hz1, hz2, hzt, ↓reduceIte]
  by_cases hV : x2 * z1 = x1 * z2
  · have c1 : ¬ (x1 / z1 ≠ x2 / z2) := not_not.mpr (hx.mpr hV)
    by_cases hU : y2 * z1 = y1 * z2
    · have hV' : x2 * z1 - x1 * z2 = 0 := sub_eq_zero.mpr hV
      have hU' : y2 * z1 - y1 * z2 = 0 := sub_eq_zero.mpr hU
      simp only [OptBls.linefunc, ne_eq, hV', hU', not_true_eq_false, ↓reduceIte, Nat.cast_ofNat] at hden
      have h2 : (2 : F) ≠ 0 := fun h => hden (by simp [h])
      have hy1 : y1 ≠ 0 := fun h => hden (by simp [h])
      rw [(opt_linefunc_tangent h2 hz1 hzt hV hU hy1).2]
      simp only [RefBls.linefunc, reduceCtorEq, or_self, ↓reduceIte, c1, hy.mpr hU, Nat.cast_ofNat]
    · have c2 : ¬ (y1 / z1 = y2 / z2) := fun h => hU (hy.mp h)
      rw [(opt_linefunc_vertical hz1 hzt hV hU).2]
      simp only [RefBls.linefunc, reduceCtorEq, or_self, ↓reduceIte, c1, c2]
  · have c1 : x1 / z1 ≠ x2 / z2 := fun h => hV (hx.mp h)
    rw [(opt_linefunc_chord hz1 hz2 hzt hV).2]
    simp only [RefBls.linefunc, reduceCtorEq, or_self, ↓reduceIte, c1, ne_eq, not_false_eq_true]

example : ((1 : ℚ), (2 : ℚ), (1 : ℚ)).2.2 ≠ 0 ∧ ((3 : ℚ), (5 : ℚ), (1 : ℚ)).2.2 ≠ 0 ∧
    ((7 : ℚ), (1 : ℚ), (2 : ℚ)).2.2 ≠ 0 ∧
    (OptBls.linefunc ((1 : ℚ), (2 : ℚ), (1 : ℚ)) ((3 : ℚ), (5 : ℚ), (1 : ℚ)) ((7 : ℚ), (1 : ℚ), (2 : ℚ))).2 ≠ 0 := by
  norm_num [OptBls.linefunc]

/-- Representative independence of `linefunc`: scaling each of the three operands by its own non-zero
    factor multiplies `num` and `den` by the same non-zero factor and selects the same branch, so
    `num / den` is unchanged (for all triples, no finiteness hypothesis). -/
theorem opt_linefunc_scale {a b c : F} (ha : a ≠ 0) (hb : b ≠ 0) (hc : c ≠ 0) (P1 P2 T : F × F × F) :
    (OptBls.linefunc (scale a P1) (scale b P2) (scale c T)).1 /
        (OptBls.linefunc (scale a P1) (scale b P2) (scale c T)).2 =
      (OptBls.linefunc P1 P2 T).1 / (OptBls.linefunc P1 P2 T).2 := by
  obtain ⟨x1, y1, z1⟩ := P1
  obtain ⟨x2, y2, z2⟩ := P2
  obtain ⟨xt, yt, zt⟩ := T
  have key : ∀ {k n d n' d' : F}, k ≠ 0 → n' = k * n → d' = k * d → n' / d' = n / d := by
    intro k n d n' d' hk hn hd; rw [hn, hd, mul_div_mul_left _ _ hk]
  have hab : a * b ≠ 0 := mul_ne_zero ha hb
  have eV : b * x2 * (a * z1) - a * x1 * (b * z2) = 0 ↔ x2 * z1 - x1 * z2 = 0 := by
    have : b * x2 * (a * z1) - a * x1 * (b * z2) = a * b * (x2 * z1 - x1 * z2) := by ring
    rw [this, mul_eq_zero, or_iff_right hab]
  have eU : b * y2 * (a * z1) - a * y1 * (b * z2) = 0 ↔ y2 * z1 - y1 * z2 = 0 := by
    have : b * y2 * (a * z1) - a * y1 * (b * z2) = a * b * (y2 * z1 - y1 * z2) := by ring
    rw [this, mul_eq_zero, or_iff_right hab]
  by_cases hV : x2 * z1 - x1 * z2 = 0
  · by_cases hU : y2 * z1 - y1 * z2 = 0
    · simp only [OptBls.linefunc, scale_mk, ne_eq, eV.mpr hV, eU.mpr hU, hV, hU, not_true_eq_false,
        ↓reduceIte, Nat.cast_ofNat]
      exact key (k := a ^ 3 * c) (mul_ne_zero (pow_ne_zero 3 ha) hc) (by ring) (by ring)
    · simp only [OptBls.linefunc, scale_mk, ne_eq, eV.mpr hV, mt eU.mp hU, hV, hU, not_true_eq_false,
        ↓reduceIte]
      exact key (k := a * c) (mul_ne_zero ha hc) (by ring) (by ring)
  · simp only [OptBls.linefunc, scale_mk, ne_eq, mt eV.mp hV, hV, not_false_eq_true, ↓reduceIte]
    exact key (k := a ^ 2 * b * c) (mul_ne_zero (mul_ne_zero (pow_ne_zero 2 ha) hb) hc)
      (by ring) (by ring)

end PyEcc.C13.Bls
