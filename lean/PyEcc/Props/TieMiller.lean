/-
  "Generated = hand-written model" for the four `miller_loop` functions.

  `Gen/ExtraMiller.lean` contains, for each pairing module, the `miller_loop` translated from the CURRENT source
  in core/wrapper form: `miller_loop_core` is the loop with its callees (`linefunc`, `double`, `add`, `neg`, `twist`,
  `cast_point_to_fq12`) and its closed constant expressions (digit table / loop range, final exponent) as
  PARAMETERS, `miller_loop_loop0` is the body of the `for` loop, and `miller_loop` instantiates the core at the
  generated curve operations.  The theorems `miller_loop_{optBls,optBn,refBls,refBn}_eq` state that `miller_loop` is
  exactly the model expression that the model's `pairing` functions use, which is also what the translated `pairing`
  (`Gen/ExtraPairing.lean`) has in place of the call `miller_loop(..)`; `Props/C05_Gen.lean` composes the two
  (`pairing_*_unfold`).

  Proof shape (the same four times): (1) the model function equals its own parametrised form at the generated
  curve operations (`*_eq_G` of `Lemmas/MillerModel.lean`, by `rfl` at a GENERIC modulus, where nothing can be
  evaluated); (2) the generated core
  equals the parametrised model for ARBITRARY callees (`*_core_eq`: the loop states differ only by a
  re-arrangement of the tuple, `foldl_map_eq` / `foldlM_map`); (3) instantiate.  Keeping the callees abstract in (2) is
  what keeps the kernel from trying to evaluate curve arithmetic when it reduces `match linefunc .. with | (n, d) => ..`.

  Robustness: the statements never mention the generated loop body `miller_loop_loop0` (its parameter list is "the
  locals the body reads, in order of first use" and changes when the source hoists / inlines a loop invariant): the
  one-iteration lemma is the side goal of `foldl_map_eq` / `foldlM_map` inside `*_core_eq`, with the generated step
  function left to unification.  For the two optimized loops its proof unfolds `miller_loop_loop0` by name and closes
  by `tie_close` (case analysis on both bodies); for the two reference loops it is `refStep_swap`, stated for the
  body written out and matched with the generated step up to unfolding.
-/
import PyEcc.Gen.ExtraMiller
import PyEcc.Lemmas.MillerModel
import PyEcc.Props.TieRobC

set_option linter.unusedSimpArgs false

namespace PyEcc.Tie
open PyEcc PyEcc.Gen.Consts PyEcc.MillerSem PyEcc.MillerBnSem

theorem foldl_rel {α₁ α₂ β : Type} (r : α₂ → α₁ → Prop) {g₁ : α₁ → β → α₁} {g₂ : α₂ → β → α₂} {l : List β}
    {i₁ : α₁} {i₂ : α₂} (hi : r i₂ i₁) (H : ∀ x₂ x₁ y, r x₂ x₁ → r (g₂ x₂ y) (g₁ x₁ y)) :
    r (List.foldl g₂ i₂ l) (List.foldl g₁ i₁ l) :=
  PyEcc.foldl_rel r hi H

/-- two folds of the same list whose states correspond under `φ` (in a `rw`, the step function `g₂` may be left to
    unification) -/
theorem foldl_map_eq {α₁ α₂ β : Type} (φ : α₁ → α₂) {g₁ : α₁ → β → α₁} {g₂ : α₂ → β → α₂} (i : α₁) (l : List β)
    (H : ∀ x y, g₂ (φ x) y = φ (g₁ x y)) : List.foldl g₂ (φ i) l = φ (List.foldl g₁ i l) :=
  List.foldl_hom φ H

/-- re-arrangement of the loop state: model `((fNum, fDen), R, twistR)` ↦ generated `(R, f_den, f_num, twist_R)` -/
abbrev φBls (s : (OBls12 × OBls12) × (OBls2 × OBls2 × OBls2) × (OBls12 × OBls12 × OBls12)) :
    (OBls2 × OBls2 × OBls2) × OBls12 × OBls12 × (OBls12 × OBls12 × OBls12) :=
  (s.2.1, s.1.2, s.1.1, s.2.2)

section coreOptBls
variable (lf : (OBls12 × OBls12 × OBls12) → (OBls12 × OBls12 × OBls12) → (OBls12 × OBls12 × OBls12) → OBls12 × OBls12)
  (dbl : (OBls2 × OBls2 × OBls2) → OBls2 × OBls2 × OBls2) (add : (OBls2 × OBls2 × OBls2) → (OBls2 × OBls2 × OBls2) → OBls2 × OBls2 × OBls2)
  (tw : (OBls2 × OBls2 × OBls2) → OBls12 × OBls12 × OBls12) (cast : (Fq blsP × Fq blsP × Fq blsP) → OBls12 × OBls12 × OBls12)

/-- the generated core equals the parametrised model for arbitrary callees, digit list and exponent.  (The one-iteration
    lemma -- generated loop body vs the model's step, states related by `φBls` -- is the side goal of `foldl_map_eq`.) -/
theorem optBls_core_eq (L : List Int) (E : Nat) (Q : OBls2 × OBls2 × OBls2) (P : Fq blsP × Fq blsP × Fq blsP) (fe : Bool) :
    Gen.ExtraMiller.OptBls.miller_loop_core Q P fe lf dbl add tw cast L E =
      optBlsMillerG lf dbl add tw cast L (if fe then some E else none) Q P := by
  unfold Gen.ExtraMiller.OptBls.miller_loop_core optBlsMillerG
  simp only [or_self, if_false]
  rw [foldl_map_eq φBls (g₁ := optBlsStepG lf dbl add tw (cast P) (tw Q) Q) (((1 : OBls12), (1 : OBls12)), Q, tw Q)]
  · generalize List.foldl (optBlsStepG lf dbl add tw _ _ Q) _ L = s
    rcases s with ⟨⟨fn, fd⟩, R, tR⟩
    cases fe <;> tie_close
  · rintro ⟨⟨fn, fd⟩, R, tR⟩ v
    unfold Gen.ExtraMiller.OptBls.miller_loop_loop0 optBlsStepG
    tie_close
end coreOptBls

/-- optimized bls12_381 `miller_loop(Q, P, final_exponentiate)` as translated from the source (the
    `for v in pseudo_binary_encoding[62::-1]` loop over the state `(R, f_den, f_num, twist_R)`, the division
    `f_num / f_den`, the optional final exponentiation) is the model's `optBlsMillerLoop` at the digit table and exponent
    that the model's `pairingOptBls` passes.  (`Q is None` / `P is None` are `False`: the parameters are not Optional.) -/
theorem miller_loop_optBls_eq (Q : OBls2 × OBls2 × OBls2) (P : Fq blsP × Fq blsP × Fq blsP) (fe : Bool) :
    Gen.ExtraMiller.OptBls.miller_loop Q P fe =
      optBlsMillerLoop (digitsFrom optimized_bls12_381_pseudo_binary_encoding 62)
        (if fe then some ((blsP ^ 12 - 1) / optimized_bls12_381_curve_order) else none) Q P := by
  rw [optBlsMillerLoop_eq_G, digitsFrom]
  exact optBls_core_eq _ _ _ _ _ _ _ Q P fe

/-- re-arrangement of the loop state: model `((fNum, fDen), R)` ↦ generated `(R, f_den, f_num)` -/
abbrev φBn (s : (OBn12 × OBn12) × (OBn12 × OBn12 × OBn12)) : (OBn12 × OBn12 × OBn12) × OBn12 × OBn12 :=
  (s.2, s.1.2, s.1.1)

section coreOptBn
variable (lf : (OBn12 × OBn12 × OBn12) → (OBn12 × OBn12 × OBn12) → (OBn12 × OBn12 × OBn12) → OBn12 × OBn12)
  (dbl : (OBn12 × OBn12 × OBn12) → OBn12 × OBn12 × OBn12)
  (add : (OBn12 × OBn12 × OBn12) → (OBn12 × OBn12 × OBn12) → OBn12 × OBn12 × OBn12)
  (neg : (OBn12 × OBn12 × OBn12) → OBn12 × OBn12 × OBn12)

/-- the generated core equals the parametrised model for arbitrary callees, digit list and exponent (one-iteration lemma
    inline, as for bls12_381) -/
theorem optBn_core_eq (L : List Int) (E : Nat) (Q P : OBn12 × OBn12 × OBn12) (fe : Bool) :
    Gen.ExtraMiller.OptBn.miller_loop_core Q P fe lf dbl add neg L E =
      optBnMillerG bnP lf dbl neg add L (if fe then some E else none) Q P := by
  unfold Gen.ExtraMiller.OptBn.miller_loop_core optBnMillerG optBnPairG optBnTailPairG frobG
  simp only [or_self, if_false]
  rw [foldl_map_eq φBn (g₁ := optBnStepG lf dbl neg add Q P) (((1 : OBn12), (1 : OBn12)), Q)]
  · generalize List.foldl (optBnStepG lf dbl neg add Q P) _ L = s
    rcases s with ⟨⟨fn, fd⟩, R⟩
    rcases Q with ⟨qx, qy, qz⟩
    cases fe <;> tie_close
  · rintro ⟨⟨fn, fd⟩, R⟩ v
    unfold Gen.ExtraMiller.OptBn.miller_loop_loop0 optBnStepG
    tie_close
end coreOptBn

/-- optimized bn128 `miller_loop(Q, P, final_exponentiate)` as translated from the source (signed-digit loop with
    the `v == 1` / `v == -1` branches, the two Frobenius line evaluations, the division, the optional final
    exponentiation) is the model's `optBnMillerLoop` at the digit table and exponent that `pairingOptBn` passes. -/
theorem miller_loop_optBn_eq (Q P : OBn12 × OBn12 × OBn12) (fe : Bool) :
    Gen.ExtraMiller.OptBn.miller_loop Q P fe =
      optBnMillerLoop (digitsFrom optimized_bn128_pseudo_binary_encoding 63)
        (if fe then some ((bnP ^ 12 - 1) / optimized_bn128_curve_order) else none) Q P := by
  rw [optBnMillerLoop_eq_G, digitsFrom]
  exact optBn_core_eq _ _ _ _ _ _ Q P fe

/-- `ate_loop_count & (2**i)` is truthy iff the model's `bitSet` says so -/
theorem and_two_pow_ne_zero_iff (n i : Nat) : (n &&& 2 ^ i ≠ 0) ↔ bitSet n i = true := by
  have hbit : bitSet n i = n.testBit i := by
    unfold bitSet
    rw [Nat.testBit_eq_decide_div_mod_eq]
    by_cases h : n / 2 ^ i % 2 = 1 <;> simp [h]
  rw [hbit]
  constructor
  · intro hne
    cases hb : n.testBit i with
    | true => rfl
    | false =>
      exfalso
      apply hne
      apply Nat.eq_of_testBit_eq
      intro j
      rw [Nat.testBit_and, Nat.testBit_two_pow, Nat.zero_testBit]
      by_cases hij : i = j
      · subst hij; simp [hb]
      · simp [hij]
  · intro hb h0
    have : (n &&& 2 ^ i).testBit i = true := by
      rw [Nat.testBit_and, Nat.testBit_two_pow, hb]; simp
    rw [h0, Nat.zero_testBit] at this
    exact Bool.noConfusion this

section stepRef
variable {p : Nat} {mc12 : List Int}

/-- one iteration of a translated reference loop (state `(R, f)`, test `ate_loop_count & (2**i)`) against
    `refMillerStep` (state `(f, R)`), for arbitrary callees -/
theorem refStep_swap (ops : RefOps p mc12) (ate : Nat) (Q P R : Option (Fqp .ref p mc12 × Fqp .ref p mc12))
    (f : Fqp .ref p mc12) (i : Nat) :
    (do
      let r1 ← ops.linefunc R R P
      let f := f * f * r1
      let R := ops.double R
      if ate &&& 2 ^ i ≠ 0 then
        let r2 ← ops.linefunc R Q P
        let f := f * r2
        let R ← ops.add R Q
        pure (R, f)
      else pure (R, f)) = (refMillerStep ops ate Q P (f, R) i).map fun s => (s.2, s.1) := by
  unfold refMillerStep
  simp only [bind, Except.bind, pure, Except.pure, and_two_pow_ne_zero_iff]
  repeat' tie_step
  all_goals tie_leaf [Except.map]
end stepRef

section coreRefBls
abbrev PtBls := Option (RBls12 × RBls12)
variable (lf : PtBls → PtBls → PtBls → Except PyErr RBls12) (dbl : PtBls → PtBls) (add : PtBls → PtBls → Except PyErr PtBls)

/-- the generated core equals `refMillerLoop` (no Frobenius step) for arbitrary callees, loop bound and exponent.  The
    one-iteration lemma (generated loop body vs `refMillerStep`, state `(R, f)` vs `(f, R)`) is the side goal of `foldlM_map`:
    `refStep_swap`, which whatever step function the generated `foldlM` applies has to unfold to. -/
theorem refBls_core_eq (logAte E : Nat) (Q P : PtBls) :
    Gen.ExtraMiller.RefBls.miller_loop_core Q P lf dbl add ((List.range (logAte + 1)).reverse) E =
      refMillerLoop ⟨lf, dbl, add⟩ bls12_381_ate_loop_count logAte false E Q P := by
  unfold Gen.ExtraMiller.RefBls.miller_loop_core refMillerLoop downTo
  cases Q with
  | none => rfl
  | some q =>
    cases P with
    | none => rfl
    | some pp =>
      simp only [bind, Except.bind, pure, Except.pure, Option.isNone, Bool.or_self, reduceCtorEq, or_self, if_false,
        Bool.false_eq_true, if_true]
      rw [foldlM_map (fun s : RBls12 × PtBls => (s.2, s.1))
        (g₁ := refMillerStep ⟨lf, dbl, add⟩ bls12_381_ate_loop_count (some q) (some pp))
        (l := (List.range (logAte + 1)).reverse) (i := ((1 : RBls12), (some q)))]
      · cases List.foldlM (refMillerStep ⟨lf, dbl, add⟩ bls12_381_ate_loop_count (some q) (some pp)) ((1 : RBls12), (some q))
          (List.range (logAte + 1)).reverse with
        | error e => rfl
        | ok s =>
          rcases s with ⟨f, R⟩
          simp only [Except.map]
          repeat' tie_step
      · rintro ⟨f, R⟩ i
        exact refStep_swap ⟨lf, dbl, add⟩ _ _ _ R f i
end coreRefBls

/-- reference bls12_381 `miller_loop(Q, P)` as translated from the source (`None` guard, the
    `for i in range(log_ate_loop_count, -1, -1)` loop with `ate_loop_count & (2**i)`, exceptions of `linefunc` / `add`
    propagated in order, the final exponentiation) is the model's `refMillerLoop` as `pairingRefBls` calls it. -/
theorem miller_loop_refBls_eq (Q P : Option (RBls12 × RBls12)) :
    Gen.ExtraMiller.RefBls.miller_loop Q P =
      refMillerLoop refBlsOps bls12_381_ate_loop_count bls12_381_log_ate_loop_count false blsFinalExp Q P :=
  refBls_core_eq _ _ _ _ _ Q P

section coreRefBn
abbrev PtBn := Option (RBn12 × RBn12)
variable (lf : PtBn → PtBn → PtBn → Except PyErr RBn12) (dbl : PtBn → PtBn) (add : PtBn → PtBn → Except PyErr PtBn)

/-- the generated core equals `refMillerLoop` (with the Frobenius steps) for arbitrary callees, loop bound and exponent.  The
    one-iteration lemma (generated loop body vs `refMillerStep`, state `(R, f)` vs `(f, R)`) is the side goal of `foldlM_map`:
    `refStep_swap`, which whatever step function the generated `foldlM` applies has to unfold to. -/
theorem refBn_core_eq (logAte E : Nat) (Q P : PtBn) :
    Gen.ExtraMiller.RefBn.miller_loop_core Q P lf dbl add ((List.range (logAte + 1)).reverse) E =
      refMillerLoop ⟨lf, dbl, add⟩ bn128_ate_loop_count logAte true E Q P := by
  unfold Gen.ExtraMiller.RefBn.miller_loop_core refMillerLoop downTo
  cases Q with
  | none => rfl
  | some q =>
    cases P with
    | none => rfl
    | some pp =>
      rcases q with ⟨qx, qy⟩
      simp only [bind, Except.bind, pure, Except.pure, Option.isNone, Bool.or_self, reduceCtorEq, or_self, if_false,
        Bool.false_eq_true, if_true]
      rw [foldlM_map (fun s : RBn12 × PtBn => (s.2, s.1))
        (g₁ := refMillerStep ⟨lf, dbl, add⟩ bn128_ate_loop_count (some (qx, qy)) (some pp))
        (l := (List.range (logAte + 1)).reverse) (i := ((1 : RBn12), (some (qx, qy))))]
      · cases List.foldlM (refMillerStep ⟨lf, dbl, add⟩ bn128_ate_loop_count (some (qx, qy)) (some pp)) ((1 : RBn12), (some (qx, qy)))
          (List.range (logAte + 1)).reverse with
        | error e => rfl
        | ok s =>
          rcases s with ⟨f, R⟩
          simp only [Except.map]
          repeat' tie_step
      · rintro ⟨f, R⟩ i
        exact refStep_swap ⟨lf, dbl, add⟩ _ _ _ R f i
end coreRefBn

/-- reference bn128 `miller_loop(Q, P)` as translated from the source (as for bls12_381, plus the two Frobenius
    steps; `Q[0]` on an Optional point is a `TypeError` when `Q is None`, unreachable after the guard) is the model's
    `refMillerLoop` with `frob = true` as `pairingRefBn` calls it. -/
theorem miller_loop_refBn_eq (Q P : Option (RBn12 × RBn12)) :
    Gen.ExtraMiller.RefBn.miller_loop Q P =
      refMillerLoop refBnOps bn128_ate_loop_count bn128_log_ate_loop_count true bnFinalExp Q P :=
  refBn_core_eq _ _ _ _ _ Q P

end PyEcc.Tie
