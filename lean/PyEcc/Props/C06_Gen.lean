/-
  PyEcc.Props.C06_Gen — property C06 restated about the GENERATED code: `privtopub`, `ecdsa_raw_sign`, `ecdsa_raw_recover`,
  `bytes_to_int`, `deterministic_generate_k` of `py_ecc/secp256k1/secp256k1.py`, as translated from the Python source on this run
  (`PyEcc.Gen.ExtraSecp.*`, `PyEcc.Gen.ExtraHashSecp.*`, over the generated Jacobian arithmetic `PyEcc.Gen.Secp.*`).
  Every theorem is the model theorem of `Props/C06.lean` / `Props/C06_Recover.lean` (`privtopub`: `Props/C18.lean`) composed
  with the tie theorems of `Props/TieSecp.lean`, `Props/TieHashSecp.lean` (`Gen.… f = model f`).  No hypothesis is added.

  Conventions of the translation that show in the statements: in `ecdsa_raw_sign` the call `deterministic_generate_k(msghash, priv)`
  is the explicit last parameter `k`, so the Python function `ecdsa_raw_sign(msghash, priv)` is the term
  `ecdsa_raw_sign msghash priv (deterministic_generate_k msghash priv H)`; `hashlib.sha256` is the explicit parameter `H`.
  On the specification side: `Gpt`, `reprSecp`, `Verifies` (Mathlib's group `E(F_P)` of secp256k1, `PyEcc.SecpSem` / `PyEcc.EcdsaSem`),
  `Spec.rfc6979FirstCandidate` (RFC 6979 §3.2), `Spec.OS2IP`.
-/
import PyEcc.Props.C06_Recover
import PyEcc.Props.TieSecp
import PyEcc.Props.TieHashSecp

namespace PyEcc.C06.Gen
open WeierstrassCurve PyEcc PyEcc.Gen.Secp PyEcc.SecpSem PyEcc.Gen.Consts PyEcc.EcdsaSem
open PyEcc.Gen.ExtraSecp PyEcc.Gen.ExtraHashSecp

/-- **`bytes_to_int` is big-endian OS2IP.**  The function translated from `bytes_to_int(x)` returns the (non-negative) integer whose
    big-endian base-256 digits are the bytes of `x` (`OS2IP` of RFC 8017 / RFC 9380 §4), for every byte string. -/
theorem bytes_to_int_spec (x : Bytes) : bytes_to_int x = (Spec.OS2IP x : ℤ) := by
  rw [Tie.bytes_to_int_eq, C15.OS2IP_eq_os2ip]
  rfl

/-- the un-normalised `s = inv(k, N) * (z + r * d) % N` of `ecdsa_raw_sign`, `z = bytes_to_int(msghash)`,
    `d = bytes_to_int(priv)`, written with the generated `bytes_to_int` and `inv` -/
def s0 (msghash priv : Bytes) (k r : ℤ) : ℤ :=
  inv k N * (bytes_to_int msghash + r * bytes_to_int priv) % N

theorem s0_eq (h priv : Bytes) (k r : ℤ) : s0 h priv k r = signS0 h priv k r := by
  unfold s0 signS0
  rw [Tie.bytes_to_int_eq, Tie.bytes_to_int_eq]

/-- **The generated `ecdsa_raw_sign` never raises** (for any message hash, key bytes and nonce `k`, also `k ≤ 0` or `k ≥ N`). -/
theorem sign_total (h priv : Bytes) (k : ℤ) : ∃ v r s, ecdsa_raw_sign h priv k = .ok (v, r, s) := by
  simp only [Tie.ecdsa_raw_sign_eq]
  exact C06.sign_total h priv k

/-- **Shape of a signature, generated code.**  Whenever the translated `ecdsa_raw_sign` (run with nonce `k`) returns `(v, r, s)`:
`(r, y) = multiply(G, k)` for some `y`; with `s₀ = inv(k, N)·(z + r·d) % N` the un-normalised `s` (`z`, `d` the `bytes_to_int`
of the hash and the key): `v ∈ {27, 28}`; `s` is LOW: `0 ≤ s` and `2s < N`; `s = s₀` or `s = N − s₀` according to whether
`2s₀ < N`; `s ≥ 1` unless `s₀ = 0`; `s ≡ 0 (mod N)` only if `s₀ = 0`; and `v − 27` is the parity of `y` XOR "the low-`s` flip
happened": `v = 28` exactly when (`y` is odd) ≠ (`2s₀ ≥ N`). -/
theorem sign_shape (h priv : Bytes) (k v r s : ℤ) (hs : ecdsa_raw_sign h priv k = .ok (v, r, s)) :
    ∃ y : ℤ, multiply G k = .ok (r, y) ∧
      (v = 27 ∨ v = 28) ∧ 0 ≤ s ∧ s * 2 < N ∧
      s = (if s0 h priv k r * 2 < N then s0 h priv k r else N - s0 h priv k r) ∧
      (s0 h priv k r ≠ 0 → 1 ≤ s) ∧ (s0 h priv k r ≠ 0 ↔ s % N ≠ 0) ∧
      (v = 28 ↔ ¬ (y % 2 = 1 ↔ N ≤ s0 h priv k r * 2)) := by
  rw [Tie.ecdsa_raw_sign_eq] at hs
  rw [s0_eq]
  exact C06.sign_shape h priv k v r s hs

/-- non-vacuity: `sign_total` provides a signature for every input -/
example : ∃ v r s, ecdsa_raw_sign [1] [1] 1 = .ok (v, r, s) := sign_total _ _ _

/-! ### the nonce is RFC 6979's first candidate -/

/-- **The generated nonce is RFC 6979's first candidate.**  For every hash function `H` with 32-byte digests (in particular
SHA-256, which the code uses) and ALL byte strings `msghash`, `priv`: the function translated from
`deterministic_generate_k(msghash, priv)` equals the first candidate `k = bits2int(T)` of RFC 6979 §3.2 (`V = 0x01³²`, `K = 0x00³²`,
`K = HMAC_K(V‖0x00‖x‖h)`, `V = HMAC_K(V)`, `K = HMAC_K(V‖0x01‖x‖h)`, `V = HMAC_K(V)`, `T = V = HMAC_K(V)`) with HMAC as specified
in RFC 2104, where the octet strings `x = priv` and `h = msghash` are fed as given (note the order: key first). -/
theorem nonce_is_rfc6979 (H : HashFn) (hw : H.WF) (h32 : H.digestSize = 32) (h priv : Bytes) :
    deterministic_generate_k h priv H = (Spec.rfc6979FirstCandidate H priv h : ℤ) := by
  rw [Tie.deterministic_generate_k_eq]
  exact C06.nonce_is_rfc6979 H hw h32 h priv

/-- non-vacuity of the hypotheses of `nonce_is_rfc6979`: SHA-256 -/
example : sha256Fn.WF ∧ sha256Fn.digestSize = 32 := ⟨C15.sha256Fn_WF, rfl⟩

/-- **With the RFC's own input conversion, generated code.**  If the key is a 32-byte string (`int2octets(x) = priv` for `x` its
big-endian int) and the message hash is a 32-byte string whose int is `< N` (so that `bits2octets(h1) = h1`), the translated
`deterministic_generate_k` returns RFC 6979's first candidate for private key `x = OS2IP(priv)`, hash value `h1 = msghash`, group
order `q = N`.  For `bytes_to_int(msghash) ≥ N` the RFC feeds the hash REDUCED mod `N`, the code feeds it unreduced: there the
two differ. -/
theorem nonce_is_rfc6979_int (H : HashFn) (hw : H.WF) (h32 : H.digestSize = 32) (h priv : Bytes)
    (hp : priv.length = 32) (hh : h.length = 32) (hz : bytes_to_int h < N) :
    deterministic_generate_k h priv H = (Spec.rfc6979FirstCandidateInt H N.toNat (Spec.OS2IP priv) h : ℤ) := by
  rw [Tie.deterministic_generate_k_eq, C15.OS2IP_eq_os2ip]
  rw [Tie.bytes_to_int_eq] at hz
  exact C06.nonce_is_rfc6979_int H hw h32 h priv hp hh hz

example : ([0,0,0,0,0,0,0,0,0,0,0,0,0,0,0,0,0,0,0,0,0,0,0,0,0,0,0,0,0,0,0,1] : Bytes).length = 32 ∧
    bytes_to_int [0,0,0,0,0,0,0,0,0,0,0,0,0,0,0,0,0,0,0,0,0,0,0,0,0,0,0,0,0,0,0,1] < N := by decide

/-! ### sign, then recover -/

/-- **`privtopub` is `d • G`, generated code.**  The function translated from `privtopub(priv)` never raises and returns the
    representation (`(0, 0)` for the identity, else reduced affine coordinates) of the point `d • G` of Mathlib's group `E(F_P)`,
    `d = bytes_to_int(priv)` — for every byte string `priv`. -/
theorem privtopub_refines (priv : Bytes) :
    privtopub priv = .ok (reprSecp ((bytes_to_int priv) • Gpt)) := by
  rw [Tie.privtopub_eq, Tie.bytes_to_int_eq]
  exact C18.privtopub_refines priv

/-- **Sign, then recover — generated code.**  Let `(v, r, s)` be returned by the translated `ecdsa_raw_sign` for message hash `h`,
key bytes `priv` (ANY byte strings; `z`, `d` their `bytes_to_int`) and nonce `k` (ANY int), and suppose `r ≢ 0` and `s ≢ 0 (mod N)`
(the two conditions under which ECDSA asks for a new nonce; they are exactly what `ecdsa_raw_recover` tests).  Then
`k ≢ 0 (mod N)`; the translated `ecdsa_raw_recover(h, (v, r, s))` returns what the translated `privtopub(priv)` returns, the
representation of `d • G`; with the OTHER recovery id `55 − v` (28 ↔ 27) it returns something else; `r` is the `x`-coordinate of
`k • G` as an int in `[0, P)` (NOT reduced mod `N`); and `(r, s)` verifies for `z` and `d • G` by the textbook algorithm
(`Verifies`, SEC 1 §4.1.4): `x((z/s) • G + (r/s) • (d • G)) ≡ r`. -/
theorem sign_recover (h priv : Bytes) (k v r s : ℤ) (hsig : ecdsa_raw_sign h priv k = .ok (v, r, s))
    (hr : r % N ≠ 0) (hs : s % N ≠ 0) :
    k % N ≠ 0 ∧
    ecdsa_raw_recover h (v, r, s) = privtopub priv ∧
    ecdsa_raw_recover h (v, r, s) = .ok (reprSecp ((bytes_to_int priv) • Gpt)) ∧
    ecdsa_raw_recover h (55 - v, r, s) ≠ privtopub priv ∧
    (∃ y, reprSecp (k • Gpt) = (r, y)) ∧
    Verifies (bytes_to_int h) r s ((bytes_to_int priv) • Gpt) := by
  rw [Tie.ecdsa_raw_sign_eq] at hsig
  simp only [Tie.ecdsa_raw_recover_eq, Tie.privtopub_eq, Tie.bytes_to_int_eq]
  exact C06.sign_recover h priv k v r s hsig hr hs

/-- non-vacuity of the hypotheses of `sign_recover` (kernel evaluation of the generated code): a signature with
`r, s ≢ 0 (mod N)`; `multiply(G, 1) = G`, so `r = Gx`. -/
example : ∃ v s, ecdsa_raw_sign [1] [1] 1 = .ok (v, Gx, s) ∧ Gx % N ≠ 0 ∧ s % N ≠ 0 := by
  have hm : multiply G 1 = .ok (Gx, Gy) := by
    have := C18.multiply_refines Gpt 1
    rwa [one_smul, reprSecp_Gpt] at this
  have hsig := rawSignWithK_of_ok (h := [1]) (priv := [1]) hm
  rw [← Tie.ecdsa_raw_sign_eq] at hsig
  refine ⟨_, _, hsig, by decide, ?_⟩
  decide

/-- **The deterministic entry point — generated code.**  The same for the Python function `ecdsa_raw_sign(msghash, priv)` itself,
i.e. the translated `ecdsa_raw_sign` run with the nonce returned by the translated `deterministic_generate_k` (any hash function
`H` in place of SHA-256): whenever the returned `(v, r, s)` has `r, s ≢ 0 (mod N)`, the translated
`ecdsa_raw_recover(msghash, (v, r, s))` returns exactly the translated `privtopub(priv)`, the other recovery id does not, and
the signature verifies for `privtopub(priv)`. -/
theorem sign_recover_deterministic (H : HashFn) (h priv : Bytes) (v r s : ℤ)
    (hsig : ecdsa_raw_sign h priv (deterministic_generate_k h priv H) = .ok (v, r, s))
    (hr : r % N ≠ 0) (hs : s % N ≠ 0) :
    ecdsa_raw_recover h (v, r, s) = privtopub priv ∧
    ecdsa_raw_recover h (55 - v, r, s) ≠ privtopub priv ∧
    Verifies (bytes_to_int h) r s ((bytes_to_int priv) • Gpt) := by
  obtain ⟨-, h1, -, h2, -, h3⟩ := sign_recover h priv _ v r s hsig hr hs
  exact ⟨h1, h2, h3⟩

/-- **C06 in one statement — generated code.**  For every hash function `H` with 32-byte digests (SHA-256 is what the code uses)
and ALL byte strings `msghash`, `priv`: the Python function `ecdsa_raw_sign(msghash, priv)` as translated — `ecdsa_raw_sign` run with
the nonce of `deterministic_generate_k` — returns some `(v, r, s)`; the nonce is RFC 6979's first candidate; `v ∈ {27, 28}`;
`0 ≤ s` and `2s < N` (low `s`); and if `r, s ≢ 0 (mod N)` (otherwise ECDSA prescribes a new nonce, which the code does not do) then
`ecdsa_raw_recover(msghash, (v, r, s))` returns exactly `privtopub(priv)`, the other `v` does not, and `(r, s)` verifies for the
public key `d • G`. -/
theorem sign_headline (H : HashFn) (hw : H.WF) (h32 : H.digestSize = 32) (h priv : Bytes) :
    deterministic_generate_k h priv H = (Spec.rfc6979FirstCandidate H priv h : ℤ) ∧
    ∃ v r s, ecdsa_raw_sign h priv (deterministic_generate_k h priv H) = .ok (v, r, s) ∧
      (v = 27 ∨ v = 28) ∧ 0 ≤ s ∧ s * 2 < N ∧
      (r % N ≠ 0 → s % N ≠ 0 →
        ecdsa_raw_recover h (v, r, s) = privtopub priv ∧
        ecdsa_raw_recover h (55 - v, r, s) ≠ privtopub priv ∧
        privtopub priv = .ok (reprSecp ((bytes_to_int priv) • Gpt)) ∧
        Verifies (bytes_to_int h) r s ((bytes_to_int priv) • Gpt)) := by
  refine ⟨nonce_is_rfc6979 H hw h32 h priv, ?_⟩
  obtain ⟨v, r, s, hsig⟩ := sign_total h priv (deterministic_generate_k h priv H)
  obtain ⟨y, -, hv, hs0, hlow, -⟩ := sign_shape h priv _ v r s hsig
  refine ⟨v, r, s, hsig, hv, hs0, hlow, fun hr hs => ?_⟩
  obtain ⟨h1, h2, h3⟩ := sign_recover_deterministic H h priv v r s hsig hr hs
  exact ⟨h1, h2, privtopub_refines priv, h3⟩

end PyEcc.C06.Gen

section AxiomAudit
open PyEcc.C06.Gen
#print axioms bytes_to_int_spec
#print axioms sign_total
#print axioms sign_shape
#print axioms nonce_is_rfc6979
#print axioms nonce_is_rfc6979_int
#print axioms privtopub_refines
#print axioms sign_recover
#print axioms sign_recover_deterministic
#print axioms sign_headline
end AxiomAudit
