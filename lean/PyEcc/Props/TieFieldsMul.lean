/-
  PyEcc.Props.TieFieldsMul — TIE theorems ("generated = hand-written model") for the FIELD layer, part 3: the polynomial
  product `FQP.__mul__` (FQP operand), `__rmul__` and `__pow__` of BOTH field modules.

  `Gen/ExtraFieldsMul.lean` is re-generated from the Python source on every run (tools/translate/gen_fields.py).
    * reference `FQP.__mul__`: the double loop `b[i + j] += self.coeffs[i] * other.coeffs[j]` on `FQ` objects and the
      `while len(b) > self.degree` reduction with `b.pop()`  ↔  `convLoop (· % p)` + `refReduce`   (`MulRef.mul_fqp_eq`);
    * optimized `FQP.__mul__`: the `enumerate` double loop on ints and `for exp in range(self.degree - 2, -1, -1)` with
      `mc_tuples`  ↔  `convLoop id` + `optReduce`   (`MulOpt.mul_fqp_eq`);
    * `__pow__` (both): the square-and-multiply `while other > 0` loop  ↔  `Fqp.powAux` on the same fuel (`pow_eq`).
  In-place list updates `b[k] op= v` are `updAt` in the generated code as in the model; the arithmetic on the entries is the
  generated `FQ` method in the reference class (so the `% p` of the model comes from the TYPE of the entries) and plain
  integer arithmetic in the optimized class.  Objects are related to model elements by `FqpRef.obj` / `FqpOpt.obj`
  (see TieFieldsFqp.lean); `.ok` says that the constructor's length check passes.
-/
import PyEcc.Gen.ExtraFieldsMul
import PyEcc.Props.TieFieldsFqp

namespace PyEcc.Tie
open PyEcc

/-! ### list lemmas -/

/-- every entry is reduced modulo `p` -/
def AllRed (p : Nat) (l : List Int) : Prop := ∀ x ∈ l, x % (p : Int) = x

theorem AllRed.updAt {p : Nat} {l : List Int} (h : AllRed p l) (i : Nat) (f : Int → Int)
    (hf : ∀ x, f x % (p : Int) = f x) : AllRed p (updAt l i f) := by
  induction l generalizing i with
  | nil => exact h
  | cons x xs ih =>
    cases i with
    | zero =>
      intro y hy
      simp only [PyEcc.updAt, List.mem_cons] at hy
      rcases hy with rfl | hy
      · exact hf x
      · exact h y (List.mem_cons_of_mem _ hy)
    | succ i =>
      intro y hy
      simp only [PyEcc.updAt, List.mem_cons] at hy
      rcases hy with rfl | hy
      · exact h y (List.mem_cons_self)
      · exact ih (fun z hz => h z (List.mem_cons_of_mem _ hz)) i y hy

theorem AllRed.dropLast {p : Nat} {l : List Int} (h : AllRed p l) : AllRed p l.dropLast :=
  fun x hx => h x (List.dropLast_subset l hx)

theorem AllRed.map_id {p : Nat} {l : List Int} (h : AllRed p l) : l.map (fun c => c % (p : Int)) = l := by
  induction l with
  | nil => rfl
  | cons x xs ih =>
    simp only [List.map_cons]
    rw [h x List.mem_cons_self, ih (fun z hz => h z (List.mem_cons_of_mem _ hz))]

theorem allRed_convLoop (p : Nat) (a b : List Int) (d : Nat) :
    AllRed p (Fqp.convLoop (fun x => x % (p : Int)) a b d) := by
  unfold Fqp.convLoop
  refine fields_foldl_inv (P := AllRed p) (fun x hx => by rw [List.eq_of_mem_replicate hx]; rfl) ?_
  intro acc i hacc
  exact fields_foldl_inv (P := AllRed p) hacc (fun acc j hacc => hacc.updAt _ _ (fun x => Int.emod_emod _ _))

theorem allRed_refReduce (p : Nat) (mc : List Int) (d : Nat) : ∀ (f : Nat) (b : List Int),
    AllRed p b → AllRed p (Fqp.refReduce p mc d f b) := by
  intro f
  induction f with
  | zero => intro b h; exact h
  | succ f ih =>
    intro b h
    unfold Fqp.refReduce
    by_cases hgt : b.length > d
    · simp only [hgt, if_true]
      exact ih _ (fields_foldl_inv (P := AllRed p) h.dropLast
        (fun acc i hacc => hacc.updAt _ _ (fun x => Int.emod_emod _ _)))
    · simp only [hgt, if_false]; exact h

/-! ### `__pow__`: the square-and-multiply loop -/

/-- the `while other > 0` loop of `FQP.__pow__` (state `(other, o, t)`, the variables in the order in which the method
    first binds them), over any product `mul`; the generated loops of both classes are this loop (`pow_loop0_eq`) -/
def sqmulLoop {G ε : Type} (mul : G → G → Except ε G) : Nat → Int × G × G → Except ε (Int × G × G)
  | 0, st => pure st
  | fuel+1, (other, o, t) =>
    if other > 0 then do
      let o ← (if other % 2 ≠ 0 then do
          let r ← mul o t
          pure r
        else pure o)
      let other := other / 2
      let t ← mul t t
      sqmulLoop mul fuel (other, o, t)
    else pure (other, o, t)

section sqmul
variable {v : Variant} {p : Nat} {mc : List Int} {G : Type} (obj : Fqp v p mc → G) (mul : G → G → Except PyErr G)
  (P : Fqp v p mc → Prop) (hmul : ∀ a b, P a → P b → mul (obj a) (obj b) = .ok (obj (Fqp.mul a b)))
  (hP : ∀ a b, P (Fqp.mul a b))
include hmul hP

/-- when `mul` is the model's product on the objects of elements with `P` (which every product has), the loop returns
    and its `o` is the model's `Fqp.powAux` on the same fuel, for a natural exponent -/
theorem sqmulLoop_eq : ∀ (f : Nat) (o t : Fqp v p mc) (e : Nat), P o → P t →
    ∃ e' t', sqmulLoop mul f ((e : Int), obj o, obj t) = .ok (e', obj (Fqp.powAux f o t e), t') := by
  intro f
  induction f with
  | zero => intro o t e _ _; exact ⟨_, _, rfl⟩
  | succ f ih =>
    intro o t e ho ht
    unfold sqmulLoop Fqp.powAux
    by_cases h0 : e = 0
    · subst h0; exact ⟨_, _, rfl⟩
    · rw [if_pos (Int.natCast_pos.mpr (Nat.pos_of_ne_zero h0)), if_neg h0, hmul o t ho ht, hmul t t ht ht,
        show ((e : Int) / 2) = ((e / 2 : Nat) : Int) from rfl]
      by_cases hodd : e % 2 = 1
      · rw [if_pos hodd, if_pos ((int_odd_iff e).2 hodd)]
        exact ih _ _ _ (hP _ _) (hP _ _)
      · rw [if_neg hodd, if_neg (fun h => hodd ((int_odd_iff e).1 h))]
        exact ih _ _ _ ho (hP _ _)

/-- started as `__pow__` starts it (`o = 1`, `t = self`, fuel `other.toNat`) the loop's `o` is the model's `Fqp.pow`, for
    every int exponent (for a negative one the loop does not run and `o` stays `1`) -/
theorem sqmulLoop_pow (a : Fqp v p mc) (e : Int) (h1 : P Fqp.one) (ha : P a) :
    ∃ e' t', sqmulLoop mul e.toNat (e, obj Fqp.one, obj a) = .ok (e', obj (Fqp.pow a e.toNat), t') := by
  by_cases h : 0 ≤ e
  · obtain ⟨k, rfl⟩ := Int.eq_ofNat_of_zero_le h
    exact sqmulLoop_eq obj mul P hmul hP k Fqp.one a k h1 ha
  · rw [Int.toNat_of_nonpos (Int.le_of_lt (Int.not_le.1 h))]; exact ⟨_, _, rfl⟩

end sqmul

namespace MulRef
open Gen.ExtraFieldsFq.Ref Gen.ExtraFieldsFqp.Ref Gen.ExtraFieldsMul.Ref FqpRef
variable {p : Nat} {mc : List Int}

set_option linter.unusedSimpArgs false in
/-- the `while len(b) > self.degree` loop generated from reference `FQP.__mul__` is the model's `refReduce` -/
theorem mul_loop_eq (a : Fqp .ref p mc) : ∀ (f : Nat) (b : List Int),
    FQP.mul_fqp_loop0 p mc (obj a) f b = Fqp.refReduce p mc mc.length f b := by
  intro f
  induction f with
  | zero => intro b; rfl
  | succ f ih =>
    intro b
    unfold FQP.mul_fqp_loop0 Fqp.refReduce
    simp only [obj, FQ.sub_fq, FQ.mul_fq, FQ.init_int, Int.emod_emod]
    by_cases hgt : b.length > mc.length
    · -- `exp` may be computed before the `b.pop()` (`len(b) - degree - 1`) or after it (`len(b) - degree`)
      have hlen : b.dropLast.length - mc.length = b.length - mc.length - 1 := by
        rw [List.length_dropLast]; omega
      simp only [hgt, if_true, hlen]
      exact ih _
    · simp only [hgt, if_false]

/-- reference `FQP.__mul__` with an `FQP` operand (double loop on `FQ` entries + `while`/`pop` reduction) is the model's
    `Fqp.mul` (`convLoop (· % p)` + `refReduce`), for ALL operands (no well-formedness needed: the loops run over
    `range(self.degree)`). -/
theorem mul_fqp_eq (a b : Fqp .ref p mc) :
    FQP.mul_fqp p mc (obj a) (obj b) = .ok (obj (Fqp.mul a b)) := by
  have hdeg : (obj a).degree = mc.length := rfl
  unfold FQP.mul_fqp
  simp only [mul_loop_eq, hdeg]
  simp only [obj, FQ.add_fq, FQ.mul_fq, FQ.init_int, Int.emod_emod, Int.zero_emod, List.map_const', List.length_range]
  show FQPsub.init_fqs p mc (Fqp.refReduce p mc mc.length mc.length
    (Fqp.convLoop (fun x => x % (p : Int)) a.coeffs b.coeffs mc.length)) = _
  rw [init_fqs_eq, if_neg (fun h => h ((List.length_map _).symm.trans (FqpSem.mul_wf a b)))]
  have hred := allRed_refReduce p mc mc.length mc.length _ (allRed_convLoop p a.coeffs b.coeffs mc.length)
  simp only [obj, Fqp.mul, Fqp.ofInts, hred.map_id]

theorem wf_mul (a b : Fqp .ref p mc) : (Fqp.mul a b).coeffs.length = mc.length := FqpSem.mul_wf a b

set_option smartUnfolding false in
/-- the `while other > 0` loop generated from reference `FQP.__pow__` is `sqmulLoop` over the generated product -/
theorem pow_loop0_eq (p : Int) (mc : List Int) : FQP.pow_loop0 p mc = sqmulLoop (FQP.mul_fqp p mc) := rfl

/-- reference `FQP.__pow__(other)` is the model's `Fqp.pow` for every int exponent (negative: `1`), for a modulus of degree
    at least 1 (otherwise the constructor of the initial `1` raises); the base may be ANY element. -/
theorem pow_eq (a : Fqp .ref p mc) (e : Int) (hd : 1 ≤ mc.length) :
    FQP.pow p mc (obj a) e = .ok (obj (Fqp.pow a e.toNat)) := by
  have hdeg : (obj a).degree = mc.length := rfl
  unfold FQP.pow
  obtain ⟨_, _, h⟩ := sqmulLoop_pow obj (FQP.mul_fqp p mc) (fun _ => True) (fun a b _ _ => mul_fqp_eq a b)
    (fun _ _ => trivial) a e trivial trivial
  rw [init_ints_eq, hdeg, if_neg (fun h => h (FqpSem.length_scalar hd 1)), pow_loop0_eq]
  show (sqmulLoop _ _ (e, obj Fqp.one, obj a) >>= _) = _
  rw [h]; rfl

/-- reference `FQP.__rmul__` delegates to `self * other`: `int` operand. -/
theorem rmul_int_eq (a : Fqp .ref p mc) (k : Int) (ha : a.coeffs.length = mc.length) :
    FQP.rmul_int p mc (obj a) k = .ok (obj (Fqp.mulInt a k)) := by
  unfold FQP.rmul_int; exact mul_int_eq a k ha

/-- reference `FQP.__rmul__` delegates to `self * other`: `FQP` operand. -/
theorem rmul_fqp_eq (a b : Fqp .ref p mc) : FQP.rmul_fqp p mc (obj a) (obj b) = .ok (obj (Fqp.mul a b)) := by
  unfold FQP.rmul_fqp; exact mul_fqp_eq a b
/- non-vacuity of the hypotheses of `pow_eq` -/
example : FQP.pow 7 [1, 0] (obj (⟨[1, 2]⟩ : Fqp .ref 7 [1, 0])) 5 = .ok (obj (Fqp.pow (⟨[1, 2]⟩ : Fqp .ref 7 [1, 0]) 5)) :=
  pow_eq _ 5 (by decide)
end MulRef

namespace MulOpt
open Gen.ExtraFieldsFq.Opt Gen.ExtraFieldsFqp.Opt Gen.ExtraFieldsMul.Opt FqpOpt
variable {p : Nat} {mc : List Int}

/-- optimized `FQP.__mul__` with an `FQP` operand (`enumerate` double loop on ints + `mc_tuples` reduction) is the model's
    `Fqp.mul` (`convLoop id` + `optReduce`), on well-formed operands (`enumerate(self.coeffs)` runs over the actual
    coefficients, the model over `range(degree)`). -/
theorem mul_fqp_eq (a b : Fqp .opt p mc) (ha : a.coeffs.length = mc.length) (hb : b.coeffs.length = mc.length) :
    FQP.mul_fqp p mc (obj a) (obj b) = .ok (obj (Fqp.mul a b)) := by
  unfold FQP.mul_fqp
  simp only [obj, FqpSem.zip_range_eq_map, List.foldl_map]
  simp only [ha, hb]
  rw [init_ints_eq, if_neg]
  · simp only [obj, Fqp.mul, Fqp.ofInts, List.map_map, Function.comp_def, Int.emod_emod]
    rfl
  · exact fun h => h (FqpSem.mul_wf a b)

set_option smartUnfolding false in
/-- the `while other > 0` loop generated from optimized `FQP.__pow__` is `sqmulLoop` over the generated product -/
theorem pow_loop0_eq (p : Int) (mc : List Int) : FQP.pow_loop0 p mc = sqmulLoop (FQP.mul_fqp p mc) := rfl

/-- optimized `FQP.__pow__(other)` is the model's `Fqp.pow` for every int exponent (negative: `1`), for a modulus of degree
    at least 1 (otherwise the constructor of the initial `1` raises) and a well-formed base. -/
theorem pow_eq (a : Fqp .opt p mc) (e : Int) (hd : 1 ≤ mc.length) (ha : a.coeffs.length = mc.length) :
    FQP.pow p mc (obj a) e = .ok (obj (Fqp.pow a e.toNat)) := by
  have hdeg : (obj a).degree = mc.length := rfl
  unfold FQP.pow
  obtain ⟨_, _, h⟩ := sqmulLoop_pow obj (FQP.mul_fqp p mc) (fun a => a.coeffs.length = mc.length) mul_fqp_eq FqpSem.mul_wf a e
    (FqpSem.wf_one hd) ha
  rw [init_ints_eq, hdeg, if_neg (fun h => h (FqpSem.length_scalar hd 1)), pow_loop0_eq]
  show (sqmulLoop _ _ (e, obj Fqp.one, obj a) >>= _) = _
  rw [h]; rfl

/-- optimized `FQP.__rmul__` delegates to `self * other`: `int` operand. -/
theorem rmul_int_eq (a : Fqp .opt p mc) (k : Int) (ha : a.coeffs.length = mc.length) :
    FQP.rmul_int p mc (obj a) k = .ok (obj (Fqp.mulInt a k)) := by
  unfold FQP.rmul_int; exact mul_int_eq a k ha

/-- optimized `FQP.__rmul__` delegates to `self * other`: `FQP` operand. -/
theorem rmul_fqp_eq (a b : Fqp .opt p mc) (ha : a.coeffs.length = mc.length) (hb : b.coeffs.length = mc.length) :
    FQP.rmul_fqp p mc (obj a) (obj b) = .ok (obj (Fqp.mul a b)) := by
  unfold FQP.rmul_fqp; exact mul_fqp_eq a b ha hb
/- non-vacuity of the hypotheses -/
example : FQP.mul_fqp 7 [1, 0] (obj (⟨[1, 2]⟩ : Fqp .opt 7 [1, 0])) (obj (⟨[3, 6]⟩ : Fqp .opt 7 [1, 0])) =
    .ok (obj (Fqp.mul (⟨[1, 2]⟩ : Fqp .opt 7 [1, 0]) ⟨[3, 6]⟩)) := mul_fqp_eq _ _ rfl rfl
example : FQP.pow 7 [1, 0] (obj (⟨[1, 2]⟩ : Fqp .opt 7 [1, 0])) 5 = .ok (obj (Fqp.pow (⟨[1, 2]⟩ : Fqp .opt 7 [1, 0]) 5)) :=
  pow_eq _ 5 (by decide) rfl
end MulOpt
end PyEcc.Tie
