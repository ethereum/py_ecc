/-
  PyEcc.Props.C19_Gen — property C19 restated about the GENERATED code: `ecdsa_raw_recover` (and `bytes_to_int`) of
  `py_ecc/secp256k1/secp256k1.py`, as translated from the Python source on this run (`PyEcc.Gen.ExtraSecp.ecdsa_raw_recover`,
  `PyEcc.Gen.ExtraHashSecp.bytes_to_int`, over the generated Jacobian arithmetic `PyEcc.Gen.Secp.*`): it refuses exactly the
  malformed inputs, only ever raises `ValueError`, lifts `r` to the point with the parity encoded in `v`, and what it returns is
  the algebraically determined key.
  Every theorem is the model theorem of `Props/C19.lean` / `Props/C19_Sound.lean` composed with the tie theorems
  `Tie.ecdsa_raw_recover_eq` (`Props/TieSecp.lean`) and `Tie.bytes_to_int_eq` (`Props/TieHashSecp.lean`).  No hypothesis is added.
  The signature is passed as the Python tuple `(v, r, s)`.  On the specification side: `Fp = ZMod P`, the curve `E`, `Gpt`,
  `reprSecp`, `Verifies` (`PyEcc.SecpSem` / `PyEcc.EcdsaSem`, Mathlib's group `E(F_P)` of secp256k1); `xcub`, `liftY` are the
  semantic layer's names for the local variables `xcubedaxb` and `y` of the function (defined from the generated constants).
-/
import PyEcc.Props.C19_Sound
import PyEcc.Props.TieSecp
import PyEcc.Props.TieHashSecp

namespace PyEcc.C19.Gen
open WeierstrassCurve PyEcc PyEcc.Gen.Secp PyEcc.SecpSem PyEcc.Gen.Consts PyEcc.EcdsaSem
open PyEcc.Gen.ExtraSecp PyEcc.Gen.ExtraHashSecp

/-- **The generated `ecdsa_raw_recover` refuses malformed signatures.**  For every message hash `h` and ints `v, r, s` the
translated function raises `ValueError` (i) when `v` is neither `27` nor `28`; (ii) when `r ≡ 0 (mod N)`; (iii) when
`s ≡ 0 (mod N)`; (iv) when the code's own test `(xcubedaxb − y·y) % P ≠ 0` fires, where `y` is
`beta = pow(r³ + A·r + B, (P+1)//4, P)` or `P − beta`; (v) when `r³ + 7` is not a square in `ZMod P` — the mathematical content
of (iv) (`C19.residue_test`). -/
theorem recover_rejects (h : Bytes) (v r s : ℤ) :
    (¬ (v = 27 ∨ v = 28) → ecdsa_raw_recover h (v, r, s) = .error .value) ∧
    (r % N = 0 → ecdsa_raw_recover h (v, r, s) = .error .value) ∧
    (s % N = 0 → ecdsa_raw_recover h (v, r, s) = .error .value) ∧
    ((xcub r - liftY v r * liftY v r) % P ≠ 0 → ecdsa_raw_recover h (v, r, s) = .error .value) ∧
    (¬ IsSquare ((r : Fp) ^ 3 + 7) → ecdsa_raw_recover h (v, r, s) = .error .value) := by
  rw [Tie.ecdsa_raw_recover_eq]
  exact C19.recover_rejects h v r s

example : ¬ ((26 : ℤ) = 27 ∨ (26 : ℤ) = 28) := by decide
example : (N : ℤ) % N = 0 := by decide
example : ecdsa_raw_recover [] (26, 1, 1) = .error .value := (recover_rejects [] 26 1 1).1 (by decide)

/-- **Exact acceptance condition, generated code.**  The translated `ecdsa_raw_recover` raises `ValueError` if and only if
`v ∉ {27, 28}` or `r ≡ 0` or `s ≡ 0 (mod N)` or `r³ + 7` is a quadratic non-residue mod `P` (i.e. `r` is not the `x`-coordinate
of a curve point); in every other case it returns a value. -/
theorem recover_error_iff (h : Bytes) (v r s : ℤ) :
    ecdsa_raw_recover h (v, r, s) = .error .value ↔
      (¬ (v = 27 ∨ v = 28) ∨ r % N = 0 ∨ s % N = 0 ∨ ¬ IsSquare ((r : Fp) ^ 3 + 7)) := by
  rw [Tie.ecdsa_raw_recover_eq]
  exact C19.recover_error_iff h v r s

/-- **`ValueError` is the only exception, generated code.**  Whatever the inputs, if the translated `ecdsa_raw_recover` raises,
it raises `ValueError`, at one of its two explicit tests: the recursion of `jacobian_multiply` always terminates (the fuel of the
generated recursion is never exhausted) and its "unexpected case" branch is unreachable. -/
theorem recover_error_kind (h : Bytes) (v r s : ℤ) (e : PyErr) (he : ecdsa_raw_recover h (v, r, s) = .error e) :
    e = .value := by
  rw [Tie.ecdsa_raw_recover_eq] at he
  exact C19.recover_error_kind h v r s e he

/-- **Returns or refuses, generated code.**  For all inputs the translated `ecdsa_raw_recover` either raises `ValueError` or
returns a pair of ints; nothing else can happen. -/
theorem recover_ok_or_value_error (h : Bytes) (v r s : ℤ) :
    ecdsa_raw_recover h (v, r, s) = .error .value ∨ ∃ Q, ecdsa_raw_recover h (v, r, s) = .ok Q := by
  rcases hres : ecdsa_raw_recover h (v, r, s) with e | Q
  · rw [recover_error_kind h v r s e hres]; exact .inl rfl
  · exact .inr ⟨Q, rfl⟩

/-- **Parity of the lifted point, generated code.**  When the translated `ecdsa_raw_recover(h, (v, r, s))` returns a value `Q`,
then `v ∈ {27, 28}`, `r, s ≢ 0 (mod N)`, and there is an int `y` — the `y` the code lifted `x = r` to — with: `0 < y < P`,
`y² ≡ r³ + 7 (mod P)`, `y` is EVEN for `v = 27` and ODD for `v = 28` (the code never silently uses the other parity); `y` is the
only int with these properties; and `Q` is the result of the code's arithmetic tail on the point `(r, y)`, written with the
generated functions: `Q = from_jacobian(jacobian_multiply(jacobian_add(Gz, XY), inv(r, N)))` with
`Gz = jacobian_multiply((Gx, Gy, 1), (N − z) % N)`, `XY = jacobian_multiply((r, y, 1), s)`, `z = bytes_to_int(h)`. -/
theorem recover_parity (h : Bytes) (v r s : ℤ) (Q : ℤ × ℤ) (hok : ecdsa_raw_recover h (v, r, s) = .ok Q) :
    (v = 27 ∨ v = 28) ∧ r % N ≠ 0 ∧ s % N ≠ 0 ∧
    ∃ y : ℤ, 0 < y ∧ y < P ∧ (y * y - (r ^ 3 + 7)) % P = 0 ∧ (v = 27 → y % 2 = 0) ∧ (v = 28 → y % 2 = 1) ∧
      (∀ y' : ℤ, 0 < y' → y' < P → (y' * y' - (r ^ 3 + 7)) % P = 0 → y' % 2 = (v - 27) % 2 → y' = y) ∧
      ∃ Gz XY Qj : ℤ × ℤ × ℤ,
        jacobian_multiply (Gx, Gy, 1) ((N - bytes_to_int h) % N) = .ok Gz ∧
        jacobian_multiply (r, y, 1) s = .ok XY ∧
        jacobian_multiply (jacobian_add Gz XY) (inv r N) = .ok Qj ∧
        Q = from_jacobian Qj := by
  rw [Tie.ecdsa_raw_recover_eq] at hok
  obtain ⟨hv, hr, hs, y, h0, hP, hy, h27, h28, huniq, hcore⟩ := C19.recover_parity h v r s Q hok
  refine ⟨hv, hr, hs, y, h0, hP, hy, h27, h28, huniq, ?_⟩
  rw [Tie.bytes_to_int_eq]
  obtain ⟨Gz, h1⟩ := jacobian_multiply_ok (Gx, Gy, 1) ((N - Ecdsa.bytesToInt h) % N)
  obtain ⟨XY, h2⟩ := jacobian_multiply_ok (r, y, 1) s
  obtain ⟨Qj, h3⟩ := jacobian_multiply_ok (jacobian_add Gz XY) (inv r N)
  refine ⟨Gz, XY, Qj, h1, h2, h3, ?_⟩
  rw [recoverCore_of_ok h1 h2 h3] at hcore
  exact (Except.ok.inj hcore).symm

set_option maxRecDepth 100000 in
/-- non-vacuity of `recover_parity` (the kernel evaluation `C19.recover_vector`, read through the tie) -/
example : ecdsa_raw_recover [1] (28, Gx, 1) =
    .ok (26210488337160888672698873285651562077827126089223557910692116932897423477429,
         44582324086967690670293550797731613368225261916384873140806919652936239038985) := by
  rw [Tie.ecdsa_raw_recover_eq]
  exact C19.recover_vector

/-- **Recovery is sound, generated code.**  For ALL inputs (any byte string `h`, any ints `v, r, s`): if the translated
`ecdsa_raw_recover(h, (v, r, s))` returns `Q` then there are a curve point `R = (X, Y)` of `E : y² = x³ + 7` over `ZMod P` and a
point `Qp` with: `X ≡ r (mod P)`; `Y` (as an int in `[0, P)`) is even for `v = 27` and odd for `v = 28`; `Q` is the representation
of `Qp` (`(0, 0)` for the identity, else reduced affine coordinates); `r • Qp = s • R − z • G` in the group, `z = bytes_to_int(h)`;
`Qp` is the ONLY point with this property (`N` is prime and `r ≢ 0`); and, when `0 ≤ r < P`, the signature `(r, s)` verifies for
message int `z` and public key `Qp` by the textbook algorithm (`Verifies`, SEC 1 §4.1.4).
NOTE `Qp` may be the identity (returned as `(0, 0)`): this happens exactly when `s • R = z • G`. -/
theorem recover_sound (h : Bytes) (v r s : ℤ) (Q : ℤ × ℤ) (hok : ecdsa_raw_recover h (v, r, s) = .ok Q) :
    ∃ (X Y : Fp) (hns : E.Nonsingular X Y) (Qp : E.Point),
      X = (r : Fp) ∧ (v = 27 → ((Y.val : ℕ) : ℤ) % 2 = 0) ∧ (v = 28 → ((Y.val : ℕ) : ℤ) % 2 = 1) ∧
      Q = reprSecp Qp ∧
      r • Qp = s • (Affine.Point.some X Y hns) - (bytes_to_int h) • Gpt ∧
      (∀ Q' : E.Point, r • Q' = s • (Affine.Point.some X Y hns) - (bytes_to_int h) • Gpt → Q' = Qp) ∧
      (0 ≤ r → r < P → Verifies (bytes_to_int h) r s Qp) := by
  rw [Tie.ecdsa_raw_recover_eq] at hok
  rw [Tie.bytes_to_int_eq]
  exact C19.recover_sound h v r s Q hok

/-- non-vacuity of `recover_sound`: the generated code accepts this input; and the recovered value CAN be the identity marker
`(0, 0)`: `ecdsa_raw_recover(b"\x01", (27, Gx, 1)) = (0, 0)`. -/
example : ∃ Q, ecdsa_raw_recover [1] (27, Gx, 1) = .ok Q := by
  rcases recover_ok_or_value_error [1] 27 Gx 1 with he | hq
  · exfalso
    rw [recover_error_iff] at he
    have hsq : IsSquare (((Gx : ℤ) : Fp) ^ 3 + 7) := by
      refine ⟨((Gy : ℤ) : Fp), ?_⟩
      have := SecpSem.G_on_curve
      rw [B_cast] at this
      linear_combination -this
    rcases he with he | he | he | he
    · exact he (Or.inl rfl)
    · exact absurd he (by decide)
    · exact absurd he (by decide)
    · exact he hsq
  · exact hq

/-- **C19 in one statement — generated code.**  For every hash `h` and every `(v, r, s)`, the translated `ecdsa_raw_recover` either
raises `ValueError` — which it does exactly for `v ∉ {27, 28}`, `r ≡ 0` or `s ≡ 0 (mod N)`, or `r` not the `x`-coordinate of a
curve point — or returns the representation of the UNIQUE point `Qp` with `r • Qp = s • R − z • G`, where `R` is the curve point
above `x = r` whose `y` is even for `v = 27` and odd for `v = 28`; and for `0 ≤ r < P` the signature `(r, s)` then verifies for
`Qp`. -/
theorem recover_headline (h : Bytes) (v r s : ℤ) :
    (ecdsa_raw_recover h (v, r, s) = .error .value ∧
      (¬ (v = 27 ∨ v = 28) ∨ r % N = 0 ∨ s % N = 0 ∨ ¬ IsSquare ((r : Fp) ^ 3 + 7))) ∨
    (∃ (X Y : Fp) (hns : E.Nonsingular X Y) (Qp : E.Point),
      ecdsa_raw_recover h (v, r, s) = .ok (reprSecp Qp) ∧
      (v = 27 ∨ v = 28) ∧ r % N ≠ 0 ∧ s % N ≠ 0 ∧
      X = (r : Fp) ∧ (v = 27 → ((Y.val : ℕ) : ℤ) % 2 = 0) ∧ (v = 28 → ((Y.val : ℕ) : ℤ) % 2 = 1) ∧
      r • Qp = s • (Affine.Point.some X Y hns) - (bytes_to_int h) • Gpt ∧
      (∀ Q' : E.Point, r • Q' = s • (Affine.Point.some X Y hns) - (bytes_to_int h) • Gpt → Q' = Qp) ∧
      (0 ≤ r → r < P → Verifies (bytes_to_int h) r s Qp)) := by
  rcases recover_ok_or_value_error h v r s with he | ⟨Q, hq⟩
  · exact .inl ⟨he, (recover_error_iff h v r s).mp he⟩
  · right
    obtain ⟨hv, hr, hs, -⟩ := recover_parity h v r s Q hq
    obtain ⟨X, Y, hns, Qp, hX, h27, h28, hQ, hmain, huniq, hver⟩ := recover_sound h v r s Q hq
    exact ⟨X, Y, hns, Qp, by rw [hq, hQ], hv, hr, hs, hX, h27, h28, hmain, huniq, hver⟩

end PyEcc.C19.Gen

section AxiomAudit
open PyEcc.C19.Gen
#print axioms recover_rejects
#print axioms recover_error_iff
#print axioms recover_error_kind
#print axioms recover_ok_or_value_error
#print axioms recover_parity
#print axioms recover_sound
#print axioms recover_headline
end AxiomAudit
