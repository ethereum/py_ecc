/-
  PyEcc.Props.C19_Sound — property C19, soundness part: whenever `ecdsa_raw_recover` of
  `py_ecc/secp256k1/secp256k1.py` (model `PyEcc.Ecdsa.ecdsaRawRecover` around the GENERATED Jacobian arithmetic)
  returns a value, that value is the representation of the unique point `Q` of Mathlib's group `E(F_P)` with
  `r • Q = s • R − z • G`, `R` the point above `x = r` with the parity encoded in `v`; and the signature `(r, s)`
  verifies for `Q` (SEC 1 §4.1.4). Built on C18 (`Gen.Secp` arithmetic = Mathlib's group law, `#E = N` prime).
-/
import PyEcc.Sem.EcdsaGroup
import PyEcc.Props.C19

namespace PyEcc.C19
open WeierstrassCurve PyEcc PyEcc.Gen.Secp PyEcc.SecpSem PyEcc.Gen.Consts PyEcc.Ecdsa PyEcc.EcdsaSem

/-- **Recovery is sound.** For ALL inputs (any byte string `h`, any ints `v, r, s`): if `ecdsa_raw_recover(h, (v, r, s))`
returns `Q` then there are a curve point `R = (X, Y)` of `E : y² = x³ + 7` over `ZMod P` and a point `Qp` with:
`X ≡ r (mod P)`; `Y` (as an int in `[0, P)`) is even for `v = 27` and odd for `v = 28`; `Q` is the representation
of `Qp` (`(0, 0)` for the identity, else reduced affine coordinates); `r • Qp = s • R − z • G` in the group, `z` the
big-endian int of `h`; `Qp` is the ONLY point with this property (`N` is prime and `r ≢ 0`); and, when `0 ≤ r < P`,
the signature `(r, s)` verifies for message int `z` and public key `Qp` by the textbook algorithm (`Verifies`).
NOTE `Qp` may be the identity (returned as `(0, 0)`): this happens exactly when `s • R = z • G`. -/
theorem recover_sound (h : Bytes) (v r s : ℤ) (Q : ℤ × ℤ) (hok : ecdsaRawRecover h v r s = .ok Q) :
    ∃ (X Y : Fp) (hns : E.Nonsingular X Y) (Qp : E.Point),
      X = (r : Fp) ∧ (v = 27 → ((Y.val : ℕ) : ℤ) % 2 = 0) ∧ (v = 28 → ((Y.val : ℕ) : ℤ) % 2 = 1) ∧
      Q = reprSecp Qp ∧
      r • Qp = s • (Affine.Point.some X Y hns) - (bytesToInt h) • Gpt ∧
      (∀ Q' : E.Point, r • Q' = s • (Affine.Point.some X Y hns) - (bytesToInt h) • Gpt → Q' = Qp) ∧
      (0 ≤ r → r < P → Verifies (bytesToInt h) r s Qp) := by
  obtain ⟨-, hr, hs, X, Y, hns, hX, hpar, hQ⟩ := recover_sem.mp hok
  have hkey := key_eq_iff hr s (bytesToInt h) (Affine.Point.some X Y hns)
  refine ⟨X, Y, hns, _, hX.symm, ?_, ?_, hQ, (hkey _).mpr rfl, fun Q' => (hkey Q').mp, fun h0 hP =>
    verifies_of_eq hr hs hns ?_ ((hkey _).mpr rfl)⟩
  · rintro rfl; exact hpar
  · rintro rfl; exact hpar
  · rw [← hX, val_cast, Int.emod_eq_of_lt h0 hP]

/-- non-vacuity of `recover_sound`: the model accepts this input (see `Props/C19.lean`); the recovered
value CAN be the identity marker `(0, 0)`: the implementation returns it on `ecdsa_raw_recover(b"\x01", (27, Gx, 1))` (`R = G`, so
`s·R − z·G = 0`; the example below proves only that a value is returned). -/
example : ∃ Q, ecdsaRawRecover [1] 27 Gx 1 = .ok Q := by
  have hne : ecdsaRawRecover [1] 27 Gx 1 ≠ .error .value := by
    rw [Ne, recover_error_iff]
    push Not
    refine ⟨Or.inl rfl, by decide, by decide, ⟨((Gy : ℤ) : Fp), ?_⟩⟩
    have := SecpSem.G_on_curve
    rw [B_cast] at this
    linear_combination -this
  rcases hres : ecdsaRawRecover [1] 27 Gx 1 with e | Q
  · exact absurd (by rw [hres, recover_error_kind _ _ _ _ e hres]) hne
  · exact ⟨Q, rfl⟩

end PyEcc.C19

section AxiomAudit
open PyEcc.C19
#print axioms recover_sound
end AxiomAudit
