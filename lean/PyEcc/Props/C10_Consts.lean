/-
  PyEcc.Props.C10_Consts — property C10, constant level (core Lean only; closed-term kernel
  evaluation): the hash-to-curve constants of `py_ecc/optimized_bls12_381/constants.py`
  (regenerated into `Gen.Consts.h2c_*` on every run) are the values of RFC 9380 §8.8.1 / §8.8.2, and
  the derived constants (`P_MINUS_3_DIV_4`, `P_MINUS_9_DIV_16`, `SQRT_MINUS_11_CUBED`,
  `POSITIVE_EIGHTH_ROOTS_OF_UNITY`, `ETAS`) have the algebraic properties the optimized SWU code
  (Wahby–Boneh, eprint 2019/403 §4) relies on.  Field arithmetic here is the executable model's
  (`Fq blsP`, and `Fqp .opt blsP [1, 0]` for `FQ2 = Fp[i]/(i² + 1)`).
-/
import PyEcc.Spec.Standards
import PyEcc.Model.Swu

namespace PyEcc.C10
open Gen.Consts

/-- RFC 9380 §8.8.1: the 11-isogenous curve `E' : y² = x³ + A'x + B'` and `Z = 11` of the G1 suite. -/
theorem iso11_literals :
    h2c_ISO_11_A = Spec.H2C.iso11A ∧ h2c_ISO_11_B = Spec.H2C.iso11B ∧ h2c_ISO_11_Z = Spec.H2C.iso11Z ∧
    h2c_ISO_11_Z = 11 := by decide +kernel

/-- RFC 9380 §8.8.2: the 3-isogenous curve `A' = 240·i`, `B' = 1012·(1 + i)` and `Z = −(2 + i)` of the
    G2 suite (coefficient lists, constant term first; `Z` as residues `[p − 2, p − 1]`). -/
theorem iso3_literals :
    h2c_ISO_3_A = Spec.H2C.iso3A ∧ h2c_ISO_3_B = Spec.H2C.iso3B ∧ h2c_ISO_3_Z = Spec.H2C.iso3Z ∧
    h2c_ISO_3_Z = [(blsP : Int) - 2, (blsP : Int) - 1] := by decide +kernel

/-- in the model's `FQ2`: `ISO_3_Z = −(2 + i)` -/
theorem ISO_3_Z_eq : ISO_3_Z = -(f2c [2, 1]) := by decide +kernel

/-- `P_MINUS_3_DIV_4 = (p − 3)/4` exactly (`p ≡ 3 mod 4`) -/
theorem P_MINUS_3_DIV_4_spec :
    blsP % 4 = 3 ∧ 4 * h2c_P_MINUS_3_DIV_4 + 3 = blsP := by decide +kernel

/-- `P_MINUS_9_DIV_16 = (p² − 9)/16` exactly (`p² ≡ 9 mod 16`) -/
theorem P_MINUS_9_DIV_16_spec :
    blsP ^ 2 % 16 = 9 ∧ 16 * h2c_P_MINUS_9_DIV_16 + 9 = blsP ^ 2 := by decide +kernel

/-- `SQRT_MINUS_11_CUBED² = (−11)³ = −Z³` in `FQ` -/
theorem SQRT_MINUS_11_CUBED_spec :
    SQRT_MINUS_11_CUBED ^ 2 = ((f1c (-11)) ^ 3 : F1) ∧ SQRT_MINUS_11_CUBED ^ 2 = -(ISO_11_Z ^ 3 : F1) := by
  decide +kernel

/-- `POSITIVE_EIGHTH_ROOTS_OF_UNITY` has four entries, each an 8th root of unity in `FQ2`, and their
    squares are exactly the four 4th roots of unity `1, −1, −i, i` (so `root²·ω = 1` is solvable by
    one of them iff `ω⁴ = 1`: this is how `sqrt_division_FQ2` detects squares). -/
theorem POSITIVE_EIGHTH_ROOTS_OF_UNITY_spec :
    POSITIVE_EIGHTH_ROOTS_OF_UNITY.length = 4 ∧
    (∀ r ∈ POSITIVE_EIGHTH_ROOTS_OF_UNITY, r ^ 8 = (1 : F2)) ∧
    POSITIVE_EIGHTH_ROOTS_OF_UNITY.map (· ^ 2) = [(1 : F2), -(1 : F2), -(f2c [0, 1]), f2c [0, 1]] := by
  decide +kernel

/-- `ETAS` has four entries; each `η` satisfies `η⁸ = −Z¹²` with `Z = ISO_3_Z`, i.e.
    `(η²)⁴ = −(Z³)⁴`: `η² = Z³·ζ` with `ζ⁴ = −1` a PRIMITIVE 8th root of unity, and the four `η²` are
    pairwise distinct (so all four primitive 8th roots occur) — the relation the second loop of
    `optimized_swu_G2` needs: `(η·γ·t³)²·v = Z³t⁶·u` when `γ²·v = ω·u` with `ω = ζ⁻¹` a primitive
    8th root.  (Relation derived from the algorithm of eprint 2019/403 §4.2, not quoted from the
    RFC.) -/
theorem ETAS_spec :
    ETAS.length = 4 ∧
    (∀ eta ∈ ETAS, eta ^ 8 = -(ISO_3_Z ^ 12 : F2) ∧ (eta ^ 2) ^ 4 = -((ISO_3_Z ^ 3) ^ 4 : F2)) ∧
    (ETAS.map (· ^ 2)).Pairwise (· ≠ ·) := by
  decide +kernel

end PyEcc.C10
