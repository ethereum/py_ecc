/-
  PyEcc.Props.C11_G2Full — property C11 for G2, the part that needs the `FQ2` square root:
  round trip `decompress_G2(compress_G2(P)) ~ P` for EVERY on-curve point (there is no excluded point on the
  twist: `no_x0_point_G2`), canonicity `compress_G2(decompress_G2(z)) = z`, and the explicit accept set of
  `decompress_G2` (`py_ecc/bls/point_compression.py`).

  Model: `PyEcc/Model/Codec.lean` (`compressG2`, `decompressG2`, `modularSquarerootInFq2`).
  A G2 point is a projective triple `(X, Y, Z)` of `FQ2` objects, `Z = 0` meaning infinity.  The model's `FQ2`
  values are arbitrary coefficient lists; the Python class only ever holds two coefficients reduced mod `p`,
  which is the hypothesis `CanonPt` ("well-formed triple") below.
-/
import PyEcc.Sem.CodecSemG2Full

set_option exponentiation.threshold 400

namespace PyEcc.C11
open PyEcc PyEcc.Fqp PyEcc.FqpSem PyEcc.CodecSem PyEcc.BytesLem PyEcc.Fq2Sqrt
open PyEcc.Swu2 (q goodHom_q Rq)

/-! ### no excluded points on the twist -/

/-- **No point of the twist curve `y² = x³ + 4(1+i)` has `x = 0`** (`4 + 4i` is not a square in `F_{p²}`:
    `modular_squareroot_in_FQ2(b2)` evaluates to `None` and the function is correct).  So, unlike G1 (finding
    K1), no finite G2 point is encoded with an all-zero `x` field, and the G2 round trip has no exception. -/
theorem no_x0_point_G2 (P : G2Pt) (hc : CanonPt P) (hon : Gen.OptBls.is_on_curve P blsB2 = true)
    (hz : P.2.2 ≠ 0) : P.1 ≠ 0 := by
  intro hX
  obtain ⟨hcx, _, ex, _, _, hx0, _⟩ := affine_of_on_curve hc hon hz
  apply hx0
  rw [← Swu2.q_eq_zero hcx, ex, (Swu2.q_eq_zero hc.1).mpr hX, zero_div]

/-- **No point of the twist curve has `y = 0`** (no 2-torsion: `−4(1+i)` is not a cube in `F_{p²}`), so of
    `y`, `−y` exactly one has sign flag 1. -/
theorem no_y0_point_G2 (P : G2Pt) (hc : CanonPt P) (hon : Gen.OptBls.is_on_curve P blsB2 = true)
    (hz : P.2.2 ≠ 0) : P.2.1 ≠ 0 := by
  intro hY
  obtain ⟨_, hcy, _, ey, _, _, hy0⟩ := affine_of_on_curve hc hon hz
  apply hy0
  rw [← Swu2.q_eq_zero hcy, ey, (Swu2.q_eq_zero hc.2.1).mpr hY, zero_div]

/-! ### round trip -/

/-- **Round trip for G2, every on-curve point, any projective representative.**
    For every well-formed triple `P = (X, Y, Z)` of `FQ2` objects that passes `is_on_curve(P, b2)`:
    `compress_G2(P)` returns a pair `(z1, z2)`, and `decompress_G2((z1, z2))` returns `Z2 = (1, 1, 0)` for
    infinity (`Z = 0`) and otherwise the normalized representative `(X/Z, Y/Z, 1)`; in both cases
    `eq(result, P)` holds.  No point is excluded (contrast `decompress_compress_G1_partial`). -/
theorem decompress_compress_G2 (P : G2Pt) (hc : CanonPt P) (hon : Gen.OptBls.is_on_curve P blsB2 = true) :
    ∃ z1 z2, compressG2 P = .ok (z1, z2) ∧
      decompressG2 z1 z2 = .ok (if Gen.OptBls.is_inf P then Z2 else Gen.OptBls.normalize1 P) ∧
      Gen.OptBls.eq (if Gen.OptBls.is_inf P then Z2 else Gen.OptBls.normalize1 P) P = true := by
  by_cases hz : P.2.2 = 0
  · have hi : Gen.OptBls.is_inf P = true := by simp [Gen.OptBls.is_inf, hz]
    obtain ⟨h1, h2⟩ := decompress_compress_G2_inf P hi
    refine ⟨_, _, h1, ?_, ?_⟩
    · rw [hi, if_pos rfl]; exact h2
    · rw [hi, if_pos rfl]
      simp [Gen.OptBls.eq, Gen.OptBls.is_inf, hz, Z2]
  · have hi : Gen.OptBls.is_inf P = false := by simp [Gen.OptBls.is_inf, hz]
    obtain ⟨hX, hY, hZ⟩ := hc
    obtain ⟨hcx, hcy, ex, ey, hyy, -, -⟩ := affine_of_on_curve ⟨hX, hY, hZ⟩ hon hz
    obtain ⟨z1, z2, a, hcomp, hf, h1, h2, hX2, ha⟩ := compressG2_words hcx hon hz
    have hdec : decompressG2 z1 z2 = .ok (P.1 / P.2.2, P.2.1 / P.2.2, 1) :=
      (decompressG2_fin_iff hf).mpr ⟨h1, h2, _, hcy, by rw [hX2]; exact hyy, ha, by rw [hX2]⟩
    rw [hi]
    refine ⟨z1, z2, hcomp, hdec, ?_⟩
    show Gen.OptBls.eq (P.1 / P.2.2, P.2.1 / P.2.2, 1) P = true
    unfold Gen.OptBls.eq Gen.OptBls.is_inf
    simp only [hz, one_ne_zero2, decide_false, Bool.false_eq_true, or_self, if_false, decide_eq_true_eq]
    have hZ0 : q P.2.2 ≠ 0 := fun h => hz ((Swu2.q_eq_zero hZ).mp h)
    have rZ := Rq.of hZ
    constructor
    · rw [((Rq.of hcx).mul rZ).eq_iff ((Rq.of hX).mul .one), ex]; field_simp
    · rw [((Rq.of hcy).mul rZ).eq_iff ((Rq.of hY).mul .one), ey]; field_simp

/-! ### canonicity: what decodes re-encodes to exactly the input pair -/

/-- **Canonicity for G2.**  If `decompress_G2((z1, z2))` returns `P` and `z1` is a 384-bit word, then `P` is a
    well-formed triple on the twist curve and `compress_G2(P)` is `(z1, z2)` again: no two different pairs with
    `z1 < 2^384` decode to the same point.  (`z2` needs no guard: accepted `z2` are `< p`.  The guard on `z1`
    is needed because `get_flags` and `% 2^381` ignore bits `≥ 384`.) -/
theorem compress_decompress_G2 (z1 z2 : ℕ) (hz : z1 < 2 ^ 384) (P : G2Pt)
    (h : decompressG2 z1 z2 = .ok P) :
    CanonPt P ∧ Gen.OptBls.is_on_curve P blsB2 = true ∧ compressG2 P = .ok (z1, z2) := by
  rcases decompressG2_ok_iff.mp h with ⟨⟨a, hf⟩, -⟩ | ⟨hf, ⟨h1, h2⟩, rfl⟩
  · obtain ⟨hx1, hx2, y, hcy, hyy, hfl, rfl⟩ := (decompressG2_fin_iff hf).mp h
    have hcx := canon_encodedX2 z1 z2
    obtain ⟨g0, g1⟩ := getI_encodedX2 hx1 hx2
    have honc := on_curve_norm hcx hcy hyy
    refine ⟨⟨hcx, hcy, goodHom_q.good_one⟩, honc, ?_⟩
    rw [compressG2_fin honc one_ne_zero2]
    show Except.ok ((getI (encodedX2 z1 z2 / (1 : F2)).coeffs 1 + aflag (y / (1 : F2)) * ((2 ^ 381 : ℕ) : Int)
      + ((2 ^ 383 : ℕ) : Int)).toNat, (getI (encodedX2 z1 z2 / (1 : F2)).coeffs 0).toNat) = Except.ok (z1, z2)
    rw [div_one2 hcx, div_one2 hcy, g0, g1, hfl, word_recompose2 hz hf, Int.toNat_natCast]
  · obtain ⟨hc, _⟩ := decompress_compress_G2_inf Z2 (by decide)
    refine ⟨by decide, by decide, ?_⟩
    rw [hc, word_inf hz hf h1, h2]

/-- `decompress_G2((z1, z2))` looks only at the low 384 bits of `z1`: adding any multiple of `2^384` changes
    nothing (`get_flags` masks single bits and `x1 = z1 % 2^381`).  This is why canonicity carries the guard
    `z1 < 2^384`; through `signature_to_G2` the guard is the 48-byte length of the first half. -/
theorem decompressG2_ignores_high_bits (z1 z2 k : ℕ) :
    decompressG2 (z1 + k * 2 ^ 384) z2 = decompressG2 z1 z2 := by
  rw [decompressG2_ctl, decompressG2_ctl, getFlags_add_mul, isPointAtInfinity_add_mul, mod_add_mul]

/-! ### accept set -/

/-- **Accept set of `decompress_G2`.**  `decompress_G2((z1, z2))` returns a point iff either
    * flags of `z1` are `c = 1, b = 0` (any `a`), both coordinate words are reduced (`x1 = z1 % 2^381 < p`,
      `z2 < p`), and `x³ + 4(1+i)` with `x = FQ2([z2, x1])` is the square of some `FQ2` object; or
    * flags `c = 1, b = 1, a = 0` and `z1 % 2^381 = 0`, `z2 = 0` (the encoding of infinity).
    Everything else raises `ValueError` (`decompress_G2_error_kind`).  The pair `x1 = 0, z2 = 0` never satisfies
    the first clause (`4 + 4i` is not a square), matching the decoder, which treats it as "infinity expected". -/
theorem decompress_G2_accepts_iff (z1 z2 : ℕ) :
    (∃ P, decompressG2 z1 z2 = .ok P) ↔
      ((∃ a, getFlags z1 = (true, false, a)) ∧ z1 % 2 ^ 381 < blsP ∧ z2 < blsP ∧
          ∃ w : F2, Canon w ∧ w * w = rhsOf2 z1 z2)
      ∨ (getFlags z1 = (true, true, false) ∧ z1 % 2 ^ 381 = 0 ∧ z2 = 0) := by
  constructor
  · rintro ⟨P, h⟩
    rcases decompressG2_ok_iff.mp h with ⟨hf, _, h1, h2, y, hy, _, _⟩ | ⟨hf, h0, _⟩
    · exact Or.inl ⟨hf, h1, h2, (sqrt_rhs_isSome_iff z1 z2).mp ⟨y, hy⟩⟩
    · exact Or.inr ⟨hf, h0⟩
  · rintro (⟨hf, h1, h2, hw⟩ | ⟨hf, h0⟩)
    · obtain ⟨a, hf⟩ := hf
      obtain ⟨s, hs⟩ := (sqrt_rhs_isSome_iff z1 z2).mpr hw
      obtain ⟨p1, p2, p3⟩ := sqrt_pick_spec (canon_rhsOf2 z1 z2) hs a
      exact ⟨_, (decompressG2_fin_iff hf).mpr ⟨h1, h2, _, p1, p2.trans (q_rhsOf2 z1 z2), p3, rfl⟩⟩
    · exact ⟨Z2, decompressG2_ok_iff.mpr (Or.inr ⟨hf, h0, rfl⟩)⟩

/-! ### byte level (`G2_to_signature` / `signature_to_G2`) -/

/-- **96-byte round trip**: for every well-formed on-curve triple `P`, `G2_to_signature(P)` returns 96 bytes and
    `signature_to_G2` of them returns `Z2` for infinity, else the normalized representative of `P`. -/
theorem signatureToG2_g2ToSignature_roundtrip (P : G2Pt) (hc : CanonPt P)
    (hon : Gen.OptBls.is_on_curve P blsB2 = true) :
    ∃ bs, g2ToSignature P = .ok bs ∧ bs.length = 96 ∧
      signatureToG2 bs = .ok (if Gen.OptBls.is_inf P then Z2 else Gen.OptBls.normalize1 P) := by
  obtain ⟨z1, z2, h1, h2, _⟩ := decompress_compress_G2 P hc hon
  obtain ⟨bs, hb, hs⟩ := signatureToG2_g2ToSignature P z1 z2 h1
  obtain ⟨bs', hb', hl⟩ := (g2ToSignature_length P).1 hon
  rw [hb] at hb'
  cases hb'
  exact ⟨bs, hb, hl, hs.trans h2⟩

/-- **96-byte canonicity**: a 96-byte string accepted by `signature_to_G2` is reproduced exactly by
    `G2_to_signature` of the decoded point (which is on the twist curve). -/
theorem g2ToSignature_signatureToG2 (bs : Bytes) (hlen : bs.length = 96) (P : G2Pt)
    (h : signatureToG2 bs = .ok P) :
    Gen.OptBls.is_on_curve P blsB2 = true ∧ g2ToSignature P = .ok bs := by
  unfold signatureToG2 at h
  have e : (256 : ℕ) ^ 48 = 2 ^ 384 := by decide
  have l1 : (bs.take 48).length = 48 := by rw [List.length_take]; omega
  have l2 : (bs.drop 48).length = 48 := by rw [List.length_drop]; omega
  have hlt : os2ip (bs.take 48) < 2 ^ 384 := by
    have := os2ip_lt (bs.take 48)
    rw [l1] at this; omega
  obtain ⟨_, hon, hc⟩ := compress_decompress_G2 _ _ hlt P h
  refine ⟨hon, ?_⟩
  unfold g2ToSignature
  rw [hc]
  have i1 := i2osp_os2ip (bs.take 48)
  have i2 := i2osp_os2ip (bs.drop 48)
  rw [l1] at i1
  rw [l2] at i2
  simp only [bind, Except.bind, i1, i2, pure, Except.pure, List.take_append_drop]

/-! ### non-vacuity -/

theorem blsG2_canon : CanonPt blsG2 := by decide +kernel

theorem double_blsG2_hyp : CanonPt (Gen.OptBls.double blsG2) ∧
    Gen.OptBls.is_on_curve (Gen.OptBls.double blsG2) blsB2 = true ∧
    (Gen.OptBls.double blsG2).2.2 ≠ 1 ∧ (Gen.OptBls.double blsG2).2.2 ≠ 0 ∧
    CanonPt Z2 ∧ Gen.OptBls.is_on_curve Z2 blsB2 = true := by decide +kernel

/-- the G2 generator is a well-formed on-curve triple (hypotheses of `decompress_compress_G2`,
    `no_x0_point_G2`, `no_y0_point_G2`, `signatureToG2_g2ToSignature_roundtrip`) -/
example : CanonPt blsG2 ∧ Gen.OptBls.is_on_curve blsG2 blsB2 = true ∧ blsG2.2.2 ≠ 0 :=
  ⟨blsG2_canon, blsG2_on_curve, by decide⟩

/-- so is a non-normalized representative (`Z ≠ 1`) of `2·G2`, and infinity -/
example : CanonPt (Gen.OptBls.double blsG2) ∧
    Gen.OptBls.is_on_curve (Gen.OptBls.double blsG2) blsB2 = true ∧
    (Gen.OptBls.double blsG2).2.2 ≠ 1 ∧ (Gen.OptBls.double blsG2).2.2 ≠ 0 ∧
    CanonPt Z2 ∧ Gen.OptBls.is_on_curve Z2 blsB2 = true := double_blsG2_hyp

/-- a pair satisfying the hypotheses of the canonicity theorem and both sides of the accept-set theorem
    (the encoding of the generator) -/
example : ∃ z1 z2 P, z1 < 2 ^ 384 ∧ decompressG2 z1 z2 = .ok P := by
  obtain ⟨z1, z2, h1, h2, _⟩ := decompress_compress_G2 blsG2 blsG2_canon blsG2_on_curve
  exact ⟨z1, z2, _, (compressG2_range blsG2 z1 z2 h1).1, h2⟩

/-- a 96-byte string accepted by `signature_to_G2` (hypotheses of `g2ToSignature_signatureToG2`) -/
example : ∃ bs P, bs.length = 96 ∧ signatureToG2 bs = .ok P := by
  obtain ⟨bs, _, hl, hs⟩ :=
    signatureToG2_g2ToSignature_roundtrip blsG2 blsG2_canon blsG2_on_curve
  exact ⟨bs, _, hl, hs⟩

end PyEcc.C11
