/-
  PyEcc.Props.C07_OrderTwistBn — property C07/C17 for bn128: the order of the twist:

      `#E'(Fp²) = (2p − r) · r`      (`E' : y² = x³ + 3/(9+i)` over `K2bn = F_p[X]/(X²+1)`,
                                      values of the `optimized_bn128` `FQ2` objects)

  with `p = field_modulus`, `r = curve_order` of `py_ecc/optimized_bn128`.  Elementary proof (no Hasse bound in
  Mathlib): `2p − r = 10069 · 5864401 · 1875725156269 · C` with `C` a 178-bit prime (Pratt certificates in
  `Sem/PrattCerts2.lean`); one point of each of these prime orders and the generator `G2` of order `r` (found
  by tools, checked by running the GENERATED `optimized_bn128` code in the kernel) give `(2p−r)·r ∣ #E'`;
  `#E' ≤ 2p² + 1 < 3·(2p−r)·r`; and `#E' = 2·(2p−r)·r` is impossible because there is no point of order two
  (`−b2` is not a cube in `F_{p²}`: `(−b2)^((p²−1)/3) ≠ 1`, kernel-evaluated).

  Together with `C07.Facts.bn_card_points` (`#E(Fp) = r`) this settles the group orders of bn128.
-/
import PyEcc.Lemmas.Hb2Bn

set_option linter.unusedSectionVars false

namespace PyEcc.C17O
open PyEcc PyEcc.Gen PyEcc.Gen.Consts PyEcc.FqpSem PyEcc.Transfer PyEcc.Hb2 WeierstrassCurve

/-- the cofactor of the bn128 G2 subgroup in the twist: `2p − r` -/
abbrev bnH2 : ℕ := 2 * optimized_bn128_field_modulus - optimized_bn128_curve_order

/-- **`#E'(Fp²) = (2p − r)·r` (bn128 twist).**  Mathlib's group of points of `y² = x³ + b2` over
    `K2bn = F_p[X]/(X²+1)` has exactly `(2·field_modulus − curve_order) · curve_order` elements. -/
theorem bn_twist_card :
    Nat.card (CurvePt (toQ bnB2 : K2bn)) = bnH2 * optimized_bn128_curve_order :=
  card_eq_of_dvd_of_le_of_odd bn_twist_dvd_card card_E2bn_le (by decide +kernel) bn_twist_no_order_two

/-- the bn128 twist has no point of order two (Mathlib level): `P + P = 0` only for `P = 0`, because
    `x³ + b2` has no root in `F_{p²}` -/
theorem bn_twist_no_two_torsion (P : CurvePt (toQ bnB2 : K2bn)) (h : P + P = 0) : P = 0 :=
  bn_twist_no_order_two P h

/-- every point of the bn128 twist is killed by `(2p − r)·r` -/
theorem bn_twist_order_kills (P : CurvePt (toQ bnB2 : K2bn)) :
    (bnH2 * optimized_bn128_curve_order) • P = 0 := by
  rw [← bn_twist_card]; exact card_nsmul_eq_zero'

/-- **bn128 G2, the group order at code level.**  For EVERY canonical `FQ2` triple accepted by
    `optimized_bn128.is_on_curve(T, b2)`, `multiply(T, (2p − r)·r)` is the point at infinity. -/
theorem bn_multiply_twist_order (T : BnG2Pt) (c : CanonT T) (hT : OptBn.is_on_curve T bnB2 = true) :
    OptBn.is_inf (OptBn.multiply T (bnH2 * optimized_bn128_curve_order)) = true := by
  classical
  obtain ⟨P, r⟩ := curveF2bn.exists_rep c hT
  rw [OptBn.multiply_eq]
  exact (r.multiply _).is_inf_iff.mpr (bn_twist_order_kills P)

/-- **bn128: multiplying by the cofactor `2p − r` lands in the order-`r` subgroup**, for every canonical
    on-curve triple: `multiply(multiply(T, 2p − r), curve_order)` is the point at infinity. -/
theorem bn_clear_cofactor_lands (T : BnG2Pt) (c : CanonT T) (hT : OptBn.is_on_curve T bnB2 = true) :
    OptBn.is_inf (OptBn.multiply (OptBn.multiply T bnH2) optimized_bn128_curve_order) = true := by
  classical
  obtain ⟨P, r⟩ := curveF2bn.exists_rep c hT
  rw [OptBn.multiply_eq]
  refine ((r.multiply bnH2).multiply _).is_inf_iff.mpr ?_
  rw [← mul_nsmul]; exact bn_twist_order_kills P

/-- **bn128 G2 is exactly the cyclic group generated by the constant `G2`**: every point of the twist killed
    by `curve_order` is `k • G`, `k < r`, `G` the point represented by `optimized_bn128.G2`. -/
theorem bn_twist_torsion_cyclic [DecidableEq K2bn] (G P : CurvePt (toQ bnB2 : K2bn))
    (hG : Represents (mapT toQ bnG2) G) (hP : optimized_bn128_curve_order • P = 0) :
    ∃ k : ℕ, k < optimized_bn128_curve_order ∧ P = k • G := by
  obtain ⟨c, f⟩ := bnG2_facts
  rw [OptBn.is_on_curve_eq, OptBn.is_inf_eq, OptBn.multiply_eq] at f
  obtain ⟨G', r', hG0, hGr⟩ := curveF2bn.point_of_facts c f.1 f.2.1 f.2.2
  obtain rfl := C07Opt.Bls.represents_unique hG r'.rep
  refine mem_multiples_of_torsion prime_bnR ?_ G P (addOrderOf_eq_prime hGr hG0) hP
  rw [bn_twist_card]; exact by decide +kernel

/-! ### non-vacuity: the generator satisfies the hypotheses -/

example : CanonT bnG2 ∧ OptBn.is_on_curve bnG2 bnB2 = true := ⟨bnG2_facts.1, bnG2_facts.2.1⟩

end PyEcc.C17O
