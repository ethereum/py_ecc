/-
  PyEcc.Props.TieFieldsFqp — TIE theorems ("generated = hand-written model") for the FIELD layer, part 2: the classes
  `FQP` / `FQ2` / `FQ12` of `py_ecc/fields/field_elements.py` (namespace `Gen.ExtraFieldsFqp.Ref`, model variant `.ref`)
  and of `py_ecc/fields/optimized_field_elements.py` (namespace `Gen.ExtraFieldsFqp.Opt`, model variant `.opt`):
  constructors, `__add__ __sub__ __neg__`, the `int` branches of `__mul__` / `__div__` / `__truediv__`, `__eq__ __ne__`,
  `one() zero()`, and the optimized `sgn0` (generic loop and the `FQ2` override) with `mod_int`.

  `Gen/ExtraFieldsFqp.lean` is re-generated from the Python source on every run (tools/translate/gen_fields.py).  In the
  generated code an `FQP` object is the structure `FQP` of its instance attributes; `obj a` below is the object that
  represents the model element `a : Fqp v p mc` (coefficients `a.coeffs`, `modulus_coeffs = mc`, `degree = len(mc)`,
  and for the optimized class `mc_tuples`).  The constructor raises when `len(coeffs) != len(modulus_coeffs)`, so the
  theorems about methods that construct an object carry the well-formedness hypothesis `a.coeffs.length = mc.length`
  where the result's length depends on it; under it the generated method returns `.ok (obj <model result>)`.
-/
import PyEcc.Gen.ExtraFieldsFqp
import PyEcc.Props.TieFieldsFq
import PyEcc.Lemmas.FqpList

namespace PyEcc.Tie
open PyEcc

theorem fields_foldl_rel {α₁ α₂ β : Type} (r : α₂ → α₁ → Prop) {g₁ : α₁ → β → α₁} {g₂ : α₂ → β → α₂} {l : List β}
    {i₁ : α₁} {i₂ : α₂} (hi : r i₂ i₁) (H : ∀ x₂ x₁ y, r x₂ x₁ → r (g₂ x₂ y) (g₁ x₁ y)) :
    r (List.foldl g₂ i₂ l) (List.foldl g₁ i₁ l) :=
  foldl_rel r hi H

theorem fields_foldl_inv {α β : Type} (P : α → Prop) {g : α → β → α} {l : List β} {i : α}
    (hi : P i) (H : ∀ x y, P x → P (g x y)) : P (List.foldl g i l) := foldl_inv P hi H

/-- `for x, y in l: if x != y: return False` / `return True` is `all (x == y)` -/
theorem any_ne_eq_all (l : List (Int × Int)) (f : Int × Int → Bool) (hf : ∀ x, f x = !decide (x.1 = x.2)) :
    (if (l.any f) = true then false else true) = l.all (fun xy => xy.1 == xy.2) := by
  have : f = fun x => !(x.1 == x.2) := funext hf
  subst this
  rw [List.all_eq_not_any_not]
  cases (l.any fun x => !(x.1 == x.2)) <;> rfl

/-- `[c] + [0] * (d - 1)` has `d` entries when `d ≥ 1` -/
theorem length_scalar (c : Int) {d : Nat} (hd : 1 ≤ d) : ([c] ++ List.replicate (d - 1) (0 : Int)).length = d :=
  FqpSem.length_scalar hd c

/-! ### reference classes (`py_ecc/fields/field_elements.py`) -/

namespace FqpRef
open Gen.ExtraFieldsFq.Ref Gen.ExtraFieldsFqp.Ref
variable {p : Nat} {mc : List Int}

/-- the generated object representing the model element `a` (the coefficients are the `n` of the `FQ` objects) -/
def obj (a : Fqp .ref p mc) : FQP := ⟨a.coeffs, mc, mc.length⟩

/-- `FQ2.__init__` / `FQ12.__init__` (with `FQP.__init__` inlined) on a sequence of ints: `Exception` unless the length
    is that of the modulus coefficients, otherwise the object of the model's `Fqp.ofInts`. -/
theorem init_ints_eq (cs : List Int) :
    FQPsub.init_ints p mc cs =
      if cs.length ≠ mc.length then .error PyErr.other else .ok (obj (Fqp.ofInts cs : Fqp .ref p mc)) := by
  unfold FQPsub.init_ints
  by_cases h : cs.length = mc.length
  · simp [h, obj, Fqp.ofInts, FQ.init_int]
    rfl
  · simp [h]
    rfl

/-- the same constructor on a sequence of `FQ` objects: the coefficients are copied. -/
theorem init_fqs_eq (cs : List Int) :
    FQPsub.init_fqs p mc cs =
      if cs.length ≠ mc.length then .error PyErr.other else .ok (obj (⟨cs⟩ : Fqp .ref p mc)) := by
  unfold FQPsub.init_fqs
  by_cases h : cs.length = mc.length
  · simp [h, obj, FQ.init_fq]
    rfl
  · simp [h]
    rfl

/-- reference `FQP.__add__` is `Fqp.add` (on well-formed operands). -/
theorem add_eq (a b : Fqp .ref p mc) (ha : a.coeffs.length = mc.length) (hb : b.coeffs.length = mc.length) :
    FQP.add p mc (obj a) (obj b) = .ok (obj (Fqp.add a b)) := by
  unfold FQP.add
  rw [init_fqs_eq, if_neg (by simp [obj, ha, hb])]
  simp only [obj, Fqp.add, Fqp.ofInts, List.map_zipWith, FQ.add_fq, FQ.init_int, Int.emod_emod]

/-- reference `FQP.__sub__` is `Fqp.sub`. -/
theorem sub_eq (a b : Fqp .ref p mc) (ha : a.coeffs.length = mc.length) (hb : b.coeffs.length = mc.length) :
    FQP.sub p mc (obj a) (obj b) = .ok (obj (Fqp.sub a b)) := by
  unfold FQP.sub
  rw [init_fqs_eq, if_neg (by simp [obj, ha, hb])]
  simp only [obj, Fqp.sub, Fqp.ofInts, List.map_zipWith, FQ.sub_fq, FQ.init_int, Int.emod_emod]

/-- reference `FQP.__neg__` is `Fqp.neg`. -/
theorem neg_eq (a : Fqp .ref p mc) (ha : a.coeffs.length = mc.length) :
    FQP.neg p mc (obj a) = .ok (obj (Fqp.neg a)) := by
  unfold FQP.neg
  rw [init_fqs_eq, if_neg (by simp [obj, ha])]
  simp only [obj, Fqp.neg, Fqp.ofInts, List.map_map, Function.comp_def, FQ.neg, FQ.init_int]

/-- reference `FQP.__mul__` with an `int` operand is `Fqp.mulInt`. -/
theorem mul_int_eq (a : Fqp .ref p mc) (k : Int) (ha : a.coeffs.length = mc.length) :
    FQP.mul_int p mc (obj a) k = .ok (obj (Fqp.mulInt a k)) := by
  unfold FQP.mul_int
  rw [init_fqs_eq, if_neg (by simp [obj, ha])]
  simp only [obj, Fqp.mulInt, Fqp.ofInts, List.map_map, Function.comp_def, FQ.mul_int, FQ.init_int, Int.emod_emod]

/-- reference `FQP.__div__` with an `int` operand (`c / other` on the `FQ` coefficients) is `Fqp.divInt`. -/
theorem div_int_eq (a : Fqp .ref p mc) (k : Int) (ha : a.coeffs.length = mc.length) :
    FQP.div_int p mc (obj a) k = .ok (obj (Fqp.divInt a k)) := by
  unfold FQP.div_int
  rw [init_fqs_eq, if_neg (by simp [obj, ha])]
  simp only [obj, Fqp.divInt, Fqp.ofInts, List.map_map, Function.comp_def, FQ.truediv_int, FQ.div_int, FQ.init_int, Int.emod_emod]

/-- reference `FQP.__truediv__` delegates to `__div__`. -/
theorem truediv_int_eq (a : Fqp .ref p mc) (k : Int) (ha : a.coeffs.length = mc.length) :
    FQP.truediv_int p mc (obj a) k = .ok (obj (Fqp.divInt a k)) := by
  unfold FQP.truediv_int; exact div_int_eq a k ha

/-- reference `FQP.__eq__` (early-return loop over `zip`) is `Fqp.beq`, for all operands. -/
theorem eq_eq (a b : Fqp .ref p mc) : FQP.eq p mc (obj a) (obj b) = Fqp.beq a b := by
  unfold FQP.eq Fqp.beq obj
  exact any_ne_eq_all _ _ (fun x => by simp [FQ.ne_fq, FQ.eq_fq])

/-- reference `FQP.__ne__` is the negation of `__eq__`. -/
theorem ne_eq (a b : Fqp .ref p mc) : FQP.ne p mc (obj a) (obj b) = !Fqp.beq a b := by
  unfold FQP.ne; rw [eq_eq]; cases Fqp.beq a b <;> rfl

/-- the constructor call of `one()`, `cls([1] + [0] * (degree - 1))`, returns the model's `1` -/
theorem init_one {d : Nat} (h : mc.length = d) (hd : 1 ≤ d) :
    FQPsub.init_ints p mc ([1] ++ List.replicate (d - 1) 0) = .ok (obj (Fqp.one : Fqp .ref p mc)) := by
  subst h; rw [init_ints_eq, if_neg (fun h => h (FqpSem.length_scalar hd 1))]; rfl

/-- the constructor call of `zero()`, `cls([0] * degree)`, returns the model's `0` -/
theorem init_zero {d : Nat} (h : mc.length = d) :
    FQPsub.init_ints p mc (List.replicate d 0) = .ok (obj (Fqp.zero : Fqp .ref p mc)) := by
  subst h; rw [init_ints_eq, if_neg (fun h => h List.length_replicate)]; rfl

/-- reference `FQ2.one()` is the model's `1` (for a modulus with `FQ2.degree = 2` coefficients). -/
theorem FQ2_one_eq (h : mc.length = 2) : FQ2.one p mc = .ok (obj (Fqp.one : Fqp .ref p mc)) :=
  init_one h (Nat.le_add_left 1 1)

/-- reference `FQ2.zero()` is the model's `0`. -/
theorem FQ2_zero_eq (h : mc.length = 2) : FQ2.zero p mc = .ok (obj (Fqp.zero : Fqp .ref p mc)) := init_zero h

/-- reference `FQ12.one()` is the model's `1` (for a modulus with `FQ12.degree = 12` coefficients). -/
theorem FQ12_one_eq (h : mc.length = 12) : FQ12.one p mc = .ok (obj (Fqp.one : Fqp .ref p mc)) :=
  init_one h (Nat.le_add_left 1 11)

/-- reference `FQ12.zero()` is the model's `0`. -/
theorem FQ12_zero_eq (h : mc.length = 12) : FQ12.zero p mc = .ok (obj (Fqp.zero : Fqp .ref p mc)) := init_zero h

/- non-vacuity of the hypotheses: `p = 7` with the `FQ2` modulus coefficients `[1, 0]` -/
example : FQ2.one 7 [1, 0] = .ok (obj (Fqp.one : Fqp .ref 7 [1, 0])) := FQ2_one_eq rfl
example : FQP.add 7 [1, 0] (obj (⟨[1, 2]⟩ : Fqp .ref 7 [1, 0])) (obj (⟨[3, 6]⟩ : Fqp .ref 7 [1, 0])) =
    .ok (obj (Fqp.add (⟨[1, 2]⟩ : Fqp .ref 7 [1, 0]) ⟨[3, 6]⟩)) :=
  add_eq _ _ rfl rfl

end FqpRef

/-! ### optimized classes (`py_ecc/fields/optimized_field_elements.py`) -/

namespace FqpOpt
open Gen.ExtraFieldsFq.Opt Gen.ExtraFieldsFqp.Opt
variable {p : Nat} {mc : List Int}

/-- `mc_tuples` as the model's `optReduce` computes it -/
def mcTuples (mc : List Int) : List (Nat × Int) := (List.zip (List.range mc.length) mc).filter (fun ic => ic.2 ≠ 0)

/-- the generated object representing the model element `a` -/
def obj (a : Fqp .opt p mc) : FQP := ⟨mcTuples mc, a.coeffs, mc, mc.length⟩

/-- optimized `FQ2.__init__` / `FQ12.__init__` (with `FQP.__init__` inlined) on a sequence of ints: `Exception` unless
    the length is that of the modulus coefficients, otherwise the object of the model's `Fqp.ofInts` (with `mc_tuples`
    the non-zero modulus coefficients and their positions). -/
theorem init_ints_eq (cs : List Int) :
    FQPsub.init_ints p mc cs =
      if cs.length ≠ mc.length then .error PyErr.other else .ok (obj (Fqp.ofInts cs : Fqp .opt p mc)) := by
  unfold FQPsub.init_ints
  by_cases h : cs.length = mc.length
  · simp [h, obj, Fqp.ofInts, mcTuples]
    rfl
  · simp [h]
    rfl

/-- optimized `FQP.__add__` is `Fqp.add` (on well-formed operands). -/
theorem add_eq (a b : Fqp .opt p mc) (ha : a.coeffs.length = mc.length) (hb : b.coeffs.length = mc.length) :
    FQP.add p mc (obj a) (obj b) = .ok (obj (Fqp.add a b)) := by
  unfold FQP.add
  rw [init_ints_eq, if_neg (by simp [obj, ha, hb])]
  simp only [obj, Fqp.add, Fqp.ofInts, List.map_zipWith, Int.emod_emod]

/-- optimized `FQP.__sub__` is `Fqp.sub`. -/
theorem sub_eq (a b : Fqp .opt p mc) (ha : a.coeffs.length = mc.length) (hb : b.coeffs.length = mc.length) :
    FQP.sub p mc (obj a) (obj b) = .ok (obj (Fqp.sub a b)) := by
  unfold FQP.sub
  rw [init_ints_eq, if_neg (by simp [obj, ha, hb])]
  simp only [obj, Fqp.sub, Fqp.ofInts, List.map_zipWith, Int.emod_emod]

/-- optimized `FQP.__neg__` is `Fqp.neg`. -/
theorem neg_eq (a : Fqp .opt p mc) (ha : a.coeffs.length = mc.length) :
    FQP.neg p mc (obj a) = .ok (obj (Fqp.neg a)) := by
  unfold FQP.neg
  rw [init_ints_eq, if_neg (by simp [obj, ha])]
  simp only [obj, Fqp.neg]

/-- optimized `FQP.__mul__` with an `int` operand is `Fqp.mulInt`. -/
theorem mul_int_eq (a : Fqp .opt p mc) (k : Int) (ha : a.coeffs.length = mc.length) :
    FQP.mul_int p mc (obj a) k = .ok (obj (Fqp.mulInt a k)) := by
  unfold FQP.mul_int
  rw [init_ints_eq, if_neg (by simp [obj, ha])]
  simp only [obj, Fqp.mulInt, Fqp.ofInts, List.map_map, Function.comp_def, Int.emod_emod]

/-- optimized `FQP.__div__` with an `int` operand is `Fqp.divInt`. -/
theorem div_int_eq (a : Fqp .opt p mc) (k : Int) (ha : a.coeffs.length = mc.length) :
    FQP.div_int p mc (obj a) k = .ok (obj (Fqp.divInt a k)) := by
  unfold FQP.div_int
  rw [init_ints_eq, if_neg (by simp [obj, ha])]
  simp only [obj, Fqp.divInt, Fqp.ofInts, List.map_map, Function.comp_def, Int.emod_emod]

/-- optimized `FQP.__truediv__` delegates to `__div__`. -/
theorem truediv_int_eq (a : Fqp .opt p mc) (k : Int) (ha : a.coeffs.length = mc.length) :
    FQP.truediv_int p mc (obj a) k = .ok (obj (Fqp.divInt a k)) := by
  unfold FQP.truediv_int; exact div_int_eq a k ha

/-- optimized `FQP.__eq__` (early-return loop over `zip`) is `Fqp.beq`, for all operands. -/
theorem eq_eq (a b : Fqp .opt p mc) : FQP.eq p mc (obj a) (obj b) = Fqp.beq a b := by
  unfold FQP.eq Fqp.beq obj
  exact any_ne_eq_all _ _ (fun x => by simp)

/-- optimized `FQP.__ne__` is the negation of `__eq__`. -/
theorem ne_eq (a b : Fqp .opt p mc) : FQP.ne p mc (obj a) (obj b) = !Fqp.beq a b := by
  unfold FQP.ne; rw [eq_eq]; cases Fqp.beq a b <;> rfl

/-- `mod_int(x, n)` for an `int` is `x % n`. -/
theorem mod_int_int_eq (x n : Int) : mod_int_int x n = x % n := rfl

/-- `mod_int(x, n)` for an `FQ` object is `x.n % n`. -/
theorem mod_int_fq_eq {q : Nat} (a : Fq q) (n : Int) : mod_int_fq a.n n = (a.n : Int) % n := rfl

/-- optimized generic `FQP.sgn0` (the loop over the coefficients with Python's value-level `and` / `or`) is
    `Fqp.sgn0`, for every element.  (The step function of the generated fold is not restated here: it is read off the
    goal, and the step lemma is proved by cases on the state, so `sign = sign or (zero and sign_i)` and
    `if not sign: sign = zero and sign_i` are both fine.) -/
theorem sgn0_eq (a : Fqp .opt p mc) : FQP.sgn0 p mc (obj a) = ((Fqp.sgn0 a : Nat) : Int) := by
  unfold FQP.sgn0 Fqp.sgn0 obj
  refine (fields_foldl_rel
    (r := fun (g : Int × Int) (m : Nat × Bool) => g.1 = (m.1 : Int) ∧ g.2 = if m.2 then 1 else 0)
    (l := a.coeffs) (i₁ := (0, true)) (i₂ := ((0 : Int), (1 : Int))) (by simp) ?_).1
  rintro ⟨s2, z2⟩ ⟨s1, z1⟩ x ⟨h1, h2⟩
  simp only at h1 h2
  subst h1 h2
  have hx : ((x % 2).toNat : Int) = x % 2 := Int.toNat_of_nonneg (Int.emod_nonneg x (by decide))
  cases z1 <;> by_cases hs : s1 = 0 <;> simp [hs, hx, mod_int_int]

/-- optimized `FQ2.sgn0` (the `m = 2` special case; unpacking `self.coeffs` into two names raises `ValueError` unless
    there are exactly two coefficients) is `Fqp.sgn0_fq2`. -/
theorem FQ2_sgn0_eq (a : Fqp .opt p mc) (ha : a.coeffs.length = 2) :
    FQ2.sgn0 p mc (obj a) = .ok ((Fqp.sgn0_fq2 a : Nat) : Int) := by
  obtain ⟨cs⟩ := a
  match cs, ha with
  | [x0, x1], _ =>
    have h0 : ((x0 % 2).toNat : Int) = x0 % 2 := Int.toNat_of_nonneg (Int.emod_nonneg x0 (by decide))
    have h1 : ((x1 % 2).toNat : Int) = x1 % 2 := Int.toNat_of_nonneg (Int.emod_nonneg x1 (by decide))
    have e0 : ((x0 % 2).toNat ≠ 0) ↔ (x0 % 2 ≠ 0) := by omega
    unfold FQ2.sgn0 Fqp.sgn0_fq2 obj
    simp only [mod_int_int, getI, List.getD_cons_zero, List.getD_cons_succ, e0, pure, Except.pure, beq_iff_eq]
    by_cases hs : x0 % 2 = 0 <;> by_cases hx0 : x0 = 0 <;> simp [hs, hx0, h0, h1]

/-- `FQ2.sgn0` raises `ValueError` when the object does not have exactly two coefficients. -/
theorem FQ2_sgn0_err (a : Fqp .opt p mc) (ha : a.coeffs.length ≠ 2) :
    FQ2.sgn0 p mc (obj a) = .error PyErr.value := by
  obtain ⟨cs⟩ := a
  unfold FQ2.sgn0 obj
  match cs, ha with
  | [], _ => rfl
  | [_], _ => rfl
  | [_, _], h => exact absurd rfl h
  | _ :: _ :: _ :: _, _ => rfl

/-- the constructor call of `one()`, `cls([1] + [0] * (degree - 1))`, returns the model's `1` -/
theorem init_one {d : Nat} (h : mc.length = d) (hd : 1 ≤ d) :
    FQPsub.init_ints p mc ([1] ++ List.replicate (d - 1) 0) = .ok (obj (Fqp.one : Fqp .opt p mc)) := by
  subst h; rw [init_ints_eq, if_neg (fun h => h (FqpSem.length_scalar hd 1))]; rfl

/-- the constructor call of `zero()`, `cls([0] * degree)`, returns the model's `0` -/
theorem init_zero {d : Nat} (h : mc.length = d) :
    FQPsub.init_ints p mc (List.replicate d 0) = .ok (obj (Fqp.zero : Fqp .opt p mc)) := by
  subst h; rw [init_ints_eq, if_neg (fun h => h List.length_replicate)]; rfl

/-- optimized `FQ2.one()` is the model's `1` (for a modulus with `FQ2.degree = 2` coefficients). -/
theorem FQ2_one_eq (h : mc.length = 2) : FQ2.one p mc = .ok (obj (Fqp.one : Fqp .opt p mc)) :=
  init_one h (Nat.le_add_left 1 1)

/-- optimized `FQ2.zero()` is the model's `0`. -/
theorem FQ2_zero_eq (h : mc.length = 2) : FQ2.zero p mc = .ok (obj (Fqp.zero : Fqp .opt p mc)) := init_zero h

/-- optimized `FQ12.one()` is the model's `1` (for a modulus with `FQ12.degree = 12` coefficients). -/
theorem FQ12_one_eq (h : mc.length = 12) : FQ12.one p mc = .ok (obj (Fqp.one : Fqp .opt p mc)) :=
  init_one h (Nat.le_add_left 1 11)

/-- optimized `FQ12.zero()` is the model's `0`. -/
theorem FQ12_zero_eq (h : mc.length = 12) : FQ12.zero p mc = .ok (obj (Fqp.zero : Fqp .opt p mc)) := init_zero h

/- non-vacuity of the hypotheses -/
example : FQ2.one 7 [1, 0] = .ok (obj (Fqp.one : Fqp .opt 7 [1, 0])) := FQ2_one_eq rfl
example : FQP.add 7 [1, 0] (obj (⟨[1, 2]⟩ : Fqp .opt 7 [1, 0])) (obj (⟨[3, 6]⟩ : Fqp .opt 7 [1, 0])) =
    .ok (obj (Fqp.add (⟨[1, 2]⟩ : Fqp .opt 7 [1, 0]) ⟨[3, 6]⟩)) :=
  add_eq _ _ rfl rfl
example : FQ2.sgn0 7 [1, 0] (obj (⟨[0, 3]⟩ : Fqp .opt 7 [1, 0])) = .ok ((Fqp.sgn0_fq2 (⟨[0, 3]⟩ : Fqp .opt 7 [1, 0]) : Nat) : Int) :=
  FQ2_sgn0_eq _ rfl

end FqpOpt

end PyEcc.Tie
