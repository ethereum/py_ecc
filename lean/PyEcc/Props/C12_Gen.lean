/-
  PyEcc.Props.C12_Gen — property C12 (optimized pairings equal reference pairings; the split final exponentiation and
  the Frobenius shortcut are exact; the two-step form used by verifiers) restated about the GENERATED code.  Every py_ecc
  function in a statement below is a `PyEcc.Gen.*` definition, i.e. Lean code the translator produced from the Python
  source of this run:
    `Gen.ExtraPairing.{OptBls,OptBn,RefBls,RefBn}.pairing`, `.final_exponentiate`
    `Gen.ExtraMiller.{…}.miller_loop`, `.miller_loop_core`
    `Gen.ExtraHashCurve.{…}.twist`, `.cast_point_to_fq12`, `Gen.ExtraHashCurve.OptBls.exp_by_p`
    `Gen.{OptBls,OptBn,RefBls,RefBn}.*` (curve modules), `Gen.ExtraCodec.subgroup_check`
  Proofs: the tie theorems `Props/TiePairing.lean`, `TieMiller.lean`, `TieHashCurve.lean`, `TieCofactor.lean` composed
  with the model theorems of `Props/C12.lean`, `C12_Exp.lean`, `C12_Final.lean`, `C12_Miller.lean`, `C12_MillerBn.lean`.
  `WF x` says that the FQ12 element `x` has 12 coefficients (every `FQ12` object has); `CanonT Q` that the coefficients
  of the three coordinates of `Q` are reduced; `toAff` is the affine point a projective triple represents.
-/
import PyEcc.Props.C12
import PyEcc.Props.C12_Final
import PyEcc.Props.C12_Miller
import PyEcc.Props.C12_MillerBn
import PyEcc.Props.TiePairing
import PyEcc.Props.TieHashCurve
import PyEcc.Props.TieCofactor

set_option linter.unusedSectionVars false

namespace PyEcc.C12.Gen
open Polynomial PyEcc PyEcc.Gen.Consts PyEcc.Fqp PyEcc.FqpSem PyEcc.Transfer PyEcc.PairingSem

/-! ## the generated functions call each other: `miller_loop` uses the generated `twist` / `cast_point_to_fq12`,
    `final_exponentiate` the generated `exp_by_p` -/

/-- the generated optimized bls12_381 `miller_loop` is its loop core instantiated with the generated `linefunc`,
    `double`, `add` of `optimized_curve.py` and the generated `twist`, `cast_point_to_fq12` -/
theorem miller_loop_optBls_calls (Q : OBls2 × OBls2 × OBls2) (P : Fq blsP × Fq blsP × Fq blsP) (fe : Bool) :
    Gen.ExtraMiller.OptBls.miller_loop Q P fe =
      Gen.ExtraMiller.OptBls.miller_loop_core Q P fe Gen.OptBls.linefunc Gen.OptBls.double Gen.OptBls.add
        Gen.ExtraHashCurve.OptBls.twist Gen.ExtraHashCurve.OptBls.cast_point_to_fq12
        ((List.take (62 + 1) optimized_bls12_381_pseudo_binary_encoding).reverse)
        ((blsP ^ 12 - 1) / optimized_bls12_381_curve_order) := by
  have h1 : (Gen.ExtraHashCurve.OptBls.twist : _ → OBls12 × OBls12 × OBls12) = fun pt => twistOptBls pt :=
    funext Tie.twist_optbls_eq
  have h2 : (Gen.ExtraHashCurve.OptBls.cast_point_to_fq12 : _ → OBls12 × OBls12 × OBls12) =
      fun pt => (castFq12 pt.1, castFq12 pt.2.1, castFq12 pt.2.2) := funext Tie.cast_point_to_fq12_optbls_eq
  rw [h1, h2]; rfl

/-- the generated optimized bls12_381 `final_exponentiate` is the three lines of the source with the generated
    `exp_by_p`: `p2 = exp_by_p(exp_by_p(p)) * p`, `p3 = exp_by_p⁶(p2) / p2`, `return p3 ** cofactor` -/
theorem final_exponentiate_optBls_calls (x : OBls12) :
    Gen.ExtraPairing.OptBls.final_exponentiate x =
      (let e := Gen.ExtraHashCurve.OptBls.exp_by_p
       let p2 := e (e x) * x
       let p3 := e (e (e (e (e (e p2))))) / p2
       p3 ^ ((blsP ^ 4 - blsP ^ 2 + 1) / optimized_bls12_381_curve_order)) := by
  have h : Gen.ExtraHashCurve.OptBls.exp_by_p = expByP blsExptable := funext Tie.exp_by_p_eq
  -- through the tie (not by unfolding the generated definition): stays valid when the source is reshaped
  rw [h, Tie.final_exponentiate_optBls_eq]; rfl

/-! ## the Frobenius shortcut and the fast final exponentiation are exact -/

section generic
variable {F : Type} [Zero F] [One F] [Add F] [Sub F] [Mul F] [Neg F] [Div F] [NatCast F] [Pow F Nat] [DecidableEq F]
/-- the generated reference `final_exponentiate` functions are written for any FQ12 class: plain powers -/
theorem refBls_final_exponentiate_eq (x : F) : Gen.ExtraPairing.RefBls.final_exponentiate x = x ^ blsFinalExp := by
  unfold Gen.ExtraPairing.RefBls.final_exponentiate blsFinalExp
  with_reducible rfl
theorem refBn_final_exponentiate_eq (x : F) : Gen.ExtraPairing.RefBn.final_exponentiate x = x ^ bnFinalExp := by
  unfold Gen.ExtraPairing.RefBn.final_exponentiate bnFinalExp
  with_reducible rfl
end generic

/-- **`exp_by_p(x) == x ** field_modulus` for every `x` in FQ12** (every `x` with 12 coefficients: `0`, `1`, sparse,
    random), as an equality of coefficient lists — the generated Frobenius shortcut of
    `optimized_bls12_381/optimized_pairing.py` is the plain `p`-th power. -/
theorem exp_by_p_eq_pow (x : OBls12) (hx : WF x) : Gen.ExtraHashCurve.OptBls.exp_by_p x = x ^ blsP := by
  rw [Tie.exp_by_p_eq]; exact C12.expByP_eq_pow x hx

/-- **The fast `final_exponentiate` is exact**: for every `x` in FQ12 (12 coefficients, `0` included) the generated
    optimized bls12_381 `final_exponentiate(x)` (`exp_by_p` twice, six times, a division, the cofactor power) equals the
    plain power `x ** ((field_modulus**12 − 1) // curve_order)` — with the module's constants, with the standard
    constants `(p¹² − 1)/r` of BLS12-381, and hence it equals the generated REFERENCE `final_exponentiate(x)`. -/
theorem final_exponentiate_optBls_eq_pow (x : OBls12) (hx : WF x) :
    Gen.ExtraPairing.OptBls.final_exponentiate x = x ^ ((blsP ^ 12 - 1) / optimized_bls12_381_curve_order) ∧
    Gen.ExtraPairing.OptBls.final_exponentiate x = x ^ ((Spec.BLS12381.p ^ 12 - 1) / Spec.BLS12381.r) ∧
    Gen.ExtraPairing.OptBls.final_exponentiate x = Gen.ExtraPairing.RefBls.final_exponentiate x := by
  rw [Tie.final_exponentiate_optBls_eq]
  refine ⟨C12.finalExponentiateOptBls_eq_pow' x hx, C12.finalExponentiateOptBls_eq_pow x hx, ?_⟩
  rw [refBls_final_exponentiate_eq, C12.finalExponentiateOptBls_eq_pow x hx, C12.Exp.bls_final_exp_eq.1]

/-- the generated bn128 `final_exponentiate` functions (optimized and reference: the same plain power) use the standard
    exponent `(p¹² − 1)/r` of alt_bn128, and so does the generated reference bls12_381 one -/
theorem final_exponentiate_plain (x : OBn12) (y : RBn12) (z : RBls12) :
    Gen.ExtraPairing.OptBn.final_exponentiate x = x ^ ((Spec.BN254.p ^ 12 - 1) / Spec.BN254.r) ∧
    Gen.ExtraPairing.RefBn.final_exponentiate y = y ^ ((Spec.BN254.p ^ 12 - 1) / Spec.BN254.r) ∧
    Gen.ExtraPairing.RefBls.final_exponentiate z = z ^ ((Spec.BLS12381.p ^ 12 - 1) / Spec.BLS12381.r) ∧
    Gen.ExtraPairing.OptBn.final_exponentiate x = Gen.ExtraPairing.RefBn.final_exponentiate x := by
  rw [Tie.final_exponentiate_optBn_eq, refBn_final_exponentiate_eq, refBls_final_exponentiate_eq,
    refBn_final_exponentiate_eq, C12.Exp.bn_final_exp_eq.1, C12.Exp.bn_final_exp_eq.2, C12.Exp.bls_final_exp_eq.1]
  exact ⟨rfl, rfl, rfl, rfl⟩

/-! ## the two-step form used by verifiers -/

/-- **`pairing(Q, P, True)` is `final_exponentiate(pairing(Q, P, False))`** for the generated optimized bls12_381 and
    bn128 functions: the same refusals (`ValueError`), and on every Miller value `f` returned with
    `final_exponentiate=False`, the call with `final_exponentiate=True` returns the generated `final_exponentiate(f)`. -/
theorem pairing_false_then_final :
    (∀ (Q : OBls2 × OBls2 × OBls2) (P : Fq blsP × Fq blsP × Fq blsP),
      (∀ e, Gen.ExtraPairing.OptBls.pairing Q P false = .error e → Gen.ExtraPairing.OptBls.pairing Q P true = .error e) ∧
      (∀ f, Gen.ExtraPairing.OptBls.pairing Q P false = .ok f →
        Gen.ExtraPairing.OptBls.pairing Q P true = .ok (Gen.ExtraPairing.OptBls.final_exponentiate f))) ∧
    (∀ (Q : OBn2 × OBn2 × OBn2) (P : Fq bnP × Fq bnP × Fq bnP),
      (∀ e, Gen.ExtraPairing.OptBn.pairing Q P false = .error e → Gen.ExtraPairing.OptBn.pairing Q P true = .error e) ∧
      (∀ f, Gen.ExtraPairing.OptBn.pairing Q P false = .ok f →
        Gen.ExtraPairing.OptBn.pairing Q P true = .ok (Gen.ExtraPairing.OptBn.final_exponentiate f))) := by
  refine ⟨fun Q P => ⟨fun e h => ?_, fun f h => ?_⟩, fun Q P => ⟨fun e h => ?_, fun f h => ?_⟩⟩
  · rw [Tie.pairing_optBls_eq] at h ⊢
    rw [C12.pairingOptBls_finalExp, h]; rfl
  · rw [Tie.pairing_optBls_eq] at h ⊢
    rw [Tie.final_exponentiate_optBls_eq]; exact C12.pairingOptBls_false_then_final Q P f h
  · rw [Tie.pairing_optBn_eq] at h ⊢
    rw [C12.pairingOptBn_finalExp, h]; rfl
  · rw [Tie.pairing_optBn_eq] at h ⊢
    rw [Tie.final_exponentiate_optBn_eq, C12.pairingOptBn_finalExp, h]; rfl

/-- **Two-step form, optimized bls12_381.**  If every `fᵢ` is a value returned by the generated
    `pairing(Qᵢ, Pᵢ, final_exponentiate=False)`, then multiplying them (`FQ12.one() * f₁ * … * fₙ`) and passing the
    product ONCE through the generated `final_exponentiate` gives exactly the product of the individually exponentiated
    values `final_exponentiate(fᵢ)` — which are the values `pairing(Qᵢ, Pᵢ, True)` returns. -/
theorem two_step_optBls (fs : List OBls12)
    (h : ∀ f ∈ fs, ∃ Q P, Gen.ExtraPairing.OptBls.pairing Q P false = .ok f) :
    Gen.ExtraPairing.OptBls.final_exponentiate (fs.foldl (· * ·) 1) =
      (fs.map Gen.ExtraPairing.OptBls.final_exponentiate).foldl (· * ·) 1 ∧
    ∀ f ∈ fs, ∃ Q P, Gen.ExtraPairing.OptBls.pairing Q P true = .ok (Gen.ExtraPairing.OptBls.final_exponentiate f) := by
  have h' : ∀ f ∈ fs, ∃ Q P, pairingOptBls Q P false = .ok f := by
    intro f hf; obtain ⟨Q, P, e⟩ := h f hf; exact ⟨Q, P, by rwa [Tie.pairing_optBls_eq] at e⟩
  have hwf : ∀ f ∈ fs, WF f := by
    intro f hf; obtain ⟨Q, P, e⟩ := h' f hf; exact C12.pairingOptBls_wf Q P false f e
  obtain ⟨t1, _⟩ := C12.pairingOptBls_two_step fs h'
  have hprod : WF (fs.foldl (· * ·) (1 : OBls12)) := (foldl_mul_spec fs hwf 1 (wf_one (by decide))).1
  constructor
  · have hmap : fs.map Gen.ExtraPairing.OptBls.final_exponentiate =
        fs.map (· ^ ((blsP ^ 12 - 1) / optimized_bls12_381_curve_order)) :=
      List.map_congr_left (fun f hf => (final_exponentiate_optBls_eq_pow f (hwf f hf)).1)
    rw [(final_exponentiate_optBls_eq_pow _ hprod).1, hmap]
    exact t1
  · intro f hf
    obtain ⟨Q, P, e⟩ := h f hf
    exact ⟨Q, P, (pairing_false_then_final.1 Q P).2 f e⟩

/-- **Two-step form, optimized bn128**: the same with the generated bn128 `pairing` and `final_exponentiate`. -/
theorem two_step_optBn (fs : List OBn12)
    (h : ∀ f ∈ fs, ∃ Q P, Gen.ExtraPairing.OptBn.pairing Q P false = .ok f) :
    Gen.ExtraPairing.OptBn.final_exponentiate (fs.foldl (· * ·) 1) =
      (fs.map Gen.ExtraPairing.OptBn.final_exponentiate).foldl (· * ·) 1 ∧
    ∀ f ∈ fs, ∃ Q P, Gen.ExtraPairing.OptBn.pairing Q P true = .ok (Gen.ExtraPairing.OptBn.final_exponentiate f) := by
  have h' : ∀ f ∈ fs, ∃ Q P, pairingOptBn Q P false = .ok f := by
    intro f hf; obtain ⟨Q, P, e⟩ := h f hf; exact ⟨Q, P, by rwa [Tie.pairing_optBn_eq] at e⟩
  obtain ⟨t1, _⟩ := C12.pairingOptBn_two_step fs h'
  constructor
  · have hmap : fs.map Gen.ExtraPairing.OptBn.final_exponentiate =
        fs.map (· ^ ((bnP ^ 12 - 1) / optimized_bn128_curve_order)) :=
      List.map_congr_left (fun f _ => Tie.final_exponentiate_optBn_eq f)
    rw [Tie.final_exponentiate_optBn_eq, hmap]
    exact t1
  · intro f hf
    obtain ⟨Q, P, e⟩ := h f hf
    exact ⟨Q, P, (pairing_false_then_final.2 Q P).2 f e⟩

/-! ## optimized pairing = reference pairing -/

/-- **Optimized = reference `pairing`, bls12_381, on G2.**  Let `Q` be a reduced FQ2 triple that passes the generated
    `subgroup_check` and `P` ANY FQ triple (on the curve or not, in the subgroup or not, ∞ or not) — ANY projective
    representatives of the reference-module inputs `q : Optional[(FQ2, FQ2)]`, `p : Optional[(FQ, FQ)]` (`hQ`, `hP`).
    Then the generated `optimized_bls12_381.pairing(Q, P)` and the generated `bls12_381.pairing(q, p)` have the same
    outcome: both raise `ValueError`, or both return the same twelve FQ12 coefficients.  The same holds for
    `pairing(Q, P, False)` raised to `(p¹² − 1)/r`. -/
theorem pairing_optBls_eq_refBls (Q : OBls2 × OBls2 × OBls2) (P : Fq blsP × Fq blsP × Fq blsP)
    (q : Option (RBls2 × RBls2)) (p : Option (Fq blsP × Fq blsP))
    (cQ : CanonT Q) (cq : MillerSem.GoodO Canon q)
    (hQ : toAff (mapT toQ Q) = MillerSem.mapO toQ q) (hP : toAff P = p)
    (hsub : Gen.ExtraCodec.subgroup_check Q = true) :
    (Gen.ExtraPairing.OptBls.pairing Q P true).map Fqp.coeffs = (Gen.ExtraPairing.RefBls.pairing q p).map Fqp.coeffs ∧
    ((Gen.ExtraPairing.OptBls.pairing Q P false).map
        (· ^ ((blsP ^ 12 - 1) / optimized_bls12_381_curve_order))).map Fqp.coeffs
      = (Gen.ExtraPairing.RefBls.pairing q p).map Fqp.coeffs := by
  rw [Tie.subgroup_check_eq] at hsub
  rw [Tie.pairing_optBls_eq, Tie.pairing_optBls_eq, Tie.pairing_refBls_eq]
  exact ⟨C12M.pairingOptBls_eq_pairingRefBls_subgroup Q P q p cQ cq hQ hP hsub,
    C12M.pairingOptBls_false_pow_eq_pairingRefBls_subgroup Q P q p cQ cq hQ hP hsub⟩

/-- **Optimized = reference `pairing`, bls12_381, inputs converted by the generated `normalize`** — no representation
    hypotheses: for every reduced FQ2 triple `Q` passing `subgroup_check` and EVERY FQ triple `P`, the generated
    `optimized_bls12_381.pairing(Q, P)` has the same outcome as the generated `bls12_381.pairing(q, p)` where `q`, `p`
    are `None` when `z == 0` and `normalize(·)` otherwise (`C12M.refOfOptG2`, `C12M.refOfOptG1`). -/
theorem pairing_optBls_eq_refBls_normalize (Q : OBls2 × OBls2 × OBls2) (P : Fq blsP × Fq blsP × Fq blsP)
    (cQ : CanonT Q) (hsub : Gen.ExtraCodec.subgroup_check Q = true) :
    (Gen.ExtraPairing.OptBls.pairing Q P true).map Fqp.coeffs =
      (Gen.ExtraPairing.RefBls.pairing
        (if Q.2.2 = 0 then none
          else some (⟨(Gen.OptBls.normalize Q).1.coeffs⟩, ⟨(Gen.OptBls.normalize Q).2.coeffs⟩))
        (if P.2.2 = 0 then none else some (Gen.OptBls.normalize P))).map Fqp.coeffs := by
  rw [Tie.subgroup_check_eq] at hsub
  rw [Tie.pairing_optBls_eq, Tie.pairing_refBls_eq]
  exact C12M.pairingOptBls_eq_pairingRefBls_normalize Q P cQ hsub

/-- **Optimized = reference `pairing`, bn128, on G2.**  Let `Q` be a reduced FQ2 triple with
    `multiply(Q, curve_order)` infinite and `P` ANY FQ triple — any projective representatives of the reference-module
    inputs `q`, `p`.  Then the generated `optimized_bn128.pairing(Q, P)` and the generated `bn128.pairing(q, p)` both
    raise `ValueError` or return the same twelve FQ12 coefficients; the same for `pairing(Q, P, False)` raised to
    `(p¹² − 1)/r`. -/
theorem pairing_optBn_eq_refBn (Q : OBn2 × OBn2 × OBn2) (P : Fq bnP × Fq bnP × Fq bnP)
    (q : Option (RBn2 × RBn2)) (p : Option (Fq bnP × Fq bnP))
    (cQ : CanonT Q) (cq : Transfer.GoodO Canon q)
    (hQ : toAff (mapT toQ Q) = Transfer.mapO (toQ : RBn2 → K2bn) q) (hP : toAff P = p)
    (hsub : Gen.OptBn.is_inf (Gen.OptBn.multiply Q optimized_bn128_curve_order) = true) :
    (Gen.ExtraPairing.OptBn.pairing Q P true).map Fqp.coeffs = (Gen.ExtraPairing.RefBn.pairing q p).map Fqp.coeffs ∧
    ((Gen.ExtraPairing.OptBn.pairing Q P false).map
        (· ^ ((bnP ^ 12 - 1) / optimized_bn128_curve_order))).map Fqp.coeffs
      = (Gen.ExtraPairing.RefBn.pairing q p).map Fqp.coeffs := by
  classical
  rw [Tie.pairing_optBn_eq, Tie.pairing_optBn_eq, Tie.pairing_refBn_eq]
  exact ⟨C12MB.pairingOptBn_eq_pairingRefBn_subgroup Q P q p cQ cq hQ hP hsub,
    C12MB.pairingOptBn_false_pow_eq_pairingRefBn_subgroup Q P q p cQ cq hQ hP hsub⟩

/-- **Optimized = reference `pairing`, bn128, inputs converted by the generated `normalize`**: for every reduced FQ2
    triple `Q` with `multiply(Q, curve_order)` infinite and EVERY FQ triple `P`. -/
theorem pairing_optBn_eq_refBn_normalize (Q : OBn2 × OBn2 × OBn2) (P : Fq bnP × Fq bnP × Fq bnP) (cQ : CanonT Q)
    (hsub : Gen.OptBn.is_inf (Gen.OptBn.multiply Q optimized_bn128_curve_order) = true) :
    (Gen.ExtraPairing.OptBn.pairing Q P true).map Fqp.coeffs =
      (Gen.ExtraPairing.RefBn.pairing
        (if Q.2.2 = 0 then none
          else some (⟨(Gen.OptBn.normalize Q).1.coeffs⟩, ⟨(Gen.OptBn.normalize Q).2.coeffs⟩))
        (if P.2.2 = 0 then none else some (Gen.OptBn.normalize P))).map Fqp.coeffs := by
  rw [Tie.pairing_optBn_eq, Tie.pairing_refBn_eq]
  exact C12MB.pairingOptBn_eq_pairingRefBn_normalize Q P cQ hsub

/-- **Optimized = reference `miller_loop`, bn128.**  For finite on-curve representatives `Q`, `P` of the reference
    points `q`, `p` with `multiply(Q, curve_order)` infinite: the generated reference
    `miller_loop(twist(q), cast_point_to_fq12(p))` returns normally, and its value is, coefficient for coefficient, the
    value of the generated optimized `miller_loop(twist(Q), cast_point_to_fq12(P))` (signed-digit loop, numerator /
    denominator accumulation, both with the final exponentiation) — with the generated `twist` and `cast_point_to_fq12`
    of the two packages. -/
theorem miller_loop_optBn_eq_refBn {Q : OBn2 × OBn2 × OBn2} {q : Option (RBn2 × RBn2)} {P : Fq bnP × Fq bnP × Fq bnP}
    {p : Option (Fq bnP × Fq bnP)} (cQ : CanonT Q) (cq : Transfer.GoodO Canon q)
    (hQ : toAff (mapT toQ Q) = Transfer.mapO (toQ : RBn2 → K2bn) q) (hP : toAff P = p)
    (hon : Gen.OptBn.is_on_curve Q bnB2 = true)
    (honP : Gen.OptBn.is_on_curve P (Fq.ofInt optimized_bn128_b : Fq bnP) = true)
    (hQz : Q.2.2 ≠ 0) (hPz : P.2.2 ≠ 0)
    (hsub : Gen.OptBn.is_inf (Gen.OptBn.multiply Q optimized_bn128_curve_order) = true) :
    ∃ fr, Gen.ExtraMiller.RefBn.miller_loop (Gen.ExtraHashCurve.RefBn.twist q)
        (Gen.ExtraHashCurve.RefBn.cast_point_to_fq12 p) = .ok fr ∧
      (Gen.ExtraMiller.OptBn.miller_loop (Gen.ExtraHashCurve.OptBn.twist Q)
        (Gen.ExtraHashCurve.OptBn.cast_point_to_fq12 P) true).coeffs = fr.coeffs := by
  classical
  rw [Tie.miller_loop_refBn_eq, Tie.miller_loop_optBn_eq, Tie.twist_refbn_eq, Tie.twist_optbn_eq,
    Tie.cast_point_to_fq12_refbn_eq, Tie.cast_point_to_fq12_optbn_eq]
  exact C12MB.millerLoop_opt_eq_ref_bn cQ cq hQ hP hon honP hQz hPz hsub

/-! ## non-vacuity -/

/-- `FQ12.one()` and `exptable[1]` have 12 coefficients -/
example : WF (1 : OBls12) ∧ WF blsT1 := ⟨wf_one (by decide), wf_blsT1⟩
/-- `1 = pairing(∞, ∞, False)` is a value of the generated `pairing(·, ·, False)` (hypothesis of `two_step_optBls`) -/
example : ∀ f ∈ [(1 : OBls12)], ∃ Q P, Gen.ExtraPairing.OptBls.pairing Q P false = .ok f := by
  intro f hf
  simp only [List.mem_cons, List.not_mem_nil, or_false] at hf
  subst hf
  refine ⟨(1, 1, 0), (1, 1, 0), ?_⟩
  rw [Tie.pairing_optBls_eq, pairingOptBls_eq]
  decide +kernel
/-- the generator `G2` satisfies the hypotheses of `pairing_optBls_eq_refBls(_normalize)` with `q := normalize(G2)`,
    `p := normalize(G1)` -/
example [DecidableEq K2] : CanonT blsG2 ∧ Gen.ExtraCodec.subgroup_check blsG2 = true
    ∧ MillerSem.GoodO Canon (C12M.refOfOptG2 blsG2)
    ∧ toAff (mapT toQ blsG2) = MillerSem.mapO toQ (C12M.refOfOptG2 blsG2) ∧ toAff blsG1 = C12M.refOfOptG1 blsG1 :=
  ⟨C17M.blsG2_passes.1, by rw [Tie.subgroup_check_eq]; exact C17M.blsG2_passes.2.2,
    (C12M.refOfOptG2_repr C17M.blsG2_passes.1).1, (C12M.refOfOptG2_repr C17M.blsG2_passes.1).2,
    C12M.refOfOptG1_repr blsG1⟩
/-- the bn128 generators satisfy the hypotheses of `pairing_optBn_eq_refBn`, `miller_loop_optBn_eq_refBn` -/
example : CanonT bnG2 ∧ Gen.OptBn.is_on_curve bnG2 bnB2 = true ∧ bnG2.2.2 ≠ 0
    ∧ Gen.OptBn.is_inf (Gen.OptBn.multiply bnG2 optimized_bn128_curve_order) = true
    ∧ Transfer.GoodO Canon (C12MB.refOfOptG2 bnG2)
    ∧ toAff (mapT toQ bnG2) = Transfer.mapO (toQ : RBn2 → K2bn) (C12MB.refOfOptG2 bnG2)
    ∧ toAff bnG1 = C12MB.refOfOptG1 bnG1
    ∧ Gen.OptBn.is_on_curve bnG1 (Fq.ofInt optimized_bn128_b : Fq bnP) = true ∧ bnG1.2.2 ≠ 0 :=
  ⟨by decide +kernel, C07.Facts.bn_G2_opt.1, by decide, C07.Facts.bn_G2_opt.2.2,
    (C12MB.refOfOptG2_repr (Q := bnG2) (by decide +kernel)).1,
    (C12MB.refOfOptG2_repr (Q := bnG2) (by decide +kernel)).2,
    C12MB.refOfOptG1_repr bnG1, C07M.Bn.bnG1_facts.1, by decide⟩

end PyEcc.C12.Gen
