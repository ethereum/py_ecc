/-
  PyEcc.Props.C17_Gen — property C17 restated about the GENERATED code.

  `Gen/ExtraCodec.lean` (`subgroup_check`, from `py_ecc/bls/g2_primitives.py`) and `Gen/ExtraSwu.lean`
  (`multiply_clear_cofactor_G1/G2`, from `py_ecc/optimized_bls12_381/optimized_clear_cofactor.py`, and the
  wrappers `clear_cofactor_G1/G2` of `py_ecc/bls/hash_to_curve.py`) are re-generated from the Python source on
  every run.  Every theorem below is a headline theorem of `Props/C17*.lean` in which each py_ecc function is
  the GENERATED definition (`PyEcc.Gen.ExtraCodec.*`, `PyEcc.Gen.ExtraSwu.*`, `PyEcc.Gen.OptBls.*`), obtained
  by rewriting with the tie theorems of `Props/TieCofactor.lean` and applying the model theorem.  No
  hypothesis is added or weakened.

  Reading of the statements (as in `Props/C17_Model.lean`): `P`, `Q`, `G` are points of Mathlib's
  elliptic-curve group — of `y² = x³ + 4` over `Fq blsP` for G1, of `y² = x³ + 4(1+i)` over
  `K2 = F_p[X]/(X²+1)` for G2; `Represents T P` (G1) resp. `Represents (mapT toQ T) P` (G2) says the
  projective triple `T` represents `P`; `CanonT T` says each `FQ2` coordinate has exactly two coefficients in
  `[0, p)` (what the Python class always holds).
-/
import PyEcc.Props.C17_Order
import PyEcc.Props.TieCofactor

set_option linter.unusedSectionVars false

namespace PyEcc.C17.Gen
open PyEcc PyEcc.Gen.Consts PyEcc.FqpSem PyEcc.Transfer WeierstrassCurve

/-! ## `subgroup_check` is exact -/

section generic
variable {F : Type} [Zero F] [One F] [Add F] [Sub F] [Mul F] [Neg F] [Div F] [NatCast F] [Pow F Nat]
  [DecidableEq F]

/-- **The generated `subgroup_check` multiplies by the standard group order.**  `subgroup_check(P)` as
    translated from the source is `is_inf(multiply(P, r))` with the BLS12-381 order
    `r = 0x73eda753…00000001` (`Spec.BLS12381.r`), over any coordinate type. -/
theorem subgroup_check_eq_spec (T : F × F × F) :
    Gen.ExtraCodec.subgroup_check T = Gen.OptBls.is_inf (Gen.OptBls.multiply T Spec.BLS12381.r) := by
  rw [Tie.subgroup_check_eq T]; exact C17.subgroupCheck_eq T

/-- the generated `subgroup_check(P)` is true exactly when the `z` coordinate of `multiply(P, r)` is zero -/
theorem subgroup_check_iff_z (T : F × F × F) :
    Gen.ExtraCodec.subgroup_check T = true ↔ (Gen.OptBls.multiply T Spec.BLS12381.r).2.2 = 0 := by
  rw [Tie.subgroup_check_eq T]; exact C17.subgroupCheck_iff T

end generic

section G1
variable {T T₁ T₂ Tg Tq : G1Pt} {P Q G : CurvePt (blsB : F1)}

/-- **G1: generated `subgroup_check P = true ↔ r • P = 0`.**  Run on `FQ` triples, the generated
    `subgroup_check(T)` returns `True` iff `curve_order • P = 0` for the Mathlib point `P` represented by `T`
    (any projective representative). -/
theorem subgroup_check_G1_iff (r : Represents T P) :
    Gen.ExtraCodec.subgroup_check T = true ↔ blsR • P = 0 := by
  rw [Tie.subgroup_check_eq T]; exact C17M.subgroupCheck_G1_iff r

/-- G1, using that `curve_order` is prime: the generated `subgroup_check(T)` is `True` iff the represented
    point is the identity or has order exactly `curve_order`. -/
theorem subgroup_check_G1_iff_prime (r : Represents T P) :
    Gen.ExtraCodec.subgroup_check T = true ↔ P = 0 ∨ addOrderOf P = blsR := by
  rw [Tie.subgroup_check_eq T]; exact C17M.subgroupCheck_G1_iff_prime r

/-- **G1, closed form.**  Every triple accepted by the generated `is_on_curve(T, b)` represents a point of
    `E(Fp)`, and the generated `subgroup_check(T)` decides whether that point is killed by `curve_order`. -/
theorem subgroup_check_G1_of_on_curve (hT : Gen.OptBls.is_on_curve T blsB = true) :
    ∃ P : CurvePt (blsB : F1), Represents T P ∧
      (Gen.ExtraCodec.subgroup_check T = true ↔ blsR • P = 0) := by
  obtain ⟨P, r, h⟩ := C17M.subgroupCheck_G1_of_on_curve hT
  exact ⟨P, r, by rw [Tie.subgroup_check_eq]; exact h⟩

/-- **G1 accepts exactly the multiples of the generator.**  A triple on the curve passes the generated
    `subgroup_check` iff it is `eq` to `multiply(G1, k)` for some `k < curve_order`. -/
theorem subgroup_check_G1_iff_multiple (hT : Gen.OptBls.is_on_curve T blsB = true) :
    Gen.ExtraCodec.subgroup_check T = true ↔
      ∃ k : ℕ, k < blsR ∧ Gen.OptBls.eq T (Gen.OptBls.multiply blsG1 k) = true := by
  rw [Tie.subgroup_check_eq T]; exact C17O.subgroupCheck_G1_iff_multiple T hT

/-- G1: the answer of the generated `subgroup_check` does not depend on the representative
    (`eq(T, T') = True`), for ALL triples. -/
theorem subgroup_check_G1_congr {T' : G1Pt} (e : Gen.OptBls.eq T T' = true) :
    Gen.ExtraCodec.subgroup_check T = Gen.ExtraCodec.subgroup_check T' := by
  rw [Tie.subgroup_check_eq, Tie.subgroup_check_eq]; exact C17M.subgroupCheck_G1_congr e

/-- G1: every triple with `z = 0` (the identity, any representation) passes the generated `subgroup_check`. -/
theorem subgroup_check_G1_accepts_inf (hz : T.2.2 = 0) : Gen.ExtraCodec.subgroup_check T = true := by
  rw [Tie.subgroup_check_eq T]; exact C17M.subgroupCheck_G1_accepts_inf hz

/-- G1: every multiple `multiply(G1, k)` of the generator constant passes the generated `subgroup_check`. -/
theorem subgroup_check_G1_multiples (k : ℕ) :
    Gen.ExtraCodec.subgroup_check (Gen.OptBls.multiply blsG1 k) = true := by
  rw [Tie.subgroup_check_eq]; exact C17M.blsG1_multiples_pass k

/-- **G1 rejects mixed points.**  A triple representing `k • G + Q` with `G` in the `curve_order`-torsion and
    `Q ≠ 0` in the torsion of the G1 cofactor `h₁` FAILS the generated `subgroup_check`. -/
theorem subgroup_check_G1_rejects_mixed (k : ℕ) (hG : blsR • G = 0)
    (hQ : Spec.BLS12381.h1 • Q = 0) (hne : Q ≠ 0) (r : Represents T (k • G + Q)) :
    Gen.ExtraCodec.subgroup_check T = false := by
  rw [Tie.subgroup_check_eq T]; exact C17M.subgroupCheck_G1_rejects_mixed k hG hQ hne r

/-- G1, code form: `add(multiply(Tg, k), Tq)` fails the generated `subgroup_check` whenever `Tg` passes it and
    `Tq ≠ ∞` is killed by a scalar `h` coprime to `curve_order`. -/
theorem subgroup_check_G1_rejects_mixed_code {h : ℕ} (hc : Nat.Coprime h blsR) (k : ℕ)
    (rg : Represents Tg G) (rq : Represents Tq Q) (hG : Gen.ExtraCodec.subgroup_check Tg = true)
    (hQ : Gen.OptBls.is_inf (Gen.OptBls.multiply Tq h) = true) (hne : Gen.OptBls.is_inf Tq = false) :
    Gen.ExtraCodec.subgroup_check (Gen.OptBls.add (Gen.OptBls.multiply Tg k) Tq) = false := by
  rw [Tie.subgroup_check_eq] at hG ⊢
  exact C17M.subgroupCheck_G1_rejects_mixed_code hc k rg rq hG hQ hne

end G1

/-- non-vacuity of the hypotheses of `subgroup_check_G1_rejects_mixed_code` (and, through `Represents`, of
    `subgroup_check_G1_rejects_mixed`): `Tg = G1`, `k = 5`, `Tq = (0, 2, 1)` — the curve point of order `h = 3`
    (finding K1 of C11) — so `5·G1 + (0, 2)` is a curve point that the generated `subgroup_check` rejects -/
example : Gen.ExtraCodec.subgroup_check
    (Gen.OptBls.add (Gen.OptBls.multiply blsG1 5) ((0 : F1), (Fq.ofInt 2 : F1), (1 : F1))) = false := by
  obtain ⟨G, rg⟩ := curveF1.exists_rep (goodT_true blsG1) C17M.blsG1_passes.1
  obtain ⟨Q, rq⟩ := curveF1.exists_rep (goodT_true ((0 : F1), (Fq.ofInt 2 : F1), (1 : F1))) (by decide +kernel)
  exact subgroup_check_G1_rejects_mixed_code (h := 3) (by decide +kernel) 5 rg.rep rq.rep
    (by rw [Tie.subgroup_check_eq]; exact C17M.blsG1_passes.2) (by decide +kernel) (by decide +kernel)

/-- non-vacuity (G1): the generator constant is on the curve, represents a point, and passes -/
example : Gen.OptBls.is_on_curve blsG1 blsB = true ∧ Gen.ExtraCodec.subgroup_check blsG1 = true :=
  ⟨C17M.blsG1_passes.1, by rw [Tie.subgroup_check_eq]; exact C17M.blsG1_passes.2⟩

section G2
variable [DecidableEq K2] {T T₁ T₂ Tg Tq : G2Pt} {P Q G : CurvePt (toQ blsB2 : K2)}

/-- **G2: generated `subgroup_check P = true ↔ r • P = 0`.**  Run on a canonical `FQ2` triple `T` whose value
    represents the point `P` of `E'(Fp²)`, the generated `subgroup_check(T)` returns `True` iff
    `curve_order • P = 0`. -/
theorem subgroup_check_G2_iff (c : CanonT T) (r : Represents (mapT toQ T) P) :
    Gen.ExtraCodec.subgroup_check T = true ↔ blsR • P = 0 := by
  rw [Tie.subgroup_check_eq T]; exact C17M.subgroupCheck_G2_iff c r

/-- G2, using that `curve_order` is prime: `True` iff `P` is the identity or has order exactly `curve_order`. -/
theorem subgroup_check_G2_iff_prime (c : CanonT T) (r : Represents (mapT toQ T) P) :
    Gen.ExtraCodec.subgroup_check T = true ↔ P = 0 ∨ addOrderOf P = blsR := by
  rw [Tie.subgroup_check_eq T]; exact C17M.subgroupCheck_G2_iff_prime c r

/-- **G2, closed form.**  Every canonical triple accepted by the generated `is_on_curve(T, b2)` represents a
    point of `E'(Fp²)`, and the generated `subgroup_check(T)` decides whether it is killed by `curve_order`. -/
theorem subgroup_check_G2_of_on_curve (c : CanonT T) (hT : Gen.OptBls.is_on_curve T blsB2 = true) :
    ∃ P : CurvePt (toQ blsB2 : K2), Represents (mapT toQ T) P ∧
      (Gen.ExtraCodec.subgroup_check T = true ↔ blsR • P = 0) := by
  obtain ⟨P, r, h⟩ := C17M.subgroupCheck_G2_of_on_curve c hT
  exact ⟨P, r, by rw [Tie.subgroup_check_eq]; exact h⟩

/-- G2: the answer does not depend on the representative, for all canonical triples. -/
theorem subgroup_check_G2_congr {T' : G2Pt} (c : CanonT T) (c' : CanonT T')
    (e : Gen.OptBls.eq T T' = true) :
    Gen.ExtraCodec.subgroup_check T = Gen.ExtraCodec.subgroup_check T' := by
  rw [Tie.subgroup_check_eq, Tie.subgroup_check_eq]; exact C17M.subgroupCheck_G2_congr c c' e

/-- G2: every canonical triple with `z = 0` passes the generated `subgroup_check`. -/
theorem subgroup_check_G2_accepts_inf (c : CanonT T) (hz : T.2.2 = 0) :
    Gen.ExtraCodec.subgroup_check T = true := by
  rw [Tie.subgroup_check_eq T]; exact C17M.subgroupCheck_G2_accepts_inf c hz

/-- **G2 rejects mixed points.**  A canonical triple representing `k • G + Q` with `G` in the
    `curve_order`-torsion and `Q ≠ 0` in the `G2_COFACTOR`-torsion FAILS the generated `subgroup_check`. -/
theorem subgroup_check_G2_rejects_mixed (c : CanonT T) (k : ℕ) (hG : blsR • G = 0)
    (hQ : blsconst_G2_COFACTOR • Q = 0) (hne : Q ≠ 0) (r : Represents (mapT toQ T) (k • G + Q)) :
    Gen.ExtraCodec.subgroup_check T = false := by
  rw [Tie.subgroup_check_eq T]; exact C17M.subgroupCheck_G2_rejects_mixed c k hG hQ hne r

/-- G2, code form: `add(multiply(Tg, k), Tq)` fails whenever `Tg` passes and `Tq ≠ ∞` is killed by a scalar
    `h` coprime to `curve_order`. -/
theorem subgroup_check_G2_rejects_mixed_code {h : ℕ} (hc : Nat.Coprime h blsR) (k : ℕ)
    (cg : CanonT Tg) (cq : CanonT Tq) (rg : Represents (mapT toQ Tg) G)
    (rq : Represents (mapT toQ Tq) Q) (hG : Gen.ExtraCodec.subgroup_check Tg = true)
    (hQ : Gen.OptBls.is_inf (Gen.OptBls.multiply Tq h) = true) (hne : Gen.OptBls.is_inf Tq = false) :
    Gen.ExtraCodec.subgroup_check (Gen.OptBls.add (Gen.OptBls.multiply Tg k) Tq) = false := by
  rw [Tie.subgroup_check_eq] at hG ⊢
  exact C17M.subgroupCheck_G2_rejects_mixed_code hc k cg cq rg rq hG hQ hne

end G2

/-- **G2 accepts exactly the multiples of the generator.**  A canonical triple on the twist curve passes the
    generated `subgroup_check` iff it is `eq` to `multiply(G2, k)` for some `k < curve_order`. -/
theorem subgroup_check_G2_iff_multiple (T : G2Pt) (c : CanonT T)
    (hT : Gen.OptBls.is_on_curve T blsB2 = true) :
    Gen.ExtraCodec.subgroup_check T = true ↔
      ∃ k : ℕ, k < blsR ∧ Gen.OptBls.eq T (Gen.OptBls.multiply blsG2 k) = true := by
  rw [Tie.subgroup_check_eq T]; exact C17O.subgroupCheck_G2_iff_multiple T c hT

/-- G2: every multiple `multiply(G2, k)` of the generator constant passes the generated `subgroup_check`. -/
theorem subgroup_check_G2_multiples (k : ℕ) :
    Gen.ExtraCodec.subgroup_check (Gen.OptBls.multiply blsG2 k) = true := by
  rw [Tie.subgroup_check_eq]; exact C17M.blsG2_multiples_pass k

/-- non-vacuity (G2): the generator constant is canonical, on the twist curve, and passes -/
example : CanonT blsG2 ∧ Gen.OptBls.is_on_curve blsG2 blsB2 = true ∧
    Gen.ExtraCodec.subgroup_check blsG2 = true :=
  ⟨C17M.blsG2_passes.1, C17M.blsG2_passes.2.1, by rw [Tie.subgroup_check_eq]; exact C17M.blsG2_passes.2.2⟩

/-! ## cofactor clearing -/

/-- **The generated cofactor clearing is multiplication by RFC 9380's effective cofactors.**
    `multiply_clear_cofactor_G1(P) = multiply(P, 0xd201000000010001)` and
    `multiply_clear_cofactor_G2(P) = multiply(P, h_eff)` with the `h_eff` of RFC 9380 §8.8.2
    (`Spec.H2C.hEffG1`, `Spec.H2C.hEffG2`), and `clear_cofactor_G1/G2` of `hash_to_curve.py` are these
    functions. -/
theorem clear_cofactor_eq_spec (T₁ : G1Pt) (T₂ : G2Pt) :
    Gen.ExtraSwu.multiply_clear_cofactor_G1 T₁ = Gen.OptBls.multiply T₁ Spec.H2C.hEffG1 ∧
    Gen.ExtraSwu.multiply_clear_cofactor_G2 T₂ = Gen.OptBls.multiply T₂ Spec.H2C.hEffG2 ∧
    Gen.ExtraSwu.clear_cofactor_G1 T₁ = Gen.ExtraSwu.multiply_clear_cofactor_G1 T₁ ∧
    Gen.ExtraSwu.clear_cofactor_G2 T₂ = Gen.ExtraSwu.multiply_clear_cofactor_G2 T₂ := by
  refine ⟨?_, ?_, ?_, ?_⟩
  · rw [Tie.multiply_clear_cofactor_G1_eq]; exact C17.clearCofactorG1_eq T₁
  · rw [Tie.multiply_clear_cofactor_G2_eq]; exact C17.clearCofactorG2_eq T₂
  · rw [Tie.clear_cofactor_G1_eq, Tie.multiply_clear_cofactor_G1_eq]
  · rw [Tie.clear_cofactor_G2_eq, Tie.multiply_clear_cofactor_G2_eq]

/-- **G1: the generated `multiply_clear_cofactor_G1` computes `h_eff • P`.**  If `T` represents `P` then the
    result represents `H_EFF_G1 • P`. -/
theorem multiply_clear_cofactor_G1_refines {T : G1Pt} {P : CurvePt (blsB : F1)} (r : Represents T P) :
    Represents (Gen.ExtraSwu.multiply_clear_cofactor_G1 T) (h2c_H_EFF_G1 • P) := by
  rw [Tie.multiply_clear_cofactor_G1_eq T]; exact C17M.clearCofactorG1_refines r

/-- **G2: the generated `multiply_clear_cofactor_G2` computes `h_eff • P`.**  On a canonical triple whose value
    represents `P`, the result is canonical and its value represents `H_EFF_G2 • P`. -/
theorem multiply_clear_cofactor_G2_refines [DecidableEq K2] {T : G2Pt} {P : CurvePt (toQ blsB2 : K2)}
    (c : CanonT T) (r : Represents (mapT toQ T) P) :
    CanonT (Gen.ExtraSwu.multiply_clear_cofactor_G2 T) ∧
      Represents (mapT toQ (Gen.ExtraSwu.multiply_clear_cofactor_G2 T)) (h2c_H_EFF_G2 • P) := by
  rw [Tie.multiply_clear_cofactor_G2_eq T]; exact C17M.clearCofactorG2_refines c r

/-- **G1: generated cofactor clearing lands in the subgroup, for every curve point.**  For EVERY triple `T`
    accepted by the generated `is_on_curve(T, b)`, `multiply_clear_cofactor_G1(T)` is on the curve and passes
    the generated `subgroup_check`.  (Unconditional: `#E(Fp) = h₁·r` is proved in `Props/C17_Order.lean`.) -/
theorem multiply_clear_cofactor_G1_lands (T : G1Pt) (hT : Gen.OptBls.is_on_curve T blsB = true) :
    Gen.OptBls.is_on_curve (Gen.ExtraSwu.multiply_clear_cofactor_G1 T) blsB = true ∧
    Gen.ExtraCodec.subgroup_check (Gen.ExtraSwu.multiply_clear_cofactor_G1 T) = true := by
  rw [Tie.multiply_clear_cofactor_G1_eq, Tie.subgroup_check_eq]
  exact C17O.clearCofactorG1_lands T hT

/-- the same for the wrapper `clear_cofactor_G1` of `py_ecc/bls/hash_to_curve.py` -/
theorem clear_cofactor_G1_lands (T : G1Pt) (hT : Gen.OptBls.is_on_curve T blsB = true) :
    Gen.OptBls.is_on_curve (Gen.ExtraSwu.clear_cofactor_G1 T) blsB = true ∧
    Gen.ExtraCodec.subgroup_check (Gen.ExtraSwu.clear_cofactor_G1 T) = true := by
  rw [Tie.clear_cofactor_G1_eq, Tie.subgroup_check_eq]
  exact C17O.clearCofactorG1_lands T hT

/-- **G2: generated cofactor clearing lands in the subgroup, for every curve point.**  For EVERY canonical
    `FQ2` triple `T` accepted by the generated `is_on_curve(T, b2)`, `multiply_clear_cofactor_G2(T)` is
    canonical, on the twist curve, and passes the generated `subgroup_check`.  (Unconditional:
    `#E'(Fp²) = h₂·r` is proved in `Props/C17_Order.lean`.) -/
theorem multiply_clear_cofactor_G2_lands (T : G2Pt) (c : CanonT T)
    (hT : Gen.OptBls.is_on_curve T blsB2 = true) :
    CanonT (Gen.ExtraSwu.multiply_clear_cofactor_G2 T) ∧
    Gen.OptBls.is_on_curve (Gen.ExtraSwu.multiply_clear_cofactor_G2 T) blsB2 = true ∧
    Gen.ExtraCodec.subgroup_check (Gen.ExtraSwu.multiply_clear_cofactor_G2 T) = true := by
  rw [Tie.multiply_clear_cofactor_G2_eq, Tie.subgroup_check_eq]
  exact C17O.clearCofactorG2_lands T c hT

/-- the same for the wrapper `clear_cofactor_G2` of `py_ecc/bls/hash_to_curve.py` -/
theorem clear_cofactor_G2_lands (T : G2Pt) (c : CanonT T) (hT : Gen.OptBls.is_on_curve T blsB2 = true) :
    CanonT (Gen.ExtraSwu.clear_cofactor_G2 T) ∧
    Gen.OptBls.is_on_curve (Gen.ExtraSwu.clear_cofactor_G2 T) blsB2 = true ∧
    Gen.ExtraCodec.subgroup_check (Gen.ExtraSwu.clear_cofactor_G2 T) = true := by
  rw [Tie.clear_cofactor_G2_eq, Tie.subgroup_check_eq]
  exact C17O.clearCofactorG2_lands T c hT

/-- non-vacuity: the generators satisfy the hypotheses of the four `…_lands` theorems -/
example : Gen.OptBls.is_on_curve blsG1 blsB = true ∧
    CanonT blsG2 ∧ Gen.OptBls.is_on_curve blsG2 blsB2 = true :=
  ⟨C17M.blsG1_passes.1, C17M.blsG2_passes.1, C17M.blsG2_passes.2.1⟩

/-- **G1: clearing does not collapse the subgroup.**  The generated `multiply_clear_cofactor_G1` is injective
    (up to `eq`) on triples that pass the generated `subgroup_check`. -/
theorem multiply_clear_cofactor_G1_injective {T₁ T₂ : G1Pt} {P Q : CurvePt (blsB : F1)}
    (r₁ : Represents T₁ P) (r₂ : Represents T₂ Q)
    (c₁ : Gen.ExtraCodec.subgroup_check T₁ = true) (c₂ : Gen.ExtraCodec.subgroup_check T₂ = true)
    (he : Gen.OptBls.eq (Gen.ExtraSwu.multiply_clear_cofactor_G1 T₁)
      (Gen.ExtraSwu.multiply_clear_cofactor_G1 T₂) = true) : Gen.OptBls.eq T₁ T₂ = true := by
  rw [Tie.subgroup_check_eq] at c₁ c₂
  rw [Tie.multiply_clear_cofactor_G1_eq, Tie.multiply_clear_cofactor_G1_eq] at he
  exact C17M.clearCofactorG1_injective r₁ r₂ c₁ c₂ he

end PyEcc.C17.Gen
