/-
  PyEcc.Props.C09_Gen — property C09 restated about the GENERATED code.

  `Gen/ExtraBls.lean` (every method of `BaseG2Ciphersuite`, `G2Basic`, `G2MessageAugmentation`,
  `G2ProofOfPossession` of `py_ecc/bls/ciphersuites.py`, the class attributes `DST` / `POP_TAG`, and one dispatcher per
  overridden method built from the method resolution order) is re-generated from the Python source on every run.
  Every theorem below is a headline theorem of `Props/C09.lean` in which each py_ecc function is the GENERATED
  definition (`PyEcc.Gen.ExtraBls.*`; in section 3 also `PyEcc.Gen.ExtraSwu.hash_to_G2`, `PyEcc.Gen.ExtraCodec.*`,
  `PyEcc.Gen.OptBls.multiply`), obtained by rewriting with the tie theorems (`Props/TieBls.lean`, `TieBlsAgg.lean`,
  `TieCodec.lean`, `TieSwu.lean`) and applying the model theorem.

  The specification side is `PyEcc.Spec.BlsSig`: draft-irtf-cfrg-bls-signature-04 written out step by step.
  The model theorems take the secret key as a dynamically typed Python argument `sk : PyArg` with the hypothesis
  `isValidPrivkey sk = some k`; by `C09.isValidPrivkey_iff` that hypothesis says exactly `sk = int k ∧ 0 < k < r`,
  which is how it is written here (same strength, no model function in the statement).
-/
import PyEcc.Props.C09
import PyEcc.Props.TieBlsAgg
import PyEcc.Props.TieCodec
import PyEcc.Props.TieSwu

namespace PyEcc.C09.Gen
open PyEcc PyEcc.Gen.Consts
open PyEcc.Spec.BlsSig (Result signature_to_point AggregateLoop)

/-! ## 1. constants and key validation -/

/-- **The suite tags in the current source are the draft's.**  The class attribute `DST` as each of `G2Basic`,
    `G2MessageAugmentation`, `G2ProofOfPossession` sees it, and `G2ProofOfPossession.POP_TAG`, are the draft's
    `BLS_SIG_BLS12381G2_XMD:SHA-256_SSWU_RO_{NUL,AUG,POP}_` and `BLS_POP_BLS12381G2_XMD:SHA-256_SSWU_RO_POP_`. -/
theorem DST_eq_spec :
    Gen.ExtraBls.DST .basic = Spec.BlsSig.DST_NUL ∧ Gen.ExtraBls.DST .aug = Spec.BlsSig.DST_AUG ∧
    Gen.ExtraBls.DST .pop = Spec.BlsSig.DST_POP ∧ Gen.ExtraBls.POP_TAG = Spec.BlsSig.POP_TAG := by
  simp only [Tie.Bls.DST_eq, Tie.Bls.POP_TAG_eq]; exact C09.dst_eq_spec

/-- **Generated `_is_valid_privkey(privkey)`** is `True` exactly for the Python ints `k` with `0 < k < r`, `r` the
    BLS12-381 group order of the draft. -/
theorem is_valid_privkey_iff (sk : PyArg) :
    Gen.ExtraBls._is_valid_privkey sk = true ↔
      ∃ k : Nat, sk = .int (k : Int) ∧ 0 < k ∧ k < Spec.BlsSig.r := by
  rw [Tie.Bls.is_valid_privkey_isSome, Option.isSome_iff_exists]
  exact exists_congr fun k => C09.isValidPrivkey_iff sk k

private theorem valid_int {k : Nat} (hk : 0 < k) (hr : k < Spec.BlsSig.r) :
    isValidPrivkey (.int (k : Int)) = some k := (C09.isValidPrivkey_iff _ k).mpr ⟨rfl, hk, hr⟩

private theorem invalid_none {sk : PyArg} (h : Gen.ExtraBls._is_valid_privkey sk = false) :
    isValidPrivkey sk = none := by
  rw [Tie.Bls.is_valid_privkey_isSome] at h
  cases ho : isValidPrivkey sk with
  | none => rfl
  | some k => rw [ho] at h; cases h

/-! ## 2. `SkToPk`, `Sign`, `PopProve`, `Aggregate` equal the draft's procedures -/

/-- **Generated `SkToPk(k)` is the draft's `SkToPk(SK) = point_to_pubkey(SK * P)`**, for every secret key
    `0 < k < r`: the same bytes (or the same exception of the serialisation primitive). -/
theorem SkToPk_eq_spec (k : Nat) (hk : 0 < k) (hr : k < Spec.BlsSig.r) :
    Gen.ExtraBls.SkToPk (.int (k : Int)) = Spec.BlsSig.SkToPk k := by
  rw [Tie.Bls.SkToPk_eq]; exact C09.skToPk_eq_spec _ k (valid_int hk hr)

example : (0 : Nat) < 1 ∧ 1 < Spec.BlsSig.r := by decide

/-- On every argument the generated `_is_valid_privkey` rejects (not an `int`, `≤ 0`, `≥ r`) the generated `SkToPk`
    raises `ValidationError`. -/
theorem SkToPk_invalid (sk : PyArg) (h : Gen.ExtraBls._is_valid_privkey sk = false) :
    Gen.ExtraBls.SkToPk sk = .error .validation := by
  rw [Tie.Bls.SkToPk_eq]; exact C09.skToPk_invalid sk (invalid_none h)

example : Gen.ExtraBls._is_valid_privkey (.int 0) = false := by decide +kernel

/-- **Generated `_CoreSign(SK, message, DST)`** on a valid key is the draft's
    `CoreSign(SK, message) = point_to_signature(SK * hash_to_point(message))` under that DST. -/
theorem CoreSign_eq_spec (H : HashFn) (k : Nat) (hk : 0 < k) (hr : k < Spec.BlsSig.r) (msg dst : Bytes) :
    Gen.ExtraBls._CoreSign H (.int (k : Int)) msg dst = Spec.BlsSig.CoreSign H dst k msg := by
  rw [Tie.Bls.CoreSign_eq]; exact C09.coreSign_eq_spec H _ k (valid_int hk hr) msg dst

/-- **Generated `G2Basic.Sign(SK, message)`** is §3.1 of the draft: `CoreSign` under the `…_NUL_` tag. -/
theorem Sign_basic_eq_spec (H : HashFn) (k : Nat) (hk : 0 < k) (hr : k < Spec.BlsSig.r) (msg : Bytes) :
    Gen.ExtraBls.Sign H .basic (.int (k : Int)) msg = Spec.BlsSig.Basic.Sign H k msg := by
  rw [Tie.Bls.Sign_eq]; exact C09.sign_basic_eq_spec H _ k (valid_int hk hr) msg

/-- **Generated `G2MessageAugmentation.Sign(SK, message)`** is §3.2.1 of the draft: `CoreSign(SK, PK ‖ message)`
    with `PK = SkToPk(SK)` (public key first, then the message) under the `…_AUG_` tag. -/
theorem Sign_aug_eq_spec (H : HashFn) (k : Nat) (hk : 0 < k) (hr : k < Spec.BlsSig.r) (msg : Bytes) :
    Gen.ExtraBls.Sign H .aug (.int (k : Int)) msg = Spec.BlsSig.Aug.Sign H k msg := by
  rw [Tie.Bls.Sign_eq]; exact C09.sign_aug_eq_spec H _ k (valid_int hk hr) msg

/-- **Generated `G2ProofOfPossession.Sign(SK, message)`** is §3.3 of the draft: `CoreSign` under the `…_POP_` tag. -/
theorem Sign_pop_eq_spec (H : HashFn) (k : Nat) (hk : 0 < k) (hr : k < Spec.BlsSig.r) (msg : Bytes) :
    Gen.ExtraBls.Sign H .pop (.int (k : Int)) msg = Spec.BlsSig.Pop.Sign H k msg := by
  rw [Tie.Bls.Sign_eq]; exact C09.sign_pop_eq_spec H _ k (valid_int hk hr) msg

/-- **Generated `Sign` of every suite**, for every hash function, valid key and message: the bytes returned (or the
    exception of a primitive) are those of the draft's `Sign` of that scheme (`C09.specSign`). -/
theorem Sign_eq_spec (H : HashFn) (s : Suite) (k : Nat) (hk : 0 < k) (hr : k < Spec.BlsSig.r) (msg : Bytes) :
    Gen.ExtraBls.Sign H s (.int (k : Int)) msg = C09.specSign H s k msg := by
  rw [Tie.Bls.Sign_eq]; exact C09.sign_eq_spec H s _ k (valid_int hk hr) msg

/-- On a rejected key every generated `Sign` raises `ValidationError`. -/
theorem Sign_invalid (H : HashFn) (s : Suite) (sk : PyArg)
    (h : Gen.ExtraBls._is_valid_privkey sk = false) (msg : Bytes) :
    Gen.ExtraBls.Sign H s sk msg = .error .validation := by
  rw [Tie.Bls.Sign_eq]; exact C09.sign_invalid H s sk (invalid_none h) msg

/-- **Generated `PopProve(SK)`** is §3.3.2 of the draft:
    `point_to_signature(SK * hash_pubkey_to_point(SkToPk(SK)))`, hashing under the `BLS_POP_…` tag. -/
theorem PopProve_eq_spec (H : HashFn) (k : Nat) (hk : 0 < k) (hr : k < Spec.BlsSig.r) :
    Gen.ExtraBls.PopProve H (.int (k : Int)) = Spec.BlsSig.PopProve H k := by
  rw [Tie.Bls.PopProve_eq]; exact C09.popProve_eq_spec H _ k (valid_int hk hr)

/-- **Generated `Aggregate(signatures)` against §2.8 of the draft**, for every list of byte strings.
    * Whenever the draft's procedure yields a value `r` (it reaches step 7), the generated function yields exactly `r`.
    * Whenever the draft's procedure is INVALID (`n < 1`, or some `signature_to_point` is INVALID) the generated
      function raises: `ValidationError` if the list is empty or any element is not 96 bytes long, otherwise
      `ValueError` (raised by `decompress_G2` on the first undecodable element). -/
theorem Aggregate_eq_spec (sigs : List Bytes) :
    (∀ r, Spec.BlsSig.Aggregate sigs = .ok r → Gen.ExtraBls.Aggregate sigs = r) ∧
    (Spec.BlsSig.Aggregate sigs = .INVALID →
      Gen.ExtraBls.Aggregate sigs =
        .error (if sigs.length < 1 ∨ sigs.all (·.length = 96) = false then .validation else .value)) := by
  rw [Tie.Bls.Aggregate_eq]; exact C09.aggregate_eq_spec sigs

/-- The generated `Aggregate` returns the bytes `b` iff the draft's `Aggregate` outputs `b`. -/
theorem Aggregate_ok_iff (sigs : List Bytes) (b : Bytes) :
    Gen.ExtraBls.Aggregate sigs = .ok b ↔ Spec.BlsSig.Aggregate sigs = .ok (.ok b) := by
  rw [Tie.Bls.Aggregate_eq]; exact C09.aggregate_ok_iff sigs b

/-- The generated `Aggregate` raises iff the draft's `Aggregate` is INVALID or its final `point_to_signature`
    raises (which the draft assumes cannot happen). -/
theorem Aggregate_error_iff (sigs : List Bytes) :
    (∃ e, Gen.ExtraBls.Aggregate sigs = .error e) ↔
      (Spec.BlsSig.Aggregate sigs = .INVALID ∨ ∃ e, Spec.BlsSig.Aggregate sigs = .ok (.error e)) := by
  rw [Tie.Bls.Aggregate_eq]; exact C09.aggregate_error_iff sigs

/-! ## 3. the outputs in terms of generated primitives only -/

/-- **The public key is the ZCash-compressed point `sk·G1`**: for `0 < k < r`, generated `SkToPk(k)` is the
    generated `G1_to_pubkey(multiply(G1, k))` (`G1` the standard generator: `C09.blsG1_eq_spec`). -/
theorem SkToPk_eq_compress (k : Nat) (hk : 0 < k) (hr : k < Spec.BlsSig.r) :
    Gen.ExtraBls.SkToPk (.int (k : Int)) =
      Gen.ExtraCodec.G1_to_pubkey (Gen.OptBls.multiply blsG1 k) := by
  rw [SkToPk_eq_spec k hk hr, Tie.G1_to_pubkey_eq]; rfl

/-- **A signature is the compressed point `sk·hash_to_curve(message, suite tag)`** (`G2Basic`, `G2ProofOfPossession`):
    for `0 < k < r`, generated `Sign(k, message)` hashes the message with the generated `hash_to_G2` under the
    class's `DST`, multiplies by `k` and serialises with the generated `G2_to_signature` (propagating the exception
    of `hash_to_G2`). -/
theorem Sign_eq_compress (H : HashFn) (s : Suite) (hs : s = .basic ∨ s = .pop) (k : Nat) (hk : 0 < k)
    (hr : k < Spec.BlsSig.r) (msg : Bytes) :
    Gen.ExtraBls.Sign H s (.int (k : Int)) msg =
      (Gen.ExtraSwu.hash_to_G2 msg (Gen.ExtraBls.DST s) H).bind fun Q =>
        Gen.ExtraCodec.G2_to_signature (Gen.OptBls.multiply Q k) := by
  simp only [Tie.hash_to_G2_eq, Tie.G2_to_signature_eq]
  rcases hs with rfl | rfl
  · rw [Sign_basic_eq_spec H k hk hr, DST_eq_spec.1]; rfl
  · rw [Sign_pop_eq_spec H k hk hr, DST_eq_spec.2.2.1]; rfl

example : Suite.basic = .basic ∨ Suite.basic = .pop := Or.inl rfl

/-- **Message augmentation signs `PK ‖ message`**: for `0 < k < r`, generated `G2MessageAugmentation.Sign(k, message)`
    computes `PK = SkToPk(k)` and returns the compressed point `k·hash_to_G2(PK ‖ message, DST_AUG)`. -/
theorem Sign_aug_eq_compress (H : HashFn) (k : Nat) (hk : 0 < k) (hr : k < Spec.BlsSig.r) (msg : Bytes) :
    Gen.ExtraBls.Sign H .aug (.int (k : Int)) msg =
      (Gen.ExtraBls.SkToPk (.int (k : Int))).bind fun PK =>
      (Gen.ExtraSwu.hash_to_G2 (PK ++ msg) (Gen.ExtraBls.DST .aug) H).bind fun Q =>
        Gen.ExtraCodec.G2_to_signature (Gen.OptBls.multiply Q k) := by
  simp only [Tie.hash_to_G2_eq, Tie.G2_to_signature_eq]
  rw [Sign_aug_eq_spec H k hk hr, SkToPk_eq_spec k hk hr, DST_eq_spec.2.1]; rfl

/-- **A possession proof signs the public key under the `BLS_POP_` tag**: for `0 < k < r`, generated `PopProve(k)`
    computes `PK = SkToPk(k)` and returns the compressed point `k·hash_to_G2(PK, POP_TAG)`. -/
theorem PopProve_eq_compress (H : HashFn) (k : Nat) (hk : 0 < k) (hr : k < Spec.BlsSig.r) :
    Gen.ExtraBls.PopProve H (.int (k : Int)) =
      (Gen.ExtraBls.SkToPk (.int (k : Int))).bind fun PK =>
      (Gen.ExtraSwu.hash_to_G2 PK Gen.ExtraBls.POP_TAG H).bind fun Q =>
        Gen.ExtraCodec.G2_to_signature (Gen.OptBls.multiply Q k) := by
  simp only [Tie.hash_to_G2_eq, Tie.G2_to_signature_eq]
  rw [PopProve_eq_spec H k hk hr, SkToPk_eq_spec k hk hr, DST_eq_spec.2.2.2]; rfl

/-! ## 4. kernel-evaluated anchors -/

/-- Generated `SkToPk(1)` is the well-known compressed G1 generator `97f1d3a7…c6bb`. -/
theorem SkToPk_one : Gen.ExtraBls.SkToPk (.int 1) = .ok C09.compressedG1 := by
  rw [Tie.Bls.SkToPk_eq]; exact C09.skToPk_one

/-- Generated `Aggregate` of the infinity signature `c0 00 … 00` with itself is the infinity signature (the `.ok`
    branch of `Aggregate_eq_spec` is inhabited), and the three INVALID cases with their exception kinds. -/
example :
    Gen.ExtraBls.Aggregate [C09.compressedInfG2, C09.compressedInfG2] = .ok C09.compressedInfG2 ∧
    Gen.ExtraBls.Aggregate [] = .error .validation ∧
    Gen.ExtraBls.Aggregate [C09.compressedInfG2, [0xc0]] = .error .validation ∧
    Gen.ExtraBls.Aggregate [C09.compressedInfG2, List.replicate 96 0] = .error .value := by
  simp only [Tie.Bls.Aggregate_eq]
  exact ⟨C09.aggregate_inf_inf, rfl, (C09.aggregate_eq_spec _).2 C09.spec_aggregate_short,
    (C09.aggregate_eq_spec _).2 C09.spec_aggregate_zero⟩

end PyEcc.C09.Gen
