/-
  PyEcc.Props.TieFieldsFq — TIE theorems ("generated = hand-written model") for the FIELD layer, part 1:
  `py_ecc.utils.prime_field_inv` and the class `FQ` of BOTH `py_ecc/fields/field_elements.py` (namespace
  `Gen.ExtraFieldsFq.Ref`) and `py_ecc/fields/optimized_field_elements.py` (namespace `Gen.ExtraFieldsFq.Opt`).

  `Gen/ExtraFieldsFq.lean` is re-generated from the Python source on every run (tools/translate/gen_fields.py).  In the
  generated code an `FQ` object is the value of its attribute `n` (an `Int`) and the class attribute `field_modulus` is
  an explicit parameter; one function is generated per operand kind (`_fq` / `_int`).  Each theorem below states that,
  for a model element `a : Fq p` (whose attribute is `a.n`) and modulus `p`, the generated method computes the
  attribute of the model's result — for ALL inputs.  A change to one of these Python methods changes the generated
  definition and breaks a theorem here statically.
-/
import PyEcc.Gen.ExtraFieldsFq

namespace PyEcc.Tie
open PyEcc

/-! ### py_ecc/utils.py -/

/-- the tuple-state loop generated from `prime_field_inv` is the model's `invLoop`.  The components of the generated loop
    state are in the order in which the function first binds them (`lm, hm = 1, 0` / `low, high = a % n, n`); how the
    body computes the next state (temporaries, one or several simultaneous assignments) does not matter: both sides are
    normalised by `simp only` (which evaluates the `match` on a tuple display and the `let`s). -/
theorem prime_field_inv_loop_fst : ∀ (f : Nat) (lm low hm high : Int),
    (Gen.ExtraFieldsFq.Utils.prime_field_inv_loop f (lm, hm, low, high)).1 = invLoop f lm low hm high := by
  intro f
  induction f with
  | zero => intro lm low hm high; rfl
  | succ f ih =>
    intro lm low hm high
    unfold Gen.ExtraFieldsFq.Utils.prime_field_inv_loop invLoop
    by_cases hgt : low > 1
    · simp only [hgt, if_true]; exact ih _ _ _ _
    · simp only [hgt, if_false]

/-- `prime_field_inv(a, n)` as translated from the source is the model's `primeFieldInv`, for all ints `a`, `n`
    (`a % n % n = a % n`: whether the source reduces the already reduced `a` a second time does not matter). -/
theorem prime_field_inv_eq (a n : Int) :
    Gen.ExtraFieldsFq.Utils.prime_field_inv a n = primeFieldInv a n := by
  unfold Gen.ExtraFieldsFq.Utils.prime_field_inv primeFieldInv
  by_cases h : a % n = 0
  · simp only [h, if_true]
  · simp only [h, if_false, Int.emod_emod]
    rw [← prime_field_inv_loop_fst]

/-- Python's `other % 2 != 0` for a natural `other` -/
theorem int_odd_iff (e : Nat) : ((e : Int) % 2 ≠ 0) ↔ e % 2 = 1 := by
  rw [← Nat.mod_two_ne_zero]; exact not_congr (Int.natCast_eq_zero (n := e % 2))

section
variable {p : Nat} [NeZero p]

/-- the attribute `n` of `FQ(z)` in the model, as an int -/
theorem Fq.ofInt_n (z : Int) : ((Fq.ofInt z : Fq p).n : Int) = z % (p : Int) := by
  unfold Fq.ofInt pmod
  exact Int.toNat_of_nonneg (Int.emod_nonneg z (by exact_mod_cast NeZero.ne p))

theorem Fq.one_n : (((1 : Fq p)).n : Int) = 1 % (p : Int) := Fq.ofInt_n 1
theorem Fq.zero_n : (((0 : Fq p)).n : Int) = 0 % (p : Int) := Fq.ofInt_n 0
end

/-! ### class `FQ` of py_ecc/fields/field_elements.py -/

namespace FqRef
open Gen.ExtraFieldsFq.Ref
variable {p : Nat} [NeZero p]

/-- `FQ.__init__(val)` for an `int`: the attribute of the model's `Fq.ofInt val`. -/
theorem init_int_eq (z : Int) : FQ.init_int p z = ((Fq.ofInt z : Fq p).n : Int) := by
  simp only [FQ.init_int, Fq.ofInt_n]

omit [NeZero p] in
/-- `FQ.__init__(val)` for an `FQ` object copies its attribute. -/
theorem init_fq_eq (a : Fq p) : FQ.init_fq p a.n = (a.n : Int) := rfl

/-- `FQ.__add__` with an `FQ` operand is `Fq.add`. -/
theorem add_fq_eq (a b : Fq p) : FQ.add_fq p a.n b.n = ((Fq.add a b).n : Int) := by
  simp only [FQ.add_fq, FQ.init_int, Fq.add, Fq.ofInt_n, Int.emod_emod]

/-- `FQ.__add__` with an `int` operand is `Fq.addInt`. -/
theorem add_int_eq (a : Fq p) (k : Int) : FQ.add_int p a.n k = ((Fq.addInt a k).n : Int) := by
  simp only [FQ.add_int, FQ.init_int, Fq.addInt, Fq.ofInt_n, Int.emod_emod]

/-- `FQ.__mul__` with an `FQ` operand is `Fq.mul`. -/
theorem mul_fq_eq (a b : Fq p) : FQ.mul_fq p a.n b.n = ((Fq.mul a b).n : Int) := by
  simp only [FQ.mul_fq, FQ.init_int, Fq.mul, Fq.ofInt_n, Int.emod_emod]

/-- `FQ.__mul__` with an `int` operand is `Fq.mulInt`. -/
theorem mul_int_eq (a : Fq p) (k : Int) : FQ.mul_int p a.n k = ((Fq.mulInt a k).n : Int) := by
  simp only [FQ.mul_int, FQ.init_int, Fq.mulInt, Fq.ofInt_n, Int.emod_emod]

/-- `FQ.__sub__` with an `FQ` operand is `Fq.sub`. -/
theorem sub_fq_eq (a b : Fq p) : FQ.sub_fq p a.n b.n = ((Fq.sub a b).n : Int) := by
  simp only [FQ.sub_fq, FQ.init_int, Fq.sub, Fq.ofInt_n, Int.emod_emod]

/-- `FQ.__sub__` with an `int` operand is `Fq.subInt`. -/
theorem sub_int_eq (a : Fq p) (k : Int) : FQ.sub_int p a.n k = ((Fq.subInt a k).n : Int) := by
  simp only [FQ.sub_int, FQ.init_int, Fq.subInt, Fq.ofInt_n, Int.emod_emod]

/-- `FQ.__rsub__` with an `FQ` operand (`other - self`) is `Fq.sub other self`. -/
theorem rsub_fq_eq (a b : Fq p) : FQ.rsub_fq p a.n b.n = ((Fq.sub b a).n : Int) := by
  simp only [FQ.rsub_fq, FQ.init_int, Fq.sub, Fq.ofInt_n, Int.emod_emod]

/-- `FQ.__rsub__` with an `int` operand (`k - self`) is `Fq.rsubInt`. -/
theorem rsub_int_eq (a : Fq p) (k : Int) : FQ.rsub_int p a.n k = ((Fq.rsubInt a k).n : Int) := by
  simp only [FQ.rsub_int, FQ.init_int, Fq.rsubInt, Fq.ofInt_n, Int.emod_emod]

/-- `FQ.__div__` with an `FQ` operand is `Fq.div`. -/
theorem div_fq_eq (a b : Fq p) : FQ.div_fq p a.n b.n = ((Fq.div a b).n : Int) := by
  simp only [FQ.div_fq, FQ.init_int, Fq.div, Fq.ofInt_n, Int.emod_emod]

/-- `FQ.__div__` with an `int` operand is `Fq.divInt`. -/
theorem div_int_eq (a : Fq p) (k : Int) : FQ.div_int p a.n k = ((Fq.divInt a k).n : Int) := by
  simp only [FQ.div_int, FQ.init_int, Fq.divInt, Fq.ofInt_n, Int.emod_emod]

/-- `FQ.__rdiv__` with an `FQ` operand (`other / self`) is `Fq.div other self`. -/
theorem rdiv_fq_eq (a b : Fq p) : FQ.rdiv_fq p a.n b.n = ((Fq.div b a).n : Int) := by
  simp only [FQ.rdiv_fq, FQ.init_int, Fq.div, Fq.ofInt_n, Int.emod_emod, Int.mul_comm]

/-- `FQ.__rdiv__` with an `int` operand (`k / self`) is `Fq.rdivInt`. -/
theorem rdiv_int_eq (a : Fq p) (k : Int) : FQ.rdiv_int p a.n k = ((Fq.rdivInt a k).n : Int) := by
  simp only [FQ.rdiv_int, FQ.init_int, Fq.rdivInt, Fq.ofInt_n, Int.emod_emod]

/-- `FQ.__truediv__` delegates to `__div__`: with an `FQ` operand it is `Fq.div`. -/
theorem truediv_fq_eq (a b : Fq p) : FQ.truediv_fq p a.n b.n = ((Fq.div a b).n : Int) := by
  unfold FQ.truediv_fq; exact div_fq_eq a b

/-- `FQ.__truediv__` with an `int` operand is `Fq.divInt`. -/
theorem truediv_int_eq (a : Fq p) (k : Int) : FQ.truediv_int p a.n k = ((Fq.divInt a k).n : Int) := by
  unfold FQ.truediv_int; exact div_int_eq a k

/-- `FQ.__rtruediv__` delegates to `__rdiv__`: with an `FQ` operand it is `Fq.div other self`. -/
theorem rtruediv_fq_eq (a b : Fq p) : FQ.rtruediv_fq p a.n b.n = ((Fq.div b a).n : Int) := by
  unfold FQ.rtruediv_fq; exact rdiv_fq_eq a b

/-- `FQ.__rtruediv__` with an `int` operand is `Fq.rdivInt`. -/
theorem rtruediv_int_eq (a : Fq p) (k : Int) : FQ.rtruediv_int p a.n k = ((Fq.rdivInt a k).n : Int) := by
  unfold FQ.rtruediv_int; exact rdiv_int_eq a k

/-- `FQ.__rmul__` delegates to `self * other`: with an `FQ` operand it is `Fq.mul`. -/
theorem rmul_fq_eq (a b : Fq p) : FQ.rmul_fq p a.n b.n = ((Fq.mul a b).n : Int) := by
  unfold FQ.rmul_fq; exact mul_fq_eq a b

/-- `FQ.__rmul__` with an `int` operand is `Fq.mulInt`. -/
theorem rmul_int_eq (a : Fq p) (k : Int) : FQ.rmul_int p a.n k = ((Fq.mulInt a k).n : Int) := by
  unfold FQ.rmul_int; exact mul_int_eq a k

/-- `FQ.__radd__` delegates to `self + other`: with an `FQ` operand it is `Fq.add`. -/
theorem radd_fq_eq (a b : Fq p) : FQ.radd_fq p a.n b.n = ((Fq.add a b).n : Int) := by
  unfold FQ.radd_fq; exact add_fq_eq a b

/-- `FQ.__radd__` with an `int` operand is `Fq.addInt`. -/
theorem radd_int_eq (a : Fq p) (k : Int) : FQ.radd_int p a.n k = ((Fq.addInt a k).n : Int) := by
  unfold FQ.radd_int; exact add_int_eq a k

/-- the `while other > 0` loop of `FQ.__pow__` is the model's `Fq.powAux` (same fuel), for a natural exponent.  (The
    loop state lists the variables in the order in which the method first binds them: the parameter `other`, then
    `o`, then `t`; the result `o` is its second component.) -/
theorem pow_loop_fst : ∀ (f : Nat) (o t : Fq p) (e : Nat),
    (FQ.pow_loop0 p f ((e : Int), (o.n : Int), (t.n : Int))).2.1 = ((Fq.powAux f o t e).n : Int) := by
  intro f
  induction f with
  | zero => intro o t e; rfl
  | succ f ih =>
    intro o t e
    unfold FQ.pow_loop0 Fq.powAux
    by_cases h0 : e = 0
    · subst h0; rfl
    · rw [if_pos (Int.natCast_pos.mpr (Nat.pos_of_ne_zero h0)), if_neg h0, mul_fq_eq o t, mul_fq_eq t t,
        show ((e : Int) / 2) = ((e / 2 : Nat) : Int) from rfl]
      by_cases hodd : e % 2 = 1
      · rw [if_pos hodd, if_pos ((int_odd_iff e).2 hodd)]
        exact ih _ _ _
      · rw [if_neg hodd, if_neg (fun h => hodd ((int_odd_iff e).1 h))]
        exact ih _ _ _

/-- `FQ.__pow__(other)` is `Fq.pow` for every int exponent (a negative exponent gives `1`, as `other.toNat = 0`). -/
theorem pow_eq (a : Fq p) (e : Int) : FQ.pow p a.n e = ((Fq.pow a e.toNat).n : Int) := by
  unfold FQ.pow Fq.pow
  rw [init_int_eq]
  by_cases h : 0 ≤ e
  · obtain ⟨k, rfl⟩ := Int.eq_ofNat_of_zero_le h
    exact pow_loop_fst k (Fq.ofInt 1) a k
  · have : e.toNat = 0 := by omega
    rw [this]; rfl

omit [NeZero p] in
/-- `FQ.__eq__` with an `FQ` operand compares the attributes: equality of the model elements. -/
theorem eq_fq_eq (a b : Fq p) : FQ.eq_fq p a.n b.n = decide (a = b) := by
  simp only [FQ.eq_fq, Fq.ext_iff, Int.natCast_inj]

omit [NeZero p] in
/-- `FQ.__eq__` with an `int` operand is `Fq.eqInt`. -/
theorem eq_int_eq (a : Fq p) (k : Int) : FQ.eq_int p a.n k = Fq.eqInt a k := rfl

omit [NeZero p] in
/-- `FQ.__ne__` (`not self == other`) with an `FQ` operand. -/
theorem ne_fq_eq (a b : Fq p) : FQ.ne_fq p a.n b.n = !decide (a = b) := by
  simp only [FQ.ne_fq, eq_fq_eq, decide_not, Bool.decide_eq_true]

omit [NeZero p] in
/-- `FQ.__ne__` with an `int` operand. -/
theorem ne_int_eq (a : Fq p) (k : Int) : FQ.ne_int p a.n k = !Fq.eqInt a k := by
  by_cases h : Fq.eqInt a k = true <;> simp [FQ.ne_int, eq_int_eq, h]

/-- `FQ.__neg__` is `Fq.neg`. -/
theorem neg_eq (a : Fq p) : FQ.neg p a.n = ((Fq.neg a).n : Int) := by
  simp only [FQ.neg, FQ.init_int, Fq.neg, Fq.ofInt_n]

omit [NeZero p] in
/-- `FQ.__int__` returns the attribute. -/
theorem int_eq (a : Fq p) : FQ.int p a.n = (a.n : Int) := rfl

omit [NeZero p] in
/-- `FQ.__lt__` with an `FQ` operand compares the attributes. -/
theorem lt_fq_eq (a b : Fq p) : FQ.lt_fq p a.n b.n = decide (a.n < b.n) := by
  simp only [FQ.lt_fq, Int.ofNat_lt]

omit [NeZero p] in
/-- `FQ.__lt__` with an `int` operand is `Fq.ltInt`. -/
theorem lt_int_eq (a : Fq p) (k : Int) : FQ.lt_int p a.n k = Fq.ltInt a k := rfl

/-- `FQ.one()` is the model's `1`. -/
theorem one_eq : FQ.one (p : Int) = (((1 : Fq p)).n : Int) := by
  simp only [FQ.one, FQ.init_int, Fq.one_n]

/-- `FQ.zero()` is the model's `0`. -/
theorem zero_eq : FQ.zero (p : Int) = (((0 : Fq p)).n : Int) := by
  simp only [FQ.zero, FQ.init_int, Fq.zero_n]

end FqRef

/-! ### class `FQ` of py_ecc/fields/optimized_field_elements.py -/

/-! Apart from `sgn0` the optimized class has the source text of the reference class, so each generated method unfolds
    to the reference one and the reference tie applies as it stands.  Only the recursive `pow_loop0` does not unfold
    for a variable amount of fuel; without smart unfolding `rfl` compares the two recursions term by term. -/

namespace FqOpt
open Gen.ExtraFieldsFq.Opt

set_option smartUnfolding false in
/-- the two `FQ.__pow__` are the same function -/
theorem pow_eq_ref : FQ.pow = Gen.ExtraFieldsFq.Ref.FQ.pow := rfl

variable {p : Nat} [NeZero p]

/-- `FQ.__init__(val)` for an `int`: the attribute of the model's `Fq.ofInt val`. -/
theorem init_int_eq (z : Int) : FQ.init_int p z = ((Fq.ofInt z : Fq p).n : Int) := FqRef.init_int_eq z

omit [NeZero p] in
/-- `FQ.__init__(val)` for an `FQ` object copies its attribute. -/
theorem init_fq_eq (a : Fq p) : FQ.init_fq p a.n = (a.n : Int) := FqRef.init_fq_eq a

/-- `FQ.__add__` with an `FQ` operand is `Fq.add`. -/
theorem add_fq_eq (a b : Fq p) : FQ.add_fq p a.n b.n = ((Fq.add a b).n : Int) := FqRef.add_fq_eq a b

/-- `FQ.__add__` with an `int` operand is `Fq.addInt`. -/
theorem add_int_eq (a : Fq p) (k : Int) : FQ.add_int p a.n k = ((Fq.addInt a k).n : Int) := FqRef.add_int_eq a k

/-- `FQ.__mul__` with an `FQ` operand is `Fq.mul`. -/
theorem mul_fq_eq (a b : Fq p) : FQ.mul_fq p a.n b.n = ((Fq.mul a b).n : Int) := FqRef.mul_fq_eq a b

/-- `FQ.__mul__` with an `int` operand is `Fq.mulInt`. -/
theorem mul_int_eq (a : Fq p) (k : Int) : FQ.mul_int p a.n k = ((Fq.mulInt a k).n : Int) := FqRef.mul_int_eq a k

/-- `FQ.__sub__` with an `FQ` operand is `Fq.sub`. -/
theorem sub_fq_eq (a b : Fq p) : FQ.sub_fq p a.n b.n = ((Fq.sub a b).n : Int) := FqRef.sub_fq_eq a b

/-- `FQ.__sub__` with an `int` operand is `Fq.subInt`. -/
theorem sub_int_eq (a : Fq p) (k : Int) : FQ.sub_int p a.n k = ((Fq.subInt a k).n : Int) := FqRef.sub_int_eq a k

/-- `FQ.__rsub__` with an `FQ` operand (`other - self`) is `Fq.sub other self`. -/
theorem rsub_fq_eq (a b : Fq p) : FQ.rsub_fq p a.n b.n = ((Fq.sub b a).n : Int) := FqRef.rsub_fq_eq a b

/-- `FQ.__rsub__` with an `int` operand (`k - self`) is `Fq.rsubInt`. -/
theorem rsub_int_eq (a : Fq p) (k : Int) : FQ.rsub_int p a.n k = ((Fq.rsubInt a k).n : Int) := FqRef.rsub_int_eq a k

/-- `FQ.__div__` with an `FQ` operand is `Fq.div`. -/
theorem div_fq_eq (a b : Fq p) : FQ.div_fq p a.n b.n = ((Fq.div a b).n : Int) := FqRef.div_fq_eq a b

/-- `FQ.__div__` with an `int` operand is `Fq.divInt`. -/
theorem div_int_eq (a : Fq p) (k : Int) : FQ.div_int p a.n k = ((Fq.divInt a k).n : Int) := FqRef.div_int_eq a k

/-- `FQ.__rdiv__` with an `FQ` operand (`other / self`) is `Fq.div other self`. -/
theorem rdiv_fq_eq (a b : Fq p) : FQ.rdiv_fq p a.n b.n = ((Fq.div b a).n : Int) := FqRef.rdiv_fq_eq a b

/-- `FQ.__rdiv__` with an `int` operand (`k / self`) is `Fq.rdivInt`. -/
theorem rdiv_int_eq (a : Fq p) (k : Int) : FQ.rdiv_int p a.n k = ((Fq.rdivInt a k).n : Int) := FqRef.rdiv_int_eq a k

/-- `FQ.__truediv__` delegates to `__div__`: with an `FQ` operand it is `Fq.div`. -/
theorem truediv_fq_eq (a b : Fq p) : FQ.truediv_fq p a.n b.n = ((Fq.div a b).n : Int) := FqRef.truediv_fq_eq a b

/-- `FQ.__truediv__` with an `int` operand is `Fq.divInt`. -/
theorem truediv_int_eq (a : Fq p) (k : Int) : FQ.truediv_int p a.n k = ((Fq.divInt a k).n : Int) :=
  FqRef.truediv_int_eq a k

/-- `FQ.__rtruediv__` delegates to `__rdiv__`: with an `FQ` operand it is `Fq.div other self`. -/
theorem rtruediv_fq_eq (a b : Fq p) : FQ.rtruediv_fq p a.n b.n = ((Fq.div b a).n : Int) := FqRef.rtruediv_fq_eq a b

/-- `FQ.__rtruediv__` with an `int` operand is `Fq.rdivInt`. -/
theorem rtruediv_int_eq (a : Fq p) (k : Int) : FQ.rtruediv_int p a.n k = ((Fq.rdivInt a k).n : Int) :=
  FqRef.rtruediv_int_eq a k

/-- `FQ.__rmul__` delegates to `self * other`: with an `FQ` operand it is `Fq.mul`. -/
theorem rmul_fq_eq (a b : Fq p) : FQ.rmul_fq p a.n b.n = ((Fq.mul a b).n : Int) := FqRef.rmul_fq_eq a b

/-- `FQ.__rmul__` with an `int` operand is `Fq.mulInt`. -/
theorem rmul_int_eq (a : Fq p) (k : Int) : FQ.rmul_int p a.n k = ((Fq.mulInt a k).n : Int) := FqRef.rmul_int_eq a k

/-- `FQ.__radd__` delegates to `self + other`: with an `FQ` operand it is `Fq.add`. -/
theorem radd_fq_eq (a b : Fq p) : FQ.radd_fq p a.n b.n = ((Fq.add a b).n : Int) := FqRef.radd_fq_eq a b

/-- `FQ.__radd__` with an `int` operand is `Fq.addInt`. -/
theorem radd_int_eq (a : Fq p) (k : Int) : FQ.radd_int p a.n k = ((Fq.addInt a k).n : Int) := FqRef.radd_int_eq a k

/-- `FQ.__pow__(other)` is `Fq.pow` for every int exponent (a negative exponent gives `1`, as `other.toNat = 0`). -/
theorem pow_eq (a : Fq p) (e : Int) : FQ.pow p a.n e = ((Fq.pow a e.toNat).n : Int) := by
  rw [pow_eq_ref]; exact FqRef.pow_eq a e

omit [NeZero p] in
/-- `FQ.__eq__` with an `FQ` operand compares the attributes: equality of the model elements. -/
theorem eq_fq_eq (a b : Fq p) : FQ.eq_fq p a.n b.n = decide (a = b) := FqRef.eq_fq_eq a b

omit [NeZero p] in
/-- `FQ.__eq__` with an `int` operand is `Fq.eqInt`. -/
theorem eq_int_eq (a : Fq p) (k : Int) : FQ.eq_int p a.n k = Fq.eqInt a k := FqRef.eq_int_eq a k

omit [NeZero p] in
/-- `FQ.__ne__` (`not self == other`) with an `FQ` operand. -/
theorem ne_fq_eq (a b : Fq p) : FQ.ne_fq p a.n b.n = !decide (a = b) := FqRef.ne_fq_eq a b

omit [NeZero p] in
/-- `FQ.__ne__` with an `int` operand. -/
theorem ne_int_eq (a : Fq p) (k : Int) : FQ.ne_int p a.n k = !Fq.eqInt a k := FqRef.ne_int_eq a k

/-- `FQ.__neg__` is `Fq.neg`. -/
theorem neg_eq (a : Fq p) : FQ.neg p a.n = ((Fq.neg a).n : Int) := FqRef.neg_eq a

omit [NeZero p] in
/-- `FQ.__int__` returns the attribute. -/
theorem int_eq (a : Fq p) : FQ.int p a.n = (a.n : Int) := FqRef.int_eq a

omit [NeZero p] in
/-- `FQ.__lt__` with an `FQ` operand compares the attributes. -/
theorem lt_fq_eq (a b : Fq p) : FQ.lt_fq p a.n b.n = decide (a.n < b.n) := FqRef.lt_fq_eq a b

omit [NeZero p] in
/-- `FQ.__lt__` with an `int` operand is `Fq.ltInt`. -/
theorem lt_int_eq (a : Fq p) (k : Int) : FQ.lt_int p a.n k = Fq.ltInt a k := FqRef.lt_int_eq a k

/-- `FQ.one()` is the model's `1`. -/
theorem one_eq : FQ.one (p : Int) = (((1 : Fq p)).n : Int) := FqRef.one_eq

/-- `FQ.zero()` is the model's `0`. -/
theorem zero_eq : FQ.zero (p : Int) = (((0 : Fq p)).n : Int) := FqRef.zero_eq

omit [NeZero p] in
/-- optimized `FQ.sgn0` (`self.n % 2`) is `Fq.sgn0`. -/
theorem sgn0_eq (a : Fq p) : FQ.sgn0 p a.n = ((Fq.sgn0 a : Nat) : Int) := by
  simp only [FQ.sgn0, Fq.sgn0, Int.natCast_emod]; rfl

end FqOpt

end PyEcc.Tie
