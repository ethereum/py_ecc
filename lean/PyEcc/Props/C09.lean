/-
  PyEcc.Props.C09 — property C09: the signing-side outputs of `py_ecc/bls/ciphersuites.py`
  (`SkToPk`, `Sign` of the three suites, `PopProve`, `Aggregate`) are the byte strings mandated by
  draft-irtf-cfrg-bls-signature-04, for ALL inputs and any hash function `H`.

  `PyEcc.Spec.BlsSig` is the draft written out step by step over the primitives the draft takes as
  given; `PyEcc.Model.Bls` is the model of the Python file (tied to its translation by the
  theorems of `Props/TieBls.lean`, `TieBlsAgg.lean`), `PyEcc.Gen.Consts` holds the tags / group order / generator regenerated from the source
  on every run.  The equalities are short because the code follows the draft; a changed tag, a
  swapped `PK ‖ message`, another generator or another group order makes a theorem here fail.

  Core Lean only.  All closed-term facts are kernel evaluation (`decide +kernel`, no axioms), the tags
  being decoded once in `Props/C09_Consts.lean`.
-/
import PyEcc.Spec.BlsSig
import PyEcc.Spec.Standards
import PyEcc.Model.Bls
import PyEcc.Sem.CodecCtl
import PyEcc.Props.C09_Consts
import PyEcc.Props.C01_Logic
import PyEcc.Props.C03_Logic


namespace PyEcc.C09
open PyEcc PyEcc.Gen.Consts
open PyEcc.Spec.BlsSig (Result signature_to_point AggregateLoop)

/-! ### constants: tags, group order, generator -/

/-- `G2Basic.DST` (hex-encoded in `Gen.Consts.suites_DST_basic`, regenerated from the Python class
    attribute) is the draft's `BLS_SIG_BLS12381G2_XMD:SHA-256_SSWU_RO_NUL_`. -/
theorem dst_basic_eq_spec : Suite.dst .basic = Spec.BlsSig.DST_NUL := Consts.tags_eq_spec.1

/-- `G2MessageAugmentation.DST` is the draft's `BLS_SIG_BLS12381G2_XMD:SHA-256_SSWU_RO_AUG_`. -/
theorem dst_aug_eq_spec : Suite.dst .aug = Spec.BlsSig.DST_AUG := Consts.tags_eq_spec.2.1

/-- `G2ProofOfPossession.DST` is the draft's `BLS_SIG_BLS12381G2_XMD:SHA-256_SSWU_RO_POP_`. -/
theorem dst_pop_eq_spec : Suite.dst .pop = Spec.BlsSig.DST_POP := Consts.tags_eq_spec.2.2.1

/-- `G2ProofOfPossession.POP_TAG` is the draft's `BLS_POP_BLS12381G2_XMD:SHA-256_SSWU_RO_POP_`. -/
theorem popTag_eq_spec : popTag = Spec.BlsSig.POP_TAG := Consts.tags_eq_spec.2.2.2.1

/-- All four tags at once (the form quoted in DESIGN §C09). -/
theorem dst_eq_spec :
    Suite.dst .basic = Spec.BlsSig.DST_NUL ∧ Suite.dst .aug = Spec.BlsSig.DST_AUG ∧
    Suite.dst .pop = Spec.BlsSig.DST_POP ∧ popTag = Spec.BlsSig.POP_TAG :=
  ⟨dst_basic_eq_spec, dst_aug_eq_spec, dst_pop_eq_spec, popTag_eq_spec⟩

/-- The tags typed in `Spec/BlsSig.lean` agree with the ones typed (independently, as `String`s) in
    `Spec/Standards.lean`: two transcriptions of the draft, one value. -/
theorem spec_tags_consistent :
    Spec.BlsSig.DST_NUL = Spec.BlsSig.dstBasic.toUTF8.toList ∧
    Spec.BlsSig.DST_AUG = Spec.BlsSig.dstAug.toUTF8.toList ∧
    Spec.BlsSig.DST_POP = Spec.BlsSig.dstPop.toUTF8.toList ∧
    Spec.BlsSig.POP_TAG = Spec.BlsSig.popTag.toUTF8.toList := ⟨rfl, rfl, rfl, rfl⟩

/-- The tags as explicit octets: 43 ASCII characters each; the four differ only in the scheme
    prefix `SIG`/`POP` and the suffix `NUL_`/`AUG_`/`POP_`. -/
theorem dst_bytes :
    let pre : Bytes := [0x42,0x4c,0x53,0x5f]                                   -- "BLS_"
    let mid : Bytes := [0x5f,0x42,0x4c,0x53,0x31,0x32,0x33,0x38,0x31,0x47,0x32,0x5f,  -- "_BLS12381G2_"
                        0x58,0x4d,0x44,0x3a,0x53,0x48,0x41,0x2d,0x32,0x35,0x36,0x5f,  -- "XMD:SHA-256_"
                        0x53,0x53,0x57,0x55,0x5f,0x52,0x4f,0x5f]                      -- "SSWU_RO_"
    let SIG : Bytes := [0x53,0x49,0x47]
    let POP : Bytes := [0x50,0x4f,0x50]
    Suite.dst .basic = pre ++ SIG ++ mid ++ [0x4e,0x55,0x4c,0x5f] ∧
    Suite.dst .aug = pre ++ SIG ++ mid ++ [0x41,0x55,0x47,0x5f] ∧
    Suite.dst .pop = pre ++ SIG ++ mid ++ POP ++ [0x5f] ∧
    popTag = pre ++ POP ++ mid ++ POP ++ [0x5f] := by
  rw [dst_basic_eq_spec, dst_aug_eq_spec, dst_pop_eq_spec, popTag_eq_spec]
  decide +kernel

/-- `curve_order` used by `_is_valid_privkey` and `KeyGen` is the BLS12-381 group order `r`. -/
theorem curveOrder_eq_spec :
    curveOrder = 0x73eda753299d7d483339d80809a1d80553bda402fffe5bfeffffffff00000001 := by
  decide +kernel

/-- the same against the two spec files (`Spec.BlsSig.r`, `Spec.BLS12381.r`) -/
theorem curveOrder_eq_spec_r : curveOrder = Spec.BlsSig.r ∧ Spec.BlsSig.r = Spec.BLS12381.r := by
  decide +kernel

/-- The point `G1` that `SkToPk` multiplies is the standard BLS12-381 G1 generator, in projective
    coordinates with `z = 1`. -/
theorem blsG1_eq_spec :
    blsG1 =
      (Fq.ofInt 0x17f1d3a73197d7942695638c4fa9ac0fc3688c4f9774b905a14e3a3f171bac586c55e83ff97a1aeffb3af00adb22c6bb,
       Fq.ofInt 0x08b3f481e3aaa0f1a09e30ed741d8ae4fcf5e095d5d00af600db18cb2c04b3edd03cc744a2888ae40caa232946c5e7e1,
       Fq.ofInt 1) := by
  decide +kernel

/-- Same, on the stored residues (no reduction hidden in `Fq.ofInt`), against both spec files. -/
theorem blsG1_coords :
    blsG1.1.n = Spec.BlsSig.P_x ∧ blsG1.2.1.n = Spec.BlsSig.P_y ∧ blsG1.2.2.n = 1 ∧
    Spec.BlsSig.P_x = Spec.BLS12381.g1x ∧ Spec.BlsSig.P_y = Spec.BLS12381.g1y := by
  decide +kernel

/-! ### SkToPk, Sign, PopProve -/

/-- `SkToPk(privkey)`: for every Python argument accepted by `_is_valid_privkey` (an `int` with
    `0 < privkey < r`), the returned bytes — or the exception of the serialisation primitive — are
    those of the draft's `SkToPk(SK) = point_to_pubkey(SK * P)`. -/
theorem skToPk_eq_spec (sk : PyArg) (k : Nat) (h : isValidPrivkey sk = some k) :
    skToPk sk = Spec.BlsSig.SkToPk k := by
  simp only [skToPk, h]; rfl

/-- On every argument `_is_valid_privkey` rejects (not an `int`, `≤ 0`, `≥ r`) `SkToPk` raises
    `ValidationError`; the draft's procedure is not defined there. -/
theorem skToPk_invalid (sk : PyArg) (h : isValidPrivkey sk = none) : skToPk sk = .error .validation := by
  simp only [skToPk, h]

/-- `isValidPrivkey sk = some k` says exactly: `sk` is the Python int `k`, and `0 < k < r`. -/
theorem isValidPrivkey_iff (sk : PyArg) (k : Nat) :
    isValidPrivkey sk = some k ↔ sk = .int (k : Int) ∧ 0 < k ∧ k < Spec.BlsSig.r := by
  cases sk with
  | other => simp [isValidPrivkey]
  | int z =>
    rw [C01.isValidPrivkey_int_iff, curveOrder_eq_spec_r.1, PyArg.int.injEq]
    omega

example : isValidPrivkey (.int 1) = some 1 := by decide +kernel

/-- `_CoreSign(SK, message, DST)` on a valid key is the draft's
    `CoreSign(SK, message) = point_to_signature(SK * hash_to_point(message))` under that DST. -/
theorem coreSign_eq_spec (H : HashFn) (sk : PyArg) (k : Nat) (h : isValidPrivkey sk = some k)
    (msg dst : Bytes) : coreSign H sk msg dst = Spec.BlsSig.CoreSign H dst k msg := by
  simp only [coreSign, h]; rfl

/-- `G2Basic.Sign(SK, message)` is §3.1 `Sign = CoreSign` under the `…_NUL_` tag. -/
theorem sign_basic_eq_spec (H : HashFn) (sk : PyArg) (k : Nat) (h : isValidPrivkey sk = some k)
    (msg : Bytes) : sign H .basic sk msg = Spec.BlsSig.Basic.Sign H k msg := by
  simp only [sign, coreSign_eq_spec H sk k h, dst_basic_eq_spec]; rfl

/-- `G2MessageAugmentation.Sign(SK, message)` is §3.2.1: `CoreSign(SK, PK ‖ message)` with
    `PK = SkToPk(SK)` (public key first, then the message) under the `…_AUG_` tag. -/
theorem sign_aug_eq_spec (H : HashFn) (sk : PyArg) (k : Nat) (h : isValidPrivkey sk = some k)
    (msg : Bytes) : sign H .aug sk msg = Spec.BlsSig.Aug.Sign H k msg := by
  simp only [sign, skToPk_eq_spec sk k h, dst_aug_eq_spec, Spec.BlsSig.Aug.Sign, bind]
  congr 1
  funext pk
  exact coreSign_eq_spec H sk k h _ _

/-- `G2ProofOfPossession.Sign(SK, message)` is §3.3 `Sign = CoreSign` under the `…_POP_` tag. -/
theorem sign_pop_eq_spec (H : HashFn) (sk : PyArg) (k : Nat) (h : isValidPrivkey sk = some k)
    (msg : Bytes) : sign H .pop sk msg = Spec.BlsSig.Pop.Sign H k msg := by
  simp only [sign, coreSign_eq_spec H sk k h, dst_pop_eq_spec]; rfl

/-- the draft's `Sign` of each scheme -/
def specSign (H : HashFn) : Suite → Nat → Bytes → Except PyErr Bytes
  | .basic => Spec.BlsSig.Basic.Sign H
  | .aug => Spec.BlsSig.Aug.Sign H
  | .pop => Spec.BlsSig.Pop.Sign H

/-- `Sign` of every suite, for every hash function, valid key and message: the bytes returned (or
    the exception of a primitive) are those of the draft's `Sign` of that scheme. -/
theorem sign_eq_spec (H : HashFn) (s : Suite) (sk : PyArg) (k : Nat) (h : isValidPrivkey sk = some k)
    (msg : Bytes) : sign H s sk msg = specSign H s k msg := by
  cases s
  · exact sign_basic_eq_spec H sk k h msg
  · exact sign_aug_eq_spec H sk k h msg
  · exact sign_pop_eq_spec H sk k h msg

/-- On a rejected key every `Sign` raises `ValidationError`. -/
theorem sign_invalid (H : HashFn) (s : Suite) (sk : PyArg) (h : isValidPrivkey sk = none) (msg : Bytes) :
    sign H s sk msg = .error .validation := by
  cases s <;> simp only [sign, coreSign, skToPk, h] <;> rfl

/-- `PopProve(SK)` is §3.3.2: `point_to_signature(SK * hash_pubkey_to_point(SkToPk(SK)))`, where
    `hash_pubkey_to_point` hashes under the `BLS_POP_…` tag (not the signature tag). -/
theorem popProve_eq_spec (H : HashFn) (sk : PyArg) (k : Nat) (h : isValidPrivkey sk = some k) :
    popProve H sk = Spec.BlsSig.PopProve H k := by
  simp only [popProve, skToPk_eq_spec sk k h, popTag_eq_spec, Spec.BlsSig.PopProve, bind]
  congr 1
  funext pk
  exact coreSign_eq_spec H sk k h _ _

/-! ### Aggregate -/

/-- the constant `1` of `FQ2` (the `z` of every decompressed finite point) is not `0` -/
theorem fq2_one_ne_zero : (Fqp.ofInts [1, 0] : F2) ≠ 0 := by decide +kernel

/-- `add(Z2, pt) = pt` whenever `pt` is `Z2` itself or has `z ≠ 0` (first branch of the generated
    `add`).  For a `pt ≠ Z2` with `z = 0` it is false: `add` returns its first argument. -/
theorem add_Z2 (pt : G2Pt) (h : pt = Z2 ∨ pt.2.2 ≠ 0) : Gen.OptBls.add Z2 pt = pt := by
  rcases h with rfl | h
  · decide +kernel
  · unfold Gen.OptBls.add
    simp [h, Z2]

/-- `decompress_G2` returns `Z2` or a point with `z = FQ2.one()`. -/
theorem decompressG2_ok (z1 z2 : Nat) (pt : G2Pt) (h : decompressG2 z1 z2 = .ok pt) :
    pt = Z2 ∨ pt.2.2 ≠ 0 := by
  rcases CodecSem.decompressG2_ok_iff.mp h with ⟨_, _, _, _, y, _, rfl, _⟩ | ⟨_, _, rfl⟩
  · exact Or.inr fq2_one_ne_zero
  · exact Or.inl rfl

theorem s2p_ok {s : Bytes} (h : s.length = 96) {pt : G2Pt} (h' : signatureToG2 s = .ok pt) :
    signature_to_point s = .ok pt := by
  simp [signature_to_point, h, h']

theorem s2p_err {s : Bytes} {e : PyErr} (h' : signatureToG2 s = .error e) :
    signature_to_point s = .INVALID := by
  simp only [signature_to_point, h']; split <;> rfl

theorem s2p_len {s : Bytes} (h : s.length ≠ 96) : signature_to_point s = .INVALID := by
  simp [signature_to_point, h]

/-- the draft's loop (steps 3–6) against the model's fold, when all lengths are 96 -/
theorem loop_of_lengths (sigs : List Bytes) (acc : G2Pt) (h : sigs.all (·.length = 96) = true) :
    match AggregateLoop acc sigs with
    | .ok a => C03.aggFold sigs acc = .ok a
    | .INVALID => C03.aggFold sigs acc = .error .value := by
  induction sigs generalizing acc with
  | nil => simp [AggregateLoop, C03.aggFold, pure, Except.pure]
  | cons s rest ih =>
    simp only [List.all_cons, Bool.and_eq_true, decide_eq_true_eq] at h
    rw [C03.aggFold_cons]
    unfold AggregateLoop
    cases hs : signatureToG2 s with
    | error e =>
      have : e = .value := CodecSem.decompressG2_error_kind hs
      simp [s2p_err hs, this]
    | ok pt =>
      simp only [s2p_ok h.1 hs]
      exact ih _ h.2

theorem spec_Aggregate_cons (s1 : Bytes) (rest : List Bytes) :
    Spec.BlsSig.Aggregate (s1 :: rest) =
      match signature_to_point s1 with
      | .INVALID => .INVALID
      | .ok aggregate =>
        match AggregateLoop aggregate rest with
        | .INVALID => .INVALID
        | .ok aggregate => .ok (Spec.BlsSig.point_to_signature aggregate) := rfl

/-- When the draft's `Aggregate` is INVALID: exactly the inputs with `n < 1` or with an element
    that `signature_to_point` rejects. -/
theorem spec_aggregate_invalid_iff (sigs : List Bytes) :
    Spec.BlsSig.Aggregate sigs = .INVALID ↔
      (sigs = [] ∨ ∃ s ∈ sigs, signature_to_point s = .INVALID) := by
  have loop : ∀ (l : List Bytes) (acc : G2Pt),
      AggregateLoop acc l = .INVALID ↔ ∃ s ∈ l, signature_to_point s = .INVALID := by
    intro l
    induction l with
    | nil => intro acc; simp [AggregateLoop]
    | cons s rest ih =>
      intro acc
      unfold AggregateLoop
      cases hs : signature_to_point s with
      | INVALID => simp [hs]
      | ok next => simp [hs, ih]
  cases sigs with
  | nil => simp [Spec.BlsSig.Aggregate]
  | cons s1 rest =>
    rw [spec_Aggregate_cons]
    cases hs : signature_to_point s1 with
    | INVALID => simp [hs]
    | ok a =>
      constructor
      · intro h
        have hl : AggregateLoop a rest = .INVALID := by
          cases hl : AggregateLoop a rest with
          | INVALID => rfl
          | ok a' => simp only [hl] at h; cases h
        obtain ⟨s, hm, hi⟩ := (loop rest a).1 hl
        exact Or.inr ⟨s, List.mem_cons_of_mem _ hm, hi⟩
      · rintro (h | ⟨s, hm, hi⟩)
        · cases h
        · rcases List.mem_cons.1 hm with rfl | hm
          · rw [hs] at hi; cases hi
          · simp only [(loop rest a).2 ⟨s, hm, hi⟩]

/-- `Aggregate(signatures)` against §2.8 of the draft, for every list of byte strings.

    * Whenever the draft's procedure yields a value `r` — i.e. it reaches step 7 and returns
      `point_to_signature(aggregate)` — the Python function yields exactly `r` (the same 96 bytes; or,
      were the serialisation primitive to raise, the same exception).  The Python code seeds its sum
      with the point at infinity `Z2` and adds every decoded signature, the draft starts from the
      first decoded signature: `add(Z2, pt) = pt` for every `pt` that `signature_to_G2` can return.
    * Whenever the draft's procedure is INVALID (`n < 1`, or some `signature_to_point` is INVALID) the
      Python function raises, and the exception kind is: `ValidationError` if the list is empty or
      *any* element is not 96 bytes long (the code checks all lengths before decoding anything);
      otherwise `ValueError` (raised by `decompress_G2` on the first undecodable element). -/
theorem aggregate_eq_spec (sigs : List Bytes) :
    (∀ r, Spec.BlsSig.Aggregate sigs = .ok r → aggregate sigs = r) ∧
    (Spec.BlsSig.Aggregate sigs = .INVALID →
      aggregate sigs =
        .error (if sigs.length < 1 ∨ sigs.all (·.length = 96) = false then .validation else .value)) := by
  rw [C03.aggregate_eq]
  cases sigs with
  | nil => exact ⟨fun r h => (by cases h), fun _ => rfl⟩
  | cons s1 rest =>
    have hlen : ¬ (s1 :: rest).length < 1 := by simp
    simp only [hlen, if_false, false_or]
    cases hall : (s1 :: rest).all (·.length = 96) with
    | false =>
      have hinv : Spec.BlsSig.Aggregate (s1 :: rest) = .INVALID := by
        obtain ⟨s, hs, hl⟩ := List.all_eq_false.mp hall
        exact (spec_aggregate_invalid_iff _).2 (Or.inr ⟨s, hs, s2p_len (by simpa using hl)⟩)
      refine ⟨fun r h => ?_, fun _ => ?_⟩
      · rw [hinv] at h; cases h
      · simp
    | true =>
      have hall' := hall
      simp only [List.all_cons, Bool.and_eq_true, decide_eq_true_eq] at hall'
      simp only [Bool.not_true, Bool.false_eq_true, if_false]
      rw [C03.aggFold_cons, spec_Aggregate_cons]
      cases hs : signatureToG2 s1 with
      | error e =>
        have : e = .value := CodecSem.decompressG2_error_kind hs
        subst this
        rw [s2p_err hs]
        exact ⟨fun r h => (by cases h), fun _ => rfl⟩
      | ok pt =>
        simp only [s2p_ok hall'.1 hs, add_Z2 pt (decompressG2_ok _ _ _ hs)]
        have hloop := loop_of_lengths rest pt hall'.2
        cases hl : AggregateLoop pt rest with
        | INVALID =>
          rw [hl] at hloop
          simp only [hloop]
          exact ⟨fun r h => (by cases h), fun _ => rfl⟩
        | ok a =>
          rw [hl] at hloop
          simp only [hloop]
          refine ⟨fun r h => ?_, fun h => by cases h⟩
          injection h with h

/-- `.ok` results: `Aggregate` returns the bytes `b` iff the draft's `Aggregate` outputs `b`. -/
theorem aggregate_ok_iff (sigs : List Bytes) (b : Bytes) :
    aggregate sigs = .ok b ↔ Spec.BlsSig.Aggregate sigs = .ok (.ok b) := by
  have ⟨h1, h2⟩ := aggregate_eq_spec sigs
  constructor
  · intro h
    cases hs : Spec.BlsSig.Aggregate sigs with
    | INVALID => rw [h2 hs] at h; cases h
    | ok r => rw [h1 r hs] at h; rw [h]
  · intro h; exact h1 _ h

/-- `Aggregate` raises iff the draft's `Aggregate` is INVALID or its final `point_to_signature`
    raises (which the draft assumes cannot happen). -/
theorem aggregate_error_iff (sigs : List Bytes) :
    (∃ e, aggregate sigs = .error e) ↔
      (Spec.BlsSig.Aggregate sigs = .INVALID ∨ ∃ e, Spec.BlsSig.Aggregate sigs = .ok (.error e)) := by
  have ⟨h1, h2⟩ := aggregate_eq_spec sigs
  constructor
  · rintro ⟨e, h⟩
    cases hs : Spec.BlsSig.Aggregate sigs with
    | INVALID => exact Or.inl rfl
    | ok r => rw [h1 r hs] at h; exact Or.inr ⟨e, by rw [h]⟩
  · rintro (h | ⟨e, h⟩)
    · exact ⟨_, h2 h⟩
    · exact ⟨e, h1 _ h⟩

/-! ### kernel-evaluated anchors (non-vacuity; the model computes the well-known values) -/

theorem ok_of_toOption {ε α : Type} {x : Except ε α} {a : α} (h : x.toOption = some a) : x = .ok a := by
  cases x <;> simp_all [Except.toOption]

/-- the compressed G1 generator, `97f1d3a7…c6bb` -/
def compressedG1 : Bytes :=
  [0x97,0xf1,0xd3,0xa7, 0x31,0x97,0xd7,0x94, 0x26,0x95,0x63,0x8c, 0x4f,0xa9,0xac,0x0f,
   0xc3,0x68,0x8c,0x4f, 0x97,0x74,0xb9,0x05, 0xa1,0x4e,0x3a,0x3f, 0x17,0x1b,0xac,0x58,
   0x6c,0x55,0xe8,0x3f, 0xf9,0x7a,0x1a,0xef, 0xfb,0x3a,0xf0,0x0a, 0xdb,0x22,0xc6,0xbb]

/-- `SkToPk(1)` is the well-known compressed generator (evaluated by the Lean kernel on the model). -/
theorem skToPk_one : skToPk (.int 1) = .ok compressedG1 := ok_of_toOption (by decide +kernel)

/-- hence so is the draft's `SkToPk(1)` -/
theorem spec_SkToPk_one : Spec.BlsSig.SkToPk 1 = .ok compressedG1 := by
  rw [← skToPk_eq_spec (.int 1) 1 (by decide +kernel)]; exact skToPk_one

/-- the compressed point at infinity of G2: `c0 00 … 00` (96 bytes) -/
def compressedInfG2 : Bytes := 0xc0 :: List.replicate 95 0

theorem aggregate_inf_inf : aggregate [compressedInfG2, compressedInfG2] = .ok compressedInfG2 :=
  ok_of_toOption (by decide +kernel)

theorem spec_aggregate_short : Spec.BlsSig.Aggregate [compressedInfG2, [0xc0]] = .INVALID :=
  (spec_aggregate_invalid_iff _).2 (Or.inr ⟨[0xc0], by simp, by decide +kernel⟩)

theorem spec_aggregate_zero : Spec.BlsSig.Aggregate [compressedInfG2, List.replicate 96 0] = .INVALID :=
  (spec_aggregate_invalid_iff _).2 (Or.inr ⟨List.replicate 96 0, by simp, by decide +kernel⟩)

/-- `Aggregate` of the infinity signature with itself is the infinity signature, in the model and
    in the draft's procedure (the `.ok` branch of `aggregate_eq_spec` is inhabited). -/
example : Spec.BlsSig.Aggregate [compressedInfG2, compressedInfG2] = .ok (.ok compressedInfG2) ∧
    aggregate [compressedInfG2, compressedInfG2] = .ok compressedInfG2 :=
  ⟨(aggregate_ok_iff _ _).1 aggregate_inf_inf, aggregate_inf_inf⟩

/-- the three INVALID cases and their exception kinds -/
example : Spec.BlsSig.Aggregate [] = .INVALID ∧ aggregate [] = .error .validation := ⟨rfl, rfl⟩

example : Spec.BlsSig.Aggregate [compressedInfG2, [0xc0]] = .INVALID ∧
    aggregate [compressedInfG2, [0xc0]] = .error .validation :=
  ⟨spec_aggregate_short, (aggregate_eq_spec _).2 spec_aggregate_short⟩

example : Spec.BlsSig.Aggregate [compressedInfG2, List.replicate 96 0] = .INVALID ∧
    aggregate [compressedInfG2, List.replicate 96 0] = .error .value :=
  ⟨spec_aggregate_zero, (aggregate_eq_spec _).2 spec_aggregate_zero⟩

/-- the length gate in `signature_to_point` matters: a 97-byte string (a zero byte inserted in the
    middle of the infinity encoding) is accepted by the bare `signature_to_G2`. -/
example : (signatureToG2 (0xc0 :: List.replicate 96 0)).toOption = some Z2 := by decide +kernel

end PyEcc.C09
