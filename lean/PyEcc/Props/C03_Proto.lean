/-
  PyEcc.Props.C03_Proto — property C03, headline clauses: **`Aggregate` is the group sum, and
  `AggregateVerify` / `FastAggregateVerify` accept only it** (`py_ecc/bls/ciphersuites.py`).

  Part 1 (`Aggregate`) needs NO hypothesis: it rests on C09 / C03_Logic (control flow), C11 (codec) and the
  transfer of the curve code to Mathlib's group (associativity and commutativity come from there).
  Part 2 (`AggregateVerify`, `FastAggregateVerify`) is conditional on `PairingFacts e` only — HB1
  bilinearity, ND non-degeneracy, HB1′ "the model's Miller value after final exponentiation is that
  pairing", HT6 "`hash_to_G2` lands in the `r`-torsion" (`Lemmas/BlsProto.lean`; a hypothesis, not an
  axiom; a closed statement, hence no `example` of it).

  Vocabulary (`E2`, `EncG2`, `decG2`: `Lemmas/BlsProtoCodec.lean`; `HashPt`, `g1`: `Lemmas/BlsProto.lean`; `vmsgs`:
  `Lemmas/BlsSem.lean`):
    `E2`            Mathlib's group of points of the twist curve over `K2 = F_p[X]/(X²+1)`;
    `EncG2 bs q`    the 96-byte string `bs` decodes (`signature_to_G2`) to a canonical representative of `q`;
                    every point has at most one encoding and every string encodes at most one point;
    `decG2 bs`      the point a decodable 96-byte string encodes;
    `HashPt H dst m h`  `hash_to_G2(m, dst)` returned a canonical representative of the point `h`;
    `g1`            the point represented by the generator constant `G1`;
    `vmsgs s pks msgs`  the messages actually hashed (`pkᵢ ‖ mᵢ` in the AUG suite, `mᵢ` otherwise).

  The hypothesis-free rejection cases (empty lists, length mismatch, repeated messages in the basic suite,
  bad keys) are in `Props/C03_Logic.lean`.
-/
import PyEcc.Lemmas.BlsProtoAgg
import PyEcc.Lemmas.BlsProtoMiller
import PyEcc.Props.C09
import PyEcc.Props.C04_Canon

set_option linter.unusedSectionVars false

namespace PyEcc.C03
open PyEcc PyEcc.Gen PyEcc.Gen.Consts PyEcc.Transfer PyEcc.BlsSem PyEcc.BlsProto

variable [DecidableEq K2]

/-! ## Part 1: `Aggregate` (no hypotheses) -/

/-- **`Aggregate` is the group sum.**  For a non-empty list of 96-byte strings that all decode,
    `Aggregate(sigs)` returns the (unique) encoding of `Σ decode(sᵢ)`, the sum taken in Mathlib's
    elliptic-curve group. -/
theorem aggregate_eq_sum (sigs : List Bytes) (hne : sigs ≠ [])
    (hall : ∀ sg ∈ sigs, sg.length = 96 ∧ ∃ S, signatureToG2 sg = .ok S) :
    ∃ bs, aggregate sigs = .ok bs ∧ EncG2 bs (sigs.map decG2).sum :=
  aggregate_enc hne hall

/-- **Exact characterisation**: `Aggregate(sigs)` returns `bs` iff the list is non-empty, every entry is a
    decodable 96-byte string, and `bs` is the encoding of the sum of the decoded points.  (Everything else
    raises: `aggregate_errors` in `C03_Logic`.) -/
theorem aggregate_ok_iff (sigs : List Bytes) (bs : Bytes) :
    aggregate sigs = .ok bs ↔
      sigs ≠ [] ∧ (∀ sg ∈ sigs, sg.length = 96 ∧ ∃ S, signatureToG2 sg = .ok S) ∧
        EncG2 bs (sigs.map decG2).sum :=
  aggregate_ok_iff_enc sigs bs

/-- the outcome of `Aggregate` depends only on: emptiness, the length test, decodability, and the sum -/
theorem aggregate_congr {xs ys : List Bytes} (hne : xs = [] ↔ ys = [])
    (hlen : (∃ sg ∈ xs, sg.length ≠ 96) ↔ (∃ sg ∈ ys, sg.length ≠ 96))
    (hdec : (∃ sg ∈ xs, ∃ err, signatureToG2 sg = .error err) ↔
      (∃ sg ∈ ys, ∃ err, signatureToG2 sg = .error err))
    (hsum : (xs.map decG2).sum = (ys.map decG2).sum) : aggregate xs = aggregate ys := by
  have l : ∀ zs : List Bytes, (¬ ∃ sg ∈ zs, sg.length ≠ 96) → ∀ sg ∈ zs, sg.length = 96 :=
    fun zs h sg hsg => by_contra fun hl => h ⟨sg, hsg, hl⟩
  have d : ∀ zs : List Bytes, (¬ ∃ sg ∈ zs, sg.length ≠ 96) →
      (¬ ∃ sg ∈ zs, ∃ err, signatureToG2 sg = .error err) →
      ∀ sg ∈ zs, sg.length = 96 ∧ ∃ S, signatureToG2 sg = .ok S := fun zs h1 h2 sg hsg => by
    refine ⟨l zs h1 sg hsg, ?_⟩
    cases hS : signatureToG2 sg with
    | ok S => exact ⟨S, rfl⟩
    | error err => exact (h2 ⟨sg, hsg, err, hS⟩).elim
  by_cases h0 : xs = []
  · rw [h0, hne.mp h0]
  by_cases h1 : ∃ sg ∈ xs, sg.length ≠ 96
  · rw [C03.aggregate_errors.2.1 xs h1, C03.aggregate_errors.2.1 ys (hlen.mp h1)]
  by_cases h2 : ∃ sg ∈ xs, ∃ err, signatureToG2 sg = .error err
  · rw [C03.aggregate_errors.2.2 xs h0 (l xs h1) h2,
      C03.aggregate_errors.2.2 ys (mt hne.mpr h0) (l ys (mt hlen.mpr h1)) (hdec.mp h2)]
  obtain ⟨b1, e1, enc1⟩ := aggregate_enc h0 (d xs h1 h2)
  obtain ⟨b2, e2, enc2⟩ := aggregate_enc (mt hne.mpr h0) (d ys (mt hlen.mpr h1) (mt hdec.mpr h2))
  rw [hsum] at enc1
  rw [e1, e2, enc1.bytes_unique enc2]

/-- **Order independence**, for ALL lists (also those on which `Aggregate` raises: same exception). -/
theorem aggregate_perm (xs ys : List Bytes) (h : xs.Perm ys) : aggregate xs = aggregate ys := by
  apply aggregate_congr
  · exact ⟨fun e => by subst e; exact h.symm.eq_nil, fun e => by subst e; exact h.eq_nil⟩
  · exact ⟨fun ⟨sg, hsg, hl⟩ => ⟨sg, h.mem_iff.mp hsg, hl⟩, fun ⟨sg, hsg, hl⟩ => ⟨sg, h.mem_iff.mpr hsg, hl⟩⟩
  · exact ⟨fun ⟨sg, hsg, hl⟩ => ⟨sg, h.mem_iff.mp hsg, hl⟩, fun ⟨sg, hsg, hl⟩ => ⟨sg, h.mem_iff.mpr hsg, hl⟩⟩
  · exact (h.map decG2).sum_eq

theorem aggregate_parts {xss : List (List Bytes)} {parts : List Bytes}
    (h : List.Forall₂ (fun xs a => aggregate xs = .ok a) xss parts) :
    (∀ a ∈ parts, a.length = 96 ∧ ∃ S, signatureToG2 a = .ok S) ∧
    (∀ sg ∈ xss.flatten, sg.length = 96 ∧ ∃ S, signatureToG2 sg = .ok S) ∧
    (parts.map decG2).sum = (xss.flatten.map decG2).sum ∧
    (xss ≠ [] → xss.flatten ≠ []) := by
  induction h with
  | nil => exact ⟨by simp, by simp, by simp, fun h => (h rfl).elim⟩
  | @cons xs a xss' parts' hxa _ ih =>
    obtain ⟨i1, i2, i3, _⟩ := ih
    obtain ⟨hne, hall, enc⟩ := (aggregate_ok_iff_enc xs a).mp hxa
    refine ⟨?_, ?_, ?_, ?_⟩
    · intro b hb
      rcases List.mem_cons.mp hb with rfl | hb
      · obtain ⟨hl, S, hS, _⟩ := enc
        exact ⟨hl, S, hS⟩
      · exact i1 b hb
    · intro sg hsg
      rw [List.flatten_cons, List.mem_append] at hsg
      rcases hsg with hsg | hsg
      · exact hall sg hsg
      · exact i2 sg hsg
    · rw [List.map_cons, List.sum_cons, List.flatten_cons, List.map_append, List.sum_append, i3,
        enc.decG2_eq]
    · intro _ hf
      rw [List.flatten_cons] at hf
      exact hne (List.append_eq_nil_iff.mp hf).1

/-- **Nested aggregation over any grouping**: aggregating the partial aggregates of the groups gives the
    aggregate of the concatenation. -/
theorem aggregate_flatten (xss : List (List Bytes)) (parts : List Bytes)
    (h : List.Forall₂ (fun xs a => aggregate xs = .ok a) xss parts) (hne : xss ≠ []) :
    aggregate xss.flatten = aggregate parts := by
  obtain ⟨i1, i2, i3, i4⟩ := aggregate_parts h
  have hp : parts ≠ [] := by
    intro hp; subst hp
    cases h; exact hne rfl
  obtain ⟨b1, e1, enc1⟩ := aggregate_enc (i4 hne) i2
  obtain ⟨b2, e2, enc2⟩ := aggregate_enc hp i1
  rw [i3] at enc2
  rw [e1, e2, enc1.bytes_unique enc2]

/-- **Grouping independence**: if `Aggregate(xs) = a` and `Aggregate(ys) = b` then
    `Aggregate(xs ++ ys) = Aggregate([a, b])`. -/
theorem aggregate_append (xs ys : List Bytes) (a b : Bytes) (ha : aggregate xs = .ok a)
    (hb : aggregate ys = .ok b) : aggregate (xs ++ ys) = aggregate [a, b] := by
  have := aggregate_flatten [xs, ys] [a, b] (.cons ha (.cons hb .nil)) (by simp)
  simpa using this

/-- non-vacuity: the encoding of infinity is a decodable 96-byte string (C04), so
    `Aggregate([inf, inf])` is covered by `aggregate_eq_sum` -/
example : ∃ bs, aggregate [C04.infSig, C04.infSig] = .ok bs := by
  obtain ⟨S, hl, hS, _⟩ := C04.infSig_canon
  obtain ⟨bs, h, _⟩ := aggregate_eq_sum [C04.infSig, C04.infSig] (by simp)
    (by intro sg hsg; simp only [List.mem_cons, List.not_mem_nil, or_false, or_self] at hsg
        subst hsg; exact ⟨hl, S, hS⟩)
  exact ⟨bs, h⟩

/-! ## Part 2: `AggregateVerify`, `FastAggregateVerify` (conditional on `PairingFacts`) -/

variable {GT : Type} [CommGroup GT] {e : E2 → E1 → GT}

/-- the required aggregate point `Σ skᵢ • hᵢ` -/
noncomputable def sigSum (sks : List ℤ) (hs : List E2) : E2 :=
  ((List.zip (sks.map Int.toNat) hs).map fun x => x.1 • x.2).sum

/-- the hash points of a list of signers `x` (secret key `k x`, hashed message `m x`) and the required sum, as maps
    over the list -/
theorem exists_hashPts_iff (pf : PairingFacts e) {H : HashFn} {dst : Bytes} {α : Type} (l : List α) (k : α → ℤ)
    (m : α → Bytes) (sig : Bytes) :
    (∃ hs, List.Forall₂ (HashPt H dst) (l.map m) hs ∧ EncG2 sig (sigSum (l.map k) hs)) ↔
      (∀ x ∈ l, Hashes H dst (m x)) ∧ EncG2 sig (l.map fun x => (k x).toNat • hashG2 H dst (m x)).sum := by
  simp only [forall₂_fun_iff (hashPt_iff pf), and_assoc, exists_and_left, exists_eq_left', List.forall_mem_map,
    sigSum, List.map_map, List.zip_map', Function.comp_def]

/-- **`_CoreAggregateVerify`-level statement, all suites** (`msgs'` = the messages actually hashed). -/
theorem coreAggregateVerify_iff (pf : PairingFacts e) (H : HashFn) (s : Suite) (sks : List ℤ)
    (hsks : ∀ sk ∈ sks, 1 ≤ sk ∧ sk < (curveOrder : ℤ)) (pks msgs' : List Bytes) (sig dst : Bytes)
    (hpks : List.Forall₂ (fun sk pk => skToPk (.int sk) = .ok pk) sks pks) :
    coreAggregateVerify H s pks msgs' sig dst = .returned true ↔
      1 ≤ pks.length ∧ pks.length = msgs'.length ∧
        ∃ hs, List.Forall₂ (HashPt H dst) msgs' hs ∧ EncG2 sig (sigSum sks hs) := by
  by_cases hlen : pks.length = msgs'.length
  · obtain ⟨l, rfl, rfl, rfl⟩ := signers_of_lists hpks hlen
    rw [coreAggregateVerify_signers pf H s (List.forall_mem_map.mp hsks), exists_hashPts_iff pf]
    simp only [List.length_map, true_and, Nat.succ_le_iff, List.length_pos_iff]
  · exact ⟨fun h => (by rw [coreAggregateVerify_early (.inl hlen)] at h; cases h), fun h => (hlen h.2.1).elim⟩

/-- **`AggregateVerify`, the three suites in one statement** (`vmsgs` = the hashed messages: `pkᵢ ‖ mᵢ` in
    the AUG suite).  For honest keys `pkᵢ = SkToPk(skᵢ)`, `1 ≤ skᵢ < r`: `AggregateVerify(PKs, msgs, sig) = True`
    iff `n ≥ 1`, `|PKs| = |msgs|`, (basic suite) the messages are pairwise distinct, every message hashes
    (`hᵢ = hash_to_G2(mᵢ)`), and `sig` is the encoding of `Σ skᵢ • hᵢ`. -/
theorem aggregateVerify_iff (pf : PairingFacts e) (H : HashFn) (s : Suite) (sks : List ℤ)
    (hsks : ∀ sk ∈ sks, 1 ≤ sk ∧ sk < (curveOrder : ℤ)) (pks msgs : List Bytes) (sig : Bytes)
    (hpks : List.Forall₂ (fun sk pk => skToPk (.int sk) = .ok pk) sks pks) :
    aggregateVerify H s pks msgs sig = .returned true ↔
      1 ≤ pks.length ∧ pks.length = msgs.length ∧ (s = .basic → msgs.Nodup) ∧
        ∃ hs, List.Forall₂ (HashPt H s.dst) (vmsgs s pks msgs) hs ∧ EncG2 sig (sigSum sks hs) := by
  by_cases hlen : pks.length = msgs.length
  · obtain ⟨l, rfl, rfl, rfl⟩ := signers_of_lists hpks hlen
    rw [aggregateVerify_signers pf H s (List.forall_mem_map.mp hsks), vmsgs_signers, exists_hashPts_iff pf]
    simp only [List.length_map, true_and, Nat.succ_le_iff, List.length_pos_iff]
  · exact ⟨fun h => (by rw [aggregateVerify_false_early H s pks msgs sig (.inr (.inl hlen))] at h; cases h),
      fun h => (hlen h.2.1).elim⟩

/-- `aggregateVerify_iff` in the basic suite -/
theorem aggregateVerify_iff_basic (pf : PairingFacts e) (H : HashFn) (sks : List ℤ)
    (hsks : ∀ sk ∈ sks, 1 ≤ sk ∧ sk < (curveOrder : ℤ)) (pks msgs : List Bytes) (sig : Bytes)
    (hpks : List.Forall₂ (fun sk pk => skToPk (.int sk) = .ok pk) sks pks) :
    aggregateVerify H .basic pks msgs sig = .returned true ↔
      1 ≤ pks.length ∧ pks.length = msgs.length ∧ msgs.Nodup ∧
        ∃ hs, List.Forall₂ (HashPt H (Suite.dst .basic)) msgs hs ∧ EncG2 sig (sigSum sks hs) := by
  simpa [vmsgs] using aggregateVerify_iff pf H .basic sks hsks pks msgs sig hpks

/-- `aggregateVerify_iff` in the message-augmentation suite: no distinctness condition, the hashed messages
    are `pkᵢ ‖ mᵢ` -/
theorem aggregateVerify_iff_aug (pf : PairingFacts e) (H : HashFn) (sks : List ℤ)
    (hsks : ∀ sk ∈ sks, 1 ≤ sk ∧ sk < (curveOrder : ℤ)) (pks msgs : List Bytes) (sig : Bytes)
    (hpks : List.Forall₂ (fun sk pk => skToPk (.int sk) = .ok pk) sks pks) :
    aggregateVerify H .aug pks msgs sig = .returned true ↔
      1 ≤ pks.length ∧ pks.length = msgs.length ∧
        ∃ hs, List.Forall₂ (HashPt H (Suite.dst .aug)) (List.zipWith (· ++ ·) pks msgs) hs ∧
          EncG2 sig (sigSum sks hs) := by
  simpa [vmsgs] using aggregateVerify_iff pf H .aug sks hsks pks msgs sig hpks

/-- `aggregateVerify_iff` in the proof-of-possession suite: no distinctness condition, bare messages -/
theorem aggregateVerify_iff_pop (pf : PairingFacts e) (H : HashFn) (sks : List ℤ)
    (hsks : ∀ sk ∈ sks, 1 ≤ sk ∧ sk < (curveOrder : ℤ)) (pks msgs : List Bytes) (sig : Bytes)
    (hpks : List.Forall₂ (fun sk pk => skToPk (.int sk) = .ok pk) sks pks) :
    aggregateVerify H .pop pks msgs sig = .returned true ↔
      1 ≤ pks.length ∧ pks.length = msgs.length ∧
        ∃ hs, List.Forall₂ (HashPt H (Suite.dst .pop)) msgs hs ∧ EncG2 sig (sigSum sks hs) := by
  simpa [vmsgs] using aggregateVerify_iff pf H .pop sks hsks pks msgs sig hpks

/-- **`AggregateVerify` accepts exactly `Aggregate` of the honest signatures** (all suites, entirely in terms
    of the library's own functions): `AggregateVerify(PKs, msgs, sig) = True` iff `n ≥ 1`, `|PKs| = |msgs|`,
    (basic suite: messages pairwise distinct) and there are byte strings `sigᵢ = Sign(skᵢ, mᵢ)` with
    `Aggregate([sig₁, …, sigₙ]) = sig`. -/
theorem aggregateVerify_iff_aggregate_sign (pf : PairingFacts e) (H : HashFn) (s : Suite) (sks : List ℤ)
    (hsks : ∀ sk ∈ sks, 1 ≤ sk ∧ sk < (curveOrder : ℤ)) (pks msgs : List Bytes) (sig : Bytes)
    (hpks : List.Forall₂ (fun sk pk => skToPk (.int sk) = .ok pk) sks pks) :
    aggregateVerify H s pks msgs sig = .returned true ↔
      1 ≤ pks.length ∧ pks.length = msgs.length ∧ (s = .basic → msgs.Nodup) ∧
        ∃ sigs, List.Forall₂ (fun (x : ℤ × Bytes) sg => sign H s (.int x.1) x.2 = .ok sg)
          (sks.zip msgs) sigs ∧ aggregate sigs = .ok sig := by
  rw [aggregateVerify_iff pf H s sks hsks pks msgs sig hpks]
  refine and_congr_right fun a => and_congr_right fun b => and_congr_right fun _ => ?_
  obtain ⟨l, rfl, rfl, rfl⟩ := signers_of_lists hpks b
  have hl := List.forall_mem_map.mp hsks
  rw [vmsgs_signers, exists_hashPts_iff pf, ← List.zip_of_prod rfl rfl]
  exact (aggregate_signed_iff (fun x hx => sign_iff_enc pf H s (hl x hx))
    (fun x _ hx => exists_enc_of_hashes pf hx _) (by rintro rfl; cases a) sig).symm

/-- **The aggregate public-key point** `Σ pkᵢ = (Σ skᵢ) • g1` is the identity iff `r ∣ Σ skᵢ` (e.g. the two
    keys `sk`, `r − sk`). -/
theorem pk_sum_eq_zero_iff (ks : List ℕ) : (ks.map fun k => k • g1).sum = 0 ↔ blsR ∣ ks.sum := by
  rw [BlsAbs.sum_nsmul_const]
  constructor
  · intro h
    have h' : ks.sum • g1 = 0 • g1 := by rw [h, zero_smul]
    exact (Nat.modEq_zero_iff_dvd).mp
      ((BlsAbs.nsmul_eq_nsmul_iff prime_r g1_torsion g1_ne_zero _ 0).mp h')
  · rintro ⟨c, hc⟩
    rw [hc, mul_comm, mul_smul, g1_torsion, smul_zero]

/-- **`FastAggregateVerify`** (POP suite, one shared message).  For honest keys: it returns `True` iff the
    list is non-empty, **the aggregate key `Σ pkᵢ` is not the identity** (IETF: `KeyValidate` of the aggregate
    key — so e.g. the key pair `sk`, `r − sk` is rejected although the signature equals the sum), the
    message hashes to `h`, and `sig` is the encoding of `(Σ skᵢ) • h = Σ skᵢ • h`. -/
theorem fastAggregateVerify_iff (pf : PairingFacts e) (H : HashFn) (sks : List ℤ)
    (hsks : ∀ sk ∈ sks, 1 ≤ sk ∧ sk < (curveOrder : ℤ)) (pks : List Bytes) (msg sig : Bytes)
    (hpks : List.Forall₂ (fun sk pk => skToPk (.int sk) = .ok pk) sks pks) :
    fastAggregateVerify H pks msg sig = .returned true ↔
      1 ≤ pks.length ∧ ((sks.map Int.toNat).map fun k => k • g1).sum ≠ 0 ∧
        ∃ h, HashPt H (Suite.dst .pop) msg h ∧ EncG2 sig ((sks.map Int.toNat).sum • h) := by
  obtain rfl := pks_eq_map hpks
  rw [fastAggregateVerify_signers pf H hsks, BlsAbs.sum_nsmul_const, exists_hashPt_iff pf, List.length_map, Nat.succ_le_iff,
    List.length_pos_iff]

/-- **`FastAggregateVerify` accepts exactly `Aggregate` of the honest signatures of the shared message**,
    provided the aggregate key is not the identity (conjunct kept visible). -/
theorem fastAggregateVerify_iff_aggregate_sign (pf : PairingFacts e) (H : HashFn) (sks : List ℤ)
    (hsks : ∀ sk ∈ sks, 1 ≤ sk ∧ sk < (curveOrder : ℤ)) (pks : List Bytes) (msg sig : Bytes)
    (hpks : List.Forall₂ (fun sk pk => skToPk (.int sk) = .ok pk) sks pks) :
    fastAggregateVerify H pks msg sig = .returned true ↔
      1 ≤ pks.length ∧ ¬ (blsR ∣ (sks.map Int.toNat).sum) ∧
        ∃ sigs, List.Forall₂ (fun sk sg => sign H .pop (.int sk) msg = .ok sg) sks sigs ∧
          aggregate sigs = .ok sig := by
  rw [fastAggregateVerify_iff pf H sks hsks pks msg sig hpks, Ne, pk_sum_eq_zero_iff, exists_hashPt_iff pf]
  refine and_congr_right fun a => and_congr_right fun _ => ?_
  have hne : sks ≠ [] := by rintro rfl; cases hpks; cases a
  refine ((aggregate_signed_iff (fun sk hsk => sign_iff_enc pf H .pop (x := (sk, msg)) (hsks sk hsk))
    (fun sk _ hx => exists_enc_of_hashes pf hx _) hne sig).trans ?_).symm
  rw [← BlsAbs.sum_nsmul_const, List.map_map]
  exact and_congr_left fun _ => ⟨fun h => h _ (List.getLast_mem hne), fun h _ _ => h⟩

/-! ### perturbations -/

/-- **Two accepted aggregates are equal iff the required sums are equal** (dropping / duplicating /
    substituting a signer, reordering, regrouping …): if `sig` is accepted for `(PKs, msgs)` and `sig'`
    for `(PKs', msgs')`, then with `hs`, `hs'` the hash points, `sig = sig' ↔ Σ skᵢ•hᵢ = Σ sk'ᵢ•h'ᵢ`. -/
theorem coreAggregateVerify_accept_eq_iff (pf : PairingFacts e) (H : HashFn) (s s' : Suite)
    (sks sks' : List ℤ) (hsks : ∀ sk ∈ sks, 1 ≤ sk ∧ sk < (curveOrder : ℤ))
    (hsks' : ∀ sk ∈ sks', 1 ≤ sk ∧ sk < (curveOrder : ℤ)) (pks pks' msgs msgs' : List Bytes)
    (sig sig' dst dst' : Bytes)
    (hpks : List.Forall₂ (fun sk pk => skToPk (.int sk) = .ok pk) sks pks)
    (hpks' : List.Forall₂ (fun sk pk => skToPk (.int sk) = .ok pk) sks' pks')
    (h : coreAggregateVerify H s pks msgs sig dst = .returned true)
    (h' : coreAggregateVerify H s' pks' msgs' sig' dst' = .returned true) :
    ∃ hs hs', List.Forall₂ (HashPt H dst) msgs hs ∧ List.Forall₂ (HashPt H dst') msgs' hs' ∧
      (sig = sig' ↔ sigSum sks hs = sigSum sks' hs') := by
  obtain ⟨_, _, hs, hh, enc⟩ := (coreAggregateVerify_iff pf H s sks hsks pks msgs sig dst hpks).mp h
  obtain ⟨_, _, hs', hh', enc'⟩ :=
    (coreAggregateVerify_iff pf H s' sks' hsks' pks' msgs' sig' dst' hpks').mp h'
  exact ⟨hs, hs', hh, hh', encG2_eq_iff enc enc'⟩

/-- **Order independence of `AggregateVerify`** (all suites): permuting the signers — the
    `(secret key, message)` pairs, with their public keys — does not change whether `sig` is accepted. -/
theorem aggregateVerify_perm (pf : PairingFacts e) (H : HashFn) (s : Suite) (l l' : List (ℤ × Bytes))
    (hp : l.Perm l') (hsks : ∀ x ∈ l, 1 ≤ x.1 ∧ x.1 < (curveOrder : ℤ)) (pks pks' : List Bytes)
    (sig : Bytes) (hpks : List.Forall₂ (fun (x : ℤ × Bytes) pk => skToPk (.int x.1) = .ok pk) l pks)
    (hpks' : List.Forall₂ (fun (x : ℤ × Bytes) pk => skToPk (.int x.1) = .ok pk) l' pks') :
    aggregateVerify H s pks (l.map (·.2)) sig = .returned true ↔
      aggregateVerify H s pks' (l'.map (·.2)) sig = .returned true := by
  have hsks' : ∀ x ∈ l', 1 ≤ x.1 ∧ x.1 < (curveOrder : ℤ) := fun x hx => hsks x (hp.mem_iff.mpr hx)
  obtain rfl : pks = l.map fun x => pkOf x.1 := (forall₂_ok_iff.mp hpks).2.symm
  obtain rfl : pks' = l'.map fun x => pkOf x.1 := (forall₂_ok_iff.mp hpks').2.symm
  rw [aggregateVerify_signers pf H s hsks, aggregateVerify_signers pf H s hsks', (hp.map _).nodup_iff,
    (hp.map _).sum_eq]
  exact and_congr (not_congr ⟨fun h0 => (h0 ▸ hp).symm.eq_nil, fun h0 => (h0 ▸ hp).eq_nil⟩)
    (and_congr_right fun _ => and_congr_left fun _ =>
      ⟨fun h x hx => h x (hp.mem_iff.mpr hx), fun h x hx => h x (hp.mem_iff.mp hx)⟩)

/-! ### under the smaller hypothesis bundle `PairingValueFacts` (`Lemmas/BlsProtoMiller.lean`) -/

/-- `aggregateVerify_iff_aggregate_sign` under `PairingValueFacts` (fields: HB1, ND, HB1′ per pairing
    call, HT6); every other theorem of Part 2 transfers the same way through
    `PairingValueFacts.toPairingFacts`. -/
theorem aggregateVerify_iff_aggregate_sign' {e : E2 → E1 → K12ˣ} (pv : PairingValueFacts e) (H : HashFn)
    (s : Suite) (sks : List ℤ) (hsks : ∀ sk ∈ sks, 1 ≤ sk ∧ sk < (curveOrder : ℤ))
    (pks msgs : List Bytes) (sig : Bytes)
    (hpks : List.Forall₂ (fun sk pk => skToPk (.int sk) = .ok pk) sks pks) :
    aggregateVerify H s pks msgs sig = .returned true ↔
      1 ≤ pks.length ∧ pks.length = msgs.length ∧ (s = .basic → msgs.Nodup) ∧
        ∃ sigs, List.Forall₂ (fun (x : ℤ × Bytes) sg => sign H s (.int x.1) x.2 = .ok sg)
          (sks.zip msgs) sigs ∧ aggregate sigs = .ok sig :=
  aggregateVerify_iff_aggregate_sign pv.toPairingFacts H s sks hsks pks msgs sig hpks

/-- `fastAggregateVerify_iff_aggregate_sign` under `PairingValueFacts`. -/
theorem fastAggregateVerify_iff_aggregate_sign' {e : E2 → E1 → K12ˣ} (pv : PairingValueFacts e)
    (H : HashFn) (sks : List ℤ) (hsks : ∀ sk ∈ sks, 1 ≤ sk ∧ sk < (curveOrder : ℤ)) (pks : List Bytes)
    (msg sig : Bytes) (hpks : List.Forall₂ (fun sk pk => skToPk (.int sk) = .ok pk) sks pks) :
    fastAggregateVerify H pks msg sig = .returned true ↔
      1 ≤ pks.length ∧ ¬ (blsR ∣ (sks.map Int.toNat).sum) ∧
        ∃ sigs, List.Forall₂ (fun sk sg => sign H .pop (.int sk) msg = .ok sg) sks sigs ∧
          aggregate sigs = .ok sig :=
  fastAggregateVerify_iff_aggregate_sign pv.toPairingFacts H sks hsks pks msg sig hpks

/-! ### non-vacuity of the key hypotheses -/

/-- the one-element key list `[1]` with `SkToPk(1)` = compressed generator satisfies the hypotheses -/
example : (∀ sk ∈ [(1 : ℤ)], 1 ≤ sk ∧ sk < (curveOrder : ℤ)) ∧
    List.Forall₂ (fun sk pk => skToPk (.int sk) = .ok pk) [(1 : ℤ)] [C09.compressedG1] :=
  ⟨by intro sk h; rw [List.mem_singleton] at h; subst h; decide, .cons C09.skToPk_one .nil⟩

end PyEcc.C03
