/-
  PyEcc.Props.C17_Order — property C17, the group orders of BLS12-381 (HB2 of DESIGN.md):

      `#E(Fp)   = h₁ · r`        (`E  : y² = x³ + 4`       over `Fq blsP`, the model's `FQ`)
      `#E'(Fp²) = h₂ · r`        (`E' : y² = x³ + 4(1+i)`  over `K2 = F_p[X]/(X²+1)`, values of the model's `FQ2`)

  with `h₁ = 0x396c8c005555e1568c00aaab0000aaab` (`Spec.BLS12381.h1`), `h₂ = G2_COFACTOR` of
  `py_ecc/bls/constants.py`, `r = curve_order`.  Mathlib has no Hasse bound and no point counting; the proof
  is elementary:

    lower bound — exhibit subgroups of pairwise coprime orders whose product is `h·r` (Lagrange):
      the generator (order `r`, C07); `(0, 2)` of order 3; for every prime `q` with `q² ∣ h` one point `T` of
      order `q` (found by tools, checked by running the GENERATED `optimized_bls12_381` code in the kernel)
      together with `φ(T)`, `φ(x, y) = (ω·x, y)`, `ω³ = 1`: since `φ³ = id`, `φ(T) = k·T` would force
      `k³ ≡ 1 (mod q)`, and the at most three such `k` are checked not to work, so `⟨T, φT⟩ ≅ (Z/q)²`;
      for the primes `2713, 11953, 262069, Q` (448 bits; Pratt certificates in `Sem/PrattCerts2.lean`)
      dividing `h₂` once, one point of that order each;
    upper bound — `#E(K) ≤ 2·#K + 1` (two `y` per `x`, plus ∞), and `2·h·r > 2·#K + 1` (the traces are negative).

  Consequences, all unconditional: `h·r` kills every point; `E(Fp)` even has exponent `H_EFF_G1 · r`;
  `clear_cofactor_G1` / `clear_cofactor_G2` map EVERY on-curve (canonical) triple to one that passes
  `subgroup_check`; the `r`-torsion is exactly the set of cleared points; `hash_to_G2` always lands in the
  subgroup (`hash_good_proved`: the `hash_good` field, HT6, of `BlsProto.PairingFacts`).
-/
import PyEcc.Lemmas.Hb2G1
import PyEcc.Lemmas.Hb2G2
import PyEcc.Props.C17_Model
import PyEcc.Props.C10_Iso

set_option linter.unusedSectionVars false

namespace PyEcc.C17O
open PyEcc PyEcc.Gen PyEcc.Gen.Consts PyEcc.FqpSem PyEcc.Transfer PyEcc.Hb2 WeierstrassCurve

/-! ## the group orders -/

/-- **`#E(Fp) = h₁·r` (BLS12-381).**  Mathlib's group of points of `y² = x³ + 4` over the field `Fq blsP`
    (the model's `FQ` arithmetic) has exactly `h₁ · curve_order` elements, `h₁` the standard G1 cofactor. -/
theorem bls_card_E1 : Nat.card (CurvePt (blsB : F1)) = Spec.BLS12381.h1 * blsR :=
  card_eq_of_dvd_of_le h1r_dvd_card_E1 card_E1_le (by decide +kernel)

/-- **`#E'(Fp²) = h₂·r` (BLS12-381 twist).**  Mathlib's group of points of `y² = x³ + 4(1+i)` over
    `K2 = F_p[X]/(X²+1)` has exactly `G2_COFACTOR · curve_order` elements. -/
theorem bls_card_E2 : Nat.card (CurvePt (toQ blsB2 : K2)) = blsconst_G2_COFACTOR * blsR :=
  card_eq_of_dvd_of_le h2r_dvd_card_E2 card_E2_le (by decide +kernel)

/-- the same numbers in terms of the traces: `#E(Fp) = p + 1 − (x+1)` with the seed `x` of the curve family -/
theorem bls_card_E1_trace :
    (Nat.card (CurvePt (blsB : F1)) : ℤ) = (Spec.BLS12381.p : ℤ) + 1 - (Spec.BLS12381.x + 1) := by
  rw [bls_card_E1, ← C17.spec_h1_r]
  have : blsR = Spec.BLS12381.r := by decide
  rw [this]; push_cast; rfl

/-- every point of `E(Fp)` is killed by `h₁·r` -/
theorem bls_order_kills_E1 (P : CurvePt (blsB : F1)) : (Spec.BLS12381.h1 * blsR) • P = 0 := by
  rw [← bls_card_E1]; exact card_nsmul_eq_zero'

/-- every point of `E'(Fp²)` is killed by `h₂·r` — this is the hypothesis `hord` of
    `C10Iso.hash_good_of_order` and `hP` of `C17M.subgroupCheck_G2_cleared` -/
theorem bls_order_kills_E2 (P : CurvePt (toQ blsB2 : K2)) : (blsconst_G2_COFACTOR * blsR) • P = 0 := by
  rw [← bls_card_E2]; exact card_nsmul_eq_zero'

/-- **The exponent of `E(Fp)` divides `H_EFF_G1 · r`.**  `H_EFF_G1 = 1 − x` is NOT a multiple of
    `h₁ = (1−x)²/3`, but `E(Fp) ≅ Z/((1−x)/3) × Z/((1−x)·r)`: every point is killed by `(1−x)·r`.  (From the
    order and the `(Z/q)²` subgroups: the `q`-primary part of `E(Fp)` has order `q²` and exponent `q`.) -/
theorem bls_exponent_E1 (P : CurvePt (blsB : F1)) : (h2c_H_EFF_G1 * blsR) • P = 0 := by
  have hc := bls_card_E1
  obtain ⟨H1, c1, x1⟩ := sq_E1_11
  obtain ⟨H2, c2, x2⟩ := sq_E1_10177
  obtain ⟨H3, c3, x3⟩ := sq_E1_859267
  obtain ⟨H4, c4, x4⟩ := sq_E1_52437899
  have k1 := exponent_of_sq (q := 11) (m := Spec.BLS12381.h1 * blsR / 11 ^ 2)
    (hc.trans (by decide +kernel)) H1 c1 x1 P
  have k2 := exponent_of_sq (q := 10177) (m := Spec.BLS12381.h1 * blsR / 10177 ^ 2)
    (hc.trans (by decide +kernel)) H2 c2 x2 P
  have k3 := exponent_of_sq (q := 859267) (m := Spec.BLS12381.h1 * blsR / 859267 ^ 2)
    (hc.trans (by decide +kernel)) H3 c3 x3 P
  have k4 := exponent_of_sq (q := 52437899) (m := Spec.BLS12381.h1 * blsR / 52437899 ^ 2)
    (hc.trans (by decide +kernel)) H4 c4 x4 P
  have d1 := addOrderOf_dvd_iff_nsmul_eq_zero.mpr k1
  have d2 := addOrderOf_dvd_iff_nsmul_eq_zero.mpr k2
  have d3 := addOrderOf_dvd_iff_nsmul_eq_zero.mpr k3
  have d4 := addOrderOf_dvd_iff_nsmul_eq_zero.mpr k4
  -- the gcd of the four exponents is `H_EFF_G1 · r`
  exact addOrderOf_dvd_iff_nsmul_eq_zero.mp
    ((Nat.dvd_gcd (Nat.dvd_gcd d1 d2) (Nat.dvd_gcd d3 d4)).trans (by decide +kernel))

/-! ## consequences for the model functions -/

/-- **G1: the group order at code level.**  For EVERY triple accepted by `is_on_curve(T, b)`,
    `multiply(T, h₁ · curve_order)` is the point at infinity. -/
theorem multiply_order_G1 (T : G1Pt) (hT : OptBls.is_on_curve T blsB = true) :
    OptBls.is_inf (OptBls.multiply T (Spec.BLS12381.h1 * blsR)) = true := by
  obtain ⟨P, r⟩ := curveF1.exists_rep (goodT_true T) hT
  exact (r.multiply _).is_inf_iff.mpr (bls_order_kills_E1 P)

/-- **G2: the group order at code level.**  For EVERY canonical `FQ2` triple accepted by
    `is_on_curve(T, b2)`, `multiply(T, G2_COFACTOR · curve_order)` is the point at infinity. -/
theorem multiply_order_G2 (T : G2Pt) (c : CanonT T) (hT : OptBls.is_on_curve T blsB2 = true) :
    OptBls.is_inf (OptBls.multiply T (blsconst_G2_COFACTOR * blsR)) = true := by
  classical
  obtain ⟨P, r⟩ := curveF2.exists_rep c hT
  exact (r.multiply _).is_inf_iff.mpr (bls_order_kills_E2 P)

/-- **`clear_cofactor_G1` lands in the subgroup, for every curve point.**  For EVERY triple `T` accepted by
    `is_on_curve(T, b)`, `subgroup_check(clear_cofactor_G1(T))` is `True` (and the result is on the curve).
    No hypothesis on the group order. -/
theorem clearCofactorG1_lands (T : G1Pt) (hT : OptBls.is_on_curve T blsB = true) :
    OptBls.is_on_curve (clearCofactorG1 T) blsB = true ∧ subgroupCheck (clearCofactorG1 T) = true := by
  obtain ⟨P, r⟩ := curveF1.exists_rep (goodT_true T) hT
  exact ⟨(r.multiply _).on_curve, C17M.subgroupCheck_G1_cleared r.rep (bls_exponent_E1 P)⟩

/-- **`clear_cofactor_G2` lands in the subgroup, for every curve point.**  For EVERY canonical `FQ2` triple
    `T` accepted by `is_on_curve(T, b2)`, `clear_cofactor_G2(T)` is canonical, on the curve, and
    `subgroup_check` of it is `True`.  No hypothesis on the group order. -/
theorem clearCofactorG2_lands (T : G2Pt) (c : CanonT T) (hT : OptBls.is_on_curve T blsB2 = true) :
    CanonT (clearCofactorG2 T) ∧ OptBls.is_on_curve (clearCofactorG2 T) blsB2 = true
      ∧ subgroupCheck (clearCofactorG2 T) = true := by
  classical
  obtain ⟨P, r⟩ := curveF2.exists_rep c hT
  have rc : Rep curveF2 (clearCofactorG2 T) _ := r.multiply _
  exact ⟨rc.good, rc.on_curve, C17M.subgroupCheck_G2_cleared c r.rep (bls_order_kills_E2 P)⟩

/-- G1: the `r`-torsion (what `subgroup_check` accepts) is exactly the image of multiplication by the
    cofactor `h₁`. -/
theorem torsion_iff_cleared_E1 (P : CurvePt (blsB : F1)) :
    blsR • P = 0 ↔ ∃ Q : CurvePt (blsB : F1), P = Spec.BLS12381.h1 • Q :=
  C17.subgroup_iff_cleared C17.coprime_h1_r bls_order_kills_E1 P

/-- G2: the `r`-torsion is exactly the image of multiplication by `G2_COFACTOR`. -/
theorem torsion_iff_cleared_E2 (P : CurvePt (toQ blsB2 : K2)) :
    blsR • P = 0 ↔ ∃ Q : CurvePt (toQ blsB2 : K2), P = blsconst_G2_COFACTOR • Q :=
  C17.subgroup_iff_cleared C17.coprime_h2_r bls_order_kills_E2 P

/-- **G1 is exactly the cyclic group generated by the constant `G1`.**  Every point of `E(Fp)` killed by
    `curve_order` (i.e. represented by a triple that passes `subgroup_check`) is `k • G` with `k < r`, `G` the
    point represented by the generator constant. -/
theorem torsion_E1_cyclic (G P : CurvePt (blsB : F1)) (hG : Represents blsG1 G) (hP : blsR • P = 0) :
    ∃ k : ℕ, k < blsR ∧ P = k • G := by
  obtain ⟨_, G', r', _, _, hord⟩ := C07M.blsG1_point
  have e : G = G' := C07Opt.Bls.represents_unique hG r'
  subst e
  refine mem_multiples_of_torsion C17.blsR_prime ?_ G P hord hP
  rw [bls_card_E1]; exact by decide +kernel

/-- **G2 is exactly the cyclic group generated by the constant `G2`.** -/
theorem torsion_E2_cyclic [DecidableEq K2] (G P : CurvePt (toQ blsB2 : K2))
    (hG : Represents (mapT toQ blsG2) G) (hP : blsR • P = 0) : ∃ k : ℕ, k < blsR ∧ P = k • G := by
  obtain ⟨_, _, G', r', _, _, hord⟩ := C07M.blsG2_point
  have e : G = G' := C07Opt.Bls.represents_unique hG r'
  subst e
  refine mem_multiples_of_torsion C17.blsR_prime ?_ G P hord hP
  rw [bls_card_E2]; exact by decide +kernel

/-- how the two code-level statements below follow from the cyclicity of the torsion: `sc` stands for
    `subgroup_check T = true`, `eqk k` for `eq(T, multiply(Tg, k)) = true` -/
private theorem iff_multiple_of_cyclic {E : Type} [AddCommGroup E] {G P : E} {sc : Prop} {eqk : ℕ → Prop}
    (hs : sc ↔ blsR • P = 0) (he : ∀ k, eqk k ↔ P = k • G) (hG : blsR • G = 0)
    (cyc : blsR • P = 0 → ∃ k : ℕ, k < blsR ∧ P = k • G) : sc ↔ ∃ k : ℕ, k < blsR ∧ eqk k := by
  rw [hs]
  refine ⟨fun hP => (cyc hP).imp fun k hk => ⟨hk.1, (he k).mpr hk.2⟩, ?_⟩
  rintro ⟨k, _, e⟩
  rw [(he k).mp e]
  exact C17.accepts_multiples G k hG

/-- G1, code level: a triple on the curve passes `subgroup_check` iff it is `eq` to `multiply(G1, k)` for some
    `k < curve_order`. -/
theorem subgroupCheck_G1_iff_multiple (T : G1Pt) (hT : OptBls.is_on_curve T blsB = true) :
    subgroupCheck T = true ↔ ∃ k : ℕ, k < blsR ∧ OptBls.eq T (OptBls.multiply blsG1 k) = true := by
  obtain ⟨P, r⟩ := curveF1.exists_rep (goodT_true T) hT
  obtain ⟨_, G, rG, _, hGr, _⟩ := C07M.blsG1_point
  exact iff_multiple_of_cyclic (C17Sub.rep_iff r)
    (fun k => r.eq_iff (Rep.multiply (c := curveF1) ⟨goodT_true blsG1, rG⟩ k)) hGr (torsion_E1_cyclic G P rG)

/-- G2, code level: a canonical triple on the twist curve passes `subgroup_check` iff it is `eq` to
    `multiply(G2, k)` for some `k < curve_order`. -/
theorem subgroupCheck_G2_iff_multiple (T : G2Pt) (c : CanonT T) (hT : OptBls.is_on_curve T blsB2 = true) :
    subgroupCheck T = true ↔ ∃ k : ℕ, k < blsR ∧ OptBls.eq T (OptBls.multiply blsG2 k) = true := by
  classical
  obtain ⟨P, r⟩ := curveF2.exists_rep c hT
  obtain ⟨cG, _, G, rG, _, hGr, _⟩ := C07M.blsG2_point
  exact iff_multiple_of_cyclic (C17Sub.rep_iff r)
    (fun k => r.eq_iff (Rep.multiply ⟨cG, rG⟩ k)) hGr (torsion_E2_cyclic G P rG)

/-- **HT6: `hash_to_G2` lands in the subgroup.**  For every hash function `H` (any function with the
    `hashlib` interface), message and DST: whatever `hash_to_G2` returns is a canonical `FQ2` triple on the
    twist curve that passes `subgroup_check`.  This is the `hash_good` field of `BlsProto.PairingFacts`,
    without any hypothesis. -/
theorem hash_good_proved (H : HashFn) (msg dst : Bytes) (mp : G2Pt) (h : hashToG2 H msg dst = .ok mp) :
    CanonT mp ∧ OptBls.is_on_curve mp blsB2 = true ∧ subgroupCheck mp = true := by
  classical
  exact C10Iso.hash_good_of_order bls_order_kills_E2 H msg dst mp h

/-! ### non-vacuity: the theorems at the generators -/

example : subgroupCheck (clearCofactorG1 blsG1) = true :=
  (clearCofactorG1_lands blsG1 C17M.blsG1_passes.1).2

example : subgroupCheck (clearCofactorG2 blsG2) = true :=
  (clearCofactorG2_lands blsG2 C17M.blsG2_passes.1 C17M.blsG2_passes.2.1).2.2

end PyEcc.C17O
