/-
  PyEcc.Props.C03_Logic — the hypothesis-free part of C03 (py_ecc/bls/ciphersuites.py):
  error behaviour of `Aggregate`, and the inputs on which `AggregateVerify` / `FastAggregateVerify`
  return `False` without looking at any pairing.
-/
import PyEcc.Props.C04

namespace PyEcc.C03
open PyEcc PyEcc.BlsSem PyEcc.C04 Gen.Consts

/-! ## `Aggregate` -/

/-- the `for signature in signatures` loop of `Aggregate` -/
def aggFold (sigs : List Bytes) (acc : G2Pt) : Except PyErr G2Pt :=
  sigs.foldlM (fun acc sg => do
    let pt ← signatureToG2 sg
    pure (Gen.OptBls.add acc pt)) acc

theorem aggFold_cons (s : Bytes) (rest : List Bytes) (acc : G2Pt) :
    aggFold (s :: rest) acc =
      match signatureToG2 s with
      | .ok pt => aggFold rest (Gen.OptBls.add acc pt)
      | .error e => .error e := by
  unfold aggFold
  simp only [List.foldlM_cons, bind, Except.bind, pure, Except.pure]
  cases signatureToG2 s <;> rfl

theorem aggFold_error_of_undecodable :
    ∀ (sigs : List Bytes) (acc : G2Pt), (∃ sg ∈ sigs, ∃ e, signatureToG2 sg = .error e) →
      aggFold sigs acc = .error .value := by
  intro sigs
  induction sigs with
  | nil => rintro acc ⟨sg, hsg, _⟩; cases hsg
  | cons s rest ih =>
    intro acc h
    rw [aggFold_cons]
    cases hs : signatureToG2 s with
    | error e => simp only; rw [signatureToG2_error hs]
    | ok pt =>
      simp only
      apply ih
      obtain ⟨sg, hsg, e, he⟩ := h
      rcases List.mem_cons.mp hsg with rfl | hmem
      · rw [hs] at he; cases he
      · exact ⟨sg, hmem, e, he⟩

theorem aggregate_eq (sigs : List Bytes) :
    aggregate sigs =
      (if sigs.length < 1 then .error .validation
       else if !(sigs.all (·.length = 96)) then .error .validation
       else aggFold sigs Z2 >>= g2ToSignature) := by
  unfold aggregate aggFold
  simp only [bind, Except.bind, pure, Except.pure, throw, throwThe, MonadExceptOf.throw]

/-- **Error behaviour of `Aggregate`.**
    (1) `Aggregate([])` raises `ValidationError`;
    (2) if any entry — at any position — is not exactly 96 bytes long, `Aggregate` raises `ValidationError`
        (before decoding anything);
    (3) if the list is non-empty, all entries are 96 bytes long and some entry does not decode
        (`signature_to_G2` raises), the `ValueError` of `signature_to_G2` propagates to the caller. -/
theorem aggregate_errors :
    aggregate [] = .error .validation ∧
    (∀ sigs : List Bytes, (∃ sg ∈ sigs, sg.length ≠ 96) → aggregate sigs = .error .validation) ∧
    (∀ sigs : List Bytes, sigs ≠ [] → (∀ sg ∈ sigs, sg.length = 96) →
      (∃ sg ∈ sigs, ∃ e, signatureToG2 sg = .error e) → aggregate sigs = .error .value) := by
  refine ⟨rfl, ?_, ?_⟩
  · rintro sigs ⟨sg, hsg, hlen⟩
    rw [aggregate_eq]
    split
    · rfl
    · have : sigs.all (·.length = 96) = false := by
        rw [List.all_eq_false]
        exact ⟨sg, hsg, by simpa using hlen⟩
      simp [this]
  · intro sigs hne hall hbad
    rw [aggregate_eq]
    have h1 : ¬ sigs.length < 1 := by
      cases sigs with
      | nil => exact (hne rfl).elim
      | cons _ _ => simp
    have h2 : sigs.all (·.length = 96) = true := by
      rw [List.all_eq_true]; intro sg hsg; simpa using hall sg hsg
    simp only [h1, h2, ↓reduceIte, Bool.not_true, Bool.false_eq_true]
    rw [aggFold_error_of_undecodable sigs Z2 hbad]
    rfl

/-- non-vacuity of (2) and (3): a 95-byte entry; a 96-byte all-zero entry (compression flag clear) -/
example : aggregate [List.replicate 95 0] = .error .validation ∧
    aggregate [List.replicate 96 0] = .error .value := by
  have hbad : ∃ e, signatureToG2 (List.replicate 96 0) = .error e := by
    have h : (match signatureToG2 (List.replicate 96 0) with
      | .error _ => true | .ok _ => false) = true := by decide +kernel
    split at h
    · next e he => exact ⟨e, he⟩
    · cases h
  exact ⟨aggregate_errors.2.1 _ ⟨_, List.mem_singleton.mpr rfl, by decide⟩,
    aggregate_errors.2.2 _ (by simp) (by simp) ⟨_, List.mem_singleton.mpr rfl, hbad⟩⟩

/-! ## `hasDup` is "not pairwise distinct" -/

/-- **The duplicate test of the basic suite** (`len(messages) != len(set(messages))`) is true exactly
    when the messages are not pairwise distinct. -/
theorem hasDup_iff_not_nodup (msgs : List Bytes) : hasDup msgs = true ↔ ¬ msgs.Nodup := by
  induction msgs with
  | nil => simp [hasDup]
  | cons x xs ih =>
    simp only [hasDup, Bool.or_eq_true, List.contains_iff_mem, List.nodup_cons, ih]
    constructor
    · rintro (h | h)
      · exact fun hh => hh.1 h
      · exact fun hh => h hh.2
    · intro h
      by_cases hx : x ∈ xs
      · exact .inl hx
      · exact .inr fun hn => h ⟨hx, hn⟩

/-! ## `AggregateVerify` / `FastAggregateVerify` return `False` -/

/-- the four input checks at the head of `_CoreAggregateVerify` -/
theorem coreAggregateVerify_early {H : HashFn} {s : Suite} {pks msgs : List Bytes} {sig dst : Bytes}
    (h : pks.length ≠ msgs.length ∨ sig.length ≠ 96 ∨ pks = [] ∨
      ∃ pk ∈ pks, isValidPubkey s pk = false) :
    coreAggregateVerify H s pks msgs sig dst = .returned false := by
  refine coreAggregateVerify_malformed fun ⟨S, hall, hlen, hne, hS⟩ => ?_
  rcases h with h | h | h | ⟨pk, hpk, hv⟩
  · exact h hlen
  · exact h hS.1
  · subst h; cases hne
  · rw [List.all_eq_true.mp hall pk hpk] at hv
    cases hv

/-- **Inputs on which `AggregateVerify` returns `False` outright** (all three suites, any hash function,
    unconditionally — no exception, no pairing):
    (1) an empty key list; (2) key and message lists of different lengths; (3) a signature that is not
    96 bytes long; (4) a key that is not 48 bytes long anywhere in the list. -/
theorem aggregateVerify_false_early (H : HashFn) (s : Suite) (pks msgs : List Bytes) (sig : Bytes)
    (h : pks = [] ∨ pks.length ≠ msgs.length ∨ sig.length ≠ 96 ∨ ∃ pk ∈ pks, pk.length ≠ 48) :
    aggregateVerify H s pks msgs sig = .returned false := by
  rw [BlsProto.aggregateVerify_eq]
  split
  · rfl
  next hpre =>
  apply coreAggregateVerify_early
  rcases h with h | h | h | ⟨pk, hpk, hl⟩
  · exact .inr (.inr (.inl h))
  · cases s
    · exact .inl h
    · exact (hpre (.inr ⟨rfl, h⟩)).elim
    · exact .inl h
  · exact .inr (.inl h)
  · exact .inr (.inr (.inr ⟨pk, hpk, by simp [isValidPubkey, hl]⟩))

example (H : HashFn) (s : Suite) (msgs : List Bytes) (sig : Bytes) :
    aggregateVerify H s [] msgs sig = .returned false :=
  aggregateVerify_false_early H s [] msgs sig (.inl rfl)

/-- **Basic suite: repeated messages are rejected.**  If the messages are not pairwise distinct,
    `G2Basic.AggregateVerify` returns `False` without looking at keys or signature. -/
theorem aggregateVerify_basic_dup (H : HashFn) (pks msgs : List Bytes) (sig : Bytes)
    (h : ¬ msgs.Nodup) : aggregateVerify H .basic pks msgs sig = .returned false := by
  have : hasDup msgs = true := (hasDup_iff_not_nodup msgs).mpr h
  simp [aggregateVerify, this]

example (H : HashFn) (pks : List Bytes) (m sig : Bytes) :
    aggregateVerify H .basic pks [m, m] sig = .returned false :=
  aggregateVerify_basic_dup H pks [m, m] sig (by simp)

/-- **POP suite: a key failing `KeyValidate` anywhere in the list is rejected outright** (its
    `_is_valid_pubkey` calls `KeyValidate` during input validation, before anything is hashed). -/
theorem aggregateVerify_pop_badkey (H : HashFn) (pks msgs : List Bytes) (sig : Bytes)
    (h : ∃ pk ∈ pks, keyValidate pk = false) :
    aggregateVerify H .pop pks msgs sig = .returned false := by
  obtain ⟨pk, hpk, hk⟩ := h
  apply coreAggregateVerify_early
  refine .inr (.inr (.inr ⟨pk, hpk, ?_⟩))
  unfold isValidPubkey
  split
  · rfl
  · exact hk

/-- non-vacuity: the empty string fails `KeyValidate` -/
example : keyValidate [] = false := by decide

/-- **`FastAggregateVerify([], m, sig)` is `False`** (the `n < 1` precondition, or before it the
    signature-length check, raises `ValidationError`, which the `except` turns into `False`). -/
theorem fastAggregateVerify_nil (H : HashFn) (m sig : Bytes) :
    fastAggregateVerify H [] m sig = .returned false :=
  fastAggregateVerify_malformed_returns_false H [] m sig (by simp)

end PyEcc.C03
