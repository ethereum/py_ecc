/-
  PyEcc.Props.TieHashSecp — TIE theorems ("generated = hand-written model") for the byte-level helpers of
  `py_ecc/secp256k1/secp256k1.py`: `bytes_to_int` and the RFC 6979 nonce `deterministic_generate_k`.
  `Gen/ExtraHashSecp.lean` is re-generated from the Python source on every run (tools/translate/gen_hash.py).
-/
import PyEcc.Gen.ExtraHashSecp

namespace PyEcc.Tie
open PyEcc

/-- `bytes_to_int(x)` as translated from the source (`o = 0; for b in x: o = (o << 8) + safe_ord(b)` on Python ints, `<< 8` as
    `* 2 ^ 8`, `safe_ord` of a byte as the byte's value) is the model's `Ecdsa.bytesToInt` (= `os2ip`, big-endian). -/
theorem bytes_to_int_eq (x : Bytes) : Gen.ExtraHashSecp.bytes_to_int x = Ecdsa.bytesToInt x := by
  unfold Gen.ExtraHashSecp.bytes_to_int Ecdsa.bytesToInt os2ip
  refine List.foldl_hom Nat.cast (g₁ := fun acc (b : UInt8) => acc * 256 + b.toNat) (init := 0) fun o b => ?_
  simp only [Int.natCast_add, Int.natCast_mul]
  rfl

/-- `deterministic_generate_k(msghash, priv)` as translated from the source (RFC 6979 with HMAC over `hashlib.sha256` = the
    parameter `H`: `v = b"\x01" * 32`, `k = b"\x00" * 32`, the two rounds `k = HMAC_k(v + b"\x00"/b"\x01" + priv + msghash)`,
    `v = HMAC_k(v)`, result `bytes_to_int(HMAC_k(v))`) is the model's `Ecdsa.deterministicGenerateK`. -/
theorem deterministic_generate_k_eq (H : HashFn) (msghash priv : Bytes) :
    Gen.ExtraHashSecp.deterministic_generate_k msghash priv H = Ecdsa.deterministicGenerateK H msghash priv := by
  unfold Gen.ExtraHashSecp.deterministic_generate_k Ecdsa.deterministicGenerateK
  with_reducible rfl

end PyEcc.Tie
