/-
  PyEcc.Props.C07_Model12 — property C07 for the CONCRETE executable model over the degree-12 field:
  the group laws of the curve functions as the model RUNS them on `FQ12` coordinates, i.e. on
  `E(Fp¹²) : y² = x³ + b12` (`b12 = FQ12([4,0,…])` for BLS12-381, `FQ12([3,0,…])` for bn128), where the
  pairing code does its point arithmetic after `twist` / `cast_point_to_fq12`:

    * optimized modules (`Gen.OptBls`, `Gen.OptBn`; projective triples of optimized `FQ12` objects,
      model type `Fqp .opt p mc12`), laws up to the library's projective equality `eq`;
    * reference modules (`Gen.RefBls`, `Gen.RefBn`; `None` or affine pairs of reference `FQ12` objects,
      model type `Fqp .ref p mc12`), laws as EQUALITIES of returned values, in the exception monad
      (`add`/`multiply` never raise on canonical on-curve inputs).

  Each is the law of `Sem/TransferRefineBls.lean` (optimized: `CurveHom.add_comm_eq`, …, `via_*`) or of
  `Lemmas/TransferRefLawsBls.lean` (reference: `CurveHom.ref_add_comm`, …), that is Mathlib's `AddCommGroup` structure
  on the represented points, at the contexts `curveF12 v`, `curveF12bn v` of `Sem/TransferFq12.lean`
  (`toQ : Fqp v p mc12 → K12 = F_p[X]/(modulus)`; `K12` is a field by `Props/C08_Fq12.lean`); for bn128 the laws are
  those of the BLS12-381 modules, the generated curve modules being the same (`Lemmas/TwinModules.lean`).
  Statements are purely about the model functions; inputs are required to be canonical (`CanonT` / `CanonO`: every
  coordinate is a list of exactly 12 ints in `[0, p)`) — decidable, true of every value the library constructs,
  preserved by all operations.  The module constants `G12` are
  such inputs (`G12_ok`): they are `twist(G2)` (`C07.Consts`), `G2` is on the twist curve (`C07.Facts`) and
  `twist` maps curve points to curve points (`Props/C07_Twist.lean`, `Props/C07_TwistBn.lean`).
-/
import PyEcc.Props.C07_Twist
import PyEcc.Props.C07_TwistBn
import PyEcc.Props.C07_ConstsG12

set_option linter.unusedSectionVars false

namespace PyEcc.C07T
open PyEcc PyEcc.Gen PyEcc.Gen.Consts PyEcc.FqpSem PyEcc.Transfer PyEcc.TwistSem WeierstrassCurve

/-- `optimized_bls12_381.G12` as a model triple -/
def blsG12 : F12 .opt × F12 .opt × F12 .opt :=
  (⟨optimized_bls12_381_G12.getD 0 []⟩, ⟨optimized_bls12_381_G12.getD 1 []⟩, ⟨optimized_bls12_381_G12.getD 2 []⟩)
/-- `optimized_bn128.G12` as a model triple -/
def bnG12 : F12bn .opt × F12bn .opt × F12bn .opt :=
  (⟨optimized_bn128_G12.getD 0 []⟩, ⟨optimized_bn128_G12.getD 1 []⟩, ⟨optimized_bn128_G12.getD 2 []⟩)
/-- `bls12_381.G12` as a model point -/
def blsG12ref : Option (F12 .ref × F12 .ref) := some (⟨bls12_381_G12.getD 0 []⟩, ⟨bls12_381_G12.getD 1 []⟩)
/-- `bn128.G12` as a model point -/
def bnG12ref : Option (F12bn .ref × F12bn .ref) := some (⟨bn128_G12.getD 0 []⟩, ⟨bn128_G12.getD 1 []⟩)

/-! ## optimized BLS12-381: laws for canonical on-curve `FQ12` triples -/

namespace OptBls12
section
variable {X Y Z X' Y' : F12 .opt × F12 .opt × F12 .opt}

private theorem k2 : (2 : K12) ≠ 0 := (k12_field_ok .opt).1

/-- optimized BLS12-381, `E(Fp¹²)`, commutativity: `add(X, Y)` and `add(Y, X)` are `eq`. -/
theorem add_comm (cX : CanonT X) (cY : CanonT Y) (hX : OptBls.is_on_curve X (blsB12 .opt) = true)
    (hY : OptBls.is_on_curve Y (blsB12 .opt) = true) :
    OptBls.eq (OptBls.add X Y) (OptBls.add Y X) = true := by
  classical exact (curveF12 .opt).add_comm_eq cX cY hX hY

/-- optimized BLS12-381, `E(Fp¹²)`, associativity: `add(add(X, Y), Z)` and `add(X, add(Y, Z))` are `eq` (every
    degenerate configuration — ∞, doubling, inverse points — included). -/
theorem add_assoc (cX : CanonT X) (cY : CanonT Y) (cZ : CanonT Z)
    (hX : OptBls.is_on_curve X (blsB12 .opt) = true) (hY : OptBls.is_on_curve Y (blsB12 .opt) = true)
    (hZ : OptBls.is_on_curve Z (blsB12 .opt) = true) :
    OptBls.eq (OptBls.add (OptBls.add X Y) Z) (OptBls.add X (OptBls.add Y Z)) = true := by
  classical exact (curveF12 .opt).add_assoc_eq cX cY cZ hX hY hZ

/-- optimized BLS12-381, `E(Fp¹²)`, identity: any canonical `z = 0` triple (e.g. `Z = (1, 1, 0)`) is neutral on both sides,
    for all canonical triples `X` (on the curve or not). -/
theorem add_zero (cX : CanonT X) (cZ : CanonT Z) (hZ : Z.2.2 = 0) :
    OptBls.eq (OptBls.add X Z) X = true ∧ OptBls.eq (OptBls.add Z X) X = true := by
  classical exact Transfer.Bls.via_add_zero_eq (K := K12) goodHom_F12 cX cZ hZ

/-- optimized BLS12-381, `E(Fp¹²)`, inverse: `add(X, neg(X))` and `add(neg(X), X)` are ∞, for all canonical triples. -/
theorem add_neg (cX : CanonT X) :
    OptBls.is_inf (OptBls.add X (OptBls.neg X)) = true ∧ OptBls.is_inf (OptBls.add (OptBls.neg X) X) = true := by
  classical exact Transfer.Bls.via_add_neg (K := K12) goodHom_F12 k2 cX

/-- optimized BLS12-381, `E(Fp¹²)`, closure: `add`, `double`, `neg`, `multiply(·, n)` map canonical on-curve triples to
    canonical on-curve triples; `(1, 1, 0)` is canonical and on the curve. -/
theorem closed (cX : CanonT X) (cY : CanonT Y) (hX : OptBls.is_on_curve X (blsB12 .opt) = true)
    (hY : OptBls.is_on_curve Y (blsB12 .opt) = true) (n : ℕ) :
    (CanonT (OptBls.add X Y) ∧ OptBls.is_on_curve (OptBls.add X Y) (blsB12 .opt) = true)
      ∧ (CanonT (OptBls.double X) ∧ OptBls.is_on_curve (OptBls.double X) (blsB12 .opt) = true)
      ∧ (CanonT (OptBls.neg X) ∧ OptBls.is_on_curve (OptBls.neg X) (blsB12 .opt) = true)
      ∧ (CanonT (OptBls.multiply X n) ∧ OptBls.is_on_curve (OptBls.multiply X n) (blsB12 .opt) = true)
      ∧ (CanonT (((1 : F12 .opt), (1 : F12 .opt), (0 : F12 .opt)))
          ∧ OptBls.is_on_curve (((1 : F12 .opt), (1 : F12 .opt), (0 : F12 .opt))) (blsB12 .opt) = true) := by
  classical
  have k := (curveF12 .opt).closed cX cY hX hY n
  exact ⟨k.1, k.2.1, k.2.2.1, k.2.2.2, (Transfer.Bls.good_Z (B := K12) (goodHom_F12 (v := .opt))).1, rfl⟩

/-- optimized BLS12-381, `E(Fp¹²)`: `add(X, X)` is `eq` to `double(X)`, for all canonical triples. -/
theorem add_self (cX : CanonT X) : OptBls.eq (OptBls.add X X) (OptBls.double X) = true := by
  classical exact Transfer.Bls.via_add_self_eq (K := K12) goodHom_F12 cX

/-- optimized BLS12-381, `E(Fp¹²)`: `multiply` is additive in the scalar, `multiply(X, m + n)` is `eq` to
    `add(multiply(X, m), multiply(X, n))`. -/
theorem multiply_add (cX : CanonT X) (hX : OptBls.is_on_curve X (blsB12 .opt) = true) (m n : ℕ) :
    OptBls.eq (OptBls.multiply X (m + n)) (OptBls.add (OptBls.multiply X m) (OptBls.multiply X n)) = true := by
  classical exact (curveF12 .opt).multiply_add_eq cX hX m n

/-- optimized BLS12-381, `E(Fp¹²)`: `multiply(multiply(X, m), n)` is `eq` to `multiply(X, m * n)`. -/
theorem multiply_mul (cX : CanonT X) (hX : OptBls.is_on_curve X (blsB12 .opt) = true) (m n : ℕ) :
    OptBls.eq (OptBls.multiply (OptBls.multiply X m) n) (OptBls.multiply X (m * n)) = true := by
  classical exact (curveF12 .opt).multiply_mul_eq cX hX m n

/-- optimized BLS12-381, `E(Fp¹²)`: scalars act modulo any `r` with `multiply(X, r) = ∞`. -/
theorem multiply_mod (cX : CanonT X) (hX : OptBls.is_on_curve X (blsB12 .opt) = true) (r : ℕ)
    (hr : OptBls.is_inf (OptBls.multiply X r) = true) (n : ℕ) :
    OptBls.eq (OptBls.multiply X n) (OptBls.multiply X (n % r)) = true := by
  classical exact (curveF12 .opt).multiply_mod_eq cX hX r hr n

/-- optimized BLS12-381, `E(Fp¹²)`: `multiply(neg(X), n)` is `eq` to `neg(multiply(X, n))`. -/
theorem multiply_neg (cX : CanonT X) (hX : OptBls.is_on_curve X (blsB12 .opt) = true) (n : ℕ) :
    OptBls.eq (OptBls.multiply (OptBls.neg X) n) (OptBls.neg (OptBls.multiply X n)) = true := by
  classical exact (curveF12 .opt).multiply_neg_eq cX hX n

/-- optimized BLS12-381, `E(Fp¹²)`: `eq` is an equivalence relation on canonical triples, and `add`, `multiply` respect it. -/
theorem eq_congr (cX : CanonT X) (cY : CanonT Y) (cZ : CanonT Z) (cX' : CanonT X') (cY' : CanonT Y') :
    OptBls.eq X X = true ∧ (OptBls.eq X Y = true → OptBls.eq Y X = true)
      ∧ (OptBls.eq X Y = true → OptBls.eq Y Z = true → OptBls.eq X Z = true)
      ∧ (OptBls.eq X X' = true → OptBls.eq Y Y' = true → OptBls.eq (OptBls.add X Y) (OptBls.add X' Y') = true)
      ∧ (OptBls.eq X X' = true → ∀ n : ℕ, OptBls.eq (OptBls.multiply X n) (OptBls.multiply X' n) = true) := by
  classical
  obtain ⟨e1, e2, e3⟩ := Transfer.Bls.via_eq_equiv (K := K12) goodHom_F12 cX cY cZ
  exact ⟨e1, e2, e3, Transfer.Bls.via_add_congr (K := K12) goodHom_F12 k2 cX cX' cY cY',
    fun e n => Transfer.Bls.via_multiply_congr (K := K12) goodHom_F12 k2 cX cX' e n⟩

/-- non-vacuity: the module constant `G12` (= `twist(G2)`) is canonical and on `y² = x³ + b12` -/
theorem G12_ok : CanonT blsG12 ∧ OptBls.is_on_curve blsG12 (blsB12 .opt) = true := by
  rw [blsG12, ← C07.Consts.bls_G12_opt.1]
  exact ⟨twist_opt_canon _, twist_opt_on_curve (by decide +kernel) C07.Facts.bls_G2_opt.1⟩

example : OptBls.eq (OptBls.add (OptBls.add blsG12 (OptBls.double blsG12)) (OptBls.neg blsG12))
    (OptBls.add blsG12 (OptBls.add (OptBls.double blsG12) (OptBls.neg blsG12))) = true :=
  have k := closed G12_ok.1 G12_ok.1 G12_ok.2 G12_ok.2 0
  add_assoc G12_ok.1 k.2.1.1 k.2.2.1.1 G12_ok.2 k.2.1.2 k.2.2.1.2

end
end OptBls12

/-! ## reference BLS12-381: laws for canonical on-curve `FQ12` points -/

namespace RefBls12
section
variable {p q r : Option (F12 .ref × F12 .ref)}

/-- reference BLS12-381, `E(Fp¹²)`, commutativity: `add(p, q)` and `add(q, p)` return the same value. -/
theorem add_comm (cp : CanonO p) (cq : CanonO q) (hp : RefBls.is_on_curve p (blsB12 .ref) = true)
    (hq : RefBls.is_on_curve q (blsB12 .ref) = true) : RefBls.add p q = RefBls.add q p := by
  classical exact (curveF12 .ref).ref_add_comm cp cq hp hq

/-- reference BLS12-381, `E(Fp¹²)`, associativity: `add(add(p, q), r) = add(p, add(q, r))` (both sides evaluated in the
    exception monad; by `closed` neither raises). -/
theorem add_assoc (cp : CanonO p) (cq : CanonO q) (cr : CanonO r)
    (hp : RefBls.is_on_curve p (blsB12 .ref) = true) (hq : RefBls.is_on_curve q (blsB12 .ref) = true)
    (hr : RefBls.is_on_curve r (blsB12 .ref) = true) :
    (RefBls.add p q >>= fun s => RefBls.add s r) = (RefBls.add q r >>= fun t => RefBls.add p t) := by
  classical exact (curveF12 .ref).ref_add_assoc cp cq cr hp hq hr

/-- reference BLS12-381, `E(Fp¹²)`, identity: `add(p, None) = p` and `add(None, p) = p`, for every `p`. -/
theorem add_zero (p : Option (F12 .ref × F12 .ref)) :
    RefBls.add p none = .ok p ∧ RefBls.add none p = .ok p := Transfer.BlsRef.any_add_zero p

/-- reference BLS12-381, `E(Fp¹²)`, inverse: `add(p, neg(p)) = None` and `add(neg(p), p) = None`. -/
theorem add_neg (cp : CanonO p) (hp : RefBls.is_on_curve p (blsB12 .ref) = true) :
    RefBls.add p (RefBls.neg p) = .ok none ∧ RefBls.add (RefBls.neg p) p = .ok none := by
  classical exact (curveF12 .ref).ref_add_neg cp hp

/-- reference BLS12-381, `E(Fp¹²)`, closure and totality: on canonical on-curve points `add` and `multiply(·, n)` (every
    `n`) do not raise, and the results of `add`, `double`, `neg`, `multiply` are canonical and on the curve. -/
theorem closed (cp : CanonO p) (cq : CanonO q) (hp : RefBls.is_on_curve p (blsB12 .ref) = true)
    (hq : RefBls.is_on_curve q (blsB12 .ref) = true) (n : ℕ) :
    (∃ s, RefBls.add p q = .ok s ∧ CanonO s ∧ RefBls.is_on_curve s (blsB12 .ref) = true)
      ∧ (CanonO (RefBls.double p) ∧ RefBls.is_on_curve (RefBls.double p) (blsB12 .ref) = true)
      ∧ (CanonO (RefBls.neg p) ∧ RefBls.is_on_curve (RefBls.neg p) (blsB12 .ref) = true)
      ∧ (∃ s, RefBls.multiply p n = .ok s ∧ CanonO s ∧ RefBls.is_on_curve s (blsB12 .ref) = true) := by
  classical
  exact (curveF12 .ref).ref_closed cp cq hp hq n

/-- reference BLS12-381, `E(Fp¹²)`: `add(p, p) = double(p)`, for every `p`. -/
theorem add_self (p : Option (F12 .ref × F12 .ref)) : RefBls.add p p = .ok (RefBls.double p) :=
  Transfer.BlsRef.any_add_self p

/-- reference BLS12-381, `E(Fp¹²)`: `multiply(p, m + n) = add(multiply(p, m), multiply(p, n))`. -/
theorem multiply_add (cp : CanonO p) (hp : RefBls.is_on_curve p (blsB12 .ref) = true) (m n : ℕ) :
    RefBls.multiply p (m + n)
      = (RefBls.multiply p m >>= fun s => RefBls.multiply p n >>= fun t => RefBls.add s t) := by
  classical exact (curveF12 .ref).ref_multiply_add cp hp m n

/-- reference BLS12-381, `E(Fp¹²)`: `multiply(multiply(p, m), n) = multiply(p, m * n)`. -/
theorem multiply_mul (cp : CanonO p) (hp : RefBls.is_on_curve p (blsB12 .ref) = true) (m n : ℕ) :
    (RefBls.multiply p m >>= fun s => RefBls.multiply s n) = RefBls.multiply p (m * n) := by
  classical exact (curveF12 .ref).ref_multiply_mul cp hp m n

/-- reference BLS12-381, `E(Fp¹²)`: scalars act modulo any `k` with `multiply(p, k) = None`. -/
theorem multiply_mod (cp : CanonO p) (hp : RefBls.is_on_curve p (blsB12 .ref) = true) (k : ℕ)
    (hk : RefBls.multiply p k = .ok none) (n : ℕ) : RefBls.multiply p n = RefBls.multiply p (n % k) := by
  classical exact (curveF12 .ref).ref_multiply_mod cp hp k hk n

/-- reference BLS12-381, `E(Fp¹²)`: `multiply(neg(p), n) = neg(multiply(p, n))`. -/
theorem multiply_neg (cp : CanonO p) (hp : RefBls.is_on_curve p (blsB12 .ref) = true) (n : ℕ) :
    RefBls.multiply (RefBls.neg p) n = (RefBls.multiply p n).map RefBls.neg := by
  classical exact (curveF12 .ref).ref_multiply_neg cp hp n

/-- reference BLS12-381, `E(Fp¹²)`: `multiply(p, 0) = None`, `multiply(p, 1) = p`, `multiply(p, 2) = double(p)`, every `p`. -/
theorem multiply_small (p : Option (F12 .ref × F12 .ref)) :
    RefBls.multiply p 0 = .ok none ∧ RefBls.multiply p 1 = .ok p ∧ RefBls.multiply p 2 = .ok (RefBls.double p) :=
  Transfer.BlsRef.any_multiply_small p

/-- non-vacuity: the module constant `G12` (= `twist(G2)`) is canonical and on `y² = x³ + b12` -/
theorem G12_ok : CanonO blsG12ref ∧ RefBls.is_on_curve blsG12ref (blsB12 .ref) = true := by
  rw [blsG12ref, ← C07.Consts.bls_G12_ref.1]
  exact ⟨twist_ref_canon _, twist_ref_on_curve (by decide +kernel) C07.Facts.bls_G2_ref.1⟩

example : (RefBls.add blsG12ref (RefBls.double blsG12ref) >>= fun s => RefBls.add s (RefBls.neg blsG12ref))
    = (RefBls.add (RefBls.double blsG12ref) (RefBls.neg blsG12ref) >>= fun t => RefBls.add blsG12ref t) :=
  have k := closed G12_ok.1 G12_ok.1 G12_ok.2 G12_ok.2 0
  add_assoc G12_ok.1 k.2.1.1 k.2.2.1.1 G12_ok.2 k.2.1.2 k.2.2.1.2

end
end RefBls12

/-! ## optimized bn128: laws for canonical on-curve `FQ12` triples -/

namespace OptBn12
section
variable {X Y Z X' Y' : F12bn .opt × F12bn .opt × F12bn .opt}

private theorem k2 : (2 : K12bn) ≠ 0 := (k12bn_field_ok .opt).1

/-- optimized bn128, `E(Fp¹²)`, commutativity: `add(X, Y)` and `add(Y, X)` are `eq`. -/
theorem add_comm (cX : CanonT X) (cY : CanonT Y) (hX : OptBn.is_on_curve X (bnB12 .opt) = true)
    (hY : OptBn.is_on_curve Y (bnB12 .opt) = true) :
    OptBn.eq (OptBn.add X Y) (OptBn.add Y X) = true := by
  classical
  rw [OptBn.add_eq]
  exact (curveF12bn .opt).add_comm_eq cX cY hX hY

/-- optimized bn128, `E(Fp¹²)`, associativity: `add(add(X, Y), Z)` and `add(X, add(Y, Z))` are `eq` (every
    degenerate configuration — ∞, doubling, inverse points — included). -/
theorem add_assoc (cX : CanonT X) (cY : CanonT Y) (cZ : CanonT Z)
    (hX : OptBn.is_on_curve X (bnB12 .opt) = true) (hY : OptBn.is_on_curve Y (bnB12 .opt) = true)
    (hZ : OptBn.is_on_curve Z (bnB12 .opt) = true) :
    OptBn.eq (OptBn.add (OptBn.add X Y) Z) (OptBn.add X (OptBn.add Y Z)) = true := by
  classical
  rw [OptBn.add_eq]
  exact (curveF12bn .opt).add_assoc_eq cX cY cZ hX hY hZ

/-- optimized bn128, `E(Fp¹²)`, identity: any canonical `z = 0` triple (e.g. `Z = (1, 1, 0)`) is neutral on both sides,
    for all canonical triples `X` (on the curve or not). -/
theorem add_zero (cX : CanonT X) (cZ : CanonT Z) (hZ : Z.2.2 = 0) :
    OptBn.eq (OptBn.add X Z) X = true ∧ OptBn.eq (OptBn.add Z X) X = true := by
  classical
  rw [OptBn.add_eq]
  exact Transfer.Bls.via_add_zero_eq (K := K12bn) goodHom_F12bn cX cZ hZ

/-- optimized bn128, `E(Fp¹²)`, inverse: `add(X, neg(X))` and `add(neg(X), X)` are ∞, for all canonical triples. -/
theorem add_neg (cX : CanonT X) :
    OptBn.is_inf (OptBn.add X (OptBn.neg X)) = true ∧ OptBn.is_inf (OptBn.add (OptBn.neg X) X) = true := by
  classical
  rw [OptBn.add_eq, OptBn.neg_eq]
  exact Transfer.Bls.via_add_neg (K := K12bn) goodHom_F12bn k2 cX

/-- optimized bn128, `E(Fp¹²)`, closure: `add`, `double`, `neg`, `multiply(·, n)` map canonical on-curve triples to
    canonical on-curve triples; `(1, 1, 0)` is canonical and on the curve. -/
theorem closed (cX : CanonT X) (cY : CanonT Y) (hX : OptBn.is_on_curve X (bnB12 .opt) = true)
    (hY : OptBn.is_on_curve Y (bnB12 .opt) = true) (n : ℕ) :
    (CanonT (OptBn.add X Y) ∧ OptBn.is_on_curve (OptBn.add X Y) (bnB12 .opt) = true)
      ∧ (CanonT (OptBn.double X) ∧ OptBn.is_on_curve (OptBn.double X) (bnB12 .opt) = true)
      ∧ (CanonT (OptBn.neg X) ∧ OptBn.is_on_curve (OptBn.neg X) (bnB12 .opt) = true)
      ∧ (CanonT (OptBn.multiply X n) ∧ OptBn.is_on_curve (OptBn.multiply X n) (bnB12 .opt) = true)
      ∧ (CanonT (((1 : F12bn .opt), (1 : F12bn .opt), (0 : F12bn .opt)))
          ∧ OptBn.is_on_curve (((1 : F12bn .opt), (1 : F12bn .opt), (0 : F12bn .opt))) (bnB12 .opt) = true) := by
  classical
  rw [OptBn.add_eq, OptBn.double_eq, OptBn.neg_eq, OptBn.multiply_eq]
  have k := (curveF12bn .opt).closed cX cY hX hY n
  exact ⟨k.1, k.2.1, k.2.2.1, k.2.2.2, (Transfer.Bls.good_Z (B := K12bn) (goodHom_F12bn (v := .opt))).1, rfl⟩

/-- optimized bn128, `E(Fp¹²)`: `add(X, X)` is `eq` to `double(X)`, for all canonical triples. -/
theorem add_self (cX : CanonT X) : OptBn.eq (OptBn.add X X) (OptBn.double X) = true := by
  classical
  rw [OptBn.add_eq, OptBn.double_eq]
  exact Transfer.Bls.via_add_self_eq (K := K12bn) goodHom_F12bn cX

/-- optimized bn128, `E(Fp¹²)`: `multiply` is additive in the scalar, `multiply(X, m + n)` is `eq` to
    `add(multiply(X, m), multiply(X, n))`. -/
theorem multiply_add (cX : CanonT X) (hX : OptBn.is_on_curve X (bnB12 .opt) = true) (m n : ℕ) :
    OptBn.eq (OptBn.multiply X (m + n)) (OptBn.add (OptBn.multiply X m) (OptBn.multiply X n)) = true := by
  classical
  rw [OptBn.multiply_eq, OptBn.add_eq]
  exact (curveF12bn .opt).multiply_add_eq cX hX m n

/-- optimized bn128, `E(Fp¹²)`: `multiply(multiply(X, m), n)` is `eq` to `multiply(X, m * n)`. -/
theorem multiply_mul (cX : CanonT X) (hX : OptBn.is_on_curve X (bnB12 .opt) = true) (m n : ℕ) :
    OptBn.eq (OptBn.multiply (OptBn.multiply X m) n) (OptBn.multiply X (m * n)) = true := by
  classical
  rw [OptBn.multiply_eq]
  exact (curveF12bn .opt).multiply_mul_eq cX hX m n

/-- optimized bn128, `E(Fp¹²)`: scalars act modulo any `r` with `multiply(X, r) = ∞`. -/
theorem multiply_mod (cX : CanonT X) (hX : OptBn.is_on_curve X (bnB12 .opt) = true) (r : ℕ)
    (hr : OptBn.is_inf (OptBn.multiply X r) = true) (n : ℕ) :
    OptBn.eq (OptBn.multiply X n) (OptBn.multiply X (n % r)) = true := by
  classical
  rw [OptBn.multiply_eq] at hr ⊢
  exact (curveF12bn .opt).multiply_mod_eq cX hX r hr n

/-- optimized bn128, `E(Fp¹²)`: `multiply(neg(X), n)` is `eq` to `neg(multiply(X, n))`. -/
theorem multiply_neg (cX : CanonT X) (hX : OptBn.is_on_curve X (bnB12 .opt) = true) (n : ℕ) :
    OptBn.eq (OptBn.multiply (OptBn.neg X) n) (OptBn.neg (OptBn.multiply X n)) = true := by
  classical
  rw [OptBn.multiply_eq, OptBn.neg_eq]
  exact (curveF12bn .opt).multiply_neg_eq cX hX n

/-- optimized bn128, `E(Fp¹²)`: `eq` is an equivalence relation on canonical triples, and `add`, `multiply` respect it. -/
theorem eq_congr (cX : CanonT X) (cY : CanonT Y) (cZ : CanonT Z) (cX' : CanonT X') (cY' : CanonT Y') :
    OptBn.eq X X = true ∧ (OptBn.eq X Y = true → OptBn.eq Y X = true)
      ∧ (OptBn.eq X Y = true → OptBn.eq Y Z = true → OptBn.eq X Z = true)
      ∧ (OptBn.eq X X' = true → OptBn.eq Y Y' = true → OptBn.eq (OptBn.add X Y) (OptBn.add X' Y') = true)
      ∧ (OptBn.eq X X' = true → ∀ n : ℕ, OptBn.eq (OptBn.multiply X n) (OptBn.multiply X' n) = true) := by
  classical
  rw [OptBn.add_eq, OptBn.multiply_eq]
  obtain ⟨e1, e2, e3⟩ := Transfer.Bls.via_eq_equiv (K := K12bn) goodHom_F12bn cX cY cZ
  exact ⟨e1, e2, e3, Transfer.Bls.via_add_congr (K := K12bn) goodHom_F12bn k2 cX cX' cY cY',
    fun e n => Transfer.Bls.via_multiply_congr (K := K12bn) goodHom_F12bn k2 cX cX' e n⟩

/-- non-vacuity: the module constant `G12` (= `twist(G2)`) is canonical and on `y² = x³ + b12` -/
theorem G12_ok : CanonT bnG12 ∧ OptBn.is_on_curve bnG12 (bnB12 .opt) = true := by
  rw [bnG12, ← C07.Consts.bn_G12.2.2.1]
  exact ⟨Bn.twist_opt_canon _, Bn.twist_opt_on_curve (by decide +kernel) C07.Facts.bn_G2_opt.1⟩

example : OptBn.eq (OptBn.add (OptBn.add bnG12 (OptBn.double bnG12)) (OptBn.neg bnG12))
    (OptBn.add bnG12 (OptBn.add (OptBn.double bnG12) (OptBn.neg bnG12))) = true :=
  have k := closed G12_ok.1 G12_ok.1 G12_ok.2 G12_ok.2 0
  add_assoc G12_ok.1 k.2.1.1 k.2.2.1.1 G12_ok.2 k.2.1.2 k.2.2.1.2

end
end OptBn12

/-! ## reference bn128: laws for canonical on-curve `FQ12` points -/

namespace RefBn12
section
variable {p q r : Option (F12bn .ref × F12bn .ref)}

/-- reference bn128, `E(Fp¹²)`, commutativity: `add(p, q)` and `add(q, p)` return the same value. -/
theorem add_comm (cp : CanonO p) (cq : CanonO q) (hp : RefBn.is_on_curve p (bnB12 .ref) = true)
    (hq : RefBn.is_on_curve q (bnB12 .ref) = true) : RefBn.add p q = RefBn.add q p := by
  classical
  rw [RefBn.add_eq]
  exact (curveF12bn .ref).ref_add_comm cp cq hp hq

/-- reference bn128, `E(Fp¹²)`, associativity: `add(add(p, q), r) = add(p, add(q, r))` (both sides evaluated in the
    exception monad; by `closed` neither raises). -/
theorem add_assoc (cp : CanonO p) (cq : CanonO q) (cr : CanonO r)
    (hp : RefBn.is_on_curve p (bnB12 .ref) = true) (hq : RefBn.is_on_curve q (bnB12 .ref) = true)
    (hr : RefBn.is_on_curve r (bnB12 .ref) = true) :
    (RefBn.add p q >>= fun s => RefBn.add s r) = (RefBn.add q r >>= fun t => RefBn.add p t) := by
  classical
  rw [RefBn.add_eq]
  exact (curveF12bn .ref).ref_add_assoc cp cq cr hp hq hr

/-- reference bn128, `E(Fp¹²)`, identity: `add(p, None) = p` and `add(None, p) = p`, for every `p`. -/
theorem add_zero (p : Option (F12bn .ref × F12bn .ref)) :
    RefBn.add p none = .ok p ∧ RefBn.add none p = .ok p := Transfer.BlsRef.any_add_zero p

/-- reference bn128, `E(Fp¹²)`, inverse: `add(p, neg(p)) = None` and `add(neg(p), p) = None`. -/
theorem add_neg (cp : CanonO p) (hp : RefBn.is_on_curve p (bnB12 .ref) = true) :
    RefBn.add p (RefBn.neg p) = .ok none ∧ RefBn.add (RefBn.neg p) p = .ok none := by
  classical
  rw [RefBn.add_eq, RefBn.neg_eq]
  exact (curveF12bn .ref).ref_add_neg cp hp

/-- reference bn128, `E(Fp¹²)`, closure and totality: on canonical on-curve points `add` and `multiply(·, n)` (every
    `n`) do not raise, and the results of `add`, `double`, `neg`, `multiply` are canonical and on the curve. -/
theorem closed (cp : CanonO p) (cq : CanonO q) (hp : RefBn.is_on_curve p (bnB12 .ref) = true)
    (hq : RefBn.is_on_curve q (bnB12 .ref) = true) (n : ℕ) :
    (∃ s, RefBn.add p q = .ok s ∧ CanonO s ∧ RefBn.is_on_curve s (bnB12 .ref) = true)
      ∧ (CanonO (RefBn.double p) ∧ RefBn.is_on_curve (RefBn.double p) (bnB12 .ref) = true)
      ∧ (CanonO (RefBn.neg p) ∧ RefBn.is_on_curve (RefBn.neg p) (bnB12 .ref) = true)
      ∧ (∃ s, RefBn.multiply p n = .ok s ∧ CanonO s ∧ RefBn.is_on_curve s (bnB12 .ref) = true) := by
  classical
  rw [RefBn.add_eq, RefBn.double_eq, RefBn.neg_eq, RefBn.multiply_eq]
  exact (curveF12bn .ref).ref_closed cp cq hp hq n

/-- reference bn128, `E(Fp¹²)`: `add(p, p) = double(p)`, for every `p`. -/
theorem add_self (p : Option (F12bn .ref × F12bn .ref)) : RefBn.add p p = .ok (RefBn.double p) :=
  Transfer.BlsRef.any_add_self p

/-- reference bn128, `E(Fp¹²)`: `multiply(p, m + n) = add(multiply(p, m), multiply(p, n))`. -/
theorem multiply_add (cp : CanonO p) (hp : RefBn.is_on_curve p (bnB12 .ref) = true) (m n : ℕ) :
    RefBn.multiply p (m + n)
      = (RefBn.multiply p m >>= fun s => RefBn.multiply p n >>= fun t => RefBn.add s t) := by
  classical
  rw [RefBn.multiply_eq]
  exact (curveF12bn .ref).ref_multiply_add cp hp m n

/-- reference bn128, `E(Fp¹²)`: `multiply(multiply(p, m), n) = multiply(p, m * n)`. -/
theorem multiply_mul (cp : CanonO p) (hp : RefBn.is_on_curve p (bnB12 .ref) = true) (m n : ℕ) :
    (RefBn.multiply p m >>= fun s => RefBn.multiply s n) = RefBn.multiply p (m * n) := by
  classical
  rw [RefBn.multiply_eq]
  exact (curveF12bn .ref).ref_multiply_mul cp hp m n

/-- reference bn128, `E(Fp¹²)`: scalars act modulo any `k` with `multiply(p, k) = None`. -/
theorem multiply_mod (cp : CanonO p) (hp : RefBn.is_on_curve p (bnB12 .ref) = true) (k : ℕ)
    (hk : RefBn.multiply p k = .ok none) (n : ℕ) : RefBn.multiply p n = RefBn.multiply p (n % k) := by
  classical
  rw [RefBn.multiply_eq] at hk ⊢
  exact (curveF12bn .ref).ref_multiply_mod cp hp k hk n

/-- reference bn128, `E(Fp¹²)`: `multiply(neg(p), n) = neg(multiply(p, n))`. -/
theorem multiply_neg (cp : CanonO p) (hp : RefBn.is_on_curve p (bnB12 .ref) = true) (n : ℕ) :
    RefBn.multiply (RefBn.neg p) n = (RefBn.multiply p n).map RefBn.neg := by
  classical
  rw [RefBn.multiply_eq, RefBn.neg_eq]
  exact (curveF12bn .ref).ref_multiply_neg cp hp n

/-- reference bn128, `E(Fp¹²)`: `multiply(p, 0) = None`, `multiply(p, 1) = p`, `multiply(p, 2) = double(p)`, every `p`. -/
theorem multiply_small (p : Option (F12bn .ref × F12bn .ref)) :
    RefBn.multiply p 0 = .ok none ∧ RefBn.multiply p 1 = .ok p ∧ RefBn.multiply p 2 = .ok (RefBn.double p) :=
  RefBn.multiply_eq ▸ Transfer.BlsRef.any_multiply_small p

/-- non-vacuity: the module constant `G12` (= `twist(G2)`) is canonical and on `y² = x³ + b12` -/
theorem G12_ok : CanonO bnG12ref ∧ RefBn.is_on_curve bnG12ref (bnB12 .ref) = true := by
  rw [bnG12ref, ← C07.Consts.bn_G12.1]
  exact ⟨Bn.twist_ref_canon _, Bn.twist_ref_on_curve (by decide +kernel) C07.Facts.bn_G2_ref.1⟩

example : (RefBn.add bnG12ref (RefBn.double bnG12ref) >>= fun s => RefBn.add s (RefBn.neg bnG12ref))
    = (RefBn.add (RefBn.double bnG12ref) (RefBn.neg bnG12ref) >>= fun t => RefBn.add bnG12ref t) :=
  have k := closed G12_ok.1 G12_ok.1 G12_ok.2 G12_ok.2 0
  add_assoc G12_ok.1 k.2.1.1 k.2.2.1.1 G12_ok.2 k.2.1.2 k.2.2.1.2

end
end RefBn12

end PyEcc.C07T
