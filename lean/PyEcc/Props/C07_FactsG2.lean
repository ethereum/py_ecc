/-
  Property C07 — concrete facts about the real curves (G2 part): the GENERATED curve code at the executable
  model type of `FQ2` (`Fqp v p [1, 0]`, the modelled Python arithmetic), by kernel evaluation; the scalar
  multiples `curve_order · G2` are evaluated on coefficient pairs, whose arithmetic is the model's
  (`Lemmas/FastFq2.lean`, `Gi.goodHom_toF`).
-/
import PyEcc.Lemmas.FastFq2
import PyEcc.Lemmas.TwinModules

namespace PyEcc.C07.Facts
open PyEcc.CurveSem PyEcc.Gen.Consts

/-! ### bn128 — G2 over the modelled `FQ2` -/

/-- the module constant `G2` of `optimized_bn128` passes `is_on_curve(G2, b2)`, is not ∞, and
    `multiply(G2, curve_order)` is ∞ (`z = 0`) — in the modelled `FQ2` arithmetic -/
theorem bn_G2_opt :
    Gen.OptBn.is_on_curve (ptOpt2 .opt bnP bnMc2 optimized_bn128_G2) ⟨optimized_bn128_b2⟩ = true
      ∧ Gen.OptBn.is_inf (ptOpt2 .opt bnP bnMc2 optimized_bn128_G2) = false
      ∧ Gen.OptBn.is_inf (Gen.OptBn.multiply (ptOpt2 .opt bnP bnMc2 optimized_bn128_G2)
          optimized_bn128_curve_order) = true := by
  rw [Gen.OptBn.is_on_curve_eq, Gen.OptBn.is_inf_eq, Gen.OptBn.multiply_eq]
  exact Transfer.CycFacts.of_fast (by decide) (by rfl) (by decide +kernel)

/-- the module constant `G2` of the reference module `bn128` passes `is_on_curve(G2, b2)`, and is
    the same affine point as the optimized module's `G2` -/
theorem bn_G2_ref :
    Gen.RefBn.is_on_curve (ptRef2 .ref bnP bnMc2 bn128_G2) ⟨bn128_b2⟩ = true
      ∧ bn128_b2 = optimized_bn128_b2
      ∧ optimized_bn128_G2 = bn128_G2 ++ [1 :: List.replicate 1 0] := by
  decide +kernel

/-! ### BLS12-381 — G2 over the modelled `FQ2` -/

/-- the module constant `G2` of `optimized_bls12_381` passes `is_on_curve(G2, b2)`, is not ∞, and
    `multiply(G2, curve_order)` is ∞ (`z = 0`) — in the modelled `FQ2` arithmetic -/
theorem bls_G2_opt :
    Gen.OptBls.is_on_curve (ptOpt2 .opt blsP blsMc2 optimized_bls12_381_G2) ⟨optimized_bls12_381_b2⟩ = true
      ∧ Gen.OptBls.is_inf (ptOpt2 .opt blsP blsMc2 optimized_bls12_381_G2) = false
      ∧ Gen.OptBls.is_inf (Gen.OptBls.multiply (ptOpt2 .opt blsP blsMc2 optimized_bls12_381_G2)
          optimized_bls12_381_curve_order) = true :=
  Transfer.CycFacts.of_fast (by decide) (by rfl) (by decide +kernel)

/-- the module constant `G2` of the reference module `bls12_381` passes `is_on_curve(G2, b2)`, and is
    the same affine point as the optimized module's `G2` -/
theorem bls_G2_ref :
    Gen.RefBls.is_on_curve (ptRef2 .ref blsP blsMc2 bls12_381_G2) ⟨bls12_381_b2⟩ = true
      ∧ bls12_381_b2 = optimized_bls12_381_b2
      ∧ optimized_bls12_381_G2 = bls12_381_G2 ++ [1 :: List.replicate 1 0] := by
  decide +kernel

/-- the executable model's typed constants are these points -/
theorem bls_G2_model : blsG2 = ptOpt2 .opt blsP blsMc2 optimized_bls12_381_G2 ∧ blsB2 = ⟨optimized_bls12_381_b2⟩
    ∧ blsR = optimized_bls12_381_curve_order := ⟨rfl, rfl, rfl⟩

end PyEcc.C07.Facts
