/-
  PyEcc.Props.C20 — public functions are pure: no mutation of inputs/constants, history-independent.

  Three legs (DESIGN §6 C20):
   1. the executable model answers every call by a pure function of that call alone
      (`answerAll_append`, `answer_history_free`) — the correspondence harness then compares the REAL
      library, run through random interleavings, with this provably history-free model;
   2. `all_clean`: the write-effect summary of EVERY function of py_ecc, regenerated from the source on
      every run (`Gen/Effects.lean`), contains only clean targets;
   3. `clean_pure`: in any heap semantics that respects the summaries (frame condition) and in which results
      depend only on arguments and protected state, clean programs leave module constants and arguments
      unchanged after ANY history of calls and answer every call as in the initial state.
  Core Lean only.
-/
import PyEcc.Gen.Effects
import Driver

namespace PyEcc.C20
open PyEcc.Effects

/-- Every function and method of py_ecc writes only to objects it created itself, to the object under
    construction in `__init__`, or to a sanctioned memo slot (cached_property / lazy import).  A change that
    introduces `TABLE.reverse()`, `exptable[0] = …`, a module-level cache, a class-attribute write or an
    in-place mutation of an argument makes this theorem fail. -/
theorem all_clean : allClean PyEcc.Gen.Effects.effects = true := by decide +kernel

/-- no function is reported dirty (same fact, in the form the check prints) -/
theorem no_dirty_function : dirty PyEcc.Gen.Effects.effects = [] := by
  simpa [dirty, allClean] using all_clean

/-- the summary really covers the library: more than 200 functions, among them the public entry points -/
theorem summary_covers :
    200 ≤ PyEcc.Gen.Effects.effects.length ∧
    (PyEcc.Gen.Effects.effects.map (·.name)).contains "py_ecc/bls/ciphersuites.py::BaseG2Ciphersuite._CoreVerify" = true ∧
    (PyEcc.Gen.Effects.effects.map (·.name)).contains "py_ecc/optimized_bls12_381/optimized_pairing.py::miller_loop" = true ∧
    (PyEcc.Gen.Effects.effects.map (·.name)).contains "py_ecc/fields/optimized_field_elements.py::FQP.__mul__" = true ∧
    (PyEcc.Gen.Effects.effects.map (·.name)).contains "py_ecc/secp256k1/secp256k1.py::ecdsa_raw_recover" = true := by
  refine ⟨by decide +kernel, ?_, ?_, ?_, ?_⟩
  -- Each name is found by the constructors of `List.Mem`, where unification compares string literals as
  -- literals; evaluating `contains` in the kernel would encode every name of the table as UTF-8 bytes first.
  all_goals
    rw [List.contains_iff_mem]
    repeat constructor

/-! ### heap semantics in which the summaries are interpreted -/

/-- A heap semantics for the library.  `Protected` marks the locations the property talks about: module-level
    constants and everything reachable from the arguments of a public call.  The two fields `frame` and `det`
    are HYPOTHESES about the semantics (they are what the syntactic analysis claims and what the history harness
    cross-examines on the real interpreter) — they are arguments of the theorem, not axioms. -/
structure Sem (Loc Val Arg Res : Type) where
  Protected : Loc → Prop
  run : FnEffect → (Loc → Val) → Arg → (Loc → Val) × Res
  /-- a clean function leaves every protected location as it found it -/
  frame : ∀ f σ a l, f.clean = true → Protected l → (run f σ a).1 l = σ l
  /-- results depend only on the arguments and the protected part of the heap (memo slots are transparent) -/
  det : ∀ f σ σ' a, (∀ l, Protected l → σ l = σ' l) → (run f σ a).2 = (run f σ' a).2

variable {Loc Val Arg Res : Type}

def Sem.exec (S : Sem Loc Val Arg Res) : (Loc → Val) → List (FnEffect × Arg) → (Loc → Val)
  | σ, [] => σ
  | σ, (f, a) :: h => S.exec (S.run f σ a).1 h

/-- after ANY history of calls to clean functions, module constants and arguments are unchanged -/
theorem exec_preserves (S : Sem Loc Val Arg Res) (h : List (FnEffect × Arg)) (σ : Loc → Val)
    (hc : ∀ fa ∈ h, fa.1.clean = true) : ∀ l, S.Protected l → S.exec σ h l = σ l := by
  induction h generalizing σ with
  | nil => intro l _; rfl
  | cons fa h ih =>
    intro l hl
    obtain ⟨f, a⟩ := fa
    have hf : f.clean = true := hc (f, a) (by simp)
    have := ih (S.run f σ a).1 (fun x hx => hc x (by simp [hx])) l hl
    simp only [Sem.exec]
    rw [this]
    exact S.frame f σ a l hf hl

/-- **History independence.** If every function of the program is clean, then after any interleaving of other
    calls a call returns exactly what it returns in the initial state, and no protected location has changed. -/
theorem clean_pure (S : Sem Loc Val Arg Res) (prog : List FnEffect) (hclean : allClean prog = true)
    (σ₀ : Loc → Val) (h : List (FnEffect × Arg)) (hh : ∀ fa ∈ h, fa.1 ∈ prog) (f : FnEffect) (a : Arg) :
    (S.run f (S.exec σ₀ h) a).2 = (S.run f σ₀ a).2 ∧ ∀ l, S.Protected l → S.exec σ₀ h l = σ₀ l := by
  have hc : ∀ fa ∈ h, fa.1.clean = true := by
    intro fa hfa
    have := hh fa hfa
    unfold allClean at hclean
    exact List.all_eq_true.mp hclean _ this
  have hp := exec_preserves S h σ₀ hc
  exact ⟨S.det f _ _ a hp, hp⟩

/-- two different interleavings give the same answer to the same call -/
theorem order_independent (S : Sem Loc Val Arg Res) (prog : List FnEffect) (hclean : allClean prog = true)
    (σ₀ : Loc → Val) (h₁ h₂ : List (FnEffect × Arg)) (hh₁ : ∀ fa ∈ h₁, fa.1 ∈ prog) (hh₂ : ∀ fa ∈ h₂, fa.1 ∈ prog)
    (f : FnEffect) (a : Arg) :
    (S.run f (S.exec σ₀ h₁) a).2 = (S.run f (S.exec σ₀ h₂) a).2 := by
  rw [(clean_pure S prog hclean σ₀ h₁ hh₁ f a).1, (clean_pure S prog hclean σ₀ h₂ hh₂ f a).1]

/-- the instance for py_ecc: any history over the library's own functions -/
theorem py_ecc_history_independent (S : Sem Loc Val Arg Res) (σ₀ : Loc → Val) (h : List (FnEffect × Arg))
    (hh : ∀ fa ∈ h, fa.1 ∈ PyEcc.Gen.Effects.effects) (f : FnEffect) (a : Arg) :
    (S.run f (S.exec σ₀ h) a).2 = (S.run f σ₀ a).2 ∧ ∀ l, S.Protected l → S.exec σ₀ h l = σ₀ l :=
  clean_pure S _ all_clean σ₀ h hh f a

/-- the hypotheses are satisfiable and the conclusion is not vacuous: a two-cell heap (cell `true` is a
    protected constant, cell `false` a private scratch/memo cell); the clean function bumps the scratch cell and
    returns constant + argument. -/
def toySem : Sem Bool Nat Nat Nat where
  Protected := fun l => l = true
  run := fun f σ a => if f.clean then (fun l => if l = false then σ false + 1 else σ l, σ true + a) else (fun _ => 0, 0)
  frame := by
    intro f σ a l hf hl
    simp only [hf, ↓reduceIte]
    subst hl
    simp
  det := by
    intro f σ σ' a h
    by_cases hf : f.clean = true
    · simp only [hf, ↓reduceIte]; rw [h true rfl]
    · simp [hf]

example : (toySem.run ⟨"f", 1, [.fresh], true⟩ (toySem.exec (fun _ => 7) [(⟨"g", 2, [.memo], true⟩, 3)]) 5).2 = 12 := by
  decide

/-- a dirty function is rejected: the check is not vacuous -/
example : allClean [⟨"f", 1, [.fresh], true⟩, ⟨"g", 2, [.global "ETAS"], true⟩] = false := by decide

/-! ### leg 1: the executable model is history-free by construction -/

/-- the transcript of a history extended by one call is the old transcript plus the answer to that call alone -/
theorem answerAll_append (h : List String) (l : String) :
    answerAll (h ++ [l]) = answerAll h ++ (answerLine l).toList := by
  unfold answerAll
  rw [List.filterMap_append]
  cases hl : answerLine l <;> simp [hl]

/-- the model's answer to a call does not depend on the history before it -/
theorem answer_history_free (h₁ h₂ : List String) (l : String) :
    (answerAll (h₁ ++ [l])).drop (answerAll h₁).length = (answerAll (h₂ ++ [l])).drop (answerAll h₂).length := by
  simp [answerAll_append]

end PyEcc.C20
