/-
  PyEcc.Props.C18 — property C18: the secp256k1 arithmetic of `py_ecc/secp256k1/secp256k1.py`
  (`add`, `multiply`, `privtopub`, as GENERATED into `PyEcc.Gen.Secp` / modelled in `PyEcc.Ecdsa`) implements the
  textbook group law of `E : y² = x³ + 7` over `ZMod P`, i.e. Mathlib's `WeierstrassCurve.Affine.Point` group,
  through `reprSecp` (`0 ↦ (0, 0)`, `(x, y) ↦ (x.val, y.val)`).

  Ingredients: the coordinate-level theorems of C13 (`Props/C13_Secp.lean`), correctness of `inv`
  (`Sem/InvLoop.lean`, at `P`: `SecpSem.cast_inv`), "`−7` is not a cube mod `P`"
  (kernel-evaluated power), `#E(F_P) = N` by the elementary argument of `Sem/GroupOrder.lean`
  with `N·G = 0` obtained from a kernel evaluation of the generated `multiply` itself.
-/
import PyEcc.Lemmas.SecpRefine
import PyEcc.Spec.Sec2
import PyEcc.Model.Ecdsa

namespace PyEcc.C18
open WeierstrassCurve PyEcc.Gen.Consts PyEcc.SecpSem PyEcc.C13.Secp PyEcc.GroupOrder
open PyEcc.Gen.Secp (A B P N Gx Gy)

/-- The constants `P, A, B, Gx, Gy, N` of the Python module are the SEC 2 §2.4.1 `secp256k1` parameters
`p, a, b, G, n`, and `P = 2^256 − 2^32 − 977`. -/
theorem constants_eq_sec2 :
    Gen.Secp.P = (Spec.Sec2.p : ℤ) ∧ Gen.Secp.A = (Spec.Sec2.a : ℤ) ∧ Gen.Secp.B = (Spec.Sec2.b : ℤ) ∧
    Gen.Secp.Gx = (Spec.Sec2.Gx : ℤ) ∧ Gen.Secp.Gy = (Spec.Sec2.Gy : ℤ) ∧ Gen.Secp.N = (Spec.Sec2.n : ℤ) ∧
    Gen.Secp.G = (Gen.Secp.Gx, Gen.Secp.Gy) ∧ Gen.Secp.P = 2 ^ 256 - 2 ^ 32 - 977 := by decide

/-- The field modulus `P` and the group order `N` of the Python module are prime numbers. -/
theorem P_N_prime : Nat.Prime Gen.Secp.P.toNat ∧ Nat.Prime Gen.Secp.N.toNat := by
  have hP : Gen.Secp.P.toNat = secp256k1_P := by decide
  have hN : Gen.Secp.N.toNat = secp256k1_N := by decide
  rw [hP, hN]; exact ⟨prime_secpP, prime_secpN⟩

/-! ### the curve has no point with `y = 0`, and `(0, 0)` is not on it -/

/-- No point of `y² = x³ + 7` over `ZMod P` has `y = 0` (`−7` is not a cube mod `P`): the Jacobian identity
marker `y = 0` of the Python code is never a genuine affine point. -/
theorem no_point_with_y_zero (x : Fp) : ¬ E.Equation x 0 :=
  fun h => y_ne_zero_of_eq ((CurveSem.equation_W _ x 0).mp h) rfl

/-- `(0, 0)`, the affine identity marker of the Python code, is not on the curve (`7 ≠ 0`). -/
theorem origin_not_on_curve : ¬ E.Equation 0 0 := no_point_with_y_zero 0

/-- The group has no element of order 2. -/
theorem no_two_torsion (Q : E.Point) (h : Q + Q = 0) : Q = 0 :=
  CurveSem.no_two_torsion fp_two_ne_zero no_root Q h

/-- `reprSecp` is injective: distinct curve points have distinct Python representations (in particular no
affine point is represented by the identity marker `(0, 0)`). -/
theorem reprSecp_injective : Function.Injective reprSecp := SecpSem.reprSecp_injective

/-- **`add` is the group law.** For all points `Pt`, `Qt` of `E(F_P)` (identity included, `Pt = Qt`,
`Pt = −Qt` included): the Python `add` applied to their representations returns the representation of the
Mathlib sum `Pt + Qt`. -/
theorem add_refines (Pt Qt : E.Point) :
    Gen.Secp.add (reprSecp Pt) (reprSecp Qt) = reprSecp (Pt + Qt) := by
  unfold Gen.Secp.add
  exact jrep_from_jacobian (jrep_add (jrep_to_jacobian Pt) (jrep_to_jacobian Qt))

/-- Python `add` is associative and commutative on representations of curve points, and `(0,0)` is neutral
(transported from Mathlib's group structure). -/
theorem add_assoc_comm (Pt Qt Rt : E.Point) :
    Gen.Secp.add (Gen.Secp.add (reprSecp Pt) (reprSecp Qt)) (reprSecp Rt) =
      Gen.Secp.add (reprSecp Pt) (Gen.Secp.add (reprSecp Qt) (reprSecp Rt)) ∧
    Gen.Secp.add (reprSecp Pt) (reprSecp Qt) = Gen.Secp.add (reprSecp Qt) (reprSecp Pt) ∧
    Gen.Secp.add (reprSecp Pt) (0, 0) = reprSecp Pt ∧ Gen.Secp.add (0, 0) (reprSecp Pt) = reprSecp Pt := by
  refine ⟨?_, ?_, ?_, ?_⟩
  · rw [add_refines, add_refines, add_refines, add_refines, add_assoc]
  · rw [add_refines, add_refines, add_comm]
  · rw [← reprSecp_zero, add_refines, add_zero]
  · rw [← reprSecp_zero, add_refines, zero_add]

/-! ### the base point and the group order -/

/-- `G = (Gx, Gy)` is on the curve, and is represented by the Python constant `G`. -/
theorem G_on_curve : E.Equation ((Gx : ℤ) : Fp) ((Gy : ℤ) : Fp) ∧ reprSecp Gpt = Gen.Secp.G :=
  ⟨(CurveSem.equation_W _ _ _).mpr SecpSem.G_on_curve, reprSecp_Gpt⟩

/-- `G` is not the identity. -/
theorem G_ne_zero : Gpt ≠ 0 := by
  intro h; cases h

/-- **`multiply` modulo `N`, any scalar, no group-order fact needed.** For every curve point `Pt` and every
Python int `n` (negative, zero, `≥ N` included) `multiply` succeeds and returns the representation of
`(n mod N) • Pt`. -/
theorem multiply_refines_mod (Pt : E.Point) (n : ℤ) :
    Gen.Secp.multiply (reprSecp Pt) n = .ok (reprSecp ((n % N) • Pt)) := by
  obtain ⟨T', hT', rT'⟩ := jacobian_multiply_spec (Gen.Secp.to_jacobian (reprSecp Pt)) n
  rw [multiply_of_ok hT', jrep_from_jacobian (rT' Pt (jrep_to_jacobian Pt))]

/-- `N • G = 0` in the Mathlib group; obtained from the kernel evaluation `multiply(G, N−1) = (Gx, P−Gy)` of the
generated code, read through `multiply_refines_mod`. -/
theorem N_smul_G : secp256k1_N • Gpt = 0 := by
  have h := multiply_refines_mod Gpt (N - 1)
  rw [reprSecp_Gpt, multiply_G_N_pred] at h
  have hn : (N - 1) % N = ((secp256k1_N - 1 : ℕ) : ℤ) := by decide
  rw [hn, natCast_zsmul] at h
  have hneg : reprSecp (-Gpt) = (Gx, P - Gy) := by
    have h1 : reprSecp (-Gpt) =
        (((((Gx : ℤ) : Fp).val : ℕ) : ℤ), (((E.negY ((Gx : ℤ) : Fp) ((Gy : ℤ) : Fp)).val : ℕ) : ℤ)) := rfl
    rw [h1, CurveSem.negY_W, ← Int.cast_neg, val_cast, val_cast]
    exact neg_G_reduced
  have hpt : (secp256k1_N - 1) • Gpt = -Gpt := by
    apply SecpSem.reprSecp_injective
    rw [hneg]
    exact (Except.ok.inj h).symm
  have hsplit : secp256k1_N = (secp256k1_N - 1) + 1 := by decide
  rw [hsplit, add_smul, one_smul, hpt, neg_add_cancel]

/-- **`#E(F_P) = N`.** The curve group has exactly `N` elements (elementary argument: `N` prime, `G` of order
`N`, `2P + 1 < 3N`, no 2-torsion). -/
theorem card_E : Nat.card E.Point = secp256k1_N :=
  card_point_eq ((B : ℤ) : Fp) secp256k1_N prime_secpN fp_two_ne_zero Gpt G_ne_zero N_smul_G (by decide) no_root

/-- Every point of the curve is killed by `N`. -/
theorem N_smul_eq_zero (Q : E.Point) : secp256k1_N • Q = 0 :=
  nsmul_eq_zero_of_card _ _ card_E Q

/-- The group has prime order `N`: every non-identity point has order exactly `N`. -/
theorem addOrderOf_eq_N (Q : E.Point) (hQ : Q ≠ 0) : addOrderOf Q = secp256k1_N := by
  have : Fact secp256k1_N.Prime := ⟨prime_secpN⟩
  exact addOrderOf_eq_prime (N_smul_eq_zero Q) hQ

/-- `G` has order `N`: an integer multiple of `G` vanishes exactly for the multiples of `N` -/
theorem zsmul_Gpt_eq_zero_iff (n : ℤ) : n • Gpt = 0 ↔ N ∣ n := by
  rw [← addOrderOf_dvd_iff_zsmul_eq_zero, addOrderOf_eq_N Gpt G_ne_zero, N_eq]

/-- **`multiply` is scalar multiplication in the group.** For every curve point `Pt` and EVERY Python int `n`
(negative and `≥ N` included) `multiply` succeeds and returns the representation of the `ℤ`-multiple `n • Pt`
in Mathlib's group `E(F_P)`. -/
theorem multiply_refines (Pt : E.Point) (n : ℤ) :
    Gen.Secp.multiply (reprSecp Pt) n = .ok (reprSecp (n • Pt)) := by
  have hN0 : (N : ℤ) • Pt = 0 := by
    rw [N_eq, natCast_zsmul]; exact N_smul_eq_zero Pt
  rw [multiply_refines_mod]
  conv_rhs => rw [← Int.mul_ediv_add_emod n N, add_zsmul, mul_comm, mul_zsmul, hN0, zsmul_zero, zero_add]

/-- `multiply` only depends on the scalar modulo `N`, and `multiply(Pt, N) = multiply(Pt, 0) = (0, 0)`. -/
theorem multiply_mod_N (Pt : E.Point) (n m : ℤ) (h : n % N = m % N) :
    Gen.Secp.multiply (reprSecp Pt) n = Gen.Secp.multiply (reprSecp Pt) m := by
  rw [multiply_refines_mod, multiply_refines_mod, h]

example : (5 : ℤ) % N = (N + 5) % N := by decide

/-- `multiply` is a homomorphism in the scalar: `multiply(Pt, n + m) = add(multiply(Pt, n), multiply(Pt, m))`. -/
theorem multiply_add (Pt : E.Point) (n m : ℤ) :
    ∃ a b, Gen.Secp.multiply (reprSecp Pt) n = .ok a ∧ Gen.Secp.multiply (reprSecp Pt) m = .ok b ∧
      Gen.Secp.multiply (reprSecp Pt) (n + m) = .ok (Gen.Secp.add a b) :=
  ⟨_, _, multiply_refines Pt n, multiply_refines Pt m, by rw [multiply_refines, add_refines, add_zsmul]⟩

/-- **`privtopub(priv) = d • G`** with `d = bytes_to_int(priv)`, for every byte string `priv` (of any length — in
particular every valid 32-byte key): the call succeeds and returns the representation of `d • G`. -/
theorem privtopub_refines (priv : Bytes) :
    Ecdsa.privtopub priv = .ok (reprSecp ((Ecdsa.bytesToInt priv) • Gpt)) := by
  unfold Ecdsa.privtopub
  rw [← reprSecp_Gpt, multiply_refines]

/-- for a valid key `0 < d < N` the public key is a genuine affine point (never the marker `(0, 0)`) -/
theorem privtopub_ne_identity (priv : Bytes) (h0 : 0 < Ecdsa.bytesToInt priv) (hN : Ecdsa.bytesToInt priv < N) :
    Ecdsa.privtopub priv ≠ .ok (0, 0) := by
  rw [privtopub_refines, ← reprSecp_zero]
  intro h
  have hd := (zsmul_Gpt_eq_zero_iff _).mp (SecpSem.reprSecp_injective (Except.ok.inj h))
  exact absurd (Int.le_of_dvd h0 hd) (not_le.mpr hN)

example : (0 : ℤ) < Ecdsa.bytesToInt [1] ∧ Ecdsa.bytesToInt [1] < N := by decide

end PyEcc.C18

section AxiomAudit
open PyEcc.C18
#print axioms constants_eq_sec2
#print axioms P_N_prime
#print axioms no_point_with_y_zero
#print axioms origin_not_on_curve
#print axioms no_two_torsion
#print axioms add_refines
#print axioms add_assoc_comm
#print axioms G_on_curve
#print axioms multiply_refines_mod
#print axioms N_smul_G
#print axioms card_E
#print axioms multiply_refines
#print axioms multiply_mod_N
#print axioms multiply_add
#print axioms privtopub_refines
#print axioms privtopub_ne_identity
end AxiomAudit
