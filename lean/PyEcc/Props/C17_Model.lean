/-
  PyEcc.Props.C17_Model — property C17 for the CONCRETE executable model: `subgroup_check` and
  `clear_cofactor` as run by the model on its own coordinate types
      G1 : `G1Pt = F1 × F1 × F1`, `F1 = Fq blsP`                 (Python `FQ` objects)
      G2 : `G2Pt = F2 × F2 × F2`, `F2 = Fqp .opt blsP blsMc2`    (Python optimized `FQ2` objects:
                                                                  lists of ints)
  Each is the theorem of `Props/C17_Sub.lean` (mostly in its `rep_*` form, for the code run on any coordinate type)
  at the context `curveF1` of `Sem/TransferFq.lean` (G1: `Fq blsP` is a Mathlib field with the model's operations)
  or `curveF2` of `Sem/TransferFqp.lean` (G2: `toQ : F2 → K2 = F_p[X]/(X²+1)` preserves all operations on canonical
  elements and the generated curve code commutes with it).

  Reading of the statements.  `P`, `Q`, `G` are points of Mathlib's elliptic-curve group
  (`WeierstrassCurve.Affine.Point`, an `AddCommGroup`): of `y² = x³ + 4` over the field `Fq blsP` for
  G1, of `y² = x³ + 4(1+i)` over `K2` for G2.  `Represents T P` (G1) resp.
  `Represents (mapT toQ T) P` (G2) says that the projective triple `T` (its value, for G2) is a
  representative of `P` (any scaling; any `z = 0` triple for ∞).  For G2 the triples are required to
  be canonical (`CanonT T`: each coordinate has exactly two coefficients in `[0, p)`) — every
  constructor, decoder and operation of the library produces canonical elements
  (`Transfer.canonT_ops`), and `CanonT` is decidable.  Every on-curve (canonical) triple represents a
  point (`curveF1.exists_rep`, `curveF2.exists_rep`), so the hypotheses are not vacuous.
-/
import PyEcc.Props.C17_Sub
import PyEcc.Sem.TransferFq
import PyEcc.Sem.TransferFqp
import PyEcc.Props.C07_FactsG2

set_option linter.unusedSectionVars false

namespace PyEcc.C17M
open PyEcc PyEcc.Gen PyEcc.Gen.Consts PyEcc.FqpSem PyEcc.Transfer WeierstrassCurve

/-! ## G1 -/

section G1
variable {T T₁ T₂ Tg Tq : G1Pt} {P Q G : CurvePt (blsB : F1)}

/-- **G1 `subgroup_check` is exact.**  Run on the model's `FQ` triples, `subgroup_check(T)` returns
    `True` iff `curve_order • P = 0` for the Mathlib point `P` represented by `T`. -/
theorem subgroupCheck_G1_iff (r : Represents T P) : subgroupCheck T = true ↔ blsR • P = 0 :=
  C17Sub.subgroup_check_iff curveF1.two r

/-- G1, using that `curve_order` is prime: `True` iff `P` is the identity or has order exactly
    `curve_order`. -/
theorem subgroupCheck_G1_iff_prime (r : Represents T P) :
    subgroupCheck T = true ↔ P = 0 ∨ addOrderOf P = blsR :=
  C17Sub.rep_iff_prime (c := curveF1) ⟨goodT_true T, r⟩

/-- G1, closed form: every triple accepted by `is_on_curve(T, b)` represents a Mathlib point, and
    `subgroup_check(T)` decides whether that point is killed by `curve_order`. -/
theorem subgroupCheck_G1_of_on_curve (hT : OptBls.is_on_curve T blsB = true) :
    ∃ P : CurvePt (blsB : F1), Represents T P ∧ (subgroupCheck T = true ↔ blsR • P = 0) := by
  obtain ⟨P, r⟩ := curveF1.exists_rep (goodT_true T) hT
  exact ⟨P, r.rep, C17Sub.rep_iff r⟩

/-- G1: the answer does not depend on the representative (`eq(T, T') = True`), for ALL triples. -/
theorem subgroupCheck_G1_congr {T' : G1Pt} (e : OptBls.eq T T' = true) :
    subgroupCheck T = subgroupCheck T' :=
  C17Sub.good_congr curveF1 (goodT_true T) (goodT_true T') e

/-- G1: every triple with `z = 0` (∞) passes. -/
theorem subgroupCheck_G1_accepts_inf (hz : T.2.2 = 0) : subgroupCheck T = true :=
  C17Sub.good_accepts_inf curveF1 (goodT_true T) hz

/-- G1: if `Tg` passes then so does `multiply(Tg, k)`, every `k`. -/
theorem subgroupCheck_G1_multiply (r : Represents Tg G) (hG : subgroupCheck Tg = true) (k : ℕ) :
    subgroupCheck (OptBls.multiply Tg k) = true :=
  C17Sub.rep_multiply (c := curveF1) ⟨goodT_true Tg, r⟩ hG k

/-- G1: the accepted triples are closed under `add` and `neg`. -/
theorem subgroupCheck_G1_add (r₁ : Represents T₁ P) (r₂ : Represents T₂ Q)
    (c₁ : subgroupCheck T₁ = true) (c₂ : subgroupCheck T₂ = true) :
    subgroupCheck (OptBls.add T₁ T₂) = true ∧ subgroupCheck (OptBls.neg T₁) = true :=
  C17Sub.rep_add (c := curveF1) ⟨goodT_true T₁, r₁⟩ ⟨goodT_true T₂, r₂⟩ c₁ c₂

/-- G1 rejects mixed points: a triple representing `k • G + Q` with `G` in the `curve_order`-torsion
    and `Q ≠ 0` in the torsion of the G1 cofactor `h₁` FAILS the check. -/
theorem subgroupCheck_G1_rejects_mixed (k : ℕ) (hG : blsR • G = 0)
    (hQ : Spec.BLS12381.h1 • Q = 0) (hne : Q ≠ 0) (r : Represents T (k • G + Q)) :
    subgroupCheck T = false :=
  C17Sub.rep_rejects_mixed (c := curveF1) C17.coprime_h1_r k hG hQ hne ⟨goodT_true T, r⟩

/-- G1, code form: `add(multiply(Tg, k), Tq)` fails whenever `Tg` passes and `Tq ≠ ∞` is killed by a
    scalar `h` coprime to `curve_order`. -/
theorem subgroupCheck_G1_rejects_mixed_code {h : ℕ} (hc : Nat.Coprime h blsR) (k : ℕ)
    (rg : Represents Tg G) (rq : Represents Tq Q) (hG : subgroupCheck Tg = true)
    (hQ : OptBls.is_inf (OptBls.multiply Tq h) = true) (hne : OptBls.is_inf Tq = false) :
    subgroupCheck (OptBls.add (OptBls.multiply Tg k) Tq) = false :=
  C17Sub.rep_rejects_mixed_code (c := curveF1) hc k ⟨goodT_true Tg, rg⟩ ⟨goodT_true Tq, rq⟩ hG hQ hne

/-- **`clear_cofactor_G1` refines `h_eff • P`**: the model's `clearCofactorG1 T` represents
    `H_EFF_G1 • P`. -/
theorem clearCofactorG1_refines (r : Represents T P) :
    Represents (clearCofactorG1 T) (h2c_H_EFF_G1 • P) :=
  C07Opt.Bls.opt_multiply_refines curveF1.two r _

/-- G1: a cleared point passes `subgroup_check` provided the represented point is killed by
    `H_EFF_G1 · curve_order` (true for all of `E(F_p)`: `C17O.bls_exponent_E1` in `Props/C17_Order.lean`,
    which applies this theorem). -/
theorem subgroupCheck_G1_cleared (r : Represents T P) (hP : (h2c_H_EFF_G1 * blsR) • P = 0) :
    subgroupCheck (clearCofactorG1 T) = true :=
  C17Sub.rep_cleared (c := curveF1) ⟨goodT_true T, r⟩ h2c_H_EFF_G1 hP

/-- G1: clearing is injective (up to `eq`) on triples that pass `subgroup_check`. -/
theorem clearCofactorG1_injective (r₁ : Represents T₁ P) (r₂ : Represents T₂ Q)
    (c₁ : subgroupCheck T₁ = true) (c₂ : subgroupCheck T₂ = true)
    (he : OptBls.eq (clearCofactorG1 T₁) (clearCofactorG1 T₂) = true) : OptBls.eq T₁ T₂ = true :=
  C17Sub.rep_clear_injective (c := curveF1) ⟨goodT_true T₁, r₁⟩ ⟨goodT_true T₂, r₂⟩ c₁ c₂ he

end G1

/-- the generator `G1` of the model passes `subgroup_check` (kernel evaluation) and is on the curve -/
theorem blsG1_passes : OptBls.is_on_curve blsG1 blsB = true ∧ subgroupCheck blsG1 = true :=
  ⟨C07.Facts.bls_G1_model.1, C07.Facts.bls_G1_model.2.2⟩

/-- every multiple `multiply(G1, k)` of the model's generator passes `subgroup_check` -/
theorem blsG1_multiples_pass (k : ℕ) : subgroupCheck (OptBls.multiply blsG1 k) = true := by
  obtain ⟨P, r⟩ := curveF1.exists_rep (goodT_true blsG1) blsG1_passes.1
  exact C17Sub.rep_multiply r blsG1_passes.2 k

/-- non-vacuity of the `Represents` hypotheses (G1): the generator represents a non-zero point -/
example : ∃ P : CurvePt (blsB : F1), Represents blsG1 P ∧ P ≠ 0 := by
  obtain ⟨hon, hinf, hr⟩ := C07.Facts.bls_G1_model
  obtain ⟨P, r, h0, _⟩ := curveF1.point_of_facts (goodT_true blsG1) hon hinf hr
  exact ⟨P, r.rep, h0⟩

/-! ## G2 -/

section G2
variable [DecidableEq K2] {T T₁ T₂ Tg Tq : G2Pt} {P Q G : CurvePt (toQ blsB2 : K2)}

/-- **G2 `subgroup_check` is exact.**  Run on a canonical model `FQ2` triple `T` whose value represents
    the Mathlib point `P` over `K2`, `subgroup_check(T)` returns `True` iff `curve_order • P = 0`. -/
theorem subgroupCheck_G2_iff (c : CanonT T) (r : Represents (mapT toQ T) P) :
    subgroupCheck T = true ↔ blsR • P = 0 := C17Sub.rep_iff (c := curveF2) ⟨c, r⟩

/-- G2, using that `curve_order` is prime: `True` iff `P` is the identity or has order exactly
    `curve_order`. -/
theorem subgroupCheck_G2_iff_prime (c : CanonT T) (r : Represents (mapT toQ T) P) :
    subgroupCheck T = true ↔ P = 0 ∨ addOrderOf P = blsR :=
  C17Sub.rep_iff_prime (c := curveF2) ⟨c, r⟩

/-- G2, closed form: every canonical triple accepted by `is_on_curve(T, b2)` represents a Mathlib
    point over `K2`, and `subgroup_check(T)` decides whether that point is killed by `curve_order`. -/
theorem subgroupCheck_G2_of_on_curve (c : CanonT T) (hT : OptBls.is_on_curve T blsB2 = true) :
    ∃ P : CurvePt (toQ blsB2 : K2),
      Represents (mapT toQ T) P ∧ (subgroupCheck T = true ↔ blsR • P = 0) := by
  obtain ⟨P, r⟩ := curveF2.exists_rep c hT
  exact ⟨P, r.rep, C17Sub.rep_iff r⟩

/-- G2: the answer does not depend on the representative (`eq(T, T') = True`), for all canonical
    triples (on the curve or not). -/
theorem subgroupCheck_G2_congr {T' : G2Pt} (c : CanonT T) (c' : CanonT T')
    (e : OptBls.eq T T' = true) : subgroupCheck T = subgroupCheck T' :=
  C17Sub.good_congr curveF2 c c' e

/-- G2: every canonical triple with `z = 0` (∞) passes. -/
theorem subgroupCheck_G2_accepts_inf (c : CanonT T) (hz : T.2.2 = 0) : subgroupCheck T = true :=
  C17Sub.good_accepts_inf curveF2 c hz

/-- G2: if `Tg` passes then so does `multiply(Tg, k)`, every `k`. -/
theorem subgroupCheck_G2_multiply (c : CanonT Tg) (r : Represents (mapT toQ Tg) G)
    (hG : subgroupCheck Tg = true) (k : ℕ) : subgroupCheck (OptBls.multiply Tg k) = true :=
  C17Sub.rep_multiply (c := curveF2) ⟨c, r⟩ hG k

/-- G2: the accepted triples are closed under `add` and `neg`. -/
theorem subgroupCheck_G2_add (c₁ : CanonT T₁) (c₂ : CanonT T₂) (r₁ : Represents (mapT toQ T₁) P)
    (r₂ : Represents (mapT toQ T₂) Q) (p₁ : subgroupCheck T₁ = true) (p₂ : subgroupCheck T₂ = true) :
    subgroupCheck (OptBls.add T₁ T₂) = true ∧ subgroupCheck (OptBls.neg T₁) = true :=
  C17Sub.rep_add (c := curveF2) ⟨c₁, r₁⟩ ⟨c₂, r₂⟩ p₁ p₂

/-- G2 rejects mixed points: a canonical triple representing `k • G + Q` with `G` in the
    `curve_order`-torsion and `Q ≠ 0` in the `G2_COFACTOR`-torsion FAILS the check. -/
theorem subgroupCheck_G2_rejects_mixed (c : CanonT T) (k : ℕ) (hG : blsR • G = 0)
    (hQ : blsconst_G2_COFACTOR • Q = 0) (hne : Q ≠ 0) (r : Represents (mapT toQ T) (k • G + Q)) :
    subgroupCheck T = false :=
  C17Sub.rep_rejects_mixed (c := curveF2) C17.coprime_h2_r k hG hQ hne ⟨c, r⟩

/-- G2, code form: `add(multiply(Tg, k), Tq)` fails whenever `Tg` passes and `Tq ≠ ∞` is killed by a
    scalar `h` coprime to `curve_order`. -/
theorem subgroupCheck_G2_rejects_mixed_code {h : ℕ} (hc : Nat.Coprime h blsR) (k : ℕ)
    (cg : CanonT Tg) (cq : CanonT Tq) (rg : Represents (mapT toQ Tg) G)
    (rq : Represents (mapT toQ Tq) Q) (hG : subgroupCheck Tg = true)
    (hQ : OptBls.is_inf (OptBls.multiply Tq h) = true) (hne : OptBls.is_inf Tq = false) :
    subgroupCheck (OptBls.add (OptBls.multiply Tg k) Tq) = false :=
  C17Sub.rep_rejects_mixed_code (c := curveF2) hc k ⟨cg, rg⟩ ⟨cq, rq⟩ hG hQ hne

/-- **`clear_cofactor_G2` refines `h_eff • P`**: on a canonical triple the model's
    `clearCofactorG2 T` is canonical and its value represents `H_EFF_G2 • P`. -/
theorem clearCofactorG2_refines (c : CanonT T) (r : Represents (mapT toQ T) P) :
    CanonT (clearCofactorG2 T) ∧ Represents (mapT toQ (clearCofactorG2 T)) (h2c_H_EFF_G2 • P) :=
  have k := Rep.multiply (c := curveF2) ⟨c, r⟩ h2c_H_EFF_G2
  ⟨k.good, k.rep⟩

/-- G2: a cleared point passes `subgroup_check` provided the represented point is killed by
    `G2_COFACTOR · curve_order` (true for all of `E'(F_p²)`: `C17O.bls_order_kills_E2` in
    `Props/C17_Order.lean`, which applies this theorem). -/
theorem subgroupCheck_G2_cleared (c : CanonT T) (r : Represents (mapT toQ T) P)
    (hP : (blsconst_G2_COFACTOR * blsR) • P = 0) : subgroupCheck (clearCofactorG2 T) = true :=
  (C17Sub.rep_iff (Rep.multiply (c := curveF2) ⟨c, r⟩ _)).mpr (C17.clear_G2_lands P hP)

end G2

/-- the generator `G2` of the model is canonical, on the curve, and passes `subgroup_check`
    (kernel evaluation of the modelled `FQ2` arithmetic) -/
theorem blsG2_passes :
    CanonT blsG2 ∧ OptBls.is_on_curve blsG2 blsB2 = true ∧ subgroupCheck blsG2 = true :=
  ⟨canonT_blsG2, C07.Facts.bls_G2_opt.1, C07.Facts.bls_G2_opt.2.2⟩

/-- every multiple `multiply(G2, k)` of the model's generator passes `subgroup_check` -/
theorem blsG2_multiples_pass (k : ℕ) : subgroupCheck (OptBls.multiply blsG2 k) = true := by
  classical
  obtain ⟨P, r⟩ := curveF2.exists_rep blsG2_passes.1 blsG2_passes.2.1
  exact C17Sub.rep_multiply r blsG2_passes.2.2 k

/-- non-vacuity of the hypotheses (G2): the generator is canonical and its value represents a
    non-zero point over `K2` -/
example [DecidableEq K2] : CanonT blsG2 ∧
    ∃ P : CurvePt (toQ blsB2 : K2), Represents (mapT toQ blsG2) P ∧ P ≠ 0 := by
  obtain ⟨hon, hinf, hr⟩ := C07.Facts.bls_G2_opt
  obtain ⟨P, r, h0, _⟩ := curveF2.point_of_facts canonT_blsG2 hon hinf hr
  exact ⟨canonT_blsG2, P, r.rep, h0⟩

end PyEcc.C17M
