/-
  Property C07, OPTIMIZED projective modules, for bn128 (`py_ecc/optimized_bn128/optimized_curve.py`).

  The generated functions `Gen.OptBn.*` / `Gen.RefBn.*` are the same terms as `Gen.OptBls.*` / `Gen.RefBls.*`
  (`Lemmas/TwinModules.lean`, checked against the files generated on this run), so every statement of
  `Props/C07Opt_Bls.lean` (where each is explained) holds of them: by plain application of the `Bls` theorem
  (Lean unfolds the functions to see that the statements agree) where the functions are neither nested nor
  recursive, after rewriting with the equations of `Lemmas/TwinModules.lean` otherwise (unfolding nested calls,
  or the fuelled recursion of `multiply`, is slow or impossible).
-/
import PyEcc.Props.C07Opt_Bls
import PyEcc.Lemmas.TwinModules

set_option linter.unusedSectionVars false
set_option linter.unusedVariables false

namespace PyEcc.C07Opt.Bn
open PyEcc PyEcc.Gen WeierstrassCurve

variable {F : Type} [Field F] [DecidableEq F]

theorem represents_zero {b : F} {T : F × F × F} (hz : T.2.2 = 0) :
    Represents T (0 : (W b).Point) :=
  Bls.represents_zero hz

theorem represents_some {b : F} {T : F × F × F} (hz : T.2.2 ≠ 0)
    (h : (W b).Nonsingular (T.1 / T.2.2) (T.2.1 / T.2.2)) :
    Represents T (Affine.Point.some _ _ h) :=
  Bls.represents_some hz h

theorem represents_unique {b : F} {T : F × F × F} {P Q : (W b).Point}
    (hP : Represents T P) (hQ : Represents T Q) : P = Q :=
  Bls.represents_unique hP hQ

theorem represents_scale {b : F} {l : F} (hl : l ≠ 0) {T : F × F × F} {P : (W b).Point}
    (hP : Represents T P) : Represents (C13.scale l T) P :=
  Bls.represents_scale hl hP

example : (5 : ℚ) ≠ 0 := by norm_num

theorem opt_add_refines {b : F} (h2 : (2 : F) ≠ 0) {T₁ T₂ : F × F × F} {P Q : (W b).Point}
    (h₁ : Represents T₁ P) (h₂ : Represents T₂ Q) : Represents (OptBn.add T₁ T₂) (P + Q) :=
  Bls.opt_add_refines h2 h₁ h₂

theorem opt_double_refines {b : F} (h2 : (2 : F) ≠ 0) {T : F × F × F} {P : (W b).Point}
    (hT : Represents T P) : Represents (OptBn.double T) (P + P) :=
  Bls.opt_double_refines h2 hT

theorem opt_double_refines_two_smul {b : F} (h2 : (2 : F) ≠ 0) {T : F × F × F} {P : (W b).Point}
    (hT : Represents T P) : Represents (OptBn.double T) (2 • P) :=
  Bls.opt_double_refines_two_smul h2 hT

theorem opt_neg_refines {b : F} {T : F × F × F} {P : (W b).Point}
    (hT : Represents T P) : Represents (OptBn.neg T) (-P) :=
  Bls.opt_neg_refines hT

theorem opt_multiply_refines {b : F} (h2 : (2 : F) ≠ 0) {T : F × F × F} {P : (W b).Point}
    (hT : Represents T P) (n : Nat) : Represents (OptBn.multiply T n) (n • P) := by
  rw [OptBn.multiply_eq]; exact Bls.opt_multiply_refines h2 hT n

theorem opt_eq_refines {b : F} {T₁ T₂ : F × F × F} {P Q : (W b).Point}
    (h₁ : Represents T₁ P) (h₂ : Represents T₂ Q) : OptBn.eq T₁ T₂ = true ↔ P = Q :=
  Bls.opt_eq_refines h₁ h₂

theorem opt_is_inf_refines {b : F} {T : F × F × F} {P : (W b).Point}
    (hT : Represents T P) : OptBn.is_inf T = true ↔ P = 0 :=
  Bls.opt_is_inf_refines hT

theorem opt_on_curve_represents {b : F} (h2 : (2 : F) ≠ 0) (h3 : (3 : F) ≠ 0) (hb : b ≠ 0)
    (T : F × F × F) :
    OptBn.is_on_curve T b = true ↔ ∃ P : (W b).Point, Represents T P :=
  Bls.opt_on_curve_represents h2 h3 hb T

example : (2 : ℚ) ≠ 0 ∧ (3 : ℚ) ≠ 0 ∧ (1 : ℚ) ≠ 0 := by norm_num

theorem opt_agrees_with_ref {b : F} (h2 : (2 : F) ≠ 0) (h3 : (3 : F) ≠ 0) (hb : b ≠ 0)
    {T : F × F × F} (hT : OptBn.is_on_curve T b = true) (n : Nat) :
    RefBn.multiply (toAff T) n = .ok (toAff (OptBn.multiply T n))
      ∧ RefBn.is_on_curve (toAff (OptBn.multiply T n)) b = true
      ∧ ∃ P : (W b).Point, Represents T P ∧ Represents (OptBn.multiply T n) (n • P) := by
  rw [RefBn.multiply_eq, OptBn.multiply_eq]; exact Bls.opt_agrees_with_ref h2 h3 hb hT n

theorem opt_add_zero_right (T Z : F × F × F) (hZ : Z.2.2 = 0) : OptBn.add T Z = T :=
  Bls.opt_add_zero_right T Z hZ

example : ((1 : ℚ), (1 : ℚ), (0 : ℚ)).2.2 = 0 := rfl

theorem opt_multiply_small (T : F × F × F) :
    OptBn.is_inf (OptBn.multiply T 0) = true ∧ OptBn.multiply T 1 = T
      ∧ OptBn.multiply T 2 = OptBn.double T := by
  rw [OptBn.multiply_eq]; exact Bls.opt_multiply_small T

theorem opt_add_neg (h2 : (2 : F) ≠ 0) (T : F × F × F) :
    OptBn.is_inf (OptBn.add T (OptBn.neg T)) = true
      ∧ OptBn.is_inf (OptBn.add (OptBn.neg T) T) = true := by
  rw [OptBn.add_eq, OptBn.neg_eq]; exact Bls.opt_add_neg h2 T

theorem opt_add_zero_eq (T Z : F × F × F) (hZ : Z.2.2 = 0) :
    OptBn.eq (OptBn.add T Z) T = true ∧ OptBn.eq (OptBn.add Z T) T = true := by
  rw [OptBn.add_eq]; exact Bls.opt_add_zero_eq T Z hZ

theorem opt_add_congr (h2 : (2 : F) ≠ 0) {A A' B B' : F × F × F}
    (hAA : OptBn.eq A A' = true) (hBB : OptBn.eq B B' = true) :
    OptBn.eq (OptBn.add A B) (OptBn.add A' B') = true := by
  rw [OptBn.add_eq]; exact Bls.opt_add_congr h2 hAA hBB

theorem opt_multiply_congr (h2 : (2 : F) ≠ 0) {A A' : F × F × F} (hAA : OptBn.eq A A' = true) (n : Nat) :
    OptBn.eq (OptBn.multiply A n) (OptBn.multiply A' n) = true := by
  rw [OptBn.multiply_eq]; exact Bls.opt_multiply_congr h2 hAA n

/-! ### non-vacuity: the curve `y² = x³ + 1` over `ℚ` with the points `(0, 1)`, `(2, 3)` — given by the
    non-normalised triples `(0, 2, 2)`, `(4, 6, 2)` — and the point `(-1, 0)` of order two -/

example : OptBn.is_on_curve ((0 : ℚ), (2 : ℚ), (2 : ℚ)) 1 = true
    ∧ OptBn.is_on_curve ((4 : ℚ), (6 : ℚ), (2 : ℚ)) 1 = true
    ∧ OptBn.is_on_curve ((-1 : ℚ), (0 : ℚ), (1 : ℚ)) 1 = true := by
  simp [OptBn.is_on_curve, OptBn.is_inf]; norm_num

example : OptBn.is_inf (OptBn.multiply ((-1 : ℚ), (0 : ℚ), (1 : ℚ)) 2) = true := by
  simp [OptBn.multiply, OptBn.multiplyAux, OptBn.double, OptBn.is_inf]

/-- a finite triple really represents a Mathlib point (so `Represents` hypotheses are satisfiable) -/
example : ∃ P : (W (1 : ℚ)).Point, Represents ((4 : ℚ), (6 : ℚ), (2 : ℚ)) P ∧ P ≠ 0 := by
  obtain ⟨P, hP⟩ := (opt_on_curve_represents (b := (1 : ℚ)) (by norm_num) (by norm_num) (by norm_num)
    ((4 : ℚ), (6 : ℚ), (2 : ℚ))).mp (by simp [OptBn.is_on_curve, OptBn.is_inf]; norm_num)
  refine ⟨P, hP, fun h0 => ?_⟩
  have := (opt_is_inf_refines hP).mpr h0
  simp [OptBn.is_inf] at this

end PyEcc.C07Opt.Bn
