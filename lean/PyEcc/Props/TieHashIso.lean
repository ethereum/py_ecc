/-
  PyEcc.Props.TieHashIso — TIE theorems ("generated = hand-written model") for the isogeny maps `iso_map_G1` / `iso_map_G2` of
  `py_ecc/optimized_bls12_381/optimized_swu.py`.
  `Gen/ExtraHashIso.lean` is re-generated from the Python source on every run (tools/translate/gen_hash.py).  The generated code
  keeps the in-place list mutation of `mapped_values`, the `enumerate(reversed(k_i[:-1]))` Horner loops and every IndexError the
  Python code could raise; the theorems below show that on the module's coefficient tables none of them is raised and that the
  result is the model's (total) `isoMapG1` / `isoMapG2`.
-/
import PyEcc.Gen.ExtraHashIso

namespace PyEcc.Tie
open PyEcc PyEcc.Gen.Consts

section generic
variable {F : Type} [Mul F] [Add F]

/-- the inner loop over `enumerate(reversed(k_i[:-1]))`, started at table offset `off`, for any step function that behaves like
    `mapped_values[i] = mapped_values[i] * x + z_powers[j] * k_i_j` whenever both indices are in range: no IndexError, and the
    entry `i` of `mapped_values` becomes the Horner fold of the model -/
theorem horner_loop (i : Nat) (x : F) (zp : List F) (step : List F → Nat × F → Except PyErr (List F))
    (hstep : ∀ (mv : List F) (it : Nat × F) (hi : i < mv.length) (hj : it.1 < zp.length),
      step mv it = pure (mv.set i (mv[i] * x + zp[it.1] * it.2))) :
    ∀ (rest : List F) (off : Nat) (mv : List F) (hi : i < mv.length) (_ : off + rest.length ≤ zp.length),
      List.foldlM step mv (List.zip (List.range' off rest.length) rest)
        = pure (mv.set i ((List.zip rest (zp.drop off)).foldl (fun acc kz => acc * x + kz.2 * kz.1) mv[i])) := by
  intro rest
  induction rest with
  | nil =>
    intro off mv hi _
    simp only [List.length_nil, List.range'_zero, List.zip_nil_right, List.foldlM_nil, List.zip_nil_left, List.foldl_nil,
      List.set_getElem_self]
  | cons k rest ih =>
    intro off mv hi hoff
    have hoff' : off < zp.length := by
      simp only [List.length_cons] at hoff
      omega
    rw [List.length_cons, List.range'_succ, List.zip_cons_cons, List.foldlM_cons, hstep mv (off, k) hi hoff', pure_bind]
    have hi' : i < (mv.set i (mv[i] * x + zp[off] * k)).length := by
      rw [List.length_set]
      exact hi
    rw [ih (off + 1) _ hi' (by simp only [List.length_cons] at hoff; omega)]
    rw [List.set_set, List.getElem_set_self, List.drop_eq_getElem_cons hoff', List.zip_cons_cons, List.foldl_cons]

/-- the Horner loop started from `mapped_values[i] = k[-1]` is the model's `isoHorner k` -/
theorem horner_loop_isoHorner [Inhabited F] (i : Nat) (x : F) (zp : List F) (step : List F → Nat × F → Except PyErr (List F))
    (hstep : ∀ (mv : List F) (it : Nat × F) (hi : i < mv.length) (hj : it.1 < zp.length),
      step mv it = pure (mv.set i (mv[i] * x + zp[it.1] * it.2)))
    (mv k : List F) (hi : i < mv.length) (hne : k ≠ []) (hlen : k.length ≤ zp.length + 1) :
    List.foldlM step (mv.set i (k.getLast hne))
        (List.zip (List.range (List.length (List.reverse (List.dropLast k)))) (List.reverse (List.dropLast k)))
      = pure (mv.set i (isoHorner k x zp)) := by
  have hi' : i < (mv.set i (k.getLast hne)).length := by
    rw [List.length_set]
    exact hi
  rw [List.range_eq_range', horner_loop i x zp step hstep _ 0 _ hi'
    (by simp only [List.length_reverse, List.length_dropLast]; omega)]
  unfold isoHorner
  simp only [List.set_set, List.getElem_set_self, List.drop_zero, List.getLast?_eq_some_getLast hne, Option.getD_some]

/-- the outer loop on a table of four coefficient lists and four slots, for any step function that behaves like
    "`mapped_values[i] = isoHorner k_i`" on in-range data -/
theorem outer_loop4 [Inhabited F] (x : F) (zp : List F) (ostep : List F → Nat × List F → Except PyErr (List F))
    (hostep : ∀ (mv : List F) (it : Nat × List F), it.1 < mv.length → 0 < it.2.length → it.2.length ≤ zp.length + 1 →
      ostep mv it = pure (mv.set it.1 (isoHorner it.2 x zp)))
    (a b c d : F) (k0 k1 k2 k3 : List F)
    (h0 : 0 < k0.length ∧ k0.length ≤ zp.length + 1) (h1 : 0 < k1.length ∧ k1.length ≤ zp.length + 1)
    (h2 : 0 < k2.length ∧ k2.length ≤ zp.length + 1) (h3 : 0 < k3.length ∧ k3.length ≤ zp.length + 1) :
    List.foldlM ostep [a, b, c, d] (List.zip (List.range (List.length [k0, k1, k2, k3])) [k0, k1, k2, k3])
      = pure [isoHorner k0 x zp, isoHorner k1 x zp, isoHorner k2 x zp, isoHorner k3 x zp] := by
  have hr : List.range (List.length [k0, k1, k2, k3]) = [0, 1, 2, 3] := rfl
  rw [hr]
  simp only [List.zip_cons_cons, List.zip_nil_right, List.foldlM_cons, List.foldlM_nil]
  rw [hostep _ (0, k0) (by simp) h0.1 h0.2, pure_bind]
  rw [hostep _ (1, k1) (by simp) h1.1 h1.2, pure_bind]
  rw [hostep _ (2, k2) (by simp) h2.1 h2.2, pure_bind]
  rw [hostep _ (3, k3) (by simp) h3.1 h3.2]
  rfl

theorem list4 {α : Type} (l : List α) (h : l.length = 4) : ∃ a b c d, l = [a, b, c, d] := by
  match l, h with
  | [a, b, c, d], _ => exact ⟨a, b, c, d, rfl⟩

theorem ne_nil_of_length_pos {α : Type} {l : List α} (h : 0 < l.length) : l ≠ [] := by
  intro e
  rw [e] at h
  exact Nat.lt_irrefl 0 h

end generic

/-! ### `iso_map_G1` -/

theorem blsP_gt_one : (1 : Int) < (blsP : Int) := by decide

/-- `z ** 1 = z` in the base field (the Python table starts with `z`, the model's `zPowersOf` with `z ^ 1`) -/
theorem f1_pow_one (z : F1) : z ^ 1 = z := by
  show Fq.mul (Fq.ofInt 1) z = z
  apply Fq.ext
  unfold Fq.mul Fq.ofInt pmod
  have h1 : ((1 : Int) % (blsP : Int)).toNat = 1 := by
    rw [Int.emod_eq_of_lt (by decide) blsP_gt_one]
    rfl
  simp only [h1]
  have hz : ((z.n : Nat) : Int) < (blsP : Int) := Int.ofNat_lt.mpr z.lt
  have hz0 : (0 : Int) ≤ ((z.n : Nat) : Int) := Int.natCast_nonneg _
  rw [show (((1 : Nat) : Int) * ((z.n : Nat) : Int)) = ((z.n : Nat) : Int) from Int.one_mul _,
    Int.emod_eq_of_lt hz0 hz]
  rfl

/-- the model's table of powers, written out (the Python table is the same list, with `z` for `z ** 1`) -/
theorem zPowersOf_15 {F : Type} [Pow F Nat] (z : F) :
    zPowersOf z 15 = [1, 2, 3, 4, 5, 6, 7, 8, 9, 10, 11, 12, 13, 14, 15].map fun i => z ^ i := rfl

theorem iso11_table_shape : h2c_ISO_11_MAP_COEFFICIENTS.length = 4
    ∧ ∀ ks ∈ h2c_ISO_11_MAP_COEFFICIENTS, 0 < ks.length ∧ ks.length ≤ 16 := by decide

/-- `iso_map_G1(x, y, z)` as translated from the source — `mapped_values = [0, 0, 0, 0]` mutated in place, `z_powers = [z, z**2, ..,
    z**15]`, the nested `enumerate` / `enumerate(reversed(k_i[:-1]))` Horner loops over `ISO_11_MAP_COEFFICIENTS`, the three
    corrections `mapped_values[1] *= z`, `[2] *= y`, `[3] *= z` and the final products — never raises (every IndexError branch is
    dead on the module's coefficient table) and returns the model's `isoMapG1 x y z`. -/
theorem iso_map_G1_eq (x y z : F1) : Gen.ExtraHashIso.iso_map_G1 x y z = .ok (isoMapG1 x y z) := by
  unfold Gen.ExtraHashIso.iso_map_G1 isoMapG1
  have hzp := (zPowersOf_15 z).symm
  simp only [List.map_cons, List.map_nil] at hzp
  rw [f1_pow_one] at hzp
  have hzl : (zPowersOf z 15).length = 15 := by simp [zPowersOf]
  obtain ⟨k0, k1, k2, k3, hC⟩ := list4 (h2c_ISO_11_MAP_COEFFICIENTS.map fun ks => ks.map fun c => f1c (getI c 0))
    (by rw [List.length_map]; exact iso11_table_shape.1)
  have hall : ∀ k ∈ (h2c_ISO_11_MAP_COEFFICIENTS.map fun ks => ks.map fun c => f1c (getI c 0)),
      0 < k.length ∧ k.length ≤ (zPowersOf z 15).length + 1 := by
    intro k hk
    obtain ⟨ks, hks, rfl⟩ := List.mem_map.mp hk
    rw [List.length_map, hzl]
    exact iso11_table_shape.2 ks hks
  rw [hC] at hall
  simp only [hzp, hC]
  rw [outer_loop4 x (zPowersOf z 15) _ ?hostep 0 0 0 0 k0 k1 k2 k3 (hall k0 (by simp)) (hall k1 (by simp)) (hall k2 (by simp))
    (hall k3 (by simp))]
  case hostep =>
    -- the two step functions of the nested loops are taken from the goal (the loops are translated in place): on in-range
    -- data the inner one is `mapped_values[i] = mapped_values[i] * x + z_powers[j] * k_i_j`, the outer one
    -- `mapped_values[i] = isoHorner k_i`
    intro mv it hi hne hlen
    simp only [List.getLast?_eq_some_getLast (ne_nil_of_length_pos hne), hi, if_true]
    refine horner_loop_isoHorner it.1 _ _ _ ?_ mv it.2 hi (ne_nil_of_length_pos hne) hlen
    intro mv it hi hj
    simp only [List.getElem?_eq_getElem hi, List.getElem?_eq_getElem hj, hi, if_true]
    rfl
  simp only [pure_bind, List.getElem?_cons_zero, List.getElem?_cons_succ, List.length_cons, List.length_nil, List.set_cons_zero,
    List.set_cons_succ, List.map_cons, List.map_nil, List.getD_cons_zero, List.getD_cons_succ, Nat.zero_add, Nat.reduceAdd,
    Nat.reduceLT, ↓reduceIte]
  show Except.ok _ = Except.ok _
  with_reducible eq_refl

/-! ### `iso_map_G2` -/

theorem iso3_table_shape : h2c_ISO_3_MAP_COEFFICIENTS.length = 4
    ∧ ∀ ks ∈ h2c_ISO_3_MAP_COEFFICIENTS, 0 < ks.length ∧ ks.length ≤ 4 := by decide

/-- `iso_map_G2(x, y, z)` as translated from the source — `mapped_values = [0, 0, 0, 0]` mutated in place, `z_powers = [z, z**2,
    z**3]`, the nested Horner loops over `ISO_3_MAP_COEFFICIENTS`, the corrections `mapped_values[2] *= y`, `[3] *= z` and the
    final products — never raises (every IndexError branch is dead on the module's coefficient table) and returns the model's
    `isoMapG2 x y z`.
    Guard: the Python table of powers starts with `z` itself, the model's `zPowersOf` with `z ^ 1`; the two agree exactly when
    `z ^ 1 = z`, which holds for every value a Python `FQ2` can take (two coefficients in `[0, p)`, see `f2_pow_one`) but not for
    arbitrary unreduced coefficient lists of the Lean type. -/
theorem iso_map_G2_eq (x y z : F2) (hz : z ^ 1 = z) : Gen.ExtraHashIso.iso_map_G2 x y z = .ok (isoMapG2 x y z) := by
  unfold Gen.ExtraHashIso.iso_map_G2 isoMapG2
  have hzp : [z, z ^ 2, z ^ 3] = zPowersOf z 3 := by
    rw [show zPowersOf z 3 = [z ^ 1, z ^ 2, z ^ 3] from rfl, hz]
  have hzl : (zPowersOf z 3).length = 3 := by simp [zPowersOf]
  obtain ⟨k0, k1, k2, k3, hC⟩ := list4 (h2c_ISO_3_MAP_COEFFICIENTS.map fun ks => ks.map f2c)
    (by rw [List.length_map]; exact iso3_table_shape.1)
  have hall : ∀ k ∈ (h2c_ISO_3_MAP_COEFFICIENTS.map fun ks => ks.map f2c),
      0 < k.length ∧ k.length ≤ (zPowersOf z 3).length + 1 := by
    intro k hk
    obtain ⟨ks, hks, rfl⟩ := List.mem_map.mp hk
    rw [List.length_map, hzl]
    exact iso3_table_shape.2 ks hks
  rw [hC] at hall
  simp only [hzp, hC]
  rw [outer_loop4 x (zPowersOf z 3) _ ?hostep 0 0 0 0 k0 k1 k2 k3 (hall k0 (by simp))
    (hall k1 (by simp)) (hall k2 (by simp)) (hall k3 (by simp))]
  case hostep =>
    intro mv it hi hne hlen
    simp only [List.getLast?_eq_some_getLast (ne_nil_of_length_pos hne), hi, if_true]
    refine horner_loop_isoHorner it.1 _ _ _ ?_ mv it.2 hi (ne_nil_of_length_pos hne) hlen
    intro mv it hi hj
    simp only [List.getElem?_eq_getElem hi, List.getElem?_eq_getElem hj, hi, if_true]
    rfl
  simp only [pure_bind, List.getElem?_cons_zero, List.getElem?_cons_succ, List.length_cons, List.length_nil, List.set_cons_zero,
    List.set_cons_succ, List.map_cons, List.map_nil, List.getD_cons_zero, List.getD_cons_succ, Nat.zero_add, Nat.reduceAdd,
    Nat.reduceLT, ↓reduceIte]
  show Except.ok _ = Except.ok _
  with_reducible eq_refl

/-- `z ** 1 = z` for every `FQ2` value in normal form (two coefficients, each in `[0, p)`), i.e. for everything a Python `FQ2`
    object can be -/
theorem f2_pow_one (z : F2) (hlen : z.coeffs.length = 2) (hred : ∀ c ∈ z.coeffs, 0 ≤ c ∧ c < (blsP : Int)) : z ^ 1 = z := by
  obtain ⟨cs⟩ := z
  match cs, hlen, hred with
  | [a, b], _, hred =>
    have ha := hred a (by simp)
    have hb := hred b (by simp)
    show Fqp.mul (Fqp.one : F2) ⟨[a, b]⟩ = _
    have h1 : (1 : Int) % (blsP : Int) = 1 := Int.emod_eq_of_lt (by decide) blsP_gt_one
    unfold Fqp.mul Fqp.one
    simp [Fqp.ofInts, Fqp.convLoop, Fqp.optReduce, updAt, getI, downTo, blsMc2, fields_bls12_381_fq2_modulus_coeffs,
      List.range_succ, h1]
    exact ⟨Int.emod_eq_of_lt ha.1 ha.2, Int.emod_eq_of_lt hb.1 hb.2⟩

/-- `iso_map_G2_eq` with the guard spelled out as the normal form of `z` -/
theorem iso_map_G2_eq_wf (x y z : F2) (hlen : z.coeffs.length = 2) (hred : ∀ c ∈ z.coeffs, 0 ≤ c ∧ c < (blsP : Int)) :
    Gen.ExtraHashIso.iso_map_G2 x y z = .ok (isoMapG2 x y z) :=
  iso_map_G2_eq x y z (f2_pow_one z hlen hred)

/-- the guard is satisfiable (here `z = 5 + 6u`) -/
example (x y : F2) : Gen.ExtraHashIso.iso_map_G2 x y ⟨[5, 6]⟩ = .ok (isoMapG2 x y ⟨[5, 6]⟩) :=
  iso_map_G2_eq_wf x y ⟨[5, 6]⟩ rfl (by
    intro c hc
    simp only [List.mem_cons, List.not_mem_nil, or_false] at hc
    rcases hc with rfl | rfl <;> decide)

end PyEcc.Tie
