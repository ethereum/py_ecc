/-
  PyEcc.Props.C16 — `hkdf_extract`, `hkdf_expand` of py_ecc are RFC 5869 (over RFC 2104 HMAC), and
  `KeyGen` is the KeyGen of draft-irtf-cfrg-bls-signature-04 §2.3.  (Core Lean only.)

  Determinism needs no theorem: every modelled function is a pure Lean function of its arguments
  (and of the hash function `H`), so equal inputs give equal outputs by `congrArg`.
-/
import PyEcc.Lemmas.Hkdf
import PyEcc.Props.C01_Logic

namespace PyEcc.C16
open PyEcc.C15

/-! ### HMAC, HKDF-Extract -/

/-- **C16 (HMAC = RFC 2104).**  `hmac.new(key, msg, H).digest()` as modelled is
    `H((K ⊕ opad) ‖ H((K ⊕ ipad) ‖ msg))` with `K` the key hashed if longer than a block and then
    zero-padded to the block size `B`, `ipad = 0x36^B`, `opad = 0x5c^B` — for every hash function and
    every key for which the RFC's `K` has exactly `B` bytes (`HmacKeyOk`: the key, or else its digest,
    is at most one block long; automatic when `digest_size ≤ block_size`).  Without that hypothesis
    the RFC's "B byte string" does not exist; CPython (and the model) then XOR the whole, longer, key. -/
theorem hmac_eq_spec (H : HashFn) (key msg : Bytes) (h : HmacKeyOk H key) :
    hmac H key msg = Spec.hmac H key msg :=
  hmac_eq_spec_aux H key msg h

/-- the hypothesis holds for every key when the hash function is well-formed, e.g. for SHA-256 -/
example (key : Bytes) : HmacKeyOk sha256Fn key := hmacKeyOk_of_WF sha256Fn_WF key

/-- **C16 (HKDF-Extract = RFC 5869 §2.2).**  `hkdf_extract(salt, ikm) = HMAC-Hash(salt, IKM)`
    (salt is the key). -/
theorem hkdfExtract_eq_spec (H : HashFn) (salt ikm : Bytes) (h : HmacKeyOk H salt) :
    hkdfExtract H salt ikm = Spec.hkdfExtract H salt ikm :=
  hmac_eq_spec_aux H salt ikm h

/-- **C16 (empty salt ≡ zero salt).**  Under HMAC key padding the empty key and a key of `k ≤ B`
    zero bytes are the same key: `hmac.new(b"", m, H) = hmac.new(b"\x00"*k, m, H)`. -/
theorem hmac_empty_key (H : HashFn) (k : Nat) (hk : k ≤ H.blockSize) (m : Bytes) :
    hmac H [] m = hmac H (List.replicate k 0) m := by
  have h0 : ¬ 0 > H.blockSize := Nat.not_lt_zero _
  have h2 : ¬ k > H.blockSize := Nat.not_lt.mpr hk
  simp only [hmac, List.length_nil, List.length_replicate, if_neg h0, if_neg h2, List.nil_append,
    Nat.sub_zero, List.replicate_append_replicate, Nat.add_sub_of_le hk]

/-- **C16 (RFC 5869 §2.2 default salt).**  "salt: if not provided, it is set to a string of HashLen
    zeros": `hkdf_extract(b"", ikm) = hkdf_extract(b"\x00" * HashLen, ikm)`. -/
theorem hkdfExtract_empty_salt (H : HashFn) (hle : H.digestSize ≤ H.blockSize) (ikm : Bytes) :
    hkdfExtract H [] ikm = hkdfExtract H (List.replicate H.digestSize 0) ikm :=
  hmac_empty_key H H.digestSize hle ikm

example : sha256Fn.digestSize ≤ sha256Fn.blockSize := by decide

/-! ### HKDF-Expand -/

/-- **C16 (HKDF-Expand = RFC 5869 §2.3, for HashLen = 32).**  The implementation hard-codes
    `n = ceil(length / 32)`, so the statement is for hash functions with `digest_size = 32`
    (SHA-256 is what the implementation uses): for every `prk` (with RFC-2104-representable key),
    `info` and `length`, `hkdf_expand(prk, info, length)` returns the first `length` bytes of
    `T(1) ‖ … ‖ T(N)` if `length ≤ 255·32 = 8160`, and raises `ValueError` (`bytes([256])`)
    otherwise — exactly the RFC's domain `L ≤ 255·HashLen`. -/
theorem hkdfExpand_eq_spec (H : HashFn) (h32 : H.digestSize = 32) (prk info : Bytes)
    (hk : HmacKeyOk H prk) (L : Nat) :
    hkdfExpand H prk info L =
      match Spec.hkdfExpand H prk info L with
      | some okm => .ok okm
      | none => .error .value := by
  rw [hkdfExpand_eq_aux H prk info hk h32]
  unfold Spec.hkdfExpand
  rw [h32]
  split <;> rfl

/-- **C16 (HKDF-Expand, explicit form).**  Same statement with the domain condition spelled out. -/
theorem hkdfExpand_eq (H : HashFn) (h32 : H.digestSize = 32) (prk info : Bytes)
    (hk : HmacKeyOk H prk) (L : Nat) :
    hkdfExpand H prk info L =
      if L ≤ 255 * 32 then .ok (Spec.hkdfOkm H prk info L) else .error .value :=
  hkdfExpand_eq_aux H prk info hk h32 L

example : sha256Fn.digestSize = 32 := rfl

/-- **C16 (HKDF-Expand raises iff `length > 8160`)** — for *any* hash function and key, no
    hypotheses: the only failure is `bytes([256])` in the 256th iteration, a `ValueError`. -/
theorem hkdfExpand_error_iff (H : HashFn) (prk info : Bytes) (L : Nat) :
    (∃ e, hkdfExpand H prk info L = .error e) ↔ L > 255 * 32 := by
  have hc := spec_ceilDiv_le_iff L 255 (b := 32) (by decide)
  unfold hkdfExpand
  rw [ceilDiv_eq_spec L (by decide : 0 < 32)]
  dsimp only
  constructor
  · rintro ⟨e, he⟩
    apply Classical.byContradiction
    intro hn
    obtain ⟨r, hr⟩ := hkdfExpandLoop_isOk H prk info (Spec.ceilDiv L 32) 0 [] [] (by omega)
    rw [hr] at he
    cases he
  · intro h
    refine ⟨.value, ?_⟩
    rw [hkdfExpandLoop_error H prk info (Spec.ceilDiv L 32) 0 (by omega) (by omega)]
    rfl

/-- **C16 (output length).**  For a well-formed hash function with 32-byte digests, a successful
    `hkdf_expand(prk, info, length)` returns exactly `length` bytes. -/
theorem hkdfExpand_length (H : HashFn) (hw : H.WF) (h32 : H.digestSize = 32) (prk info : Bytes)
    (L : Nat) (okm : Bytes) (h : hkdfExpand H prk info L = .ok okm) : okm.length = L := by
  rw [hkdfExpand_eq_aux H prk info (hmacKeyOk_of_WF hw prk) h32] at h
  split at h
  · injection h with h
    subst h
    exact hkdfOkm_length H hw prk info L
  · cases h

example : sha256Fn.WF ∧ sha256Fn.digestSize = 32 := ⟨sha256Fn_WF, rfl⟩

/-! ### KeyGen -/

/-- **C16 (generated constant).**  The `l` computed by `ceil((1.5 * ceil(log2(curve_order))) / 8)`
    is 48, which is the draft's `L = ceil((3 * ceil(log2(r))) / 16)` for `ceil(log2 r) = 255`. -/
theorem keygen_L : Gen.Consts.suites_keygen_L = 48 ∧ Spec.keyGenL = 48 ∧
    2 ^ 254 < curveOrder ∧ curveOrder < 2 ^ 255 := by
  decide

/-- The fuel-limited specification finds `sk` iff `sk` is the first non-zero candidate and it occurs
    within the first `fuel` passes (links `Spec.keyGen` to the relation `Spec.IsKeyGen`). -/
theorem spec_keyGen_some_iff (H : HashFn) (r : Nat) (ikm info : Bytes) (fuel sk : Nat) :
    Spec.keyGen H r ikm info fuel = some sk ↔
      ∃ n, n < fuel ∧ Spec.keyGenCandidate H r ikm info n = sk ∧ sk ≠ 0 ∧
        ∀ m, m < n → Spec.keyGenCandidate H r ikm info m = 0 := by
  unfold Spec.keyGen
  rw [spec_keyGenFrom_some_iff]
  simp only [Nat.zero_add]

theorem spec_keyGen_none_iff (H : HashFn) (r : Nat) (ikm info : Bytes) (fuel : Nat) :
    Spec.keyGen H r ikm info fuel = none ↔ ∀ n, n < fuel → Spec.keyGenCandidate H r ikm info n = 0 := by
  unfold Spec.keyGen
  rw [spec_keyGenFrom_none_iff]
  simp only [Nat.zero_add]

/-- **C16 (KeyGen loop = draft v4 KeyGen, fuel explicit).**  For every amount of fuel, the model's
    unrolled `while SK == 0` loop started from the salt `"BLS-SIG-KEYGEN-SALT-"` computes the
    specification's KeyGen limited to the same number of passes (salt re-hashed before each attempt,
    `PRK = HKDF-Extract(salt, IKM ‖ 0x00)`, `OKM = HKDF-Expand(PRK, key_info ‖ I2OSP(48, 2), 48)`,
    `SK = OS2IP(OKM) mod r`); running out of fuel is the model's `.error .other` (the Python loop
    would simply continue). -/
theorem keyGenLoop_eq_spec (H : HashFn) (hw : H.WF) (h32 : H.digestSize = 32) (ikm info : Bytes)
    (fuel : Nat) :
    keyGenLoop H ikm info fuel Spec.keyGenSalt =
      match Spec.keyGen H curveOrder ikm info fuel with
      | some sk => .ok sk
      | none => .error .other :=
  keyGenLoop_eq_spec_aux H hw h32 ikm info fuel 0

/-- **C16 (KeyGen = draft v4 KeyGen).**  The model's `KeyGen(IKM, key_info)` (fuel 64) is the
    specification limited to 64 passes. -/
theorem keyGen_eq_spec (H : HashFn) (hw : H.WF) (h32 : H.digestSize = 32) (ikm info : Bytes) :
    keyGen H ikm info =
      match Spec.keyGen H curveOrder ikm info 64 with
      | some sk => .ok sk
      | none => .error .other := by
  unfold keyGen
  rw [keyGenSalt_eq]
  exact keyGenLoop_eq_spec H hw h32 ikm info 64

/-- **C16 (KeyGen soundness, every fuel).**  For every amount of fuel: if the model's unrolled loop
    returns `sk`, then `sk` is the result of the draft's KeyGen — the first non-zero candidate
    `OS2IP(OKM) mod r` in the sequence of attempts (found at an attempt `n < fuel`). -/
theorem keyGenLoop_sound (H : HashFn) (hw : H.WF) (h32 : H.digestSize = 32) (ikm info : Bytes)
    (fuel sk : Nat) (h : keyGenLoop H ikm info fuel Spec.keyGenSalt = .ok sk) :
    Spec.IsKeyGen H curveOrder ikm info sk := by
  rw [keyGenLoop_eq_spec H hw h32] at h
  cases hs : Spec.keyGen H curveOrder ikm info fuel with
  | none => rw [hs] at h; cases h
  | some sk' =>
    rw [hs] at h
    injection h with h
    subst h
    obtain ⟨n, _, hc, hne, hz⟩ := (spec_keyGen_some_iff H curveOrder ikm info fuel sk').mp hs
    exact ⟨n, hc, hne, hz⟩

/-- **C16 (KeyGen soundness).**  If the model's `KeyGen(IKM, key_info)` returns `sk`, then `sk` is
    the result of the draft's KeyGen. -/
theorem keyGen_sound (H : HashFn) (hw : H.WF) (h32 : H.digestSize = 32) (ikm info : Bytes) (sk : Nat)
    (h : keyGen H ikm info = .ok sk) : Spec.IsKeyGen H curveOrder ikm info sk := by
  unfold keyGen at h
  rw [keyGenSalt_eq] at h
  exact keyGenLoop_sound H hw h32 ikm info 64 sk h

/- non-vacuity: a (toy) well-formed 32-byte hash function for which `KeyGen` returns a key; for
    SHA-256 the hypotheses `sha256Fn.WF`, `digestSize = 32` are shown above (evaluating SHA-256 in
    the kernel is avoided on purpose) -/
def toyHash : HashFn := { digestSize := 32, blockSize := 64, run := fun _ => List.replicate 32 1 }

theorem toyHash_WF : toyHash.WF := ⟨fun _ => rfl, by decide, by decide⟩

set_option maxRecDepth 100000 in
example : ∃ H : HashFn, H.WF ∧ H.digestSize = 32 ∧ ∃ sk, keyGen H [] [] = .ok sk :=
  ⟨toyHash, toyHash_WF, rfl, _, rfl⟩

/-- **C16 (KeyGen loop completeness, every fuel).**  If the draft's KeyGen terminates at attempt `n < fuel` with
    result `sk`, the loop run with that fuel returns `sk`; running out of fuel (`.error .other`) is the only way
    it raises, and happens only when the first `fuel` candidates are all zero. -/
theorem keyGenLoop_complete (H : HashFn) (hw : H.WF) (h32 : H.digestSize = 32) (ikm info : Bytes)
    (fuel : Nat) :
    (∀ sk n, n < fuel → Spec.keyGenCandidate H curveOrder ikm info n = sk → sk ≠ 0 →
        (∀ m, m < n → Spec.keyGenCandidate H curveOrder ikm info m = 0) →
        keyGenLoop H ikm info fuel Spec.keyGenSalt = .ok sk) ∧
    (∀ e, keyGenLoop H ikm info fuel Spec.keyGenSalt = .error e →
        e = .other ∧ ∀ n, n < fuel → Spec.keyGenCandidate H curveOrder ikm info n = 0) := by
  rw [keyGenLoop_eq_spec H hw h32]
  constructor
  · intro sk n hn hc hne hz
    rw [(spec_keyGen_some_iff H curveOrder ikm info fuel sk).mpr ⟨n, hn, hc, hne, hz⟩]
  · intro e he
    cases hs : Spec.keyGen H curveOrder ikm info fuel with
    | some sk => rw [hs] at he; cases he
    | none =>
      rw [hs] at he
      injection he with he
      exact ⟨he.symm, (spec_keyGen_none_iff H curveOrder ikm info fuel).mp hs⟩

/-- **C16 (KeyGen completeness up to the fuel).**  If the draft's KeyGen terminates within 64
    attempts with result `sk`, the model returns `sk`; the model's artificial failure
    (`.error .other`) occurs only when the first 64 candidates are all zero — for SHA-256 an event
    of probability about `2^(-255·64)`, in which the Python code would keep looping. -/
theorem keyGen_complete (H : HashFn) (hw : H.WF) (h32 : H.digestSize = 32) (ikm info : Bytes) :
    (∀ sk n, n < 64 → Spec.keyGenCandidate H curveOrder ikm info n = sk → sk ≠ 0 →
        (∀ m, m < n → Spec.keyGenCandidate H curveOrder ikm info m = 0) →
        keyGen H ikm info = .ok sk) ∧
    (∀ e, keyGen H ikm info = .error e →
        e = .other ∧ ∀ n, n < 64 → Spec.keyGenCandidate H curveOrder ikm info n = 0) := by
  unfold keyGen
  rw [keyGenSalt_eq]
  exact keyGenLoop_complete H hw h32 ikm info 64

/-- **C16 (range).**  Whatever the hash function, a secret key returned by `KeyGen` satisfies
    `1 ≤ SK < r` (it is a valid private key). -/
theorem keyGen_range (H : HashFn) (ikm info : Bytes) (sk : Nat) (h : keyGen H ikm info = .ok sk) :
    1 ≤ sk ∧ sk < curveOrder :=
  C01.keyGenLoop_range H ikm info 64 _ sk h

end PyEcc.C16
