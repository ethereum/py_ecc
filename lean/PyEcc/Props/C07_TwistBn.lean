/-
  PyEcc.Props.C07_TwistBn — property C07, bn128 (alt_bn128): **`twist` is an injective group
  homomorphism from the curve `E'(Fp²) : y² = x³ + 3/(9+i)` into the curve `E(Fp¹²) : y² = x³ + 3`**, for the
  executable model of both modules:

    * `twistOptBn` (`py_ecc/optimized_bn128/optimized_pairing.py::twist`, projective:
      `(x : y : z) ↦ (ψ(x)·w² : ψ(y)·w³ : ψ(z))`), and
    * `twistRefBn` (`py_ecc/bn128/bn128_pairing.py::twist`, affine: `(x, y) ↦ (ψ(x)·w², ψ(y)·w³)`).

  Same structure as `Props/C07_Twist.lean` (BLS12-381): (a) the ring embedding `ψ : Fp² → Fp¹²`,
  `a₀ + a₁·i ↦ (a₀ − 9a₁) + a₁·w⁶`; (b) images of curve points are curve points; (c) `twist` commutes with
  `add`, `double`, `neg`, `multiply`, `∞`, and is the Mathlib-level homomorphism `bnTwist`; (d) injectivity.
  Inputs are canonical, on-curve where the group law is involved; optimized statements hold for every
  projective representative and are up to the library's `eq`.  Supporting material:
  `Lemmas/TwistField.lean`, `Lemmas/TwistPoint.lean`, `Lemmas/TwistBn.lean`, `Lemmas/TwistLaws.lean` (stated for
  the `Gen.OptBls` / `Gen.RefBls` code, of which the bn128 modules are copies).  That `G12 = twist(G2)` for the
  module constants is `C07.Consts.bn_G12`.
-/
import PyEcc.Lemmas.TwistBn
import PyEcc.Lemmas.TwistLaws
import PyEcc.Props.C07_FactsG2
import PyEcc.Lemmas.TwinModules

set_option linter.unusedSectionVars false

namespace PyEcc.C07T.Bn
open PyEcc PyEcc.Gen PyEcc.Gen.Consts PyEcc.Fqp PyEcc.FqpSem PyEcc.Transfer PyEcc.TwistSem
  PyEcc.CurveSem WeierstrassCurve

/-! ## (a) the field embedding `ψ` -/

/-- **ψ is a ring homomorphism with `ψ(a₀ + a₁·i) = (a₀ − 9a₁) + a₁·w⁶`, and it is injective.**  It exists
    because `(w⁶ − 9)² = −1` in `FQ12 = Fp[w]/(w¹² − 18w⁶ + 82)`. -/
theorem psi_bn :
    (wQ bnP bnMc12 ^ 6 - 9) ^ 2 = -1 ∧
    (∀ a₀ a₁ : ZMod bnP, psiBn (AdjoinRoot.of _ a₀ + AdjoinRoot.of _ a₁ * AdjoinRoot.root _)
        = AdjoinRoot.of _ (a₀ - 9 * a₁) + AdjoinRoot.of _ a₁ * wQ bnP bnMc12 ^ 6) ∧
    Function.Injective psiBn := ⟨bn_w6_sq, psiBn_apply, psiBn_injective⟩

/-- **The coefficient shuffling of `twist` implements ψ** (either class `v`): for every well-formed `FQ2`
    element `x`, `FQ12([c0 − 9·c1, 0,0,0,0,0, c1, 0,…])` has the value `ψ(x)` and is canonical. -/
theorem embed12_bn {v : Variant} {x : Fqp v bnP bnMc2} (hx : WF x) :
    toQ (embed12 9 0 6 x : F12bn v) = psiBn (toQ x) ∧ Canon (embed12 9 0 6 x : F12bn v) :=
  ⟨toQ_embed_bn hx, canon_embed_bn _ _ _ _⟩

example : WF (bnG2.1) := by decide

/-- **`b2` is mapped to `b12`**: `ψ(b2)·w⁶ = b12` in `K12bn` (`b2 = 3/(9+i)`, `ψ(9+i) = w⁶`), either class. -/
theorem twist_b_bn (v : Variant) : psiBn (toQ (bnB2v v)) * wQ bnP bnMc12 ^ 6 = toQ (bnB12 v) :=
  bn_b_twist v

/-! ## the Mathlib-level statement -/

section mathlib
variable [DecidableEq K2bn] [DecidableEq K12bn]

/-- **The twist of Mathlib points `(x, y) ↦ (ψ(x)·w², ψ(y)·w³)`, `0 ↦ 0`, is an injective homomorphism**
    `E'(K2bn) : y² = x³ + b2 → E(K12bn) : y² = x³ + b12` of Mathlib's point groups (`bnTwist v` is an
    `AddMonoidHom`, so `bnTwist (P + Q) = bnTwist P + bnTwist Q`, `bnTwist (-P) = -bnTwist P`,
    `bnTwist (n • P) = n • bnTwist P` are Mathlib's `map_add`, `map_neg`, `map_nsmul`). -/
theorem bnTwist_spec (v : Variant) :
    Function.Injective (bnTwist v) ∧
    (∀ P, reprRef (bnTwist v P)
      = (reprRef P).map fun q => (psiBn q.1 * (wQ bnP bnMc12) ^ 2,
          psiBn q.2 * (wQ bnP bnMc12) ^ 3)) :=
  ⟨bnTwist_injective v, fun P => reprRef_bnTwist v P⟩

/-- **Optimized `twist` refines the Mathlib twist**: if the value of a canonical triple `T` represents the
    point `P` of `E'(K2bn)` (any projective representative; `z = 0` for `P = 0`), then `twist(T)` is canonical
    and its value represents `bnTwistOpt P` on `E(K12bn)`. -/
theorem twist_opt_refines {T : BnG2Pt} {P : CurvePt (toQ bnB2 : K2bn)} (c : CanonT T)
    (r : Represents (mapT toQ T) P) :
    CanonT (twistOptBn (mc12 := bnMc12) T)
      ∧ Represents (mapT (toQ : F12bn .opt → K12bn) (twistOptBn T)) (bnTwistOpt P) :=
  have k := rep_twistOptBn ⟨c, r⟩
  ⟨k.good, k.rep⟩

/-- **Reference `twist` refines the Mathlib twist**: if the value of a canonical point `p` is the
    representation of `P` then `twist(p)` is canonical and its value is the representation of
    `bnTwist .ref P`. -/
theorem twist_ref_refines {p : Option (Fqp .ref bnP bnMc2 × Fqp .ref bnP bnMc2)}
    {P : CurvePt (toQ (bnB2v .ref) : K2bn)} (c : CanonO p) (r : reprRef P = mapO toQ p) :
    CanonO (twistRefBn (mc12 := bnMc12) p)
      ∧ reprRef (bnTwist .ref P) = mapO (toQ : F12bn .ref → K12bn) (twistRefBn p) :=
  have k := rep_twistRefBn ⟨c, r⟩
  ⟨k.good, k.rep⟩

end mathlib

/-! ## optimized module: `twistOptBn` on canonical `FQ2` triples -/

section opt
variable {S T T₁ T₂ : BnG2Pt}

private theorem k3 : (3 : K12bn) ≠ 0 := (k12bn_field_ok .opt).2.1
private theorem kb : (toQ (bnB12 .opt) : K12bn) ≠ 0 := (k12bn_field_ok .opt).2.2.2

/-- the output of the optimized `twist` is always canonical -/
theorem twist_opt_canon (T : BnG2Pt) : CanonT (twistOptBn (mc12 := bnMc12) T) := canonT_twistOptBn T

/-- **(b) optimized `twist` maps curve points to curve points**: if the canonical triple `T` passes
    `is_on_curve(T, b2)` then `twist(T)` passes `is_on_curve(·, b12)`. -/
theorem twist_opt_on_curve (c : CanonT T) (h : OptBn.is_on_curve T bnB2 = true) :
    OptBn.is_on_curve (twistOptBn T) (bnB12 .opt) = true := by
  rw [OptBn.is_on_curve_eq] at h ⊢
  classical
  exact tw_opt_on_curve curveF2bn (curveF12bn .opt) rep_twistOptBn
    c h

/-- **(c) optimized `twist` commutes with `add`**: `twist(add(T₁, T₂))` and `add(twist(T₁), twist(T₂))`
    are `eq`, for canonical on-curve triples (every configuration: ∞, doubling, inverse points). -/
theorem twist_opt_add (c₁ : CanonT T₁) (c₂ : CanonT T₂) (h₁ : OptBn.is_on_curve T₁ bnB2 = true)
    (h₂ : OptBn.is_on_curve T₂ bnB2 = true) :
    OptBn.eq (twistOptBn (mc12 := bnMc12) (OptBn.add T₁ T₂))
      (OptBn.add (twistOptBn T₁) (twistOptBn T₂)) = true := by
  rw [OptBn.is_on_curve_eq] at h₁ h₂
  rw [OptBn.eq_eq, OptBn.add_eq]
  classical
  exact tw_opt_add curveF2bn (curveF12bn .opt) rep_twistOptBn
    c₁ c₂ h₁ h₂

/-- **(c) optimized `twist` commutes with `double`**, up to `eq`. -/
theorem twist_opt_double (c : CanonT T) (h : OptBn.is_on_curve T bnB2 = true) :
    OptBn.eq (twistOptBn (mc12 := bnMc12) (OptBn.double T)) (OptBn.double (twistOptBn T)) = true := by
  rw [OptBn.is_on_curve_eq] at h
  rw [OptBn.eq_eq, OptBn.double_eq]
  classical
  exact tw_opt_double curveF2bn (curveF12bn .opt) rep_twistOptBn
    c h

/-- **(c) optimized `twist` commutes with `neg`**, up to `eq`. -/
theorem twist_opt_neg (c : CanonT T) (h : OptBn.is_on_curve T bnB2 = true) :
    OptBn.eq (twistOptBn (mc12 := bnMc12) (OptBn.neg T)) (OptBn.neg (twistOptBn T)) = true := by
  rw [OptBn.is_on_curve_eq] at h
  rw [OptBn.eq_eq, OptBn.neg_eq]
  classical
  exact tw_opt_neg curveF2bn (curveF12bn .opt) rep_twistOptBn c h

/-- **(c) optimized `twist` commutes with `multiply(·, n)`**, every `n`, up to `eq`. -/
theorem twist_opt_multiply (c : CanonT T) (h : OptBn.is_on_curve T bnB2 = true) (n : ℕ) :
    OptBn.eq (twistOptBn (mc12 := bnMc12) (OptBn.multiply T n))
      (OptBn.multiply (twistOptBn T) n) = true := by
  rw [OptBn.is_on_curve_eq] at h
  rw [OptBn.eq_eq, OptBn.multiply_eq]
  classical
  exact tw_opt_multiply curveF2bn (curveF12bn .opt) rep_twistOptBn
    c h n

/-- **(c) optimized `twist` maps ∞ to ∞ and only ∞**: `is_inf(twist(T)) = is_inf(T)` for canonical `T`. -/
theorem twist_opt_is_inf (c : CanonT T) :
    OptBn.is_inf (twistOptBn (mc12 := bnMc12) T) = OptBn.is_inf T := by
  obtain ⟨x, y, z⟩ := T
  have g2 := goodHom_F2bn (v := .opt)
  have g := goodHom_F12bn (v := .opt)
  have e : (embed12 9 0 6 z : F12bn .opt) = 0 ↔ z = 0 := by
    rw [← g.eq_zero_iff (canon_embed_bn _ _ _ _), toQ_embed_bn c.2.2.wf, map_eq_zero,
      g2.eq_zero_iff c.2.2]
  simp only [OptBn.is_inf, twistOptBn, e]

/-- **(d) optimized `twist` is injective on canonical triples** (coordinate-wise). -/
theorem twist_opt_injective (cS : CanonT S) (cT : CanonT T)
    (e : twistOptBn (mc12 := bnMc12) S = twistOptBn T) : S = T :=
  tw_opt_injective psiBn goodHom_F2bn (pow_ne_zero 2 wQ_bn_ne_zero) (pow_ne_zero 3 wQ_bn_ne_zero) one_ne_zero
    (fun c => by rw [mapT_twistOptBn c, mul_one]) cS cT e

/-- **(d) optimized `twist` is injective on points**: for canonical on-curve triples, `twist(S)` and
    `twist(T)` are `eq` exactly when `S` and `T` are `eq` (any projective representatives). -/
theorem twist_opt_eq_iff (cS : CanonT S) (cT : CanonT T) (hS : OptBn.is_on_curve S bnB2 = true)
    (hT : OptBn.is_on_curve T bnB2 = true) :
    OptBn.eq (twistOptBn (mc12 := bnMc12) S) (twistOptBn T) = true ↔ OptBn.eq S T = true := by
  rw [OptBn.is_on_curve_eq] at hS hT
  rw [OptBn.eq_eq]
  classical
  exact tw_opt_eq_iff curveF2bn (curveF12bn .opt) rep_twistOptBn
    bnTwistOpt_injective cS cT hS hT

/-- non-vacuity: the generator `G2` of the optimized module is canonical and on the curve (and
    `twist(G2) = G12`, `C07.Consts.bn_G12`) -/
example : CanonT bnG2 ∧ OptBn.is_on_curve bnG2 bnB2 = true :=
  ⟨canonT_bnG2, C07.Facts.bn_G2_opt.1⟩

end opt

/-! ## reference module: `twistRefBn` on canonical `FQ2` points -/

section ref
variable {p q : Option (Fqp .ref bnP bnMc2 × Fqp .ref bnP bnMc2)}

/-- the output of the reference `twist` is always canonical -/
theorem twist_ref_canon (p : Option (Fqp .ref bnP bnMc2 × Fqp .ref bnP bnMc2)) :
    CanonO (twistRefBn (mc12 := bnMc12) p) := canonO_twistRefBn

/-- **(b) reference `twist` maps curve points to curve points.** -/
theorem twist_ref_on_curve (c : CanonO p) (h : RefBn.is_on_curve p (bnB2v .ref) = true) :
    RefBn.is_on_curve (twistRefBn p) (bnB12 .ref) = true := by
  rw [RefBn.is_on_curve_eq] at h ⊢
  classical
  exact tw_ref_on_curve (curveF2bnv .ref) (curveF12bn .ref) rep_twistRefBn
    c h

/-- **(c) reference `twist` commutes with `add`**: `add(twist(p), twist(q)) = twist(add(p, q))` (in the
    exception monad; neither side raises), for canonical on-curve points, every configuration. -/
theorem twist_ref_add (cp : CanonO p) (cq : CanonO q)
    (hp : RefBn.is_on_curve p (bnB2v .ref) = true) (hq : RefBn.is_on_curve q (bnB2v .ref) = true) :
    RefBn.add (twistRefBn (mc12 := bnMc12) p) (twistRefBn q)
      = (RefBn.add p q).map twistRefBn := by
  rw [RefBn.is_on_curve_eq] at hp hq
  rw [RefBn.add_eq]
  classical
  exact tw_ref_add (curveF2bnv .ref) (curveF12bn .ref) rep_twistRefBn
    cp cq hp hq

/-- **(c) reference `twist` commutes with `double`.** -/
theorem twist_ref_double (cp : CanonO p) (hp : RefBn.is_on_curve p (bnB2v .ref) = true) :
    RefBn.double (twistRefBn (mc12 := bnMc12) p) = twistRefBn (RefBn.double p) := by
  rw [RefBn.is_on_curve_eq] at hp
  rw [RefBn.double_eq]
  classical
  exact tw_ref_double (curveF2bnv .ref) (curveF12bn .ref) rep_twistRefBn
    cp hp

/-- **(c) reference `twist` commutes with `neg`.** -/
theorem twist_ref_neg (cp : CanonO p) (hp : RefBn.is_on_curve p (bnB2v .ref) = true) :
    RefBn.neg (twistRefBn (mc12 := bnMc12) p) = twistRefBn (RefBn.neg p) := by
  rw [RefBn.is_on_curve_eq] at hp
  rw [RefBn.neg_eq]
  classical
  exact tw_ref_neg (curveF2bnv .ref) (curveF12bn .ref) rep_twistRefBn cp hp

/-- **(c) reference `twist` commutes with `multiply(·, n)`**, every `n` (neither side raises). -/
theorem twist_ref_multiply (cp : CanonO p) (hp : RefBn.is_on_curve p (bnB2v .ref) = true) (n : ℕ) :
    RefBn.multiply (twistRefBn (mc12 := bnMc12) p) n = (RefBn.multiply p n).map twistRefBn := by
  rw [RefBn.is_on_curve_eq] at hp
  rw [RefBn.multiply_eq]
  classical
  exact tw_ref_multiply (curveF2bnv .ref) (curveF12bn .ref) rep_twistRefBn
    cp hp n

/-- **(c) reference `twist` maps ∞ to ∞ and only ∞.** -/
theorem twist_ref_none : twistRefBn (mc12 := bnMc12) p = none ↔ p = none := by
  rcases p with _ | ⟨x, y⟩ <;> simp [twistRefBn]

/-- **(d) reference `twist` is injective on canonical points.** -/
theorem twist_ref_injective (cp : CanonO p) (cq : CanonO q)
    (e : twistRefBn (mc12 := bnMc12) p = twistRefBn q) : p = q := by
  classical
  exact tw_ref_injective psiBn cBn_ne_zero (goodHom_F2bn (v := .ref)) mapO_twistRefBn cp cq e

/-- non-vacuity: the generator `G2` of the reference module is canonical and on the curve (and
    `twist(G2) = G12`, `C07.Consts.bn_G12`) -/
example : CanonO (some ((⟨bn128_G2.getD 0 []⟩ : Fqp .ref bnP bnMc2), ⟨bn128_G2.getD 1 []⟩)) ∧
    RefBn.is_on_curve (some ((⟨bn128_G2.getD 0 []⟩ : Fqp .ref bnP bnMc2), ⟨bn128_G2.getD 1 []⟩))
      (bnB2v .ref) = true := by decide +kernel

end ref

end PyEcc.C07T.Bn
