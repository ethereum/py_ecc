/-
  Property C12, bn128 clause: the OPTIMIZED bn128 pairing
  (`py_ecc/optimized_bn128/optimized_pairing.py`) equals the REFERENCE bn128 pairing
  (`py_ecc/bn128/bn128_pairing.py`) as an FQ12 value (coefficient list).

  Model: `pairingOptBn`, `pairingRefBn`, `optBnMillerLoop`, `refMillerLoop` of `Model/Pairing.lean` around
  the GENERATED `linefunc` / `double` / `add` / `neg` / `is_on_curve` of both modules.

  Unlike BLS12-381, the two Miller values are NOT equal before the final exponentiation: the optimized
  loop scans the SIGNED digits `1, 0, −1` of `pseudo_binary_encoding` (adding `−Q` for `−1`), the
  reference loop the binary digits of `ate_loop_count`.  How this is bridged (`Lemmas/MillerBn*.lean`):
   (1) `Fp⁶` (`InFp6 x : x ^ p⁶ = x`) and `x ≠ 0 → InFp6 x → x ^ ((p¹² − 1)/r) = 1` (`MillerBnSub`);
   (2) Miller's algorithm is well defined up to vertical lines: in the coordinate ring of `E`, a pair
       `(N, D)` with `⟨N⟩·I(kT) = ⟨D⟩·I(T)^k` is preserved by doubling / adding `T` / subtracting `T`
       steps (`N` collects the line functions the loops multiply in, `D` only vertical lines), and two
       such pairs for the same `k` satisfy `N·D' = c·N'·D` with a constant `c`, `c⁴ = 1`
       (`MillerBnIdeal`, from Mathlib's `XYIdeal_mul_XYIdeal`; units of the coordinate ring are constants);
   (3) both loops are instances (`MillerBnLoop`, `MillerBnOpt`), both digit tables give `ate_loop_count`,
       vertical values at `P` are non-zero elements of `Fp⁶` (`MillerBnVert`), `4 ∣ (p¹² − 1)/r`; so the two
       accumulated values agree after the power; the Frobenius line steps are the same affine computation
       in both modules (`MillerBnTail`).
  Regularity (running points finite, never 2-torsion) follows from `multiply(Q, curve_order) = ∞`; so
  does `n·Q + π(Q) ≠ ∞` for the twisted point (needed for the reference code not to raise in the last line
  step): `π` is an endomorphism of `E(Fp¹²)` with `π¹² = id`, and `r ∤ n¹² − 1` (`MillerBnFrob`).  Hence
  `pairingOptBn_eq_pairingRefBn_subgroup` has no hypothesis besides "same inputs, `Q` killed by `curve_order`".
-/
import PyEcc.Lemmas.MillerBnPairing
import PyEcc.Props.C12
import PyEcc.Props.C07_ModelBn

set_option linter.unusedSectionVars false

namespace PyEcc.C12MB
open Polynomial PyEcc PyEcc.Gen PyEcc.Gen.Consts PyEcc.Fqp PyEcc.FqpSem PyEcc.Transfer PyEcc.TwistSem
  PyEcc.PairingSem PyEcc.MillerBnSem

/-- **The final exponent kills `Fp⁶ \ {0}`.**  In the bn128 field `FQ12 = Fp[w]/(w¹² − 18w⁶ + 82)`, every
    non-zero `x` of the subfield with `p⁶` elements (`x ^ p⁶ = x`) satisfies
    `x ^ ((field_modulus¹² − 1) // curve_order) = 1` — the exponent of `final_exponentiate` and of
    `miller_loop`.  (`(p⁶ − 1)` divides the exponent because `curve_order ∤ p⁶ − 1`.) -/
theorem finalExp_kills_Fp6 {x : K12bn} (h0 : x ≠ 0) (hx : InFp6 x) : x ^ bnFinalExp = 1 :=
  pow_finalExp_of_inFp6 h0 hx

/-- `Fp⁶` is a subfield containing `Fp`, the image of `FQ2` under the twist embedding `i ↦ w⁶ − 9`, and
    `w²` — hence every FQ12 element with only even powers of `w`, in particular every `x`-coordinate
    `ψ(x)·w²` of a twisted point and every `x`-coordinate of a cast G1 point. -/
theorem Fp6_subfield :
    InFp6 0 ∧ InFp6 1 ∧ (∀ x y : K12bn, InFp6 x → InFp6 y → InFp6 (x + y) ∧ InFp6 (x * y) ∧ InFp6 (x - y))
      ∧ (∀ x : K12bn, InFp6 x → InFp6 (-x) ∧ InFp6 x⁻¹)
      ∧ (∀ c : ZMod bnP, InFp6 (AdjoinRoot.of _ c)) ∧ (∀ a : K2bn, InFp6 (psiBn a))
      ∧ InFp6 (wQ bnP bnMc12 ^ 2) :=
  ⟨map_zero NegBnSem.sigma, map_one NegBnSem.sigma,
    fun _ _ hx hy => ⟨ConjSem.Ev.add (σ := NegBnSem.sigma) hx hy, ConjSem.Ev.mul (σ := NegBnSem.sigma) hx hy,
      ConjSem.Ev.sub (σ := NegBnSem.sigma) hx hy⟩,
    fun _ hx => ⟨ConjSem.Ev.neg (σ := NegBnSem.sigma) hx, ConjSem.Ev.inv (σ := NegBnSem.sigma) hx⟩,
    fun c => ConjSem.of_pow c 6, inFp6_psi, inFp6_w2⟩

example : (2 : K12bn) ≠ 0 ∧ InFp6 (2 : K12bn) := ⟨k12bn_two, inFp6_natCast 2⟩

variable [DecidableEq K2bn]

/-- **`miller_loop`: optimized = reference** (bn128).  Let `Q` (reduced FQ2 triple) and `P` (FQ triple) be
    finite, on their curves, representatives of the reference points `q`, `p`, with
    `multiply(Q, curve_order) = ∞`.  Then the reference
    `miller_loop(twist(q), cast_point_to_fq12(p))` returns normally, and its value is, coefficient for
    coefficient, the value of the optimized `miller_loop(twist(Q), cast_point_to_fq12(P))`
    (both include the final exponentiation). -/
theorem millerLoop_opt_eq_ref_bn {Q : BnG2Pt} {q : Option (RBn2 × RBn2)} {P : BnG1Pt}
    {p : Option (Fq bnP × Fq bnP)} (cQ : CanonT Q) (cq : GoodO Canon q)
    (hQ : toAff (mapT toQ Q) = mapO (toQ : RBn2 → K2bn) q) (hP : toAff P = p)
    (hon : OptBn.is_on_curve Q bnB2 = true)
    (honP : OptBn.is_on_curve P (Fq.ofInt optimized_bn128_b : Fq bnP) = true)
    (hQz : Q.2.2 ≠ 0) (hPz : P.2.2 ≠ 0)
    (hsub : OptBn.is_inf (OptBn.multiply Q optimized_bn128_curve_order) = true) :
    ∃ fr, refMillerLoop refBnOps bn128_ate_loop_count bn128_log_ate_loop_count true bnFinalExp
        (twistRefBn q) (castRefBn p) = .ok fr
      ∧ (optBnMillerLoop (digitsFrom optimized_bn128_pseudo_binary_encoding 63)
          (some ((bnP ^ 12 - 1) / optimized_bn128_curve_order)) (twistOptBn Q)
          (castFq12 P.1, castFq12 P.2.1, castFq12 P.2.2) : OBn12).coeffs = fr.coeffs := by
  classical
  obtain ⟨fr, e, cfr, co, v⟩ := miller_core_bn cQ cq hQ hP hon honP hQz hPz hsub
  rw [finalExp_bn.opt_eq]
  exact ⟨fr, e, coeffs_eq_of_toQ co cfr v⟩

/-- **`pairing`: optimized = reference on G2** (bn128) — no regularity hypothesis.
    For every reduced FQ2 triple `Q` with `multiply(Q, curve_order) = ∞` and every FQ triple `P`, any
    projective representatives of the reference inputs `q`, `p`: `optimized_bn128.pairing(Q, P)` and
    `bn128.pairing(q, p)` both raise `ValueError` (off-curve input) or return the same FQ12 coefficient
    list.  (`P` is arbitrary: on the curve or not, ∞ or not.) -/
theorem pairingOptBn_eq_pairingRefBn_subgroup (Q : BnG2Pt) (P : BnG1Pt)
    (q : Option (RBn2 × RBn2)) (p : Option (Fq bnP × Fq bnP))
    (cQ : CanonT Q) (cq : GoodO Canon q)
    (hQ : toAff (mapT toQ Q) = mapO (toQ : RBn2 → K2bn) q) (hP : toAff P = p)
    (hsub : OptBn.is_inf (OptBn.multiply Q optimized_bn128_curve_order) = true) :
    (pairingOptBn Q P true).map Fqp.coeffs = (pairingRefBn q p).map Fqp.coeffs := by
  rw [pairingOptBn_eq, pairingRefBn_eq, on_curve_Q_agree_bn cQ cq hQ, on_curve_P_agree_bn hP]
  refine MillerSem.guards_agree _ _ one_coeffs_bn (fun hz => ?_) fun hcq hcp hz => ?_
  · rcases hz with hPz | hQz
    · rw [← hP, C13.toAff_of_z_eq_zero hPz]
      exact MillerSem.refMillerLoop_none_right ..
    · rw [MillerSem.none_of_z (K := K2bn) (goodHom_F2bn (v := .opt)) hQ hQz]
      exact MillerSem.refMillerLoop_none_left ..
  obtain ⟨hPz, hQz⟩ := not_or.mp hz
  rw [if_pos rfl]
  exact millerLoop_opt_eq_ref_bn cQ cq hQ hP ((on_curve_Q_agree_bn cQ cq hQ).trans hcq)
    ((on_curve_P_agree_bn hP).trans hcp) hQz hPz hsub

/-- The same for `pairing(Q, P, final_exponentiate=False)`: raised to `(p¹² − 1)/r` (in the executable
    FQ12 model) it is the reference pairing. -/
theorem pairingOptBn_false_pow_eq_pairingRefBn_subgroup (Q : BnG2Pt) (P : BnG1Pt)
    (q : Option (RBn2 × RBn2)) (p : Option (Fq bnP × Fq bnP))
    (cQ : CanonT Q) (cq : GoodO Canon q)
    (hQ : toAff (mapT toQ Q) = mapO (toQ : RBn2 → K2bn) q) (hP : toAff P = p)
    (hsub : OptBn.is_inf (OptBn.multiply Q optimized_bn128_curve_order) = true) :
    ((pairingOptBn Q P false).map
        (· ^ ((bnP ^ 12 - 1) / optimized_bn128_curve_order))).map Fqp.coeffs
      = (pairingRefBn q p).map Fqp.coeffs := by
  rw [← C12.pairingOptBn_finalExp]
  exact pairingOptBn_eq_pairingRefBn_subgroup Q P q p cQ cq hQ hP hsub

/-! ### hypothesis-free form: the reference inputs computed from the optimized ones -/

/-- the reference-module reading of an optimized G2 triple: `None` when `z = 0`, otherwise
    `normalize(Q) = (x/z, y/z)` with the two coefficient lists re-wrapped in the reference `FQ2` class -/
def refOfOptG2 (Q : BnG2Pt) : Option (RBn2 × RBn2) :=
  if Q.2.2 = 0 then none
  else some (⟨(Gen.OptBn.normalize Q).1.coeffs⟩, ⟨(Gen.OptBn.normalize Q).2.coeffs⟩)

/-- the reference-module reading of an optimized G1 triple: `None` when `z = 0`, else `normalize(P)` -/
def refOfOptG1 (P : BnG1Pt) : Option (Fq bnP × Fq bnP) :=
  if P.2.2 = 0 then none else some (Gen.OptBn.normalize P)

theorem refOfOptG1_repr (P : BnG1Pt) : toAff P = refOfOptG1 P := by
  unfold refOfOptG1
  by_cases hz : P.2.2 = 0
  · rw [if_pos hz, C13.toAff_of_z_eq_zero hz]
  · rw [if_neg hz, C13.Bn.opt_normalize P hz]

theorem refOfOptG2_repr {Q : BnG2Pt} (cQ : CanonT Q) :
    GoodO Canon (refOfOptG2 Q) ∧ toAff (mapT toQ Q) = mapO (toQ : RBn2 → K2bn) (refOfOptG2 Q) := by
  unfold refOfOptG2
  obtain ⟨c, e⟩ := MillerSem.normalize_repr (K := K2bn) (goodHom_F2bn (v := .opt)) cQ
  by_cases hz : Q.2.2 = 0
  · rw [if_pos hz]
    exact ⟨trivial, C13.toAff_of_z_eq_zero (T := mapT toQ Q)
      (by rw [mapT_snd_snd, hz]; exact (goodHom_F2bn (v := .opt)).map_zero)⟩
  · rw [if_neg hz]
    exact ⟨c, e hz⟩

/-- **`pairing`: optimized = reference on G2, inputs converted by `normalize`** (bn128).
    For every reduced FQ2 triple `Q` with `multiply(Q, curve_order) = ∞` and EVERY FQ triple `P`:
    `optimized_bn128.pairing(Q, P)` has the same outcome as `bn128.pairing(q, p)` where `q`, `p` are
    `None` for `z = 0` and `normalize(·)` otherwise — the same `ValueError`, or the same twelve FQ12
    coefficients. -/
theorem pairingOptBn_eq_pairingRefBn_normalize (Q : BnG2Pt) (P : BnG1Pt) (cQ : CanonT Q)
    (hsub : OptBn.is_inf (OptBn.multiply Q optimized_bn128_curve_order) = true) :
    (pairingOptBn Q P true).map Fqp.coeffs
      = (pairingRefBn (refOfOptG2 Q) (refOfOptG1 P)).map Fqp.coeffs := by
  obtain ⟨g, h⟩ := refOfOptG2_repr cQ
  exact pairingOptBn_eq_pairingRefBn_subgroup Q P _ _ cQ g h (refOfOptG1_repr P) hsub

/-- the generator `G2` satisfies the hypotheses of `pairingOptBn_eq_pairingRefBn_normalize` -/
example : CanonT bnG2 ∧ Gen.OptBn.is_on_curve bnG2 bnB2 = true ∧ bnG2.2.2 ≠ 0
    ∧ OptBn.is_inf (OptBn.multiply bnG2 optimized_bn128_curve_order) = true :=
  ⟨by decide +kernel, C07.Facts.bn_G2_opt.1, by decide, C07.Facts.bn_G2_opt.2.2⟩

/-- … and those of `pairingOptBn_eq_pairingRefBn_subgroup`, `millerLoop_opt_eq_ref_bn` (with
    `q := refOfOptG2 G2`, `p := refOfOptG1 G1`) -/
example : GoodO Canon (refOfOptG2 bnG2)
    ∧ toAff (mapT toQ bnG2) = mapO (toQ : RBn2 → K2bn) (refOfOptG2 bnG2)
    ∧ toAff bnG1 = refOfOptG1 bnG1
    ∧ OptBn.is_on_curve bnG1 (Fq.ofInt optimized_bn128_b : Fq bnP) = true ∧ bnG1.2.2 ≠ 0 :=
  ⟨(refOfOptG2_repr (by decide +kernel)).1, (refOfOptG2_repr (by decide +kernel)).2,
    refOfOptG1_repr bnG1, C07M.Bn.bnG1_facts.1, by decide⟩

/-- at the generators both sides of the theorems are returned values, not exceptions: the guards pass
    and no point is ∞ (the optimized side; the reference side then follows from the theorem) -/
example : ∃ f, pairingOptBn bnG2 bnG1 true = .ok f := by
  have h2 : Gen.OptBn.is_on_curve bnG2 (⟨optimized_bn128_b2⟩ : OBn2) = true := C07.Facts.bn_G2_opt.1
  have h1 : Gen.OptBn.is_on_curve bnG1 (Fq.ofInt optimized_bn128_b : Fq bnP) = true :=
    C07M.Bn.bnG1_facts.1
  exact ⟨_, pairingOptBn_ok true h2 h1⟩

end PyEcc.C12MB
