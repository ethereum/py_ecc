/-
  Property C07 — concrete facts about the real curves (G1 part): the regenerated constants
  (`Gen.Consts.*`: generators, `b`, `curve_order`, `field_modulus`) satisfy the hypotheses under which
  the generic C07 theorems (`Props/C07_Bls.lean`, `Props/C07_BlsLaws.lean`, `Props/C07_Bn.lean`) apply, by
  kernel evaluation (`decide +kernel`, no axioms beyond the standard three) of the GENERATED curve code at
  `F := ZMod p`;
  `multiply(G1, curve_order)` is evaluated with the optimized (division-free) module only and read off for the
  reference module through C13.  A changed constant in the Python tree makes these fail.
-/
import PyEcc.Props.C07_Bls
import PyEcc.Props.C07_BlsLaws
import PyEcc.Props.C07_Bn
import PyEcc.Props.C13_Bls
import PyEcc.Props.C13_Bn
import PyEcc.Lemmas.TwinModules
import PyEcc.Lemmas.CurveFactsAux
import PyEcc.Sem.CodecSem
import PyEcc.Lemmas.TransferOptBls
import PyEcc.Gen.OptBls
import PyEcc.Gen.OptBn
import PyEcc.Model.Curve
import PyEcc.Sem.Primes
import Mathlib.GroupTheory.OrderOfElement

namespace PyEcc.C07.Facts
open PyEcc.CurveSem PyEcc.Gen.Consts PyEcc.C07

section
variable {F : Type} [Field F] [DecidableEq F] {b : F}

/-- if `x³ + b` has no root then `is_on_curve((x, 0), b)` is `False` for every `x` -/
theorem no_order_two_ref_of (hno : ∀ x : F, x ^ 3 + b ≠ 0) (x : F) :
    Gen.RefBls.is_on_curve (some (x, 0)) b = false := by
  rw [Bool.eq_false_iff, ne_eq, Bls.gen_is_on_curve_iff]
  intro h
  apply hno x
  simp only [sOn] at h
  linear_combination -h

/-- the reference `multiply` returns ∞ on the affine reading of a finite triple that the optimized `multiply`
    sends to `z = 0` (`C13`): the affine ladder with its field divisions need not be run -/
theorem ref_multiply_of_opt (h2 : (2 : F) ≠ 0) {T : F × F × F} {pt : Option (F × F)}
    (hinf : Gen.OptBls.is_inf T = false) (hpt : some (Gen.OptBls.normalize T) = pt) {n : ℕ}
    (hn : Gen.OptBls.is_inf (Gen.OptBls.multiply T n) = true) : Gen.RefBls.multiply pt n = .ok none := by
  have hz : T.2.2 ≠ 0 := of_decide_eq_false hinf
  rw [← hpt, ← C13.Bls.opt_normalize _ hz, C13.Bls.opt_multiply_toAff h2,
    C13.toAff_eq_none_iff.mpr (of_decide_eq_true hn)]

/-- a pair that `is_on_curve` accepts and that `multiply(·, q)` sends to ∞, `q` prime, is (the representation
    of) a Mathlib point of exact order `q` -/
theorem point_of_ref_facts (h2 : (2 : F) ≠ 0) (h3 : (3 : F) ≠ 0) (hb : b ≠ 0) {pt : Option (F × F)}
    (hon : Gen.RefBls.is_on_curve pt b = true) (hne : pt ≠ none) {q : ℕ} [Fact q.Prime]
    (hq : Gen.RefBls.multiply pt q = .ok none) :
    ∃ G : (W b).Point, reprRef G = pt ∧ G ≠ 0 ∧ q • G = 0 ∧ addOrderOf G = q := by
  obtain ⟨G, hG⟩ := (Bls.ref_is_on_curve_iff h2 h3 hb _).mp hon
  have hG0 : G ≠ 0 := by
    rintro rfl
    exact hne hG.symm
  have hr : q • G = 0 := by
    have := Bls.ref_multiply_refines h2 G q
    rw [hG, hq] at this
    exact reprRef_injective (Except.ok.inj this).symm
  exact ⟨G, hG, hG0, hr, addOrderOf_eq_prime hr hG0⟩

end

/-! ### bn128 — G1 over `ZMod bnP` -/

/-- the hypotheses of the generic C07 theorems hold for the bn128 base field and `b` -/
theorem bn_field_ok : (2 : ZMod bnP) ≠ 0 ∧ (3 : ZMod bnP) ≠ 0 ∧ ((bn128_b : ℕ) : ZMod bnP) ≠ 0 := by
  decide +kernel

/-- the module constant `G1` of `bn128` passes the module's own `is_on_curve(G1, b)` -/
theorem bn_G1_on_curve_ref :
    Gen.RefBn.is_on_curve (ptRef (ZMod bnP) bn128_G1) ((bn128_b : ℕ) : ZMod bnP) = true := by
  decide +kernel

/-- the module constant `G1` of `optimized_bn128` (projective, `z = 1`) passes `is_on_curve(G1, b)` -/
theorem bn_G1_on_curve_opt :
    Gen.OptBn.is_on_curve (ptOpt (ZMod bnP) optimized_bn128_G1) ((optimized_bn128_b : ℕ) : ZMod bnP) = true := by
  decide +kernel

/-- `G1` is not the point at infinity (both representations), and the two modules' `G1` agree -/
theorem bn_G1_ne_inf :
    ptRef (ZMod bnP) bn128_G1 ≠ none
      ∧ Gen.OptBn.is_inf (ptOpt (ZMod bnP) optimized_bn128_G1) = false
      ∧ some (Gen.OptBn.normalize (ptOpt (ZMod bnP) optimized_bn128_G1)) = ptRef (ZMod bnP) bn128_G1 := by
  decide +kernel

/-- `multiply(G1, curve_order)` of the optimized module returns a point with `z = 0` -/
theorem bn_r_G1_opt :
    Gen.OptBn.is_inf (Gen.OptBn.multiply (ptOpt (ZMod bnP) optimized_bn128_G1) optimized_bn128_curve_order) = true := by
  decide +kernel

/-- `multiply(G1, curve_order)` of the reference module returns ∞ -/
theorem bn_r_G1_ref :
    Gen.RefBn.multiply (ptRef (ZMod bnP) bn128_G1) bn128_curve_order = .ok none := by
  have hn := bn_r_G1_opt
  rw [Gen.OptBn.multiply_eq] at hn
  rw [Gen.RefBn.multiply_eq]
  exact ref_multiply_of_opt (n := optimized_bn128_curve_order) bn_field_ok.1 bn_G1_ne_inf.2.1
    bn_G1_ne_inf.2.2 hn

/-- `-b` is not a cube in `ZMod p`: `x³ + b = 0` has no root (cubic-residue criterion
    `(-b)^((p-1)/3) ≠ 1`, evaluated by the kernel) -/
theorem bn_no_cube_root : ∀ x : ZMod bnP, x ^ 3 + ((bn128_b : ℕ) : ZMod bnP) ≠ 0 :=
  no_cube_root (p := bnP) bn128_b (by decide +kernel) (by decide +kernel) bn_field_ok.2.2 (by decide +kernel)

/-- no point of order two on `E(Fp)`, Python level: `is_on_curve((x, 0), b)` is `False` for every `x`,
    so `double` never takes its `y == 0` branch on a valid `FQ` point -/
theorem bn_no_order_two_ref (x : ZMod bnP) :
    Gen.RefBn.is_on_curve (some (x, 0)) ((bn128_b : ℕ) : ZMod bnP) = false := by
  rw [Gen.RefBn.is_on_curve_eq]
  exact no_order_two_ref_of bn_no_cube_root x

/-- no point of order two on `E(Fp)`, Mathlib level: `P + P = 0` only for `P = 0` -/
theorem bn_no_order_two (P : (W ((bn128_b : ℕ) : ZMod bnP)).Point) (h : P + P = 0) : P = 0 :=
  no_two_torsion bn_field_ok.1 bn_no_cube_root P h

/-- `G1` is (the representation of) a Mathlib point of `y² = x³ + b` over `ZMod p` of exact order
    `curve_order` -/
theorem bn_G1_point : ∃ G : (W ((bn128_b : ℕ) : ZMod bnP)).Point,
    reprRef G = ptRef (ZMod bnP) bn128_G1 ∧ G ≠ 0 ∧ bn128_curve_order • G = 0
      ∧ addOrderOf G = bn128_curve_order := by
  have hon := bn_G1_on_curve_ref
  have hq := bn_r_G1_ref
  rw [Gen.RefBn.is_on_curve_eq] at hon
  rw [Gen.RefBn.multiply_eq] at hq
  exact point_of_ref_facts bn_field_ok.1 bn_field_ok.2.1 bn_field_ok.2.2 hon bn_G1_ne_inf.1 hq

/-- scalars act on `G1` modulo `curve_order`: `multiply(G1, n) = multiply(G1, n % curve_order)` -/
theorem bn_G1_multiply_mod (n : ℕ) :
    Gen.RefBn.multiply (ptRef (ZMod bnP) bn128_G1) n
      = Gen.RefBn.multiply (ptRef (ZMod bnP) bn128_G1) (n % bn128_curve_order) :=
  Bn.ref_multiply_mod bn_field_ok.1 bn_field_ok.2.1 bn_field_ok.2.2 bn_G1_on_curve_ref _ bn_r_G1_ref n

/-! ### BLS12-381 — G1 over `ZMod blsP` -/

/-- the hypotheses of the generic C07 theorems hold for the BLS12-381 base field and `b` -/
theorem bls_field_ok : (2 : ZMod blsP) ≠ 0 ∧ (3 : ZMod blsP) ≠ 0 ∧ ((bls12_381_b : ℕ) : ZMod blsP) ≠ 0 := by
  decide +kernel

/-- the module constant `G1` of `bls12_381` passes the module's own `is_on_curve(G1, b)` -/
theorem bls_G1_on_curve_ref :
    Gen.RefBls.is_on_curve (ptRef (ZMod blsP) bls12_381_G1) ((bls12_381_b : ℕ) : ZMod blsP) = true := by
  decide +kernel

/-- the module constant `G1` of `optimized_bls12_381` (projective, `z = 1`) passes `is_on_curve(G1, b)` -/
theorem bls_G1_on_curve_opt :
    Gen.OptBls.is_on_curve (ptOpt (ZMod blsP) optimized_bls12_381_G1) ((optimized_bls12_381_b : ℕ) : ZMod blsP) = true := by
  decide +kernel

/-- `G1` is not the point at infinity (both representations), and the two modules' `G1` agree -/
theorem bls_G1_ne_inf :
    ptRef (ZMod blsP) bls12_381_G1 ≠ none
      ∧ Gen.OptBls.is_inf (ptOpt (ZMod blsP) optimized_bls12_381_G1) = false
      ∧ some (Gen.OptBls.normalize (ptOpt (ZMod blsP) optimized_bls12_381_G1)) = ptRef (ZMod blsP) bls12_381_G1 := by
  decide +kernel

/-- `multiply(G1, curve_order)` of the optimized module returns a point with `z = 0` -/
theorem bls_r_G1_opt :
    Gen.OptBls.is_inf (Gen.OptBls.multiply (ptOpt (ZMod blsP) optimized_bls12_381_G1) optimized_bls12_381_curve_order) = true := by
  decide +kernel

/-- `multiply(G1, curve_order)` of the reference module returns ∞ -/
theorem bls_r_G1_ref :
    Gen.RefBls.multiply (ptRef (ZMod blsP) bls12_381_G1) bls12_381_curve_order = .ok none :=
  ref_multiply_of_opt (n := optimized_bls12_381_curve_order) bls_field_ok.1 bls_G1_ne_inf.2.1
    bls_G1_ne_inf.2.2 bls_r_G1_opt

/-- `-b` is not a cube in `ZMod p`: `x³ + b = 0` has no root (`CodecSem.cube_add_four_ne_zero`) -/
theorem bls_no_cube_root : ∀ x : ZMod blsP, x ^ 3 + ((bls12_381_b : ℕ) : ZMod blsP) ≠ 0 :=
  CodecSem.cube_add_four_ne_zero

/-- no point of order two on `E(Fp)`, Python level: `is_on_curve((x, 0), b)` is `False` for every `x`,
    so `double` never takes its `y == 0` branch on a valid `FQ` point -/
theorem bls_no_order_two_ref (x : ZMod blsP) :
    Gen.RefBls.is_on_curve (some (x, 0)) ((bls12_381_b : ℕ) : ZMod blsP) = false :=
  no_order_two_ref_of bls_no_cube_root x

/-- no point of order two on `E(Fp)`, Mathlib level: `P + P = 0` only for `P = 0` -/
theorem bls_no_order_two (P : (W ((bls12_381_b : ℕ) : ZMod blsP)).Point) (h : P + P = 0) : P = 0 :=
  no_two_torsion bls_field_ok.1 bls_no_cube_root P h

/-- `G1` is (the representation of) a Mathlib point of `y² = x³ + b` over `ZMod p` of exact order
    `curve_order` -/
theorem bls_G1_point : ∃ G : (W ((bls12_381_b : ℕ) : ZMod blsP)).Point,
    reprRef G = ptRef (ZMod blsP) bls12_381_G1 ∧ G ≠ 0 ∧ bls12_381_curve_order • G = 0
      ∧ addOrderOf G = bls12_381_curve_order :=
  point_of_ref_facts bls_field_ok.1 bls_field_ok.2.1 bls_field_ok.2.2 bls_G1_on_curve_ref bls_G1_ne_inf.1
    bls_r_G1_ref

/-- scalars act on `G1` modulo `curve_order`: `multiply(G1, n) = multiply(G1, n % curve_order)` -/
theorem bls_G1_multiply_mod (n : ℕ) :
    Gen.RefBls.multiply (ptRef (ZMod blsP) bls12_381_G1) n
      = Gen.RefBls.multiply (ptRef (ZMod blsP) bls12_381_G1) (n % bls12_381_curve_order) :=
  Bls.ref_multiply_mod bls_field_ok.1 bls_field_ok.2.1 bls_field_ok.2.2 bls_G1_on_curve_ref _ bls_r_G1_ref n

/-- the executable model's typed constants: `blsG1` is on the curve `blsB` (at the model type `Fq blsP`,
    i.e. with the modelled Python `FQ` arithmetic) and has `blsR • blsG1 = ∞`: the facts evaluated over
    `ZMod blsP` above, read back along `Fq.toZMod` -/
theorem bls_G1_model :
    Gen.OptBls.is_on_curve blsG1 blsB = true ∧ Gen.OptBls.is_inf blsG1 = false
      ∧ Gen.OptBls.is_inf (Gen.OptBls.multiply blsG1 blsR) = true := by
  have h := Transfer.opHom_toZMod (p := blsP)
  have eT : Transfer.mapT Fq.toZMod blsG1 = ptOpt (ZMod blsP) optimized_bls12_381_G1 := by
    simp only [blsG1, ptOpt, Transfer.mapT_mk, Fq.toZMod_ofInt]
  have eb : Fq.toZMod blsB = ((optimized_bls12_381_b : ℕ) : ZMod blsP) := by
    rw [blsB, Fq.toZMod_ofInt, Int.cast_natCast]
  rw [← Transfer.Bls.is_on_curve_map h, ← Transfer.Bls.is_inf_map h blsG1, ← Transfer.Bls.is_inf_map h,
    Transfer.Bls.multiply_map h, eT, eb]
  exact ⟨bls_G1_on_curve_opt, bls_G1_ne_inf.2.1, bls_r_G1_opt⟩

end PyEcc.C07.Facts
