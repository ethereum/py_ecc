/-
  The BLS protocol theorems (C01, C02, C03) conditional on ONE hypothesis: **the pairing function of the code is
  bilinear** (`NdSem.ModelBilinear`, `Lemmas/ModelPairing.lean`).  It stands at the end of the chain of bundles that
  begins with `BlsProto.PairingFacts`, whose docstring tells the chain.

  HB1′ of `NdSem.PairingFacts''` (`Props/C01_ProtoND.lean`) says "there is an abstract pairing `e` and the model computes
  it, whatever the projective representatives".  The representative independence is a theorem
  (`NdSem.pairing_value_rep_indep`, from C12: optimized pairing = reference pairing of the normalized points), so the
  function
      `valM q p` = value in `F_{p¹²}` of `final_exponentiate(pairing(Q, P, False))`, `Q`, `P` ANY canonical on-curve
                   representatives of the `r`-torsion points `q`, `p`
  is well defined, and `e := valM` satisfies HB1′ by definition (`NdSem.valM_spec`).

  **The entire trusted mathematics of C01–C03 is therefore:**
      `ModelBilinear`:  `valM (q + q') p = valM q p * valM q' p`  and  `valM q (p + p') = valM q p * valM q p'`
                        for points killed by `r = curve_order`.
  Equivalently (`NdSem.modelBilinear_iff`): there EXISTS a bilinear map that the model computes.  It is implied by
  the statement on the Python functions alone (`NdSem.ModelBilinearCode`, `…_of_modelBilinearCode` below):
      `pairing(add(Q, Q'), P) == pairing(Q, P) * pairing(Q', P)`, `pairing(Q, add(P, P')) == pairing(Q, P) * pairing(Q, P')`
      for all triples passing `is_on_curve` and `subgroup_check`.
  This is bilinearity of the optimal ate pairing as implemented (divisors / Weil reciprocity: not in Mathlib).
  It is a closed mathematical statement — a hypothesis of the theorems, never an axiom; its "instance" would be its
  proof, so no `example` of it is given (the side conditions of `ModelBilinearCode` are shown non-vacuous in
  `Lemmas/ModelPairing.lean`).

  HEAVY: imports `PropsHeavy/C05_Nondeg.lean` (≈ 7 s of kernel evaluation, once).
-/
import PyEcc.Lemmas.ModelPairing
import PyEcc.Props.C01_ProtoND

set_option linter.unusedSectionVars false

namespace PyEcc.C01
open PyEcc PyEcc.Gen PyEcc.Gen.Consts PyEcc.Transfer PyEcc.BlsSem PyEcc.BlsProto PyEcc.NdSem

section
variable [DecidableEq K2]

/-- **Honest signatures verify** (C01), assuming ONLY that the code's pairing function is bilinear: for every
    suite, hash function, `int` secret key `1 ≤ sk < r` and message, if `SkToPk(sk)` returned `pk` and
    `Sign(sk, m)` returned `sig`, then `Verify(pk, m, sig)` returns `True`. -/
theorem sign_verify_of_modelBilinear (mb : ModelBilinear) (H : HashFn) (s : Suite) (sk : ℤ)
    (hsk : 1 ≤ sk ∧ sk < (curveOrder : ℤ)) (m pk sig : Bytes) (hpk : skToPk (.int sk) = .ok pk)
    (hsig : sign H s (.int sk) m = .ok sig) : verify H s pk m sig = .returned true :=
  sign_verify mb.toPairingFacts H s sk hsk m pk sig hpk hsig

/-- **Honest possession proofs verify** (C01), assuming only `ModelBilinear`. -/
theorem popProve_popVerify_of_modelBilinear (mb : ModelBilinear) (H : HashFn) (sk : ℤ)
    (hsk : 1 ≤ sk ∧ sk < (curveOrder : ℤ)) (pk proof : Bytes) (hpk : skToPk (.int sk) = .ok pk)
    (hproof : popProve H (.int sk) = .ok proof) : popVerify H pk proof = .returned true :=
  popProve_popVerify mb.toPairingFacts H sk hsk pk proof hpk hproof

/-- **Honest signatures exist and verify** (DESIGN's form of C01), assuming only `ModelBilinear`: for every
    hash function with a digest of at least 2 bytes, `SkToPk(sk)` and `Sign(sk, m)` return, and `Verify` of
    the results returns `True`. -/
theorem sign_verify_exists_of_modelBilinear (mb : ModelBilinear) (H : HashFn) (hd : 2 ≤ H.digestSize)
    (s : Suite) (sk : ℤ) (hsk : 1 ≤ sk ∧ sk < (curveOrder : ℤ)) (m : Bytes) :
    ∃ pk sig, skToPk (.int sk) = .ok pk ∧ sign H s (.int sk) m = .ok sig ∧
      verify H s pk m sig = .returned true :=
  sign_verify_exists mb.toPairingFacts H hd s sk hsk m

/-- **Honest possession proofs exist and verify**, assuming only `ModelBilinear`. -/
theorem popProve_popVerify_exists_of_modelBilinear (mb : ModelBilinear) (H : HashFn)
    (hd : 2 ≤ H.digestSize) (sk : ℤ) (hsk : 1 ≤ sk ∧ sk < (curveOrder : ℤ)) :
    ∃ pk proof, skToPk (.int sk) = .ok pk ∧ popProve H (.int sk) = .ok proof ∧
      popVerify H pk proof = .returned true :=
  popProve_popVerify_exists mb.toPairingFacts H hd sk hsk

/-- `sign_verify` assuming only the code-level bilinearity statement `ModelBilinearCode`
    (`pairing(add(Q,Q'),P) == pairing(Q,P)*pairing(Q',P)`, `pairing(Q,add(P,P')) == pairing(Q,P)*pairing(Q,P')`
    on subgroup points). -/
theorem sign_verify_of_modelBilinearCode (mc : ModelBilinearCode) (H : HashFn) (s : Suite) (sk : ℤ)
    (hsk : 1 ≤ sk ∧ sk < (curveOrder : ℤ)) (m pk sig : Bytes) (hpk : skToPk (.int sk) = .ok pk)
    (hsig : sign H s (.int sk) m = .ok sig) : verify H s pk m sig = .returned true :=
  sign_verify_of_modelBilinear mc.toModelBilinear H s sk hsk m pk sig hpk hsig

/-- `popProve_popVerify` assuming only `ModelBilinearCode`. -/
theorem popProve_popVerify_of_modelBilinearCode (mc : ModelBilinearCode) (H : HashFn) (sk : ℤ)
    (hsk : 1 ≤ sk ∧ sk < (curveOrder : ℤ)) (pk proof : Bytes) (hpk : skToPk (.int sk) = .ok pk)
    (hproof : popProve H (.int sk) = .ok proof) : popVerify H pk proof = .returned true :=
  popProve_popVerify_of_modelBilinear mc.toModelBilinear H sk hsk pk proof hpk hproof

end

/-- non-vacuity of the key hypotheses: `sk = 1` is a valid key, `SkToPk(1)` returns the compressed generator
    (kernel evaluation, C09), and SHA-256 has a digest of at least 2 bytes -/
example : (1 ≤ (1 : ℤ) ∧ (1 : ℤ) < (curveOrder : ℤ)) ∧ skToPk (.int 1) = .ok C09.compressedG1 ∧
    2 ≤ sha256Fn.digestSize :=
  ⟨by decide, C09.skToPk_one, by decide⟩

end PyEcc.C01

namespace PyEcc.C02
open PyEcc PyEcc.Gen PyEcc.Gen.Consts PyEcc.Transfer PyEcc.BlsSem PyEcc.BlsProto PyEcc.NdSem

section
variable [DecidableEq K2]

/-- **`Verify` accepts exactly the canonical signature** (C02), assuming ONLY `ModelBilinear`: for every suite,
    hash function, `int` secret key `1 ≤ sk < r` with `pk = SkToPk(sk)`, message `m` and candidate byte string
    `cand` of any length: `Verify(pk, m, cand) = True ↔ Sign(sk, m) = cand`. -/
theorem verify_iff_of_modelBilinear (mb : ModelBilinear) (H : HashFn) (s : Suite) (sk : ℤ)
    (hsk : 1 ≤ sk ∧ sk < (curveOrder : ℤ)) (m pk cand : Bytes) (hpk : skToPk (.int sk) = .ok pk) :
    verify H s pk m cand = .returned true ↔ sign H s (.int sk) m = .ok cand :=
  verify_iff mb.toPairingFacts H s sk hsk m pk cand hpk

/-- **`PopVerify` accepts exactly the canonical proof** (C02), assuming only `ModelBilinear`. -/
theorem popVerify_iff_of_modelBilinear (mb : ModelBilinear) (H : HashFn) (sk : ℤ)
    (hsk : 1 ≤ sk ∧ sk < (curveOrder : ℤ)) (pk cand : Bytes) (hpk : skToPk (.int sk) = .ok pk) :
    popVerify H pk cand = .returned true ↔ popProve H (.int sk) = .ok cand :=
  popVerify_iff mb.toPairingFacts H sk hsk pk cand hpk

/-- **Any string other than the canonical signature is rejected** (`Verify` returns `False`, it does not
    raise), assuming only `ModelBilinear`. -/
theorem verify_rejects_ne_of_modelBilinear (mb : ModelBilinear) (H : HashFn) (s : Suite) (sk : ℤ)
    (hsk : 1 ≤ sk ∧ sk < (curveOrder : ℤ)) (m pk sig cand : Bytes) (hpk : skToPk (.int sk) = .ok pk)
    (hsig : sign H s (.int sk) m = .ok sig) (hne : cand ≠ sig) :
    verify H s pk m cand = .returned false :=
  verify_rejects_ne mb.toPairingFacts H s sk hsk m pk sig cand hpk hsig hne

/-- every string other than `PopProve(sk)` makes `PopVerify` return `False`, assuming only `ModelBilinear` -/
theorem popVerify_rejects_ne_of_modelBilinear (mb : ModelBilinear) (H : HashFn) (sk : ℤ)
    (hsk : 1 ≤ sk ∧ sk < (curveOrder : ℤ)) (pk proof cand : Bytes) (hpk : skToPk (.int sk) = .ok pk)
    (hproof : popProve H (.int sk) = .ok proof) (hne : cand ≠ proof) :
    popVerify H pk cand = .returned false :=
  popVerify_rejects_ne mb.toPairingFacts H sk hsk pk proof cand hpk hproof hne

/-- **`−S` is rejected** (hash point not the identity), assuming only `ModelBilinear`. -/
theorem verify_rejects_neg_of_modelBilinear (mb : ModelBilinear) (H : HashFn) (s : Suite) (sk : ℤ)
    (hsk : 1 ≤ sk ∧ sk < (curveOrder : ℤ)) (m pk cand : Bytes) (hpk : skToPk (.int sk) = .ok pk)
    (mp : G2Pt) (hmp : hashToG2 H (vmsg s pk m) s.dst = .ok mp) (hinf : OptBls.is_inf mp = false)
    (hc : g2ToSignature (OptBls.neg (OptBls.multiply mp sk.toNat)) = .ok cand) :
    verify H s pk m cand = .returned false :=
  verify_rejects_neg mb.toPairingFacts H s sk hsk m pk cand hpk mp hmp hinf hc

/-- **`2S` is rejected** (hash point not the identity), assuming only `ModelBilinear`. -/
theorem verify_rejects_double_of_modelBilinear (mb : ModelBilinear) (H : HashFn) (s : Suite) (sk : ℤ)
    (hsk : 1 ≤ sk ∧ sk < (curveOrder : ℤ)) (m pk cand : Bytes) (hpk : skToPk (.int sk) = .ok pk)
    (mp : G2Pt) (hmp : hashToG2 H (vmsg s pk m) s.dst = .ok mp) (hinf : OptBls.is_inf mp = false)
    (hc : g2ToSignature (OptBls.double (OptBls.multiply mp sk.toNat)) = .ok cand) :
    verify H s pk m cand = .returned false :=
  verify_rejects_double mb.toPairingFacts H s sk hsk m pk cand hpk mp hmp hinf hc

/-- **`S + T` is rejected for every point `T ≠ ∞` of the twist curve**, assuming only `ModelBilinear`. -/
theorem verify_rejects_add_of_modelBilinear (mb : ModelBilinear) (H : HashFn) (s : Suite) (sk : ℤ)
    (hsk : 1 ≤ sk ∧ sk < (curveOrder : ℤ)) (m pk cand : Bytes) (hpk : skToPk (.int sk) = .ok pk)
    (mp : G2Pt) (hmp : hashToG2 H (vmsg s pk m) s.dst = .ok mp) (T : G2Pt) (cT : CanonT T)
    (honT : OptBls.is_on_curve T blsB2 = true) (hT : OptBls.is_inf T = false)
    (hc : g2ToSignature (OptBls.add (OptBls.multiply mp sk.toNat) T) = .ok cand) :
    verify H s pk m cand = .returned false :=
  verify_rejects_add mb.toPairingFacts H s sk hsk m pk cand hpk mp hmp T cT honT hT hc

/-- **The identity encoding** is accepted iff the hash point is the identity, assuming only `ModelBilinear`. -/
theorem verify_identity_iff_of_modelBilinear (mb : ModelBilinear) (H : HashFn) (s : Suite) (sk : ℤ)
    (hsk : 1 ≤ sk ∧ sk < (curveOrder : ℤ)) (m pk cand : Bytes) (hpk : skToPk (.int sk) = .ok pk)
    (mp : G2Pt) (hmp : hashToG2 H (vmsg s pk m) s.dst = .ok mp) (hc : g2ToSignature Z2 = .ok cand) :
    verify H s pk m cand = .returned true ↔ OptBls.is_inf mp = true :=
  verify_identity_iff mb.toPairingFacts H s sk hsk m pk cand hpk mp hmp hc

/-- **Other key** (basic and POP suites): accepted iff `sk = sk'` (hash point not the identity), assuming only
    `ModelBilinear`. -/
theorem verify_other_key_iff_of_modelBilinear (mb : ModelBilinear) (H : HashFn) (s : Suite)
    (hs : s ≠ .aug) (sk sk' : ℤ) (hsk : 1 ≤ sk ∧ sk < (curveOrder : ℤ))
    (hsk' : 1 ≤ sk' ∧ sk' < (curveOrder : ℤ)) (m pk pk' sig : Bytes)
    (hpk : skToPk (.int sk) = .ok pk) (hpk' : skToPk (.int sk') = .ok pk')
    (mp : G2Pt) (hmp : hashToG2 H m s.dst = .ok mp) (hinf : OptBls.is_inf mp = false)
    (hsig : sign H s (.int sk) m = .ok sig) :
    verify H s pk' m sig = .returned true ↔ sk = sk' :=
  verify_other_key_iff mb.toPairingFacts H s hs sk sk' hsk hsk' m pk pk' sig hpk hpk' mp hmp hinf hsig

/-- `verify_iff` assuming only the code-level bilinearity statement `ModelBilinearCode`. -/
theorem verify_iff_of_modelBilinearCode (mc : ModelBilinearCode) (H : HashFn) (s : Suite) (sk : ℤ)
    (hsk : 1 ≤ sk ∧ sk < (curveOrder : ℤ)) (m pk cand : Bytes) (hpk : skToPk (.int sk) = .ok pk) :
    verify H s pk m cand = .returned true ↔ sign H s (.int sk) m = .ok cand :=
  verify_iff_of_modelBilinear mc.toModelBilinear H s sk hsk m pk cand hpk

/-- `popVerify_iff` assuming only `ModelBilinearCode`. -/
theorem popVerify_iff_of_modelBilinearCode (mc : ModelBilinearCode) (H : HashFn) (sk : ℤ)
    (hsk : 1 ≤ sk ∧ sk < (curveOrder : ℤ)) (pk cand : Bytes) (hpk : skToPk (.int sk) = .ok pk) :
    popVerify H pk cand = .returned true ↔ popProve H (.int sk) = .ok cand :=
  popVerify_iff_of_modelBilinear mc.toModelBilinear H sk hsk pk cand hpk

end

/-- non-vacuity of the key hypotheses and of the identity candidate of `verify_identity_iff_of_modelBilinear` -/
example : (1 ≤ (1 : ℤ) ∧ (1 : ℤ) < (curveOrder : ℤ)) ∧ skToPk (.int 1) = .ok C09.compressedG1 ∧
    ∃ cand, g2ToSignature Z2 = .ok cand :=
  ⟨by decide, C09.skToPk_one, by
    obtain ⟨bs, h, _⟩ := C11.signatureToG2_g2ToSignature_roundtrip Z2 (by decide) (by decide)
    exact ⟨bs, h⟩⟩

end PyEcc.C02

namespace PyEcc.C03
open PyEcc PyEcc.Gen PyEcc.Gen.Consts PyEcc.Transfer PyEcc.BlsSem PyEcc.BlsProto PyEcc.NdSem

section
variable [DecidableEq K2]

/-- **`AggregateVerify` accepts exactly `Aggregate` of the honest signatures** (C03, all suites), assuming ONLY
    `ModelBilinear`: for secret keys `1 ≤ skᵢ < r` with `pkᵢ = SkToPk(skᵢ)`,
    `AggregateVerify(pks, msgs, sig) = True` iff there is at least one key, as many messages as keys, the
    messages are distinct (basic suite), and `sig = Aggregate([Sign(skᵢ, msgᵢ)])`. -/
theorem aggregateVerify_iff_aggregate_sign_of_modelBilinear (mb : ModelBilinear) (H : HashFn) (s : Suite)
    (sks : List ℤ) (hsks : ∀ sk ∈ sks, 1 ≤ sk ∧ sk < (curveOrder : ℤ)) (pks msgs : List Bytes)
    (sig : Bytes) (hpks : List.Forall₂ (fun sk pk => skToPk (.int sk) = .ok pk) sks pks) :
    aggregateVerify H s pks msgs sig = .returned true ↔
      1 ≤ pks.length ∧ pks.length = msgs.length ∧ (s = .basic → msgs.Nodup) ∧
        ∃ sigs, List.Forall₂ (fun (x : ℤ × Bytes) sg => sign H s (.int x.1) x.2 = .ok sg)
          (sks.zip msgs) sigs ∧ aggregate sigs = .ok sig :=
  aggregateVerify_iff_aggregate_sign mb.toPairingFacts H s sks hsks pks msgs sig hpks

/-- **`FastAggregateVerify` accepts exactly `Aggregate` of the honest signatures of the shared message**
    (C03), provided the aggregate key is not the identity (`r ∤ Σ skᵢ`); assuming only `ModelBilinear`. -/
theorem fastAggregateVerify_iff_aggregate_sign_of_modelBilinear (mb : ModelBilinear) (H : HashFn)
    (sks : List ℤ) (hsks : ∀ sk ∈ sks, 1 ≤ sk ∧ sk < (curveOrder : ℤ)) (pks : List Bytes)
    (msg sig : Bytes) (hpks : List.Forall₂ (fun sk pk => skToPk (.int sk) = .ok pk) sks pks) :
    fastAggregateVerify H pks msg sig = .returned true ↔
      1 ≤ pks.length ∧ ¬ (blsR ∣ (sks.map Int.toNat).sum) ∧
        ∃ sigs, List.Forall₂ (fun sk sg => sign H .pop (.int sk) msg = .ok sg) sks sigs ∧
          aggregate sigs = .ok sig :=
  fastAggregateVerify_iff_aggregate_sign mb.toPairingFacts H sks hsks pks msg sig hpks

/-- **Order independence of `AggregateVerify`** (all suites), assuming only `ModelBilinear`. -/
theorem aggregateVerify_perm_of_modelBilinear (mb : ModelBilinear) (H : HashFn) (s : Suite)
    (l l' : List (ℤ × Bytes)) (hp : l.Perm l') (hsks : ∀ x ∈ l, 1 ≤ x.1 ∧ x.1 < (curveOrder : ℤ))
    (pks pks' : List Bytes) (sig : Bytes)
    (hpks : List.Forall₂ (fun (x : ℤ × Bytes) pk => skToPk (.int x.1) = .ok pk) l pks)
    (hpks' : List.Forall₂ (fun (x : ℤ × Bytes) pk => skToPk (.int x.1) = .ok pk) l' pks') :
    aggregateVerify H s pks (l.map (·.2)) sig = .returned true ↔
      aggregateVerify H s pks' (l'.map (·.2)) sig = .returned true :=
  aggregateVerify_perm mb.toPairingFacts H s l l' hp hsks pks pks' sig hpks hpks'

/-- `aggregateVerify_iff_aggregate_sign` assuming only the code-level statement `ModelBilinearCode`. -/
theorem aggregateVerify_iff_aggregate_sign_of_modelBilinearCode (mc : ModelBilinearCode) (H : HashFn)
    (s : Suite) (sks : List ℤ) (hsks : ∀ sk ∈ sks, 1 ≤ sk ∧ sk < (curveOrder : ℤ))
    (pks msgs : List Bytes) (sig : Bytes)
    (hpks : List.Forall₂ (fun sk pk => skToPk (.int sk) = .ok pk) sks pks) :
    aggregateVerify H s pks msgs sig = .returned true ↔
      1 ≤ pks.length ∧ pks.length = msgs.length ∧ (s = .basic → msgs.Nodup) ∧
        ∃ sigs, List.Forall₂ (fun (x : ℤ × Bytes) sg => sign H s (.int x.1) x.2 = .ok sg)
          (sks.zip msgs) sigs ∧ aggregate sigs = .ok sig :=
  aggregateVerify_iff_aggregate_sign_of_modelBilinear mc.toModelBilinear H s sks hsks pks msgs sig hpks

/-- `fastAggregateVerify_iff_aggregate_sign` assuming only `ModelBilinearCode`. -/
theorem fastAggregateVerify_iff_aggregate_sign_of_modelBilinearCode (mc : ModelBilinearCode) (H : HashFn)
    (sks : List ℤ) (hsks : ∀ sk ∈ sks, 1 ≤ sk ∧ sk < (curveOrder : ℤ)) (pks : List Bytes)
    (msg sig : Bytes) (hpks : List.Forall₂ (fun sk pk => skToPk (.int sk) = .ok pk) sks pks) :
    fastAggregateVerify H pks msg sig = .returned true ↔
      1 ≤ pks.length ∧ ¬ (blsR ∣ (sks.map Int.toNat).sum) ∧
        ∃ sigs, List.Forall₂ (fun sk sg => sign H .pop (.int sk) msg = .ok sg) sks sigs ∧
          aggregate sigs = .ok sig :=
  fastAggregateVerify_iff_aggregate_sign_of_modelBilinear mc.toModelBilinear H sks hsks pks msg sig hpks

end

/-- non-vacuity of the key hypotheses: the one-element key list `[1]` with `SkToPk(1)` = compressed generator -/
example : (∀ sk ∈ [(1 : ℤ)], 1 ≤ sk ∧ sk < (curveOrder : ℤ)) ∧
    List.Forall₂ (fun sk pk => skToPk (.int sk) = .ok pk) [(1 : ℤ)] [C09.compressedG1] :=
  ⟨by intro sk h; rw [List.mem_singleton] at h; subst h; decide, .cons C09.skToPk_one .nil⟩

end PyEcc.C03
