/-
  PyEcc.Props.TieCodec — TIE theorems ("generated = hand-written model") for `py_ecc/bls/point_compression.py` and the byte
  wrappers of `py_ecc/bls/g2_primitives.py`.
  `Gen/Extra*.lean` is re-generated from the Python source on every run (tools/translate/gen_extra.py). Each theorem states that
  the function the translator produced from the CURRENT source is, for all inputs, the hand-written model function that the property
  theorems are about. A change to one of these Python functions changes the generated definition and breaks a theorem here
  statically, without needing a test input. (Split per source area so that a change in one area does not alarm unrelated properties.)
  The proofs close with `tie_close` (Props/TieRobC.lean): reflexivity first, then normalisation of both sides and a case analysis, so
  that a behaviour-preserving reshaping of the Python (renamed / inlined locals, early `return` vs conditional expression, negated
  test with swapped branches, `for _ in range(k)` vs the unrolled calls, …) keeps the theorem, while a real change fails in seconds.
-/
import PyEcc.Gen.ExtraCodec
import PyEcc.Props.TieRobC

set_option linter.unusedSimpArgs false

namespace PyEcc.Tie
open PyEcc

/-- `bool(a & 1)` is the model's `a % 2 == 1`. -/
theorem flag_bit (a : Nat) : decide (a &&& 1 ≠ 0) = (a % 2 == 1) := by
  rw [Nat.and_one_is_mod]
  rcases Nat.mod_two_eq_zero_or_one a with h | h <;> simp [h]

theorem nat_decide_eq_beq (a b : Nat) : decide (a = b) = (a == b) := by
  by_cases h : a = b <;> simp [h]

/-- `get_flags(z)` as translated from the source (`bool((z >> k) & 1)` with Lean's `>>>` and `&&&` on `Nat`)
    is the model's `getFlags` (which writes `(z / 2 ^ k) % 2 == 1`), for every natural `z`. -/
theorem get_flags_eq (z : Nat) : Gen.ExtraCodec.get_flags z = getFlags z := by
  unfold Gen.ExtraCodec.get_flags getFlags
  simp only [Nat.shiftRight_eq_div_pow, flag_bit]

/-- `is_point_at_infinity(z1, z2)` as translated from the source (`z2 is None or z2 == 0` as a case split on
    the optional) is the model's `isPointAtInfinity`. -/
theorem is_point_at_infinity_eq (z1 : Nat) (z2 : Option Nat) :
    Gen.ExtraCodec.is_point_at_infinity z1 z2 = isPointAtInfinity z1 z2 := by
  unfold Gen.ExtraCodec.is_point_at_infinity isPointAtInfinity
  cases z2 <;> simp [nat_decide_eq_beq]

/-- `compress_G1(pt)` as translated from the source is the model's `compressG1`. -/
theorem compress_G1_eq (pt : G1Pt) : Gen.ExtraCodec.compress_G1 pt = compressG1 pt := by
  unfold Gen.ExtraCodec.compress_G1 compressG1
  tie_close [ne_eq, ite_not]

/-- `decompress_G1(z)` as translated from the source (flag checks in the same order, the infinity branch,
    the range check, `pow(·, (q+1)//4, q)`, the residue check, the sign choice) is the model's `decompressG1`. -/
theorem decompress_G1_eq (z : Nat) : Gen.ExtraCodec.decompress_G1 z = decompressG1 z := by
  unfold Gen.ExtraCodec.decompress_G1 decompressG1
  -- robust against: hoisted common subexpressions, `not a == b` for `a != b`, the sign choice written with the
  -- opposite test and swapped branches or inlined into the result tuple
  tie_close [ne_eq, ite_not]

/-- `compress_G2(pt)` as translated from the source is the model's `compressG2`.  (`int(z1)`, `int(z2)` are
    emitted as `.toNat`: the translator spec asserts that these two locals are non-negative.) -/
theorem compress_G2_eq (pt : G2Pt) : Gen.ExtraCodec.compress_G2 pt = compressG2 pt := by
  unfold Gen.ExtraCodec.compress_G2 compressG2
  tie_close [ne_eq, ite_not]

/-- `decompress_G2((z1, z2))` as translated from the source (flag checks, infinity branch, both range checks,
    the call of the hand-modelled `modular_squareroot_in_FQ2` with its `is None` test, the sign choice, the final
    on-curve check) is the model's `decompressG2`. -/
theorem decompress_G2_eq (z1 z2 : Nat) : Gen.ExtraCodec.decompress_G2 (z1, z2) = decompressG2 z1 z2 := by
  -- the square root is put behind a variable `sq` first: with the constant in sight the kernel, checking the
  -- normalisation below, evaluates `modularSquarerootInFq2` on the symbolic `x³ + b2` (a 758-bit power) to compare the
  -- two `match`es; all that is used of it is that the coefficients of its result are reduced residues (`hnn`)
  obtain ⟨sq, hsq⟩ : ∃ sq, sq = modularSquarerootInFq2 := ⟨_, rfl⟩
  have hnn : ∀ {v y}, sq v = some y → ∀ i, 0 ≤ getI y.coeffs i := fun h => modularSquarerootInFq2_coeff_nonneg (hsq ▸ h)
  rw [Gen.ExtraCodec.decompress_G2.eq_1, decompressG2.eq_1, ← hsq]
  clear hsq
  -- rewrite the `Except` operations away: both sides become nested `if`s around one `match` on the optional square root
  simp only [throw_bind_except, pure_bind]
  -- the two `match`es on the optional square root are different auxiliary matchers: split on the value
  generalize ho : sq _ = o
  cases o with
  | none => (try simp only) <;> tie_close [ne_eq, ite_not]
  | some y =>
    -- robust against reshapings of the sign test that are equivalent only because the coefficients of the square root are
    -- reduced residues (e.g. `sign_coeff = y_im if y_im > 0 else y_re`): the case analysis has `0 ≤ y_re`, `0 ≤ y_im`
    have h0 := hnn ho 0
    have h1 := hnn ho 1
    clear ho
    (try simp only) <;> tie_close [ne_eq, ite_not]

/-- `G2_to_signature(pt)` = `i2osp(z1, 48) + i2osp(z2, 48)` for `(z1, z2) = compress_G2(pt)`, as in the model. -/
theorem G2_to_signature_eq (pt : G2Pt) : Gen.ExtraCodec.G2_to_signature pt = g2ToSignature pt := by
  unfold Gen.ExtraCodec.G2_to_signature g2ToSignature
  tie_close [ne_eq, ite_not]

/-- `signature_to_G2(signature)` = `decompress_G2((os2ip(signature[:48]), os2ip(signature[48:])))`, as in the model. -/
theorem signature_to_G2_eq (sig : Bytes) : Gen.ExtraCodec.signature_to_G2 sig = signatureToG2 sig := by
  unfold Gen.ExtraCodec.signature_to_G2 signatureToG2
  tie_close [ne_eq, ite_not]

/-- `G1_to_pubkey(pt)` = `i2osp(compress_G1(pt), 48)`, as in the model. -/
theorem G1_to_pubkey_eq (pt : G1Pt) : Gen.ExtraCodec.G1_to_pubkey pt = g1ToPubkey pt := by
  unfold Gen.ExtraCodec.G1_to_pubkey g1ToPubkey
  tie_close [ne_eq, ite_not]

/-- `pubkey_to_G1(pubkey)` = `decompress_G1(os2ip(pubkey))`, as in the model. -/
theorem pubkey_to_G1_eq (pk : Bytes) : Gen.ExtraCodec.pubkey_to_G1 pk = pubkeyToG1 pk := by
  unfold Gen.ExtraCodec.pubkey_to_G1 pubkeyToG1
  tie_close [ne_eq, ite_not]

end PyEcc.Tie
