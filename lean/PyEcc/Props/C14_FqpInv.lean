/-
  C14 (extension fields, inverse and division): the optimized `FQP.inv` / `/` return the same
  coefficients as the reference ones, for any prime `p`, any irreducible modulus (side condition
  `Sane p mc`: each modulus coefficient is `0` or not divisible by `p`) and every reduced operand —
  including `0` (both return `0`).  The two loops differ in where they reduce modulo `p`
  (reference: `lm`/`hm` are never reduced, `low`/`high` entries are reduced when touched; optimized:
  everything is reduced at the end of a round) and in `poly_rounded_div` vs `optimized_poly_rounded_div`.
-/
import PyEcc.Sem.FqpFq2
import PyEcc.Sem.Primes
import PyEcc.Model.Curve

namespace PyEcc.C14P
open PyEcc PyEcc.Fqp PyEcc.FqpSem

variable {p : ℕ} {mc : List Int}

/-- **optimized `inv` = reference `inv`** on every reduced coefficient list `a`. -/
theorem inv_opt_eq_ref [Fact p.Prime] (hd : 1 ≤ mc.length) (hirr : Irreducible (modulus p mc))
    (hmc : Sane p mc) {a : List Int} (ha : CanonL p mc.length a) :
    (Fqp.inv (⟨a⟩ : Fqp .opt p mc)).coeffs = (Fqp.inv (⟨a⟩ : Fqp .ref p mc)).coeffs := by
  have hp : 0 < p := (Fact.out : p.Prime).pos
  by_cases h0 : toQ (⟨a⟩ : Fqp .opt p mc) = 0
  · obtain rfl : a = (zero : Fqp .opt p mc).coeffs :=
      evQ_inj ha (canon_zero (v := .opt) hp) (h0.trans (toQ_zero (v := .opt)).symm)
    exact (inv_zero_coeffs (v := .opt)).trans (inv_zero_coeffs (v := .ref)).symm
  · apply evQ_inj (inv_canon hp (⟨a⟩ : Fqp .opt p mc)) (inv_canon hp (⟨a⟩ : Fqp .ref p mc))
    -- both are inverses of the same element of the quotient
    exact left_inv_eq_right_inv
      (toQ_inv_mul (v := .opt) (a := ⟨a⟩) hd hirr hmc ha.1 (sane_of_canonL ha) h0)
      ((mul_comm _ _).trans
        (toQ_inv_mul (v := .ref) (a := ⟨a⟩) hd hirr hmc ha.1 (sane_of_canonL ha) h0))

/-- **optimized `/` = reference `/`** on reduced coefficient lists. -/
theorem div_opt_eq_ref [Fact p.Prime] (hd : 1 ≤ mc.length) (hirr : Irreducible (modulus p mc))
    (hmc : Sane p mc) {a b : List Int} (ha : CanonL p mc.length a) (hb : CanonL p mc.length b) :
    (Fqp.div (⟨a⟩ : Fqp .opt p mc) ⟨b⟩).coeffs = (Fqp.div (⟨a⟩ : Fqp .ref p mc) ⟨b⟩).coeffs := by
  have hp : 0 < p := (Fact.out : p.Prime).pos
  apply evQ_inj (mul_canon hp (⟨a⟩ : Fqp .opt p mc) (Fqp.inv ⟨b⟩))
    (mul_canon hp (⟨a⟩ : Fqp .ref p mc) (Fqp.inv ⟨b⟩))
  show toQ (mul (⟨a⟩ : Fqp .opt p mc) (Fqp.inv ⟨b⟩)) = toQ (mul (⟨a⟩ : Fqp .ref p mc) (Fqp.inv ⟨b⟩))
  rw [toQ_mul (v := .opt) ha.1 (inv_wf _), toQ_mul (v := .ref) ha.1 (inv_wf _)]
  show evQ p mc a * evQ p mc (Fqp.inv (⟨b⟩ : Fqp .opt p mc)).coeffs =
    evQ p mc a * evQ p mc (Fqp.inv (⟨b⟩ : Fqp .ref p mc)).coeffs
  rw [inv_opt_eq_ref hd hirr hmc hb]

/-- FQ2 instance: every prime `p ≡ 3 (mod 4)`, modulus `X² + 1` (BLS12-381 and BN128 FQ2). -/
theorem fq2_inv_opt_eq_ref [Fact p.Prime] (h4 : p % 4 = 3) {a : List Int} (ha : CanonL p 2 a) :
    (Fqp.inv (⟨a⟩ : Fqp .opt p [1, 0])).coeffs = (Fqp.inv (⟨a⟩ : Fqp .ref p [1, 0])).coeffs :=
  inv_opt_eq_ref (by decide) (irreducible_modulus_fq2 h4) sane_fq2 ha

/-! ### non-vacuity -/

example : CanonL 7 2 [3, 5] ∧ 7 % 4 = 3 := by decide
example : CanonL blsP 2 [3, 5] ∧ blsP % 4 = 3 ∧ blsMc2 = [1, 0] := by decide
example : (Fqp.inv (⟨[3, 5]⟩ : Fqp .opt 7 [1, 0])).coeffs = [4, 5] ∧
    (Fqp.inv (⟨[3, 5]⟩ : Fqp .ref 7 [1, 0])).coeffs = [4, 5] := by decide

end PyEcc.C14P
