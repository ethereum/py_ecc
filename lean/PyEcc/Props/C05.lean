/-
  Property C05 (pairings).

  Part 1 (unconditional, about the model `PyEcc.Model.Pairing` of the four `pairing` functions of
  py_ecc: reference/optimized × bls12_381/bn128):
    * `pairing_inf_left`, `pairing_inf_right` : the point at infinity in either argument gives the
      unit `FQ12.one()` (with and without final exponentiation for the optimized modules);
    * `pairing_offcurve` : an argument that fails `is_on_curve` is refused with `ValueError`
      instead of being paired;
    * `pairingOptBls_error_iff`, `pairingOptBn_error_iff` : the optimized pairings raise **iff** a
      guard fails, and then the exception is `ValueError` (no other failure mode exists).

  Part 2 (**conditional on HB1**): bilinearity of the Miller-loop pairing is NOT proved (Mathlib has
  no theory of divisors on curves).  It is the named hypothesis `HB1` (§3.8 of
  DESIGN.md): additivity in each argument.  Everything else the property lists — the scalar form
  `e(bQ, aP) = e(Q,P)^(ab)`, unit on the neutral element, inverse on negation, `e(Q,P)^r = 1` —
  is proved here from `HB1` in the abstract (any additive commutative groups `A`, `B`, any
  commutative group `T`; and the variant for values in a field, `HB1₀`), so that additivity is
  visibly the ONLY missing ingredient.
-/
import Mathlib.Algebra.Group.Basic
import Mathlib.Algebra.Group.Units.Basic
import Mathlib.Algebra.GroupWithZero.Units.Basic
import Mathlib.Algebra.Ring.Int.Defs
import PyEcc.Lemmas.MillerModel
import PyEcc.Lemmas.Bilinear

namespace PyEcc.C05
open PyEcc PyEcc.Gen.Consts PyEcc.MillerSem PyEcc.MillerBnSem PyEcc.PairingSem

/-! ## Part 1 — unit on ∞, refusal of off-curve arguments (unconditional) -/

section guards
set_option linter.unusedSectionVars false
variable {F : Type} [Zero F] [One F] [Add F] [Sub F] [Mul F] [Neg F] [Div F] [NatCast F]
  [Pow F Nat] [DecidableEq F]

/-- reference bls12_381 `is_on_curve(None, b)` is `True` -/
theorem refBls_is_on_curve_none (b : F) : Gen.RefBls.is_on_curve (none : Option (F × F)) b = true := by
  simp [Gen.RefBls.is_on_curve]

/-- reference bn128 `is_on_curve(None, b)` is `True` -/
theorem refBn_is_on_curve_none (b : F) : Gen.RefBn.is_on_curve (none : Option (F × F)) b = true := by
  simp [Gen.RefBn.is_on_curve]

/-- optimized bls12_381: any triple with `z = 0` passes `is_on_curve` -/
theorem optBls_is_on_curve_inf (pt : F × F × F) (b : F) (hz : pt.2.2 = 0) :
    Gen.OptBls.is_on_curve pt b = true := by
  simp [Gen.OptBls.is_on_curve, Gen.OptBls.is_inf, hz]

/-- optimized bn128: any triple with `z = 0` passes `is_on_curve` -/
theorem optBn_is_on_curve_inf (pt : F × F × F) (b : F) (hz : pt.2.2 = 0) :
    Gen.OptBn.is_on_curve pt b = true := by
  simp [Gen.OptBn.is_on_curve, Gen.OptBn.is_inf, hz]

end guards

/-- Reference bls12_381 `pairing(None, P) = FQ12.one()` for every `P` that passes `is_on_curve`
    (`None` is the point at infinity of the reference modules; `miller_loop` returns `FQ12.one()`
    before the loop, no final exponentiation is applied). -/
theorem pairingRefBls_inf_left (P : Option (Fq blsP × Fq blsP))
    (hP : Gen.RefBls.is_on_curve P (Fq.ofInt bls12_381_b) = true) :
    pairingRefBls none P = .ok 1 := by
  rw [pairingRefBls_eq, refBls_is_on_curve_none, hP]
  exact (guard2_true _).trans (refMillerLoop_none_left ..)

/-- Reference bls12_381 `pairing(Q, None) = FQ12.one()` for every `Q` that passes `is_on_curve`. -/
theorem pairingRefBls_inf_right (Q : Option (RBls2 × RBls2))
    (hQ : Gen.RefBls.is_on_curve Q ⟨bls12_381_b2⟩ = true) :
    pairingRefBls Q none = .ok 1 := by
  rw [pairingRefBls_eq, refBls_is_on_curve_none, hQ]
  exact (guard2_true _).trans (refMillerLoop_none_right ..)

/-- Reference bls12_381 `pairing(Q, P)` raises `ValueError` when `Q` or `P` fails `is_on_curve`;
    nothing is paired. -/
theorem pairingRefBls_offcurve (Q : Option (RBls2 × RBls2)) (P : Option (Fq blsP × Fq blsP))
    (h : Gen.RefBls.is_on_curve Q ⟨bls12_381_b2⟩ = false ∨
         Gen.RefBls.is_on_curve P (Fq.ofInt bls12_381_b) = false) :
    pairingRefBls Q P = .error .value :=
  (pairingRefBls_eq Q P).trans (guard2_offcurve _ h)

/-- Reference bn128 `pairing(None, P) = FQ12.one()` for every `P` that passes `is_on_curve`. -/
theorem pairingRefBn_inf_left (P : Option (Fq bnP × Fq bnP))
    (hP : Gen.RefBn.is_on_curve P (Fq.ofInt bn128_b) = true) :
    pairingRefBn none P = .ok 1 := by
  rw [pairingRefBn_eq, refBn_is_on_curve_none, hP]
  exact (guard2_true _).trans (refMillerLoop_none_left ..)

/-- Reference bn128 `pairing(Q, None) = FQ12.one()` for every `Q` that passes `is_on_curve`. -/
theorem pairingRefBn_inf_right (Q : Option (RBn2 × RBn2))
    (hQ : Gen.RefBn.is_on_curve Q ⟨bn128_b2⟩ = true) :
    pairingRefBn Q none = .ok 1 := by
  rw [pairingRefBn_eq, refBn_is_on_curve_none, hQ]
  exact (guard2_true _).trans (refMillerLoop_none_right ..)

/-- Reference bn128 `pairing(Q, P)` raises `ValueError` when `Q` or `P` fails `is_on_curve`. -/
theorem pairingRefBn_offcurve (Q : Option (RBn2 × RBn2)) (P : Option (Fq bnP × Fq bnP))
    (h : Gen.RefBn.is_on_curve Q ⟨bn128_b2⟩ = false ∨
         Gen.RefBn.is_on_curve P (Fq.ofInt bn128_b) = false) :
    pairingRefBn Q P = .error .value :=
  (pairingRefBn_eq Q P).trans (guard2_offcurve _ h)

/-- Optimized bls12_381 `pairing(Q, P, final_exponentiate)` raises an exception **iff** `Q` or `P`
    fails `is_on_curve`, and the exception is then `ValueError`: off-curve arguments are refused,
    and there is no other way for the function to fail. -/
theorem pairingOptBls_error_iff (Q : OBls2 × OBls2 × OBls2) (P : Fq blsP × Fq blsP × Fq blsP)
    (fe : Bool) (e : PyErr) :
    pairingOptBls Q P fe = .error e ↔
      (Gen.OptBls.is_on_curve Q (⟨optimized_bls12_381_b2⟩ : OBls2) = false ∨
       Gen.OptBls.is_on_curve P (Fq.ofInt optimized_bls12_381_b) = false) ∧ e = .value := by
  rw [pairingOptBls_eq]
  exact guard2_error_iff (ite_ok_ne_error _ _) e

/-- Optimized bls12_381 `pairing(Q, P, fe)` raises `ValueError` when `Q` or `P` fails
    `is_on_curve` (for both values of `final_exponentiate`). -/
theorem pairingOptBls_offcurve (Q : OBls2 × OBls2 × OBls2) (P : Fq blsP × Fq blsP × Fq blsP)
    (fe : Bool)
    (h : Gen.OptBls.is_on_curve Q (⟨optimized_bls12_381_b2⟩ : OBls2) = false ∨
         Gen.OptBls.is_on_curve P (Fq.ofInt optimized_bls12_381_b) = false) :
    pairingOptBls Q P fe = .error .value :=
  (pairingOptBls_error_iff Q P fe .value).mpr ⟨h, rfl⟩

/-- Optimized bls12_381: if `Q` is a representative of infinity (`z = 0`, any `x`, `y`) and `P`
    passes `is_on_curve`, `pairing(Q, P, fe) = FQ12.one()` for both values of `final_exponentiate`. -/
theorem pairingOptBls_inf_left (Q : OBls2 × OBls2 × OBls2) (P : Fq blsP × Fq blsP × Fq blsP)
    (fe : Bool) (hQ : Q.2.2 = 0)
    (hP : Gen.OptBls.is_on_curve P (Fq.ofInt optimized_bls12_381_b) = true) :
    pairingOptBls Q P fe = .ok 1 := by
  rw [pairingOptBls_eq, optBls_is_on_curve_inf Q _ hQ, hP, if_pos (Or.inr hQ)]
  rfl

/-- Optimized bls12_381: if `P` is a representative of infinity (`z = 0`) and `Q` passes
    `is_on_curve`, `pairing(Q, P, fe) = FQ12.one()` for both values of `final_exponentiate`. -/
theorem pairingOptBls_inf_right (Q : OBls2 × OBls2 × OBls2) (P : Fq blsP × Fq blsP × Fq blsP)
    (fe : Bool) (hP : P.2.2 = 0)
    (hQ : Gen.OptBls.is_on_curve Q (⟨optimized_bls12_381_b2⟩ : OBls2) = true) :
    pairingOptBls Q P fe = .ok 1 := by
  rw [pairingOptBls_eq, optBls_is_on_curve_inf P _ hP, hQ, if_pos (Or.inl hP)]
  rfl

/-- Optimized bn128 `pairing(Q, P, final_exponentiate)` raises an exception **iff** `Q` or `P`
    fails `is_on_curve`, and the exception is then `ValueError`. -/
theorem pairingOptBn_error_iff (Q : OBn2 × OBn2 × OBn2) (P : Fq bnP × Fq bnP × Fq bnP)
    (fe : Bool) (e : PyErr) :
    pairingOptBn Q P fe = .error e ↔
      (Gen.OptBn.is_on_curve Q (⟨optimized_bn128_b2⟩ : OBn2) = false ∨
       Gen.OptBn.is_on_curve P (Fq.ofInt optimized_bn128_b) = false) ∧ e = .value := by
  rw [pairingOptBn_eq]
  exact guard2_error_iff (ite_ok_ne_error _ _) e

/-- Optimized bn128 `pairing(Q, P, fe)` raises `ValueError` when `Q` or `P` fails `is_on_curve`. -/
theorem pairingOptBn_offcurve (Q : OBn2 × OBn2 × OBn2) (P : Fq bnP × Fq bnP × Fq bnP)
    (fe : Bool)
    (h : Gen.OptBn.is_on_curve Q (⟨optimized_bn128_b2⟩ : OBn2) = false ∨
         Gen.OptBn.is_on_curve P (Fq.ofInt optimized_bn128_b) = false) :
    pairingOptBn Q P fe = .error .value :=
  (pairingOptBn_error_iff Q P fe .value).mpr ⟨h, rfl⟩

/-- Optimized bn128: `Q` a representative of infinity (`z = 0`), `P` passing `is_on_curve`:
    `pairing(Q, P, fe) = FQ12.one()` for both values of `final_exponentiate`. -/
theorem pairingOptBn_inf_left (Q : OBn2 × OBn2 × OBn2) (P : Fq bnP × Fq bnP × Fq bnP)
    (fe : Bool) (hQ : Q.2.2 = 0)
    (hP : Gen.OptBn.is_on_curve P (Fq.ofInt optimized_bn128_b) = true) :
    pairingOptBn Q P fe = .ok 1 := by
  rw [pairingOptBn_eq, optBn_is_on_curve_inf Q _ hQ, hP, if_pos (Or.inr hQ)]
  rfl

/-- Optimized bn128: `P` a representative of infinity (`z = 0`), `Q` passing `is_on_curve`:
    `pairing(Q, P, fe) = FQ12.one()` for both values of `final_exponentiate`. -/
theorem pairingOptBn_inf_right (Q : OBn2 × OBn2 × OBn2) (P : Fq bnP × Fq bnP × Fq bnP)
    (fe : Bool) (hP : P.2.2 = 0)
    (hQ : Gen.OptBn.is_on_curve Q (⟨optimized_bn128_b2⟩ : OBn2) = true) :
    pairingOptBn Q P fe = .ok 1 := by
  rw [pairingOptBn_eq, optBn_is_on_curve_inf P _ hP, hQ, if_pos (Or.inl hP)]
  rfl

/-- **C05, unit on ∞ (left argument), all four implementations.**  Reference modules: `pairing(None, P)`
    is `FQ12.one()` for every on-curve `P`.  Optimized modules: every triple `Q` with `z = 0` (any
    representative of infinity) paired with an on-curve `P` gives `FQ12.one()`, with and without
    final exponentiation. -/
theorem pairing_inf_left :
    (∀ P, Gen.RefBls.is_on_curve P (Fq.ofInt bls12_381_b : Fq blsP) = true →
      pairingRefBls none P = .ok 1) ∧
    (∀ P, Gen.RefBn.is_on_curve P (Fq.ofInt bn128_b : Fq bnP) = true →
      pairingRefBn none P = .ok 1) ∧
    (∀ Q P fe, Q.2.2 = 0 →
      Gen.OptBls.is_on_curve P (Fq.ofInt optimized_bls12_381_b : Fq blsP) = true →
      pairingOptBls Q P fe = .ok 1) ∧
    (∀ Q P fe, Q.2.2 = 0 →
      Gen.OptBn.is_on_curve P (Fq.ofInt optimized_bn128_b : Fq bnP) = true →
      pairingOptBn Q P fe = .ok 1) :=
  ⟨pairingRefBls_inf_left, pairingRefBn_inf_left,
   fun Q P fe => pairingOptBls_inf_left Q P fe, fun Q P fe => pairingOptBn_inf_left Q P fe⟩

/-- **C05, unit on ∞ (right argument), all four implementations.** -/
theorem pairing_inf_right :
    (∀ Q, Gen.RefBls.is_on_curve Q (⟨bls12_381_b2⟩ : RBls2) = true →
      pairingRefBls Q none = .ok 1) ∧
    (∀ Q, Gen.RefBn.is_on_curve Q (⟨bn128_b2⟩ : RBn2) = true →
      pairingRefBn Q none = .ok 1) ∧
    (∀ Q P fe, P.2.2 = 0 →
      Gen.OptBls.is_on_curve Q (⟨optimized_bls12_381_b2⟩ : OBls2) = true →
      pairingOptBls Q P fe = .ok 1) ∧
    (∀ Q P fe, P.2.2 = 0 →
      Gen.OptBn.is_on_curve Q (⟨optimized_bn128_b2⟩ : OBn2) = true →
      pairingOptBn Q P fe = .ok 1) :=
  ⟨pairingRefBls_inf_right, pairingRefBn_inf_right,
   fun Q P fe => pairingOptBls_inf_right Q P fe, fun Q P fe => pairingOptBn_inf_right Q P fe⟩

/-- **C05, refusal of off-curve arguments, all four implementations**: if either argument fails the
    module's `is_on_curve`, `pairing` raises `ValueError` (the model returns `.error .value`) — the
    arguments are refused with an error instead of being paired. -/
theorem pairing_offcurve :
    (∀ Q P, (Gen.RefBls.is_on_curve Q (⟨bls12_381_b2⟩ : RBls2) = false ∨
             Gen.RefBls.is_on_curve P (Fq.ofInt bls12_381_b : Fq blsP) = false) →
      pairingRefBls Q P = .error .value) ∧
    (∀ Q P, (Gen.RefBn.is_on_curve Q (⟨bn128_b2⟩ : RBn2) = false ∨
             Gen.RefBn.is_on_curve P (Fq.ofInt bn128_b : Fq bnP) = false) →
      pairingRefBn Q P = .error .value) ∧
    (∀ Q P fe, (Gen.OptBls.is_on_curve Q (⟨optimized_bls12_381_b2⟩ : OBls2) = false ∨
                Gen.OptBls.is_on_curve P (Fq.ofInt optimized_bls12_381_b : Fq blsP) = false) →
      pairingOptBls Q P fe = .error .value) ∧
    (∀ Q P fe, (Gen.OptBn.is_on_curve Q (⟨optimized_bn128_b2⟩ : OBn2) = false ∨
                Gen.OptBn.is_on_curve P (Fq.ofInt optimized_bn128_b : Fq bnP) = false) →
      pairingOptBn Q P fe = .error .value) :=
  ⟨pairingRefBls_offcurve, pairingRefBn_offcurve, pairingOptBls_offcurve, pairingOptBn_offcurve⟩

/-- the optimized generators pass the guards -/
example : Gen.OptBls.is_on_curve blsG1 (Fq.ofInt optimized_bls12_381_b) = true ∧
    Gen.OptBls.is_on_curve blsG2 (⟨optimized_bls12_381_b2⟩ : OBls2) = true := by decide +kernel
/-- `(1, 1, 0)` is a triple with `z = 0` -/
example : ((1, 1, 0) : OBls2 × OBls2 × OBls2).2.2 = 0 ∧ ((1, 1, 0) : Fq blsP × Fq blsP × Fq blsP).2.2 = 0 :=
  ⟨rfl, rfl⟩
/-- `(0, 0, 1)` fails the optimized guards, `(0, 0)` the reference guards (`0 - 0 ≠ b`) -/
example : Gen.OptBls.is_on_curve ((0, 0, 1) : Fq blsP × Fq blsP × Fq blsP)
      (Fq.ofInt optimized_bls12_381_b) = false ∧
    Gen.OptBn.is_on_curve ((0, 0, 1) : Fq bnP × Fq bnP × Fq bnP) (Fq.ofInt optimized_bn128_b) = false ∧
    Gen.OptBls.is_on_curve ((0, 0, 1) : OBls2 × OBls2 × OBls2) ⟨optimized_bls12_381_b2⟩ = false ∧
    Gen.OptBn.is_on_curve ((0, 0, 1) : OBn2 × OBn2 × OBn2) ⟨optimized_bn128_b2⟩ = false ∧
    Gen.RefBls.is_on_curve (some (0, 0) : Option (Fq blsP × Fq blsP)) (Fq.ofInt bls12_381_b) = false ∧
    Gen.RefBn.is_on_curve (some (0, 0) : Option (Fq bnP × Fq bnP)) (Fq.ofInt bn128_b) = false ∧
    Gen.RefBls.is_on_curve (some (0, 0) : Option (RBls2 × RBls2)) ⟨bls12_381_b2⟩ = false ∧
    Gen.RefBn.is_on_curve (some (0, 0) : Option (RBn2 × RBn2)) ⟨bn128_b2⟩ = false := by
  decide +kernel
/-- the reference bn128 generator `(1, 2)` and the optimized one `(1, 2, 1)` pass the guards -/
example : Gen.RefBn.is_on_curve (some (Fq.ofInt 1, Fq.ofInt 2) : Option (Fq bnP × Fq bnP))
      (Fq.ofInt bn128_b) = true ∧
    Gen.OptBn.is_on_curve ((Fq.ofInt 1, Fq.ofInt 2, Fq.ofInt 1) : Fq bnP × Fq bnP × Fq bnP)
      (Fq.ofInt optimized_bn128_b) = true := by decide +kernel
/-- concrete instances: `e(∞, G1) = 1`, `e(G2, ∞) = 1`, and `(0,0,1)` is refused -/
example : pairingOptBls (1, 1, 0) blsG1 true = .ok 1 ∧ pairingOptBls (1, 1, 0) blsG1 false = .ok 1 ∧
    pairingOptBls blsG2 (1, 1, 0) true = .ok 1 ∧
    pairingOptBls blsG2 (0, 0, 1) true = .error .value :=
  ⟨pairingOptBls_inf_left _ _ _ rfl (by decide +kernel),
   pairingOptBls_inf_left _ _ _ rfl (by decide +kernel),
   pairingOptBls_inf_right _ _ _ rfl (by decide +kernel),
   pairingOptBls_offcurve _ _ _ (Or.inr (by decide +kernel))⟩

/-! ## Part 2 — conditional on HB1 (bilinearity = additivity in each argument)

`HB1` is the only ingredient of C05's headline clause that is not proved: that the pairing is
additive in each argument.  For the Miller-loop pairings of py_ecc this needs divisors / Weil
reciprocity on elliptic curves, which Mathlib does not have; in the evidence it is sampled on the
model and on the implementation.  Everything below is derived from it in the abstract. -/

section conditional
variable {A B T : Type*} [AddCommGroup A] [AddCommGroup B]

/-- **Named hypothesis HB1 (bilinearity).**  `e : A → B → T` is additive in each argument, written
    multiplicatively in the target: `e(Q + Q', P) = e(Q,P)·e(Q',P)`, `e(Q, P + P') = e(Q,P)·e(Q,P')`.
    For py_ecc: `A` = the order-`r` subgroup G2, `B` = G1, `T` = the non-zero elements of FQ12 and
    `e Q P = pairing(Q, P)`. -/
structure HB1 [CommGroup T] (e : A → B → T) : Prop where
  add_left : ∀ q q' p, e (q + q') p = e q p * e q' p
  add_right : ∀ q p p', e q (p + p') = e q p * e q p'

/-- every point is killed by `0`: HB1 is `NdSem.IsBilinear` at `r = 0`, and its consequences are the ones proved there,
    with `zero_nsmul` for the torsion hypotheses -/
theorem HB1.isBilinear [CommGroup T] {e : A → B → T} (h : HB1 e) : NdSem.IsBilinear 0 e :=
  ⟨fun _ _ _ => h.add_left _ _ _, fun _ _ _ => h.add_right _ _ _⟩

/-- **C05 headline clause, conditional on HB1**: `e(b•Q, a•P) = e(Q,P)^(a·b)` for all natural
    `a`, `b` (the scalars `multiply` accepts) — additivity lifts to the scalar form. -/
theorem bilinear_ab [CommGroup T] {e : A → B → T} (h : HB1 e) (a b : ℕ) (q : A) (p : B) :
    e (b • q) (a • p) = e q p ^ (a * b) := by
  rw [h.isBilinear.nsmul_left (zero_nsmul _) (zero_nsmul _), h.isBilinear.nsmul_right (zero_nsmul _) (zero_nsmul _),
    ← pow_mul]

/-- The same for integer scalars. -/
theorem bilinear_ab_int [CommGroup T] {e : A → B → T} (h : HB1 e) (a b : ℤ) (q : A) (p : B) :
    e (b • q) (a • p) = e q p ^ (a * b) := by
  rw [h.isBilinear.zsmul_left (zero_nsmul _) (zero_nsmul _), h.isBilinear.zsmul_right (zero_nsmul _) (zero_nsmul _),
    ← zpow_mul]

/-- **Conditional on HB1**: sums — `e(Q+Q', P) = e(Q,P)·e(Q',P)` and `e(Q, P+P') = e(Q,P)·e(Q,P')`
    (this *is* HB1), and unit on the neutral elements `e(Q, 0) = 1`, `e(0, P) = 1`. -/
theorem bilinear_unit [CommGroup T] {e : A → B → T} (h : HB1 e) (q : A) (p : B) :
    e q 0 = 1 ∧ e 0 p = 1 :=
  ⟨h.isBilinear.zero_right (zero_nsmul q), h.isBilinear.zero_left (zero_nsmul p)⟩

/-- **Conditional on HB1**: negation — `e(−Q, P) = e(Q,P)⁻¹ = e(Q, −P)`, hence
    `e(Q,−P)·e(Q,P) = 1` and `e(−Q,−P) = e(Q,P)`. -/
theorem bilinear_neg [CommGroup T] {e : A → B → T} (h : HB1 e) (q : A) (p : B) :
    e (-q) p = (e q p)⁻¹ ∧ e q (-p) = (e q p)⁻¹ ∧ e q (-p) * e q p = 1 ∧ e (-q) (-p) = e q p := by
  have hr := h.isBilinear.neg_right (zero_nsmul q) (zero_nsmul p)
  refine ⟨h.isBilinear.neg_left (zero_nsmul q) (zero_nsmul p), hr, ?_, ?_⟩
  · rw [hr, inv_mul_cancel]
  · rw [h.isBilinear.neg_left (zero_nsmul q) (zero_nsmul _), hr, inv_inv]

/-- **Conditional on HB1**: order — if `r • P = 0` (or `r • Q = 0`) then `e(Q,P)^r = 1`: pairing
    values on the order-`r` subgroups are `r`-th roots of unity. -/
theorem bilinear_order [CommGroup T] {e : A → B → T} (h : HB1 e) (r : ℕ) (q : A) (p : B)
    (hr : r • p = 0 ∨ r • q = 0) : e q p ^ r = 1 := by
  rcases hr with hr | hr
  · rw [← h.isBilinear.nsmul_right (zero_nsmul q) (zero_nsmul p), hr, h.isBilinear.zero_right (zero_nsmul q)]
  · rw [← h.isBilinear.nsmul_left (zero_nsmul q) (zero_nsmul p), hr, h.isBilinear.zero_left (zero_nsmul p)]

/-- Scalars only matter modulo the order — if `r • P = 0` then `e(Q, (a + r)•P) = e(Q, a•P)`.  (Stated beside
    the consequences of HB1; the proof does not use the hypothesis, the equation holds of any map `e`.) -/
theorem bilinear_mod_order [CommGroup T] {e : A → B → T} (_h : HB1 e) (r a : ℕ) (q : A) (p : B)
    (hr : r • p = 0) : e q ((a + r) • p) = e q (a • p) := by
  rw [add_nsmul, hr, add_zero]

/-! ### the same with values in a field (FQ12), where the pairing value could a priori be `0` -/

/-- HB1 for a map with values in a commutative group-with-zero (a field such as FQ12): additivity
    in each argument **and** the values are non-zero. -/
structure HB1₀ [CommGroupWithZero T] (e : A → B → T) : Prop where
  ne_zero : ∀ q p, e q p ≠ 0
  add_left : ∀ q q' p, e (q + q') p = e q p * e q' p
  add_right : ∀ q p p', e q (p + p') = e q p * e q p'

/-- A non-vanishing bi-additive map into a field is a bi-additive map into its unit group. -/
theorem HB1₀.toUnits [CommGroupWithZero T] {e : A → B → T} (h : HB1₀ e) :
    HB1 (fun q p => Units.mk0 (e q p) (h.ne_zero q p)) where
  add_left q q' p := by ext; simp [h.add_left]
  add_right q p p' := by ext; simp [h.add_right]

/-- **C05 headline clause in a field, conditional on HB1₀**: `e(b•Q, a•P) = e(Q,P)^(a·b)`,
    `e(Q,0) = 1 = e(0,P)`, `e(−Q,P) = e(Q,P)⁻¹ = e(Q,−P)`, and `e(Q,P)^r = 1` when `r•P = 0`. -/
theorem bilinear_field [CommGroupWithZero T] {e : A → B → T} (h : HB1₀ e) (q : A) (p : B) :
    (∀ a b : ℕ, e (b • q) (a • p) = e q p ^ (a * b)) ∧ e q 0 = 1 ∧ e 0 p = 1 ∧
    e (-q) p = (e q p)⁻¹ ∧ e q (-p) = (e q p)⁻¹ ∧ (∀ r : ℕ, r • p = 0 → e q p ^ r = 1) := by
  have hu := h.toUnits
  have hb := hu.isBilinear
  refine ⟨fun a b => ?_, ?_, ?_, ?_, ?_, fun r hr => ?_⟩
  · simpa using congrArg Units.val (bilinear_ab hu a b q p)
  · simpa using congrArg Units.val (hb.zero_right (zero_nsmul q))
  · simpa using congrArg Units.val (hb.zero_left (zero_nsmul p))
  · simpa using congrArg Units.val (hb.neg_left (zero_nsmul q) (zero_nsmul p))
  · simpa using congrArg Units.val (hb.neg_right (zero_nsmul q) (zero_nsmul p))
  · simpa using congrArg Units.val (bilinear_order hu r q p (Or.inl hr))

/-- non-vacuity of HB1: `e q p = g^(q·p)` on `ℤ × ℤ` is bi-additive for any `g` in any
    commutative group (the shape a pairing has on cyclic groups with chosen generators). -/
example {G : Type*} [CommGroup G] (g : G) : HB1 (fun (q p : ℤ) => g ^ (q * p)) where
  add_left q q' p := by rw [add_mul, zpow_add]
  add_right q p p' := by rw [mul_add, zpow_add]

/-- non-vacuity of HB1₀ (same map, in a field, `g ≠ 0`). -/
example {K : Type*} [CommGroupWithZero K] (g : K) (hg : g ≠ 0) :
    HB1₀ (fun (q p : ℤ) => g ^ (q * p)) where
  ne_zero q p := zpow_ne_zero _ hg
  add_left q q' p := by rw [add_mul, zpow_add₀ hg]
  add_right q p p' := by rw [mul_add, zpow_add₀ hg]

end conditional

end PyEcc.C05
