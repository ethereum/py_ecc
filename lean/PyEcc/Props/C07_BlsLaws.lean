/-
  Property C07, reference affine modules: the commutative-group laws, stated directly about the
  generated functions `Gen.RefBls.{add, double, neg, multiply}` on inputs that `is_on_curve` accepts, over
  an arbitrary field `F` with `2, 3, b ≠ 0`.

  Each is the law of `Lemmas/TransferRefLawsBls.lean` (stated there for any coordinate type that maps into a
  field by a good homomorphism) at the field itself, `CurveHom.id`, where every point is good.

  The bn128 module `Gen.RefBn.*` is the same terms under other names (`Lemmas/TwinModules.lean`);
  `Props/C07_Bn.lean` states the results for it.
-/
import PyEcc.Lemmas.TransferRefLawsBls

set_option linter.unusedSectionVars false
set_option linter.unusedVariables false

namespace PyEcc.C07.Bls
open PyEcc.CurveSem WeierstrassCurve

variable {F : Type} [Field F] [DecidableEq F]

section laws
variable {b : F} (h2 : (2 : F) ≠ 0) (h3 : (3 : F) ≠ 0) (hb : b ≠ 0)
include h2 h3 hb

/-- Commutativity: for on-curve inputs `add(p, q)` and `add(q, p)` return the same value. -/
theorem ref_add_comm {p q : Option (F × F)} (hp : Gen.RefBls.is_on_curve p b = true)
    (hq : Gen.RefBls.is_on_curve q b = true) : Gen.RefBls.add p q = Gen.RefBls.add q p :=
  (Transfer.CurveHom.id h2 h3 hb).ref_add_comm (Transfer.goodO_true p) (Transfer.goodO_true q) hp hq

/-- Associativity: `add(add(p, q), r) = add(p, add(q, r))` for on-curve inputs (both sides are
    evaluated in the exception monad; neither raises). -/
theorem ref_add_assoc {p q r : Option (F × F)} (hp : Gen.RefBls.is_on_curve p b = true)
    (hq : Gen.RefBls.is_on_curve q b = true) (hr : Gen.RefBls.is_on_curve r b = true) :
    (Gen.RefBls.add p q >>= fun s => Gen.RefBls.add s r)
      = (Gen.RefBls.add q r >>= fun t => Gen.RefBls.add p t) :=
  (Transfer.CurveHom.id h2 h3 hb).ref_add_assoc (Transfer.goodO_true p) (Transfer.goodO_true q) (Transfer.goodO_true r) hp hq hr

/-- Inverse: `add(p, neg(p)) = ∞` and `add(neg(p), p) = ∞` for an on-curve `p`. -/
theorem ref_add_neg {p : Option (F × F)} (hp : Gen.RefBls.is_on_curve p b = true) :
    Gen.RefBls.add p (Gen.RefBls.neg p) = .ok none ∧ Gen.RefBls.add (Gen.RefBls.neg p) p = .ok none :=
  (Transfer.CurveHom.id h2 h3 hb).ref_add_neg (Transfer.goodO_true p) hp

/-- Closure: `add` of on-curve inputs does not raise and its result is on the curve. -/
theorem ref_add_closed {p q : Option (F × F)} (hp : Gen.RefBls.is_on_curve p b = true)
    (hq : Gen.RefBls.is_on_curve q b = true) :
    ∃ s, Gen.RefBls.add p q = .ok s ∧ Gen.RefBls.is_on_curve s b = true :=
  have ⟨s, e, _, h⟩ := ((Transfer.CurveHom.id h2 h3 hb).ref_closed (Transfer.goodO_true p) (Transfer.goodO_true q) hp hq 0).1
  ⟨s, e, h⟩

/-- Closure: `double` of an on-curve input is on the curve. -/
theorem ref_double_closed {p : Option (F × F)} (hp : Gen.RefBls.is_on_curve p b = true) :
    Gen.RefBls.is_on_curve (Gen.RefBls.double p) b = true :=
  ((Transfer.CurveHom.id h2 h3 hb).ref_closed (Transfer.goodO_true p) (Transfer.goodO_true p) hp hp 0).2.1.2

/-- Closure: `neg` of an on-curve input is on the curve. -/
theorem ref_neg_closed {p : Option (F × F)} (hp : Gen.RefBls.is_on_curve p b = true) :
    Gen.RefBls.is_on_curve (Gen.RefBls.neg p) b = true :=
  ((Transfer.CurveHom.id h2 h3 hb).ref_closed (Transfer.goodO_true p) (Transfer.goodO_true p) hp hp 0).2.2.1.2

/-- Closure/totality: `multiply(p, n)` of an on-curve input does not raise, for every `n`, and its
    result is on the curve. -/
theorem ref_multiply_closed {p : Option (F × F)} (hp : Gen.RefBls.is_on_curve p b = true) (n : Nat) :
    ∃ s, Gen.RefBls.multiply p n = .ok s ∧ Gen.RefBls.is_on_curve s b = true :=
  have ⟨s, e, _, h⟩ := ((Transfer.CurveHom.id h2 h3 hb).ref_closed (Transfer.goodO_true p) (Transfer.goodO_true p) hp hp n).2.2.2
  ⟨s, e, h⟩

/-- Additivity in the scalar: `multiply(p, m + n) = add(multiply(p, m), multiply(p, n))`. -/
theorem ref_multiply_add {p : Option (F × F)} (hp : Gen.RefBls.is_on_curve p b = true) (m n : Nat) :
    Gen.RefBls.multiply p (m + n)
      = (Gen.RefBls.multiply p m >>= fun s => Gen.RefBls.multiply p n >>= fun t => Gen.RefBls.add s t) :=
  (Transfer.CurveHom.id h2 h3 hb).ref_multiply_add (Transfer.goodO_true p) hp m n

/-- Multiplicativity in the scalar: `multiply(multiply(p, m), n) = multiply(p, m * n)`. -/
theorem ref_multiply_mul {p : Option (F × F)} (hp : Gen.RefBls.is_on_curve p b = true) (m n : Nat) :
    (Gen.RefBls.multiply p m >>= fun s => Gen.RefBls.multiply s n) = Gen.RefBls.multiply p (m * n) :=
  (Transfer.CurveHom.id h2 h3 hb).ref_multiply_mul (Transfer.goodO_true p) hp m n

/-- Scalars act modulo the order: if `multiply(p, r) = ∞` then `multiply(p, n) = multiply(p, n % r)`
    for every `n` (with `r` the group order this is reduction of scalars mod `curve_order`). -/
theorem ref_multiply_mod {p : Option (F × F)} (hp : Gen.RefBls.is_on_curve p b = true) (r : Nat)
    (hr : Gen.RefBls.multiply p r = .ok none) (n : Nat) :
    Gen.RefBls.multiply p n = Gen.RefBls.multiply p (n % r) :=
  (Transfer.CurveHom.id h2 h3 hb).ref_multiply_mod (Transfer.goodO_true p) hp r hr n

/-- `multiply(neg(p), n) = neg(multiply(p, n))`. -/
theorem ref_multiply_neg {p : Option (F × F)} (hp : Gen.RefBls.is_on_curve p b = true) (n : Nat) :
    Gen.RefBls.multiply (Gen.RefBls.neg p) n = (Gen.RefBls.multiply p n).map Gen.RefBls.neg :=
  (Transfer.CurveHom.id h2 h3 hb).ref_multiply_neg (Transfer.goodO_true p) hp n

omit h2 h3 hb

/-- Identity: `add(p, ∞) = p` and `add(∞, p) = p` (for every `p`, on the curve or not). -/
theorem ref_add_zero (p : Option (F × F)) :
    Gen.RefBls.add p none = .ok p ∧ Gen.RefBls.add none p = .ok p :=
  Transfer.BlsRef.any_add_zero p

/-- `add(p, p) = double(p)` (for every `p`). -/
theorem ref_add_self (p : Option (F × F)) : Gen.RefBls.add p p = .ok (Gen.RefBls.double p) :=
  Transfer.BlsRef.any_add_self p

/-- `multiply(p, 0) = ∞`, `multiply(p, 1) = p`, `multiply(p, 2) = double(p)` (for every `p`). -/
theorem ref_multiply_small (p : Option (F × F)) :
    Gen.RefBls.multiply p 0 = .ok none ∧ Gen.RefBls.multiply p 1 = .ok p
      ∧ Gen.RefBls.multiply p 2 = .ok (Gen.RefBls.double p) :=
  Transfer.BlsRef.any_multiply_small p

end laws

/-! ### non-vacuity: the hypotheses are satisfiable (the curve `y² = x³ + 1` over `ℚ`, which has the
    points `(0, 1)`, `(2, 3)` and the point `(-1, 0)` of order two) -/

example : Gen.RefBls.is_on_curve (some ((0 : ℚ), 1)) 1 = true
    ∧ Gen.RefBls.is_on_curve (some ((2 : ℚ), 3)) 1 = true
    ∧ Gen.RefBls.is_on_curve (some ((-1 : ℚ), 0)) 1 = true := by
  simp [Gen.RefBls.is_on_curve, Gen.RefBls.is_inf]; norm_num

example : Gen.RefBls.multiply (some ((-1 : ℚ), 0)) 2 = .ok none := by
  simp [Gen.RefBls.multiply, Gen.RefBls.multiplyAux, Gen.RefBls.double, Gen.RefBls.is_inf]

/-- the corollaries instantiated at these points (all hypotheses discharged) -/
example : Gen.RefBls.add (some ((0 : ℚ), 1)) (some (2, 3)) = Gen.RefBls.add (some (2, 3)) (some (0, 1)) :=
  ref_add_comm (b := 1) (by norm_num) (by norm_num) (by norm_num)
    (by simp [Gen.RefBls.is_on_curve, Gen.RefBls.is_inf])
    (by simp [Gen.RefBls.is_on_curve, Gen.RefBls.is_inf]; norm_num)

example (n : Nat) : Gen.RefBls.multiply (some ((-1 : ℚ), 0)) n = Gen.RefBls.multiply (some ((-1 : ℚ), 0)) (n % 2) :=
  ref_multiply_mod (b := 1) (by norm_num) (by norm_num) (by norm_num)
    (by simp [Gen.RefBls.is_on_curve, Gen.RefBls.is_inf]; norm_num) 2
    (by simp [Gen.RefBls.multiply, Gen.RefBls.multiplyAux, Gen.RefBls.double, Gen.RefBls.is_inf]) n

end PyEcc.C07.Bls
