/-
  PyEcc.Props.TieRobC — helper lemmas and the closing tactic `tie_close` for the TIE theorems
  (`Props/Tie{Secp,Pairing,Miller,Swu,Cofactor,Codec}.lean`).

  A tie theorem states `Gen.f args = Model.f args`, where `Gen.f` is re-generated from the Python source on every run.
  The cheapest proof, `unfold …; with_reducible rfl`, only survives refactorings of the Python that leave the generated TERM
  unchanged up to renaming / inlining of locals.  `tie_close` tries that first and then falls back to proofs that normalise
  both sides, so that behaviour-preserving reshapings of the source (an early `return` instead of a conditional expression,
  a negated test with swapped branches, a helper call instead of its body, …) do not break the tie, while a real change
  still fails within seconds.
-/
import PyEcc.Model.Ecdsa
import PyEcc.Model.Codec
import PyEcc.Lemmas.Control

namespace PyEcc.Tie
open PyEcc

/-- `a ^ 0 == a` for a non-negative Python int (`pyXor` is only meaningful on non-negative ints). -/
theorem pyXor_zero_right {a : Int} (h : 0 ≤ a) : pyXor a 0 = a := by
  unfold pyXor
  simp [Int.toNat_of_nonneg h]

theorem pyXor_emod_two_zero (y : Int) : pyXor (y % 2) 0 = y % 2 :=
  pyXor_zero_right (Int.emod_nonneg y (by decide))

/-- a coefficient of an element built by the `FQP` constructor (`ofInts`: every coefficient reduced `% p`) is non-negative -/
theorem getI_ofInts_nonneg {v : Variant} {p : Nat} {mc : List Int} (hp : p ≠ 0) (l : List Int) (i : Nat) :
    0 ≤ getI (Fqp.ofInts (v := v) (p := p) (mc := mc) l).coeffs i := by
  have hp' : (p : Int) ≠ 0 := by exact_mod_cast hp
  unfold Fqp.ofInts getI
  simp only [List.getD_eq_getElem?_getD, List.getElem?_map]
  cases l[i]? <;> simp [Int.emod_nonneg _ hp']

theorem blsP_ne_zero : blsP ≠ 0 := by decide

/-- `FQ2.__truediv__` ends in the constructor (which reduces every coefficient) -/
theorem F2_div_eq_ofInts (a b : F2) : ∃ l, a / b = Fqp.ofInts l := ⟨_, rfl⟩
/-- `FQ2.__neg__` ends in the constructor -/
theorem F2_neg_eq_ofInts (a : F2) : ∃ l, -a = Fqp.ofInts l := ⟨_, rfl⟩

/-- every coefficient of the square root returned by `modular_squareroot_in_FQ2` is a reduced (non-negative) residue -/
theorem modularSquarerootInFq2_coeff_nonneg {value y : F2} (h : modularSquarerootInFq2 value = some y) (i : Nat) :
    0 ≤ getI y.coeffs i := by
  unfold modularSquarerootInFq2 at h
  simp only at h
  split at h
  · simp only [Option.some.injEq] at h
    subst h
    split
    · obtain ⟨l, hl⟩ := F2_div_eq_ofInts (value ^ ((Gen.Consts.blsconst_FQ2_ORDER + 8) / 16))
        (EIGHTH_ROOTS_OF_UNITY.getD ((EIGHTH_ROOTS_OF_UNITY.findIdx (· == (value ^ ((Gen.Consts.blsconst_FQ2_ORDER + 8) / 16)) ^ 2 / value)) / 2) default)
      rw [hl]; exact getI_ofInts_nonneg blsP_ne_zero _ _
    · obtain ⟨l, hl⟩ := F2_neg_eq_ofInts (value ^ ((Gen.Consts.blsconst_FQ2_ORDER + 8) / 16) /
        (EIGHTH_ROOTS_OF_UNITY.getD ((EIGHTH_ROOTS_OF_UNITY.findIdx (· == (value ^ ((Gen.Consts.blsconst_FQ2_ORDER + 8) / 16)) ^ 2 / value)) / 2) default))
      rw [hl]; exact getI_ofInts_nonneg blsP_ne_zero _ _
  · cases h

/-- `raise` followed by more statements: the rest is dropped.  (Used instead of unfolding `Except.bind`, which would expose
    `match <call> with …` for the real monadic calls and make the elaborator / kernel try to evaluate fuelled recursions.) -/
theorem throw_bind_except {ε α β : Type} (e : ε) (f : α → Except ε β) : (throw e : Except ε α) >>= f = throw e := rfl

/-- `ok_bind`, `error_bind`, `map_ok`, `map_error` of `Lemmas/Control.lean`, the last two in the `<$>` spelling -/
theorem ok_bind_except {ε α β : Type} (v : α) (f : α → Except ε β) : (Except.ok v : Except ε α) >>= f = f v := ok_bind v f
theorem error_bind_except {ε α β : Type} (e : ε) (f : α → Except ε β) :
    (Except.error e : Except ε α) >>= f = Except.error e := error_bind e f
theorem map_ok_except {ε α β : Type} (v : α) (g : α → β) : g <$> (Except.ok v : Except ε α) = Except.ok (g v) := map_ok g v
theorem map_error_except {ε α β : Type} (e : ε) (g : α → β) : g <$> (Except.error e : Except ε α) = Except.error e := map_error g e

/-- one step of the case analysis: close by reflexivity, peel a common first monadic action (compared up to reducible
    unfolding only), or split an `if` / `match` (of either side; an `if` with the same condition on both sides is split
    simultaneously) -/
macro "tie_step" : tactic =>
  `(tactic| first
    | with_reducible rfl
    | (with_reducible apply bind_congr) <;> intro _
    | split)

/-- closes a leaf of the case analysis: reflexivity, linear integer arithmetic over the case hypotheses (`omega` treats
    a quotient by a non-literal as an atom), or `simp` with the case hypotheses and the given lemmas -/
syntax "tie_leaf" (" [" Lean.Parser.Tactic.simpLemma,* "]")? : tactic
macro_rules
  | `(tactic| tie_leaf) => `(tactic| tie_leaf [pyXor_emod_two_zero])
  | `(tactic| tie_leaf [$ls,*]) => `(tactic|
      first
      | with_reducible rfl
      | omega
      | (simp [*, $ls,*] <;> omega)
      | (simp_all [$ls,*] <;> omega))

/-- `tie_close [lemmas]` closes `lhs = rhs` for two already unfolded function bodies:
    1. `with_reducible rfl` (same term up to renaming / inlining of `let`s);
    2. `simp only [lemmas]` (unfold the helper definitions / apply the rewriting lemmas given), then `with_reducible rfl`;
    3. the same after flattening the `do` blocks (`raise` drops the rest, `pure x >>= f` is `f x`, the join points of the
       `do` notation are inlined): an early `return` and a conditional expression then have comparable shapes;
    4. case analysis: common monadic calls are peeled, the `if`s and `match`es of both sides are split, every leaf is closed
       by `tie_leaf`. -/
syntax "tie_close" (" [" Lean.Parser.Tactic.simpLemma,* "]")? : tactic
macro_rules
  | `(tactic| tie_close) => `(tactic| tie_close [pyXor_emod_two_zero])
  | `(tactic| tie_close [$ls,*]) => `(tactic|
      first
      | with_reducible rfl
      | (simp only [$ls,*] <;> with_reducible rfl)
      | (simp only [throw_bind_except, pure_bind, $ls,*] <;> with_reducible rfl)
      | ((try simp only [throw_bind_except, pure_bind, $ls,*]) <;> (repeat' tie_step) <;> tie_leaf [$ls,*]))

end PyEcc.Tie
