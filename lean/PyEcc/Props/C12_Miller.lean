/-
  Property C12, BLS12-381: the OPTIMIZED pairing
  (`py_ecc/optimized_bls12_381/optimized_pairing.py`) equals the REFERENCE pairing
  (`py_ecc/bls12_381/bls12_381_pairing.py`) as an FQ12 value (coefficient list).

  Model: `pairingOptBls`, `pairingRefBls`, `optBlsMillerLoop`, `refMillerLoop` of `Model/Pairing.lean`
  around the GENERATED `linefunc` / `double` / `add` / `is_on_curve` of both modules.

  How the five differences are bridged (helper lemmas in `Lemmas/Miller*.lean`):
   (i)   field class variants `.opt` / `.ref`: both are read in the same field
         `K12 = Fp[w]/(w¹² − 2w⁶ + 2)` through `toQ` (`TwistSem.goodHom_F12`);
   (ii)  `R` projective over FQ2 and twisted after every update, vs `R` affine over FQ12:
         `twist ∘ double = double ∘ twist`, `twist ∘ add = add ∘ twist` (`Lemmas/MillerTwist.lean`: the affine reading of a
         twisted triple is the affine twist of the affine reading, and the affine twist commutes with the
         chord–tangent formulas, `Lemmas/TwistPoint.lean`);
   (iii) `(f_num, f_den)` vs `f`: `num / den` = affine line value (`C13.Bls.opt_linefunc_toAff`);
   (iv)  digit table vs bits of `ate_loop_count`: `bls_digits_eq` (`Lemmas/MillerPairing.lean`, kernel evaluation);
   (v)   the same final power `(p¹² − 1)/r`.

  Regularity.  `num / den` is the line value only for finite running points with `y ≠ 0`;
  `MillerRegular Q` says exactly that about the points `R` the optimized loop meets.  It is PROVED
  (`millerRegular_of_subgroup`) for every on-curve finite `Q` that passes `subgroup_check` — the domain
  on which the pairing is used — so `pairingOptBls_eq_pairingRefBls_subgroup` has no hypothesis
  besides "same inputs".
-/
import PyEcc.Lemmas.MillerRegular
import PyEcc.Props.C12
import PyEcc.Props.C17_Model

set_option linter.unusedSectionVars false

namespace PyEcc.C12M
open Polynomial PyEcc PyEcc.Gen PyEcc.Gen.Consts PyEcc.Fqp PyEcc.FqpSem PyEcc.PairingSem PyEcc.MillerSem
open PyEcc.Transfer hiding mapO GoodO mapO_none mapO_some mapO_comp

variable [DecidableEq K2]

/-- **One loop iteration.**  If the optimized state `((f_num, f_den), R, twist_R)` and the
    reference state `(f, R_ref)` are related by the invariant (`f_den ≠ 0`, `f_num / f_den = f`,
    `twist_R = twist(R)` represents `R_ref`, everything stored reduced), `R` is finite with `y ≠ 0`
    and — when the digit is 1 — so is `double(R)`, then the reference iteration returns normally and
    the two new states are related again. -/
theorem miller_step [DecidableEq K12] {Q : T2} {Qr : A12} {castP : T12} {Pr : A12}
    (ctx : Ctx Q Qr castP Pr) (ate i : Nat) {so : (OBls12 × OBls12) × T2 × T12} {sr : RBls12 × A12}
    (inv : Inv so sr) (h1 : Fin2 so.2.1)
    (h2 : bitSet ate i = true → Fin2 (Gen.OptBls.double so.2.1)) :
    ∃ sr', refMillerStep refBlsOps ate Qr Pr sr i = .ok sr' ∧
      Inv (optBlsStep castP (twistOptBls Q) Q so (digitAt ate i)) sr' :=
  step_inv ctx ate i inv h1 h2

/-- **The twist commutes with `double` and `add`** (used by `miller_step`; no hypothesis): for all
    reduced FQ2 triples, `twist(double(R))` represents the reference `double` of the point represented
    by `twist(R)`, and the reference `add` of the points represented by `twist(R)`, `twist(S)` returns
    normally, the point represented by `twist(add(R, S))`. -/
theorem twist_commutes [DecidableEq K12] (R S : T2) (cR : CanonT R) (cS : CanonT S) :
    toAff (mapT toQ (twistOptBls (Gen.OptBls.double R) : T12))
        = Gen.RefBls.double (toAff (mapT toQ (twistOptBls R : T12)))
      ∧ Gen.RefBls.add (toAff (mapT toQ (twistOptBls R : T12))) (toAff (mapT toQ (twistOptBls S : T12)))
        = .ok (toAff (mapT toQ (twistOptBls (Gen.OptBls.add R S) : T12))) := by
  obtain ⟨cD, eD⟩ := Transfer.Bls.good_double (B := K2) (goodHom_F2 (v := .opt)) cR
  obtain ⟨cA, eA⟩ := Transfer.Bls.good_add (B := K2) (goodHom_F2 (v := .opt)) cR cS
  rw [toQ_twistOptBls cD, toQ_twistOptBls cA, toQ_twistOptBls cR, toQ_twistOptBls cS, eD, eA]
  exact ⟨toAff_twK_double _, ref_add_toAff_twK _ _⟩

/-- **Miller values agree.**  Let `Q` (reduced FQ2 triple) and `P` (FQ triple) be finite
    representatives of the reference points `q`, `p`, with `Q` regular.  Then the reference loop
    `for i in range(log_ate_loop_count, -1, -1)` run on `twist(q)`, `cast_point_to_fq12(p)` returns
    normally, and its accumulator `f` — the reference Miller value BEFORE the final exponentiation —
    is, coefficient for coefficient, the value `f_num / f_den` returned by the optimized
    `miller_loop(Q, P, final_exponentiate=False)`. -/
theorem millerLoop_opt_eq_ref {Q : T2} {q : Option (RBls2 × RBls2)} {P : Fq blsP × Fq blsP × Fq blsP}
    {p : Option (Fq blsP × Fq blsP)} (cQ : CanonT Q) (cq : GoodO Canon q)
    (hQ : toAff (mapT toQ Q) = mapO toQ q) (hP : toAff P = p) (hQz : Q.2.2 ≠ 0) (hPz : P.2.2 ≠ 0)
    (hreg : MillerRegular Q) :
    ∃ f R, (downTo bls12_381_log_ate_loop_count).foldlM
        (refMillerStep refBlsOps bls12_381_ate_loop_count (twistRefBls q)
          (p.map fun (x, y) => (castFq12 x, castFq12 y))) ((1 : RBls12), twistRefBls q) = .ok (f, R)
      ∧ (optBlsMillerLoop (digitsFrom optimized_bls12_381_pseudo_binary_encoding 62) none Q P
          : OBls12).coeffs = f.coeffs := by
  classical
  obtain ⟨⟨f, R⟩, e, cf, co, v⟩ := miller_core cQ (goodO_iff.mp cq) hQ hP hQz hPz hreg
  exact ⟨f, R, e, evQ_inj co cf v⟩

/-- **`pairing`: optimized = reference**, under the regularity hypothesis.
    Let `Q` be a reduced FQ2 triple and `P` an FQ triple — ANY projective representatives — of the
    reference inputs `q : Optional[(FQ2, FQ2)]`, `p : Optional[(FQ, FQ)]` (`None` = ∞).  Then
    `optimized_bls12_381.pairing(Q, P)` and `bls12_381.pairing(q, p)` have the same outcome: both raise
    `ValueError` (a point off its curve), or both return the same FQ12 coefficient list — `FQ12.one()`
    when a point is ∞, otherwise the Miller value raised to `(p¹² − 1)/r`.
    `hreg` (needed only for on-curve finite `Q`) is discharged for subgroup points below. -/
theorem pairingOptBls_eq_pairingRefBls (Q : T2) (P : Fq blsP × Fq blsP × Fq blsP)
    (q : Option (RBls2 × RBls2)) (p : Option (Fq blsP × Fq blsP))
    (cQ : CanonT Q) (cq : GoodO Canon q)
    (hQ : toAff (mapT toQ Q) = mapO toQ q) (hP : toAff P = p)
    (hreg : Gen.OptBls.is_on_curve Q blsB2 = true → Q.2.2 ≠ 0 → MillerRegular Q) :
    (pairingOptBls Q P true).map Fqp.coeffs = (pairingRefBls q p).map Fqp.coeffs := by
  classical
  have cq := goodO_iff.mp cq
  rw [pairingOptBls_eq, pairingRefBls_eq, on_curve_Q_agree cQ cq hQ, on_curve_agree_field hP]
  refine guards_agree _ _ one_coeffs (fun hz => ?_) fun hcq _ hz => ?_
  · rcases hz with hPz | hQz
    · rw [← hP, C13.toAff_of_z_eq_zero hPz]
      exact refMillerLoop_none_right ..
    · rw [none_of_z (K := K2) (goodHom_F2 (v := .opt)) hQ hQz]
      exact refMillerLoop_none_left ..
  obtain ⟨hPz, hQz⟩ := not_or.mp hz
  obtain ⟨sr, e, cf, co, v⟩ := miller_core cQ cq hQ hP hQz hPz
    (hreg ((on_curve_Q_agree cQ cq hQ).trans hcq) hQz)
  obtain ⟨⟨xq, yq⟩, rfl⟩ := some_of_z (K := K2) (goodHom_F2 (v := .opt)) cQ hQ hQz
  obtain ⟨⟨xp, yp⟩, rfl⟩ : ∃ xy, p = some xy := by
    rw [← hP, C13.toAff_of_z_ne_zero hPz]; exact ⟨_, rfl⟩
  obtain ⟨q12, hq12⟩ := twistRefBls_some (p := blsP) (mc2 := blsMc2) (mc12 := blsMc12) xq yq
  rw [hq12, castRef_some] at e ⊢
  rw [refMillerLoop_some, e, ok_bind, if_pos rfl, optBlsMillerLoop_some, finalExp_bls.opt_eq]
  exact ⟨_, rfl, pow_coeffs co cf v _⟩

/-- **Regularity holds on the subgroup.**  For every reduced FQ2 triple `Q` that is on the
    twist curve, finite, and passes `subgroup_check(Q)` (`multiply(Q, curve_order)` is ∞): every
    running point `R` of the optimized Miller loop started at `Q` is finite with `y ≠ 0`.
    (`R = k·Q` with `0 < k ≤ ate_loop_count < r`, `r` prime, and the twist curve has no point with
    `y = 0`.) -/
theorem millerRegular_of_subgroup {Q : T2} (cQ : CanonT Q)
    (hon : Gen.OptBls.is_on_curve Q blsB2 = true) (hz : Q.2.2 ≠ 0) (hsub : subgroupCheck Q = true) :
    MillerRegular Q := by
  obtain ⟨Pt, rQ, hPt, hr⟩ := curveF2.point_of_facts cQ hon (by simp [OptBls.is_inf, hz]) hsub
  exact regularFrom_of_scalar rQ hPt hr _ Q 1 (by rwa [one_nsmul]) Nat.one_pos bls_scalar_lt

/-- **`pairing`: optimized = reference on G2** — no regularity hypothesis.
    For every reduced FQ2 triple `Q` passing `subgroup_check` and every FQ triple `P`, any projective
    representatives of the reference inputs `q`, `p`: `optimized_bls12_381.pairing(Q, P)` and
    `bls12_381.pairing(q, p)` both raise `ValueError` (off-curve input) or return the same FQ12
    coefficient list.  (`P` is arbitrary: on the curve or not, in the subgroup or not, ∞ or not.) -/
theorem pairingOptBls_eq_pairingRefBls_subgroup (Q : T2) (P : Fq blsP × Fq blsP × Fq blsP)
    (q : Option (RBls2 × RBls2)) (p : Option (Fq blsP × Fq blsP))
    (cQ : CanonT Q) (cq : GoodO Canon q)
    (hQ : toAff (mapT toQ Q) = mapO toQ q) (hP : toAff P = p)
    (hsub : subgroupCheck Q = true) :
    (pairingOptBls Q P true).map Fqp.coeffs = (pairingRefBls q p).map Fqp.coeffs :=
  pairingOptBls_eq_pairingRefBls Q P q p cQ cq hQ hP
    (fun hon hz => millerRegular_of_subgroup cQ hon hz hsub)

/-- The same for `pairing(Q, P, final_exponentiate=False)`: raised to `(p¹² − 1)/r` (in the executable
    FQ12 model) it is the reference pairing. -/
theorem pairingOptBls_false_pow_eq_pairingRefBls_subgroup (Q : T2) (P : Fq blsP × Fq blsP × Fq blsP)
    (q : Option (RBls2 × RBls2)) (p : Option (Fq blsP × Fq blsP))
    (cQ : CanonT Q) (cq : GoodO Canon q)
    (hQ : toAff (mapT toQ Q) = mapO toQ q) (hP : toAff P = p)
    (hsub : subgroupCheck Q = true) :
    ((pairingOptBls Q P false).map
        (· ^ ((blsP ^ 12 - 1) / optimized_bls12_381_curve_order))).map Fqp.coeffs
      = (pairingRefBls q p).map Fqp.coeffs := by
  rw [← C12.pairingOptBls_finalExp]
  exact pairingOptBls_eq_pairingRefBls_subgroup Q P q p cQ cq hQ hP hsub

end PyEcc.C12M

namespace PyEcc.C12M
open Polynomial PyEcc PyEcc.Gen PyEcc.Gen.Consts PyEcc.Fqp PyEcc.FqpSem PyEcc.PairingSem PyEcc.MillerSem
open PyEcc.Transfer hiding mapO GoodO mapO_none mapO_some mapO_comp

/-! ### hypothesis-free form: the reference inputs computed from the optimized ones -/

/-- the reference-module reading of an optimized G2 triple: `None` when `z = 0`, otherwise
    `normalize(Q) = (x/z, y/z)` with the two coefficient lists re-wrapped in the reference `FQ2` class -/
def refOfOptG2 (Q : T2) : Option (RBls2 × RBls2) :=
  if Q.2.2 = 0 then none
  else some (⟨(Gen.OptBls.normalize Q).1.coeffs⟩, ⟨(Gen.OptBls.normalize Q).2.coeffs⟩)

/-- the reference-module reading of an optimized G1 triple: `None` when `z = 0`, else `normalize(P)` -/
def refOfOptG1 (P : Fq blsP × Fq blsP × Fq blsP) : Option (Fq blsP × Fq blsP) :=
  if P.2.2 = 0 then none else some (Gen.OptBls.normalize P)

theorem refOfOptG1_repr (P : Fq blsP × Fq blsP × Fq blsP) : toAff P = refOfOptG1 P := by
  unfold refOfOptG1
  by_cases hz : P.2.2 = 0
  · rw [if_pos hz, C13.toAff_of_z_eq_zero hz]
  · rw [if_neg hz, C13.Bls.opt_normalize P hz]

theorem refOfOptG2_repr [DecidableEq K2] {Q : T2} (cQ : CanonT Q) :
    GoodO Canon (refOfOptG2 Q) ∧ toAff (mapT toQ Q) = mapO toQ (refOfOptG2 Q) := by
  unfold refOfOptG2
  obtain ⟨⟨c1, c2⟩, e⟩ := normalize_repr (K := K2) (goodHom_F2 (v := .opt)) cQ
  by_cases hz : Q.2.2 = 0
  · rw [if_pos hz]
    exact ⟨goodO_none _, C13.toAff_of_z_eq_zero (T := mapT toQ Q)
      (by rw [mapT_snd_snd, hz]; exact (goodHom_F2 (v := .opt)).map_zero)⟩
  · rw [if_neg hz]
    exact ⟨goodO_some c1 c2, e hz⟩

/-- **`pairing`: optimized = reference on G2, inputs converted by `normalize`.**
    For every reduced FQ2 triple `Q` that passes `subgroup_check` and EVERY FQ triple `P`:
    `optimized_bls12_381.pairing(Q, P)` has the same outcome as `bls12_381.pairing(q, p)` where
    `q`, `p` are `None` for `z = 0` and `normalize(·)` otherwise — the same `ValueError`, or the same
    twelve FQ12 coefficients. -/
theorem pairingOptBls_eq_pairingRefBls_normalize (Q : T2) (P : Fq blsP × Fq blsP × Fq blsP)
    (cQ : CanonT Q) (hsub : subgroupCheck Q = true) :
    (pairingOptBls Q P true).map Fqp.coeffs
      = (pairingRefBls (refOfOptG2 Q) (refOfOptG1 P)).map Fqp.coeffs := by
  classical
  obtain ⟨g, h⟩ := refOfOptG2_repr cQ
  exact pairingOptBls_eq_pairingRefBls_subgroup Q P _ _ cQ g h (refOfOptG1_repr P) hsub

/-- the generator `G2` satisfies the hypotheses of `pairingOptBls_eq_pairingRefBls_normalize` -/
example : CanonT blsG2 ∧ subgroupCheck blsG2 = true :=
  ⟨C17M.blsG2_passes.1, C17M.blsG2_passes.2.2⟩

/-- … and those of `millerRegular_of_subgroup`, `pairingOptBls_eq_pairingRefBls_subgroup` (with
    `q := refOfOptG2 G2`, `p := refOfOptG1 G1`) -/
example [DecidableEq K2] : CanonT blsG2 ∧ Gen.OptBls.is_on_curve blsG2 blsB2 = true ∧ blsG2.2.2 ≠ 0
    ∧ subgroupCheck blsG2 = true ∧ GoodO Canon (refOfOptG2 blsG2)
    ∧ toAff (mapT toQ blsG2) = mapO toQ (refOfOptG2 blsG2) ∧ toAff blsG1 = refOfOptG1 blsG1 :=
  ⟨C17M.blsG2_passes.1, C17M.blsG2_passes.2.1, by decide, C17M.blsG2_passes.2.2,
    (refOfOptG2_repr C17M.blsG2_passes.1).1, (refOfOptG2_repr C17M.blsG2_passes.1).2,
    refOfOptG1_repr blsG1⟩

/-- at the generators both sides of the theorems are returned values, not exceptions: the guards pass
    and no point is ∞ (the optimized side; the reference side then follows from the theorem) -/
example : ∃ f, pairingOptBls blsG2 blsG1 true = .ok f := by
  have h2 : Gen.OptBls.is_on_curve blsG2 (⟨optimized_bls12_381_b2⟩ : OBls2) = true :=
    C17M.blsG2_passes.2.1
  have h1 : Gen.OptBls.is_on_curve blsG1 (Fq.ofInt optimized_bls12_381_b : Fq blsP) = true :=
    C07.Facts.bls_G1_model.1
  exact ⟨_, pairingOptBls_ok true h2 h1⟩

/-- `MillerRegular` holds for the generator (a decidable statement about the model; here from
    `millerRegular_of_subgroup`) — hypotheses of `millerLoop_opt_eq_ref`,
    `pairingOptBls_eq_pairingRefBls` -/
example : MillerRegular blsG2 := by
  classical
  exact millerRegular_of_subgroup C17M.blsG2_passes.1 C17M.blsG2_passes.2.1 (by decide)
    C17M.blsG2_passes.2.2

end PyEcc.C12M
