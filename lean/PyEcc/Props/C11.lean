/-
  PyEcc.Props.C11 — property C11 for G1: `compress_G1` / `decompress_G1` (ZCash format) and the byte
  helpers `G1_to_pubkey` / `pubkey_to_G1` of `py_ecc/bls/point_compression.py`, `py_ecc/bls/g2_primitives.py`.

  Model: `PyEcc/Model/Codec.lean` (`compressG1`, `decompressG1`, `getFlags`, `g1ToPubkey`, `pubkeyToG1`).
  A G1 point is a projective triple `(X, Y, Z)` of `FQ` objects, `Z = 0` meaning infinity.
-/
import PyEcc.Sem.CodecSem
import PyEcc.Lemmas.Bytes
import Mathlib.Tactic.FieldSimp

set_option exponentiation.threshold 400

namespace PyEcc.C11
open PyEcc PyEcc.CodecSem PyEcc.BytesLem

/-! ### flag and byte-level facts -/

/-- `compress_G1(pt)` is always a 384-bit word, for every triple `pt` (on the curve or not). -/
theorem compress_lt (P : G1Pt) : compressG1 P < 2 ^ 384 := compressG1_lt P

/-- `get_flags(z)` reads bits 383, 382, 381 of `z` (and nothing else: bits ≥ 384 are ignored). -/
theorem getFlags_eq (z : ℕ) : getFlags z =
    (decide (z / 2 ^ 383 % 2 = 1), decide (z / 2 ^ 382 % 2 = 1), decide (z / 2 ^ 381 % 2 = 1)) := by
  unfold getFlags
  simp only [beq_eq_decide]

/-- The flags of `compress_G1(pt)`: `c_flag` is always set; `b_flag` is set exactly for infinity (`Z = 0`);
    `a_flag` is clear for infinity and otherwise says whether the affine `y = Y/Z` satisfies `2y ≥ p`,
    i.e. `y > (p-1)/2`. -/
theorem getFlags_compress (P : G1Pt) : getFlags (compressG1 P) =
    (true, Gen.OptBls.is_inf P,
      !Gen.OptBls.is_inf P && decide (blsP ≤ (Gen.OptBls.normalize P).2.n * 2)) := by
  by_cases h : P.2.2 = 0
  · have hi : Gen.OptBls.is_inf P = true := by simp [Gen.OptBls.is_inf, h]
    rw [compressG1_inf h, hi, getFlags_inf.1]; rfl
  · have hi : Gen.OptBls.is_inf P = false := by simp [Gen.OptBls.is_inf, h]
    rw [compressG1_fin h, hi, (getFlags_word (lt_trans (Fq.lt _) blsP_lt) (flag_le_one (Fq.lt _))).1]
    refine Prod.ext rfl (Prod.ext rfl ?_)
    show (_ == 1) = (!false && decide (blsP ≤ (P.2.1 / P.2.2).n * 2))
    rw [Bool.not_false, Bool.true_and, beq_eq_decide]
    exact decide_eq_decide.mpr (flag_eq_one_iff (Fq.lt (P.2.1 / P.2.2)))

/-- `G1_to_pubkey(pt)` never raises and returns exactly 48 bytes, whose big-endian value is `compress_G1(pt)`. -/
theorem g1ToPubkey_length (P : G1Pt) :
    ∃ bs, g1ToPubkey P = .ok bs ∧ bs.length = 48 ∧ os2ip bs = compressG1 P := by
  have h := compressG1_lt_bytes P
  exact ⟨toBytesBE 48 (compressG1 P), i2osp_ok h, toBytesBE_length _ _, os2ip_toBytesBE _ _ h⟩

/-- `pubkey_to_G1(G1_to_pubkey(pt))` is `decompress_G1(compress_G1(pt))`: the byte layer loses nothing. -/
theorem pubkeyToG1_g1ToPubkey (P : G1Pt) {bs : Bytes} (h : g1ToPubkey P = .ok bs) :
    pubkeyToG1 bs = decompressG1 (compressG1 P) := by
  unfold pubkeyToG1
  rw [os2ip_i2osp h]

/-- `decompress_G1(z)` looks only at the low 384 bits of `z`: adding any multiple of `2^384` changes
    nothing.  (`get_flags` masks single bits and `x = z % 2^381`.)  This is why canonicity
    (`compress_decompress_G1`) carries the guard `z < 2^384`; through `pubkey_to_G1` the guard is the
    48-byte length of the key. -/
theorem decompressG1_ignores_high_bits (z k : ℕ) : decompressG1 (z + k * 2 ^ 384) = decompressG1 z := by
  rw [decompressG1_ctl, decompressG1_ctl, getFlags_add_mul, isPointAtInfinity_add_mul, mod_add_mul]

/-! ### error kind and accept set -/

/-- `decompress_G1` raises nothing but `ValueError`: every input is either decoded or rejected with
    `ValueError` (the function is total on Python ints `z ≥ 0`). -/
theorem decompress_G1_error_kind (z : ℕ) (e : PyErr) (h : decompressG1 z = .error e) : e = .value :=
  decompressG1_error_kind h

/-- **Accept set of `decompress_G1`.**  `decompress_G1(z)` returns a point iff either
    * flags `c = 1, b = 0` (any `a`), `x = z % 2^381` satisfies `0 < x < p`, and `x³ + 4` is a square mod `p`; or
    * flags `c = 1, b = 1, a = 0` and `z % 2^381 = 0` (the encoding of infinity).
    Everything else raises `ValueError` (`decompress_G1_error_kind`). -/
theorem decompress_G1_accepts_iff (z : ℕ) :
    (∃ P, decompressG1 z = .ok P) ↔
      ((∃ a, getFlags z = (true, false, a)) ∧ 0 < z % 2 ^ 381 ∧ z % 2 ^ 381 < blsP ∧
          ∃ y : ℕ, y * y % blsP = ((z % 2 ^ 381) ^ 3 + 4) % blsP)
      ∨ (getFlags z = (true, true, false) ∧ z % 2 ^ 381 = 0) := by
  simp only [decompressG1_ok_iff, exists_or, exists_and_left, exists_eq', and_true, ← sqrtCheck_iff_nat,
    Nat.pos_iff_ne_zero]

/-! ### canonicity: what decodes re-encodes to exactly the input -/

/-- **Canonicity.**  If a 384-bit word `z` is accepted by `decompress_G1`, the decoded point is on the
    curve `y² = x³ + 4` and `compress_G1` of it is `z` again: no two different 384-bit words decode to
    the same point, and nothing off the curve is ever returned.  The guard `z < 2^384` is needed
    because `decompress_G1` ignores higher bits (`decompressG1_ignores_high_bits`). -/
theorem compress_decompress_G1 (z : ℕ) (hz : z < 2 ^ 384) (P : G1Pt) (h : decompressG1 z = .ok P) :
    Gen.OptBls.is_on_curve P blsB = true ∧ compressG1 P = z := by
  rcases decompressG1_ok_iff.mp h with ⟨⟨a, hf⟩, -⟩ | ⟨hf, hx, rfl⟩
  · obtain ⟨-, hxlt, y, hylt, hysq, hyf, rfl⟩ := (decompressG1_fin_iff hf).mp h
    constructor
    · apply (is_on_curve_iff _).mpr
      right
      show (Fq.toZMod (Fq.ofInt _)) ^ 2 * Fq.toZMod (Fq.ofInt 1) - (Fq.toZMod (Fq.ofInt _)) ^ 3
        = 4 * (Fq.toZMod (Fq.ofInt 1)) ^ 3
      rw [toZMod_ofInt_nat, toZMod_ofInt_nat, Fq.toZMod_ofInt, hysq]
      push_cast; ring
    · rw [compressG1_fin (show (Fq.ofInt 1 : F1) ≠ 0 by decide)]
      show ((Fq.ofInt _ : F1) / (1 : F1)).n + (((Fq.ofInt _ : F1) / (1 : F1)).n * 2 / blsP) * 2 ^ 381
        + 2 ^ 383 = z
      rw [div_one, div_one, n_ofInt_nat hxlt, n_ofInt_nat hylt, hyf]
      exact word_recompose hz hf
  · refine ⟨(is_on_curve_iff Z1).mpr (Or.inl rfl), ?_⟩
    rw [compressG1_inf (P := Z1) rfl]
    exact (word_inf hz hf hx).symm

/-- Byte-level canonicity: a **48-byte** string accepted by `pubkey_to_G1` is reproduced exactly by
    `G1_to_pubkey` of the decoded point (and that point is on the curve). -/
theorem g1ToPubkey_pubkeyToG1 (bs : Bytes) (hlen : bs.length = 48) (P : G1Pt) (h : pubkeyToG1 bs = .ok P) :
    Gen.OptBls.is_on_curve P blsB = true ∧ g1ToPubkey P = .ok bs := by
  unfold pubkeyToG1 at h
  have hlt : os2ip bs < 2 ^ 384 := pow256_48 ▸ hlen ▸ os2ip_lt bs
  obtain ⟨hon, hc⟩ := compress_decompress_G1 _ hlt P h
  refine ⟨hon, ?_⟩
  unfold g1ToPubkey
  rw [hc, ← hlen]
  exact i2osp_os2ip bs

/-! ### round trip (all points except the two with affine `x = 0`), and K1 -/

/-- **Round trip, all on-curve points except the two with affine `x = 0`** (finding K1).
    For every projective representative `P = (X, Y, Z)` of a point of `y² = x³ + 4` over `F_p` that is
    infinity (`Z = 0`) or has `X ≠ 0` (equivalently affine `x = X/Z ≠ 0`):
    `decompress_G1(compress_G1(P))` succeeds and returns `Z1 = (1, 1, 0)` for infinity, otherwise the
    normalized representative `(X/Z, Y/Z, 1)`; in both cases `eq(result, P)` holds.

    Partial: the full-strength statement (every on-curve point) is FALSE for the library; the hypothesis
    `hx` excludes exactly the points with `Z ≠ 0 ∧ X = 0`, which by `x0_points_iff` are exactly the two
    affine points `(0, 2)` and `(0, p-2)`, and on those the round trip raises `ValueError`
    (`x0_roundtrip_fails`).  Nothing else is missing. -/
theorem decompress_compress_G1_partial (P : G1Pt) (hon : Gen.OptBls.is_on_curve P blsB = true)
    (hx : P.2.2 ≠ 0 → P.1 ≠ 0) :
    decompressG1 (compressG1 P) = .ok (if Gen.OptBls.is_inf P then Z1 else Gen.OptBls.normalize1 P) ∧
    Gen.OptBls.eq (if Gen.OptBls.is_inf P then Z1 else Gen.OptBls.normalize1 P) P = true := by
  by_cases hz : P.2.2 = 0
  · have hi : Gen.OptBls.is_inf P = true := by simp [Gen.OptBls.is_inf, hz]
    rw [hi, if_pos rfl, compressG1_inf hz]
    refine ⟨decompressG1_ok_iff.mpr (Or.inr ⟨getFlags_inf.1, getFlags_inf.2, rfl⟩), ?_⟩
    simp [Gen.OptBls.eq, Gen.OptBls.is_inf, hz, Z1]
  · have hi : Gen.OptBls.is_inf P = false := by simp [Gen.OptBls.is_inf, hz]
    rw [hi]
    simp only [Bool.false_eq_true, if_false]
    -- the affine coordinates, in the model and in `ZMod p`
    obtain ⟨x, hxdef⟩ : ∃ x, x = P.1 / P.2.2 := ⟨_, rfl⟩
    obtain ⟨y, hydef⟩ : ∃ y, y = P.2.1 / P.2.2 := ⟨_, rfl⟩
    have hn1 : Gen.OptBls.normalize1 P = (x, y, 1) := by rw [hxdef, hydef]; rfl
    have hZ : Fq.toZMod P.2.2 ≠ 0 := fun h => hz (Fq.toZMod_eq_zero.mp h)
    have hxK : Fq.toZMod x = Fq.toZMod P.1 / Fq.toZMod P.2.2 := by rw [hxdef, Fq.toZMod_div]
    have hyK : Fq.toZMod y = Fq.toZMod P.2.1 / Fq.toZMod P.2.2 := by rw [hydef, Fq.toZMod_div]
    have hyy : (Fq.toZMod y) ^ 2 = (Fq.toZMod x) ^ 3 + 4 := by
      rw [hxdef, hydef]; exact (on_curve_affine P hz).mp hon
    have hxn : x.n ≠ 0 := fun h => hx hz ((div_eq_zero_iff.mp (hxdef ▸ (n_eq_zero_iff _).mp h)).resolve_right hz)
    rw [hn1]
    constructor
    · -- the word of `(x, flag y)` decodes to `y` again
      rw [compressG1_fin hz, ← hxdef, ← hydef]
      obtain ⟨w1, w2, _⟩ := getFlags_word (lt_trans x.lt blsP_lt) (flag_le_one y.lt)
      rw [decompressG1_fin_iff w1, w2]
      exact ⟨hxn, x.lt, y.n, y.lt, hyy, (ite_beq_one (flag_le_one y.lt)).symm, by rw [ofInt_n, ofInt_n]; rfl⟩
    · unfold Gen.OptBls.eq Gen.OptBls.is_inf
      simp only [hz, show (1 : F1) ≠ 0 by decide, decide_false, Bool.false_eq_true, or_self, if_false,
        decide_eq_true_eq]
      constructor <;> apply Fq.toZMod_injective <;>
        simp only [Fq.toZMod_mul, Fq.toZMod_one, hxK, hyK] <;> field_simp

/-- **K1, part 1: which points are excluded.**  For a finite triple (`Z ≠ 0`): it is on the curve and has
    `X = 0` (affine `x = 0`) iff its affine reading `normalize(P) = (X/Z, Y/Z)` is `(0, 2)` or `(0, p-2)`. -/
theorem x0_points_iff (P : G1Pt) (hz : P.2.2 ≠ 0) :
    (Gen.OptBls.is_on_curve P blsB = true ∧ P.1 = 0) ↔
      (Gen.OptBls.normalize P = ((0 : F1), Fq.ofInt 2) ∨
       Gen.OptBls.normalize P = ((0 : F1), Fq.ofInt ((blsP - 2 : ℕ) : ℤ))) := by
  have h2 : Fq.toZMod (Fq.ofInt 2 : F1) = 2 := by rw [Fq.toZMod_ofInt]; norm_num
  have hm2 : Fq.toZMod (Fq.ofInt ((blsP - 2 : ℕ) : ℤ) : F1) = -2 := by
    rw [toZMod_ofInt_nat, natCast_p_sub (by decide)]; norm_num
  -- on the affine coordinates: `y² = x³ + 4 ∧ x = 0` iff `x = 0 ∧ y = ±2`
  rw [on_curve_affine P hz, ← or_iff_left (a := P.1 = 0) hz, ← div_eq_zero_iff]
  show _ ↔ (P.1 / P.2.2, P.2.1 / P.2.2) = _ ∨ (P.1 / P.2.2, P.2.1 / P.2.2) = _
  simp only [Prod.mk.injEq, ← Fq.toZMod_inj (a := P.2.1 / P.2.2), h2, hm2]
  constructor
  · rintro ⟨hc, hx⟩
    have hy : Fq.toZMod (P.2.1 / P.2.2) ^ 2 = 2 ^ 2 := by rw [hc, hx, Fq.toZMod_zero]; norm_num
    exact (sq_eq_sq_iff_eq_or_eq_neg.mp hy).imp (⟨hx, ·⟩) (⟨hx, ·⟩)
  · rintro (⟨hx, hy⟩ | ⟨hx, hy⟩)
    · exact ⟨by rw [hx, hy, Fq.toZMod_zero]; norm_num, hx⟩
    · exact ⟨by rw [hx, hy, Fq.toZMod_zero]; norm_num, hx⟩

/-- **K1, part 2: the round trip fails there.**  For every finite triple with `X = 0` — in particular for
    every representative of the two curve points `(0, 2)`, `(0, p-2)` — `compress_G1` emits a word with
    `b_flag = 0` and `x = 0`, which `decompress_G1` rejects with `ValueError("b_flag should be 1")`.
    (The ZCash format decodes these two words; py_ecc does not.  Both points have order 3 and lie outside
    the prime-order subgroup.) -/
theorem x0_roundtrip_fails (P : G1Pt) (hz : P.2.2 ≠ 0) (hX : P.1 = 0) :
    decompressG1 (compressG1 P) = .error .value := by
  rw [compressG1_fin hz, hX, zero_div]
  obtain ⟨w1, w2, _⟩ := getFlags_word (lt_trans (Fq.lt (0 : F1)) blsP_lt)
    (flag_le_one (Fq.lt (P.2.1 / P.2.2)))
  apply rejects_of_error_kind decompressG1_error_kind
  intro Q hQ
  rw [decompressG1_ok_iff, w1, w2] at hQ
  rcases hQ with ⟨_, h0, _⟩ | ⟨hf, _⟩
  · exact h0 rfl
  · cases hf

/-! ### non-vacuity -/

theorem blsG1_round_trip_hyp : Gen.OptBls.is_on_curve blsG1 blsB = true ∧ (blsG1.2.2 ≠ 0 → blsG1.1 ≠ 0) := by
  decide +kernel

set_option maxRecDepth 100000 in
/-- the generator satisfies the hypotheses of the round-trip theorem -/
example : Gen.OptBls.is_on_curve blsG1 blsB = true ∧ (blsG1.2.2 ≠ 0 → blsG1.1 ≠ 0) := blsG1_round_trip_hyp

set_option maxRecDepth 100000 in
/-- so does a non-normalized representative (`Z ≠ 1`) of `2·G1`, and infinity -/
example : Gen.OptBls.is_on_curve (Gen.OptBls.double blsG1) blsB = true ∧
    ((Gen.OptBls.double blsG1).2.2 ≠ 1) ∧
    ((Gen.OptBls.double blsG1).2.2 ≠ 0 → (Gen.OptBls.double blsG1).1 ≠ 0) ∧
    Gen.OptBls.is_on_curve Z1 blsB = true ∧ (Z1.2.2 ≠ 0 → Z1.1 ≠ 0) := by decide +kernel

/-- a word satisfying the hypotheses of the canonicity theorem (the encoding of the generator) -/
example : compressG1 blsG1 < 2 ^ 384 ∧ ∃ P, decompressG1 (compressG1 blsG1) = .ok P :=
  ⟨compress_lt _, _, (decompress_compress_G1_partial blsG1 blsG1_round_trip_hyp.1 blsG1_round_trip_hyp.2).1⟩

set_option maxRecDepth 100000 in
/-- the two excluded points are on the curve, finite, with `X = 0` (hypotheses of `x0_roundtrip_fails`
    and left side of `x0_points_iff`) -/
example :
    let A : G1Pt := ((0 : F1), Fq.ofInt 2, (1 : F1))
    let B : G1Pt := ((0 : F1), Fq.ofInt ((blsP - 2 : ℕ) : ℤ), (1 : F1))
    (Gen.OptBls.is_on_curve A blsB = true ∧ A.2.2 ≠ 0 ∧ A.1 = 0) ∧
    (Gen.OptBls.is_on_curve B blsB = true ∧ B.2.2 ≠ 0 ∧ B.1 = 0) ∧ A ≠ B := by decide +kernel

end PyEcc.C11
