/-
  PyEcc.Props.C10 — property C10, G1 half: `optimized_swu_G1` of
  `py_ecc/optimized_bls12_381/optimized_swu.py` (model: `optimizedSwuG1`, `sqrtDivisionFq` in
  `PyEcc/Model/Swu.lean`) IS the simplified SWU map of RFC 9380 §6.6.2 for the curve
  `E' : y² = x³ + A'x + B'` 11-isogenous to BLS12-381 G1, with `Z = 11` (§8.8.1) — for EVERY input
  `t`, exceptional inputs included, no hypotheses.

  The statements read the model's `FQ` objects through `Fq.toZMod : Fq blsP → ZMod blsP` (the bridge
  of `Sem/FqZMod.lean`), and the constants are RFC 9380's literals `Spec.H2C.iso11A/B/Z`.
  With `(N, Y, D) = optimized_swu_G1(t)` the affine point is `(x, y) = (N/D, Y/D)`.

  Elsewhere: the G2 map `optimized_swu_G2` (`Props/C10_G2.lean`), the isogeny maps (`Props/C10_Iso.lean`),
  the subgroup membership of the result (`C17O.hash_good_proved`, `Props/C17_Order.lean`).
-/
import PyEcc.Lemmas.SwuNoRoot
import PyEcc.Props.C10_Consts

namespace PyEcc.C10
open PyEcc.Spec PyEcc.SwuSem Gen.Consts
open Fq (toZMod)

-- RFC 9380 §8.8.1's `A'`, `B'`, `Z` as residues mod `p` (also used by `Props/C10_Gen.lean`, `Props/C10_Iso.lean`)
scoped notation "A'" => ((Spec.H2C.iso11A : ℕ) : ZMod blsP)
scoped notation "B'" => ((Spec.H2C.iso11B : ℕ) : ZMod blsP)
scoped notation "Z'" => ((Spec.H2C.iso11Z : ℕ) : ZMod blsP)

/-- The three constants of the G1 SSWU map in `optimized_bls12_381/constants.py` are RFC 9380
    §8.8.1's `A'`, `B'`, `Z = 11` (as residues mod `p`). -/
theorem iso11_consts :
    toZMod ISO_11_A = A' ∧ toZMod ISO_11_B = B' ∧ toZMod ISO_11_Z = Z' := by
  have h : ∀ n : ℕ, toZMod (f1c n) = (n : ZMod blsP) := fun n => by
    rw [f1c, Fq.toZMod_ofInt, Int.cast_natCast]
  obtain ⟨hA, hB, hZ, _⟩ := iso11_literals
  exact ⟨(h _).trans (by rw [hA]), (h _).trans (by rw [hB]), (h _).trans (by rw [hZ])⟩

/-- **`sqrt_division_FQ(u, v)` is correct** for every `u` and every `v ≠ 0` (uses `p ≡ 3 mod 4` and
    Euler's criterion): it returns `(True, r)` exactly when `u/v` is a square in `Fp`, and then
    `r² = u/v`; otherwise it returns `(False, r)` with `r² = −u/v`. -/
theorem sqrt_division_FQ_correct (u v : F1) (hv : v ≠ 0) :
    ((sqrtDivisionFq u v).1 = true ↔ IsSquare (toZMod u / toZMod v)) ∧
    ((sqrtDivisionFq u v).1 = true → toZMod (sqrtDivisionFq u v).2 ^ 2 = toZMod u / toZMod v) ∧
    ((sqrtDivisionFq u v).1 = false → toZMod (sqrtDivisionFq u v).2 ^ 2 = -(toZMod u / toZMod v)) := by
  have hv' : toZMod v ≠ 0 := mt Fq.toZMod_eq_zero.mp hv
  obtain ⟨h1, h2⟩ := sqrtDiv_spec u v hv
  refine ⟨by rw [h1, ← Fq.toZMod_div, isSquare_toZMod], fun h => ?_, fun h => ?_⟩
  · rw [h, if_pos rfl] at h2
    rw [eq_div_iff hv', ← Fq.toZMod_pow, ← Fq.toZMod_mul, h2]
  · rw [h, if_neg Bool.false_ne_true] at h2
    rw [← neg_div, eq_div_iff hv', ← Fq.toZMod_pow, ← Fq.toZMod_mul, h2, Fq.toZMod_neg]

example : (1 : F1) ≠ 0 := by decide +kernel

/-- the relational specification read through `Fq.toZMod`, with RFC 9380's constants and `sgn0` -/
theorem isSswu_toZMod {t x y : F1} (h : IsSswu Fq.sgn0 ISO_11_A ISO_11_B ISO_11_Z t x y) :
    IsSswu Spec.sgn0Fp A' B' Z' (toZMod t) (toZMod x) (toZMod y) := by
  have h := SwuSem.IsSswu.map_equiv Fq.ringEquiv Fq.sgn0 Spec.sgn0Fp
    (fun y => (sgn0_eq_spec y).symm) h
  simp only [Fq.ringEquiv_apply] at h
  rwa [iso11_consts.1, iso11_consts.2.1, iso11_consts.2.2] at h

/-- **C10, summary (G1): `optimized_swu_G1` = RFC 9380 `map_to_curve_simple_swu`.**  For every field
    element `t`, with `(N, Y, D) = optimized_swu_G1(t)`: the affine point `(N/D, Y/D)` is related to
    `t` by the specification `Spec.IsSswu` of RFC 9380 §6.6.2 with the constants `A'`, `B'`, `Z = 11`
    of §8.8.1 and `sgn0` of §4.1: its `x` is the RFC's `x1` if `g(x1)` is a square and `x2 = Z t² x1`
    otherwise, `y² = g(x)`, and `y` has the sign of `t`.  (`Spec.IsSswu` determines `(x, y)` uniquely:
    `SwuSem.IsSswu.unique`.) -/
theorem swu_G1_is_sswu (t : F1) :
    Spec.IsSswu Spec.sgn0Fp A' B' Z' (toZMod t)
      (toZMod (optimizedSwuG1 t).1 / toZMod (optimizedSwuG1 t).2.2)
      (toZMod (optimizedSwuG1 t).2.1 / toZMod (optimizedSwuG1 t).2.2) := by
  rw [← Fq.toZMod_div, ← Fq.toZMod_div]
  exact isSswu_toZMod (optimizedSwuG1_isSswu t).2

/-- **C10 (G1): the returned denominator is non-zero and the point is on the isogenous curve.**
    For every `t`, `optimized_swu_G1(t) = (N, Y, D)` has `D ≠ 0`, and `(x, y) = (N/D, Y/D)` satisfies
    `y² = x³ + A'x + B'` — in the first branch because the code checks `r²·v = u` before accepting,
    in the second by Euler's criterion, `SQRT_MINUS_11_CUBED² = −Z³` and the SSWU identity. -/
theorem swu_G1_on_iso_curve (t : F1) :
    (optimizedSwuG1 t).2.2 ≠ 0 ∧ toZMod (optimizedSwuG1 t).2.2 ≠ 0 ∧
    (toZMod (optimizedSwuG1 t).2.1 / toZMod (optimizedSwuG1 t).2.2) ^ 2 =
      (toZMod (optimizedSwuG1 t).1 / toZMod (optimizedSwuG1 t).2.2) ^ 3
        + A' * (toZMod (optimizedSwuG1 t).1 / toZMod (optimizedSwuG1 t).2.2) + B' :=
  have hD := (optimizedSwuG1_isSswu t).1
  ⟨hD, mt Fq.toZMod_eq_zero.mp hD, IsSswu.on_curve (swu_G1_is_sswu t)⟩

/-- **C10 (G1): the `x`-coordinate is the RFC's, and the branch is the RFC's.**  If `g(x1)` is a
    square in `Fp` then `N/D = x1`, otherwise `N/D = x2 = Z·t²·x1`, where
    `x1 = (−B'/A')(1 + inv0(Z²t⁴ + Zt²))`, replaced by `B'/(Z·A')` when `Z²t⁴ + Zt² = 0`
    (`Spec.sswuX1`, RFC 9380 §6.6.2 steps 1–3). -/
theorem swu_G1_x_is_rfc (t : F1) :
    (IsSquare (sswuG A' B' (sswuX1 A' B' Z' (toZMod t))) →
      toZMod (optimizedSwuG1 t).1 / toZMod (optimizedSwuG1 t).2.2 = sswuX1 A' B' Z' (toZMod t)) ∧
    (¬ IsSquare (sswuG A' B' (sswuX1 A' B' Z' (toZMod t))) →
      toZMod (optimizedSwuG1 t).1 / toZMod (optimizedSwuG1 t).2.2
        = Z' * toZMod t ^ 2 * sswuX1 A' B' Z' (toZMod t)) :=
  IsSswu.x_eq (swu_G1_is_sswu t)

/-- **C10 (G1): the code takes the first branch exactly when the RFC does.**  The flag `is_root`
    returned by `sqrt_division_FQ(u, v)` inside `optimized_swu_G1(t)` (`SwuSem.swuOk t`; the
    intermediate values are named in `Lemmas/SwuShape.lean`, tied to the model by
    `SwuSem.optimizedSwuG1_eq`) is `True` iff `g(x1)` is a square in `Fp` (RFC step 7). -/
theorem swu_G1_branch_iff (t : F1) :
    swuOk t = true ↔ IsSquare (sswuG A' B' (sswuX1 A' B' Z' (toZMod t))) := by
  rw [(swu_isSswu t).1, ← isSquare_toZMod, ← Fq.ringEquiv_apply, map_sswuG, map_sswuX1]
  simp only [Fq.ringEquiv_apply]
  rw [iso11_consts.1, iso11_consts.2.1, iso11_consts.2.2]

/-- **C10 (G1): exceptional inputs.**  If `Z²t⁴ + Zt² = 0` — in particular for `t = 0` — the code
    replaces its zero denominator by `Z·A'` and returns the point with `x = B'/(Z·A')`, RFC 9380's
    exceptional-case value (and `g` of it is a square, so this is the RFC's output). -/
theorem swu_G1_exceptional (t : F1) (h : Z' ^ 2 * toZMod t ^ 4 + Z' * toZMod t ^ 2 = 0) :
    toZMod (optimizedSwuG1 t).1 / toZMod (optimizedSwuG1 t).2.2 = B' / (Z' * A') ∧
    IsSquare (sswuG A' B' (B' / (Z' * A'))) := by
  have hT : swuT t = 0 := by
    apply Fq.toZMod_injective
    rw [Fq.toZMod_zero, ← h]
    simp only [swuT, Fq.toZMod_add, Fq.toZMod_mul, Fq.toZMod_pow, iso11_consts.2.2]
    ring
  have hsq := (swu_G1_branch_iff t).mp (swu_of_T_eq t hT).2
  have hx := (swu_G1_x_is_rfc t).1 hsq
  rw [sswuX1_of_eq A' B' Z' (toZMod t) h] at hsq hx
  exact ⟨hx, hsq⟩

example : Z' ^ 2 * toZMod (0 : F1) ^ 4 + Z' * toZMod (0 : F1) ^ 2 = 0 := by
  rw [Fq.toZMod_zero]; ring

/-- **C10 (G1): `y` is never zero.**  The isogenous curve has no point with `y = 0`
    (`x³ + A'x + B'` has no root in `Fp`; kernel computation of `x^p mod g`). -/
theorem swu_G1_y_ne_zero (t : F1) :
    toZMod (optimizedSwuG1 t).2.1 / toZMod (optimizedSwuG1 t).2.2 ≠ 0 := by
  rw [← Fq.toZMod_div, optimizedSwuG1_y]
  exact mt Fq.toZMod_eq_zero.mp (swuY_sgn0_eq t).1

/-- **C10 (G1): sign.**  `sgn0(y) = sgn0(t)` for every `t`, both for RFC 9380's `sgn0` of the residue
    classes and for the library's own `FQ.sgn0` applied to `Y / D` computed with `FQ.__truediv__`. -/
theorem swu_G1_sgn0 (t : F1) :
    Spec.sgn0Fp (toZMod (optimizedSwuG1 t).2.1 / toZMod (optimizedSwuG1 t).2.2) = Spec.sgn0Fp (toZMod t) ∧
    ((optimizedSwuG1 t).2.1 / (optimizedSwuG1 t).2.2).sgn0 = t.sgn0 := by
  have h := (swuY_sgn0_eq t).2
  rw [← optimizedSwuG1_y] at h
  exact ⟨by rw [← Fq.toZMod_div, ← sgn0_eq_spec, ← sgn0_eq_spec, h], h⟩

/-- **C10 (G1): equality with the straight-line RFC procedure.**  For every correct square-root
    function `sqrt` on `Fp` (one that returns *a* root of each square), the affine point computed by
    `optimized_swu_G1(t)` equals the output of RFC 9380 §6.6.2 `map_to_curve_simple_swu(t)`
    (`Spec.mapToCurveSimpleSwu`, steps 1–10 verbatim) — whichever root `sqrt` picks, step 9 fixes the
    sign. -/
theorem swu_G1_eq_rfc_function (sqrt : ZMod blsP → ZMod blsP)
    (hsqrt : ∀ a, IsSquare a → sqrt a ^ 2 = a) (t : F1) :
    (toZMod (optimizedSwuG1 t).1 / toZMod (optimizedSwuG1 t).2.2,
      toZMod (optimizedSwuG1 t).2.1 / toZMod (optimizedSwuG1 t).2.2)
      = Spec.mapToCurveSimpleSwu Spec.sgn0Fp sqrt A' B' Z' (toZMod t) := by
  refine IsSswu.eq_rfc (swu_G1_is_sswu t) sqrt hsqrt (fun y hy => ?_) (fun y => Nat.mod_lt _ (by decide))
  have h := sgn0_neg_ne (Fq.ofZMod y) (by
    intro h0; apply hy; rw [← Fq.toZMod_ofZMod y, h0, Fq.toZMod_zero])
  rwa [sgn0_eq_spec, sgn0_eq_spec, Fq.toZMod_neg, Fq.toZMod_ofZMod] at h

/-- a correct square-root function on `Fp` exists (non-vacuity of the hypothesis above) -/
example : ∃ sqrt : ZMod blsP → ZMod blsP, ∀ a, IsSquare a → sqrt a ^ 2 = a := exists_sqrt

end PyEcc.C10
