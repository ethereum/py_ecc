/-
  PyEcc.Props.C10_Iso — property C10, the isogeny leg: `iso_map_G1` (11-isogeny `E1' → E1`) and
  `iso_map_G2` (3-isogeny `E2' → E2`) of `py_ecc/optimized_bls12_381/optimized_swu.py` (model:
  `isoMapG1`, `isoMapG2`, `isoHorner`, `zPowersOf` in `PyEcc/Model/Swu.lean`; coefficient tables
  `Gen.Consts.h2c_ISO_11_MAP_COEFFICIENTS`, `h2c_ISO_3_MAP_COEFFICIENTS`, regenerated from the Python
  source on every run) map EVERY point of the isogenous curve to a point of the target curve, hence
  `map_to_curve_G1` / `map_to_curve_G2` (SWU followed by the isogeny) always land on
  `E1 : y² = x³ + 4` resp. `E2 : y² = x³ + 4(1+i)`.

  The mathematical content is the polynomial identity
      `(x³ + A'x + B')·yn(x)²·xd(x)³ = (xn(x)³ + b·xd(x)³)·yd(x)²`
  between the four coefficient lists `xn, xd, yn, yd` of each table (degree 63 for G1, 15 for G2,
  381-bit coefficients).  It is proved by reflection: the two sides are multiplied out on coefficient
  lists over `ℤ` (G1) resp. `ℤ[i]` (G2) by the kernel and compared modulo `p`
  (`IsoSem.check11_true`, `IsoSem.check3_true`; `decide +kernel`, no axioms), and list arithmetic is
  proved once to evaluate to ring arithmetic (`Lemmas/PolyList.lean`).  The Horner loop of the Python
  code is shown to compute the homogenisation `z^deg·k(x/z)` (`IsoSem.isoHorner_eq`).

  Not covered: that the maps are group homomorphisms (not needed for `hash_good`: cofactor clearing
  acts on the sum of two arbitrary curve points), and that the coefficient tables are literally
  those of RFC 9380 Appendix E (they are tied to the Python source by the translator).
-/
import PyEcc.Lemmas.IsoG2
import PyEcc.Props.C10
import PyEcc.Props.C10_G2
import PyEcc.Props.C10_Struct
import PyEcc.Lemmas.BlsProto
import PyEcc.Sem.TransferFq

namespace PyEcc.C10Iso
open PyEcc PyEcc.Gen PyEcc.Gen.Consts PyEcc.IsoSem

open scoped PyEcc.C10

/-- the hypothesis "the affine point is on `E1'`", read in `F1` -/
theorem iso11_curve_F1 {X Y Z : F1}
    (h : (Fq.toZMod Y / Fq.toZMod Z) ^ 2 = (Fq.toZMod X / Fq.toZMod Z) ^ 3 + A' * (Fq.toZMod X / Fq.toZMod Z) + B') :
    (Y / Z) ^ 2 = (X / Z) ^ 3 + ISO_11_A * (X / Z) + ISO_11_B := by
  apply Fq.toZMod_injective
  simp only [Fq.toZMod_pow, Fq.toZMod_div, Fq.toZMod_add, Fq.toZMod_mul]
  rw [C10.iso11_consts.1, C10.iso11_consts.2.1]
  exact h

/-! ## G1: the 11-isogeny -/

/-- **C10 (G1 isogeny): `iso_map_G1` maps `E1'` into `E1`.**  For every projective input
    `(X : Y : Z)` with `Z ≠ 0` whose affine point `(X/Z, Y/Z)` lies on the 11-isogenous curve
    `y² = x³ + A'x + B'` (RFC 9380 §8.8.1 constants, residues mod `p`), the triple returned by
    `iso_map_G1(X, Y, Z)` passes the library's own `is_on_curve(·, b)` with `b = 4`: it is the point
    at infinity (`Z₃ = 0`) or satisfies `Y₃²·Z₃ − X₃³ = 4·Z₃³`. -/
theorem iso_map_G1_on_curve (X Y Z : F1) (hZ : Z ≠ 0)
    (h : (Fq.toZMod Y / Fq.toZMod Z) ^ 2 = (Fq.toZMod X / Fq.toZMod Z) ^ 3 + A' * (Fq.toZMod X / Fq.toZMod Z) + B') :
    OptBls.is_on_curve (isoMapG1 X Y Z) blsB = true := by
  unfold OptBls.is_on_curve
  split
  · rfl
  · rw [decide_eq_true_eq]
    exact isoMapG1_proj X Y Z hZ (iso11_curve_F1 h)

/-- non-vacuity: the SWU output for `t = 0` is such an input (and, by `C10.swu_G1_on_iso_curve`,
    so is the SWU output for every `t`) -/
example : ∃ X Y Z : F1, Z ≠ 0 ∧
    (Fq.toZMod Y / Fq.toZMod Z) ^ 2 = (Fq.toZMod X / Fq.toZMod Z) ^ 3 + A' * (Fq.toZMod X / Fq.toZMod Z) + B' :=
  ⟨_, _, _, (C10.swu_G1_on_iso_curve 0).1, (C10.swu_G1_on_iso_curve 0).2.2⟩

/-- **C10 (G1 isogeny), affine reading.**  Under the same hypotheses the output `(X₃, Y₃, Z₃)` of
    `iso_map_G1` is the point at infinity (`Z₃ = 0`) or its affine point satisfies
    `(Y₃/Z₃)² = (X₃/Z₃)³ + 4` in `Fp`. -/
theorem iso_map_G1_affine (X Y Z : F1) (hZ : Z ≠ 0)
    (h : (Fq.toZMod Y / Fq.toZMod Z) ^ 2 = (Fq.toZMod X / Fq.toZMod Z) ^ 3 + A' * (Fq.toZMod X / Fq.toZMod Z) + B') :
    (isoMapG1 X Y Z).2.2 = 0 ∨
    (Fq.toZMod (isoMapG1 X Y Z).2.1 / Fq.toZMod (isoMapG1 X Y Z).2.2) ^ 2 =
      (Fq.toZMod (isoMapG1 X Y Z).1 / Fq.toZMod (isoMapG1 X Y Z).2.2) ^ 3 + 4 := by
  by_cases h0 : (isoMapG1 X Y Z).2.2 = 0
  · exact Or.inl h0
  · right
    have hp := congrArg Fq.toZMod (isoMapG1_proj X Y Z hZ (iso11_curve_F1 h))
    simp only [Fq.toZMod_pow, Fq.toZMod_sub, Fq.toZMod_mul] at hp
    have hb : Fq.toZMod blsB = 4 := by
      show Fq.toZMod (Fq.ofInt ((4 : ℕ) : ℤ)) = 4
      rw [Fq.toZMod_ofInt]; norm_num
    rw [hb] at hp
    have hz3 : Fq.toZMod (isoMapG1 X Y Z).2.2 ≠ 0 := fun e => h0 (Fq.toZMod_injective (e.trans Fq.toZMod_zero.symm))
    field_simp
    linear_combination hp

/-- **C10 (G1 isogeny): `iso_map_G1` is the rational map given by its coefficient table.**  For
    `Z ≠ 0` and `w = X/Z`, with `xn, xd, yn, yd` the polynomials whose coefficient lists (constant
    term first) are the four entries of `ISO_11_MAP_COEFFICIENTS` (`IsoSem.ev IsoSem.fZ (IsoSem.iso11 i)`,
    degrees 11, 10, 15, 15): the output `(X₃, Y₃, Z₃)` has `Z₃ = Z²⁷·xd(w)·yd(w)` — so it is the point
    at infinity exactly on the kernel `xd(w)·yd(w) = 0` — and otherwise
    `X₃/Z₃ = xn(w)/xd(w)` and `Y₃/Z₃ = (Y/Z)·yn(w)/yd(w)` (RFC 9380 Appendix E.2's shape). -/
theorem iso_map_G1_rational (X Y Z : F1) (hZ : Z ≠ 0) :
    ((isoMapG1 X Y Z).2.2 = 0 ↔ ev fZ (iso11 1) (X / Z) * ev fZ (iso11 3) (X / Z) = 0) ∧
    ((isoMapG1 X Y Z).2.2 ≠ 0 →
      (isoMapG1 X Y Z).1 / (isoMapG1 X Y Z).2.2 = ev fZ (iso11 0) (X / Z) / ev fZ (iso11 1) (X / Z) ∧
      (isoMapG1 X Y Z).2.1 / (isoMapG1 X Y Z).2.2 =
        (Y / Z) * ev fZ (iso11 2) (X / Z) / ev fZ (iso11 3) (X / Z)) :=
  (isoMapG1_shape X Y Z hZ).rational hZ (pow_ne_zero 26 hZ)

/-- **C10 (G1): `map_to_curve_G1` lands on the curve, for every field element.**
    `map_to_curve_G1(t)` — `optimized_swu_G1` followed by `iso_map_G1`, as `hash_to_G1` calls it — returns,
    for EVERY `t ∈ Fp` (exceptional inputs included), a triple accepted by `is_on_curve(·, b)`: a point
    of BLS12-381 `E1 : y² = x³ + 4` (possibly the point at infinity). -/
theorem map_to_curve_G1_on_curve (t : F1) : OptBls.is_on_curve (mapToCurveG1 t) blsB = true := by
  have hs := C10.swu_G1_on_iso_curve t
  rw [C10.mapToCurveG1_eq]
  exact iso_map_G1_on_curve _ _ _ hs.1 hs.2.2

/-- the statement is not only about the point at infinity: e.g. `map_to_curve_G1(1)` is a finite point -/
example : OptBls.is_inf (mapToCurveG1 (f1c 1)) = false := by decide +kernel

/-- **C10 (G1): `hash_to_G1` returns a curve point.**  Whatever hash function, message and DST:
    if `hash_to_G1` returns a triple, it passes `is_on_curve(·, b)` (SWU + isogeny land on `E1`, and
    `add` / `clear_cofactor_G1 = multiply(·, H_EFF_G1)` preserve the curve). -/
theorem hash_to_G1_on_curve (H : HashFn) (msg dst : Bytes) (P : F1 × F1 × F1)
    (h : hashToG1 H msg dst = .ok P) : OptBls.is_on_curve P blsB = true := by
  unfold hashToG1 at h
  obtain ⟨us, hus, h2⟩ := bind_eq_ok h
  clear hus h
  split at h2
  · next u0 u1 =>
    have e : P = clearCofactorG1 (OptBls.add (mapToCurveG1 (f1c u0)) (mapToCurveG1 (f1c u1))) :=
      (Except.ok.inj h2).symm
    obtain ⟨p0, r0⟩ := Transfer.curveF1.exists_rep (Transfer.goodT_true _) (map_to_curve_G1_on_curve (f1c u0))
    obtain ⟨p1, r1⟩ := Transfer.curveF1.exists_rep (Transfer.goodT_true _) (map_to_curve_G1_on_curve (f1c u1))
    rw [e]
    exact ((r0.add r1).multiply h2c_H_EFF_G1).on_curve
  · cases h2

/-! ## G2: the 3-isogeny -/

section G2
open PyEcc.Fqp PyEcc.FqpSem PyEcc.Swu2

/-- **C10 (G2 isogeny): `iso_map_G2` maps `E2'` into `E2`.**  For reduced `FQ2` inputs `X, Y, Z`
    (two coefficients in `[0, p)` each, `Canon`) with `Z ≠ 0` whose affine point `(X/Z, Y/Z)` — values
    in `K2 = Fp[i]` through `q = toQ` — lies on the 3-isogenous curve `y² = x³ + 240i·x + 1012(1+i)`
    (RFC 9380 §8.8.2), the triple returned by `iso_map_G2(X, Y, Z)` consists of reduced elements and
    passes `is_on_curve(·, b2)`, `b2 = 4(1+i)`: it is the point at infinity or on `E2`. -/
theorem iso_map_G2_on_curve (X Y Z : F2) (hX : Canon X) (hY : Canon Y) (hZc : Canon Z)
    (hZ : q Z ≠ 0) (h : (q Y / q Z) ^ 2 = (q X / q Z) ^ 3 + kA * (q X / q Z) + kB) :
    Transfer.CanonT (isoMapG2 X Y Z) ∧ OptBls.is_on_curve (isoMapG2 X Y Z) blsB2 = true :=
  isoMapG2_on_curve X Y Z hX hY hZc hZ h

open PyEcc.Fqp PyEcc.FqpSem PyEcc.Swu2 in
/-- non-vacuity: the SWU output for `t = 1 + i` is such an input -/
example : ∃ X Y Z : F2, Canon X ∧ Canon Y ∧ Canon Z ∧ q Z ≠ 0 ∧
    (q Y / q Z) ^ 2 = (q X / q Z) ^ 3 + kA * (q X / q Z) + kB := by
  have ht : Canon (f2c [1, 1]) := cn_f2c (a := 1) (b := 1) (by decide) (by decide)
  have h := C10G2.swu_G2_on_iso_curve _ ht _ _ _ (C10G2.swu_G2_total _ ht)
  exact ⟨_, _, _, h.1, h.2.1, h.2.2.1, h.2.2.2.2.1, h.2.2.2.2.2⟩

/-- **C10 (G2 isogeny): `iso_map_G2` is the rational map given by its coefficient table.**  For
    reduced inputs with `Z ≠ 0` and `w = X/Z` in `K2`, with `xn, xd, yn, yd` the polynomials whose
    coefficient lists are the four entries of `ISO_3_MAP_COEFFICIENTS` (`IsoSem.ev IsoSem.fG
    (IsoSem.iso3 i)`): `Z₃ = Z⁷·xd(w)·yd(w)` and, when this is non-zero,
    `X₃/Z₃ = xn(w)/xd(w)` and `Y₃/Z₃ = (Y/Z)·yn(w)/yd(w)`. -/
theorem iso_map_G2_rational (X Y Z : F2) (hX : Canon X) (hY : Canon Y) (hZc : Canon Z)
    (hZ : q Z ≠ 0) :
    q (isoMapG2 X Y Z).2.2 = q Z ^ 7 * (ev fG (iso3 1) (q X / q Z) * ev fG (iso3 3) (q X / q Z)) ∧
    (q (isoMapG2 X Y Z).2.2 ≠ 0 →
      q (isoMapG2 X Y Z).1 / q (isoMapG2 X Y Z).2.2 =
        ev fG (iso3 0) (q X / q Z) / ev fG (iso3 1) (q X / q Z) ∧
      q (isoMapG2 X Y Z).2.1 / q (isoMapG2 X Y Z).2.2 =
        (q Y / q Z) * ev fG (iso3 2) (q X / q Z) / ev fG (iso3 3) (q X / q Z)) := by
  have s := (isoMapG2_shape hX hY hZc hZ).2
  exact ⟨s.Z.trans (by ring), (s.rational hZ (pow_ne_zero 6 hZ)).2⟩

/-- **C10 (G2): `map_to_curve_G2` lands on the curve, for every reduced field element.**  For every
    `t = a + b·i` with `0 ≤ a, b < p`, `map_to_curve_G2(t)` — `optimized_swu_G2` followed by
    `iso_map_G2` — returns (it never raises: `C10G2.swu_G2_total`) a triple of reduced elements accepted
    by `is_on_curve(·, b2)`: a point of `E2 : y² = x³ + 4(1+i)` (possibly the point at infinity). -/
theorem map_to_curve_G2_on_curve (t : F2) (ht : Canon t) :
    ∃ Q, mapToCurveG2 t = .ok Q ∧ Transfer.CanonT Q ∧ OptBls.is_on_curve Q blsB2 = true := by
  obtain ⟨N, Y, D, hs⟩ : ∃ N Y D, optimizedSwuG2 t = .ok (N, Y, D) :=
    ⟨_, _, _, C10G2.swu_G2_total t ht⟩
  obtain ⟨hN, hY, hD, _, hD0, hc⟩ := C10G2.swu_G2_on_iso_curve t ht N Y D hs
  refine ⟨isoMapG2 N Y D, ?_, isoMapG2_on_curve N Y D hN hY hD hD0 hc⟩
  rw [C10.mapToCurveG2_eq, hs]
  rfl

end G2

example : PyEcc.FqpSem.Canon (f2c [3, 5]) := Swu2.cn_f2c (a := 3) (b := 5) (by decide) (by decide)

/-- **HT6, the `map_to_curve` half**: the hypothesis `hmap` of `BlsProto.hash_good_of_map_and_order`.  On every
    `a + b·i`, `0 ≤ a, b < p`, whatever `map_to_curve_G2` returns is a well-formed (reduced) triple on the
    twist curve. -/
theorem map_to_curve_G2_good : ∀ a b : ℕ, a < blsP → b < blsP → ∀ Q : G2Pt,
    mapToCurveG2 (f2c [(a : ℤ), (b : ℤ)]) = .ok Q →
      Transfer.CanonT Q ∧ OptBls.is_on_curve Q blsB2 = true := by
  intro a b ha hb Q hQ
  obtain ⟨Q', hQ', hc⟩ := map_to_curve_G2_on_curve _ (Swu2.cn_f2c ha hb)
  rw [hQ'] at hQ
  cases hQ
  exact hc

example : (5 : ℕ) < blsP := by decide

/-- **C10 (G2): `hash_to_G2` returns a reduced curve point**, whatever hash function, message and
    DST (no hypothesis): SWU + isogeny land on `E2`, and `add` / `clear_cofactor_G2` preserve reduced
    triples on the curve. -/
theorem hash_to_G2_on_curve (H : HashFn) (msg dst : Bytes) (Q : G2Pt)
    (h : hashToG2 H msg dst = .ok Q) :
    Transfer.CanonT Q ∧ OptBls.is_on_curve Q blsB2 = true := by
  classical
  obtain ⟨P, rc⟩ := BlsProto.hash_rep_of_map map_to_curve_G2_good H msg dst Q h
  exact ⟨rc.1, rc.on_curve⟩

/-- **HT6 from the group order.**  The `hash_good` field of `BlsProto.PairingFacts` — every result of
    `hash_to_G2` is a reduced triple on the twist curve that passes `subgroup_check` — follows from `hord`:
    `h₂·r` kills every point of `E2(Fp²)`, which `Props/C17_Order.lean` proves from the group order
    (`hash_good_proved` is this theorem at `bls_order_kills_E2`); the `map_to_curve` half is
    `map_to_curve_G2_good`. -/
theorem hash_good_of_order [DecidableEq Transfer.K2]
    (hord : ∀ P : BlsProto.E2, (blsconst_G2_COFACTOR * blsR) • P = 0)
    (H : HashFn) (msg dst : Bytes) (mp : G2Pt) (h : hashToG2 H msg dst = .ok mp) :
    Transfer.CanonT mp ∧ OptBls.is_on_curve mp blsB2 = true ∧ subgroupCheck mp = true :=
  BlsProto.hash_good_of_map_and_order map_to_curve_G2_good hord H msg dst mp h

end PyEcc.C10Iso
