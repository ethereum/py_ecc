/-
  PyEcc.Props.C17_Consts — property C17, constant level: the cofactors and effective cofactors of
  BLS12-381 that py_ecc multiplies by (`H_EFF_G1`, `H_EFF_G2`, `G2_COFACTOR`) are the values of
  RFC 9380 §8.8 / the pairing-friendly-curves draft, they are what the polynomial formulas in the
  curve seed `x = −0xd201000000010000` give, and they are coprime to the group order `r`
  (which is what makes `subgroup_check` exact and cofactor clearing non-degenerate, see
  `Props/C17.lean` for the group theory).  Also the derived integer constants of
  `py_ecc/bls/constants.py` and `py_ecc/optimized_bls12_381/constants.py`.

  `Gen.Consts.*` are regenerated from the Python tree on every run; a changed constant makes a
  theorem here fail.  Everything is closed-term kernel evaluation.  Core Lean only.
-/
import PyEcc.Spec.Standards
import PyEcc.Model.Curve

namespace PyEcc.C17
open PyEcc.Gen.Consts

/-! ### Part A: the specification literals against the seed formulas (no `Gen`) -/

/-- G1 cofactor: `h₁ = (x−1)²/3`, stated without division. -/
theorem spec_h1_from_seed : (Spec.BLS12381.h1 : Int) * 3 = (Spec.BLS12381.x - 1) ^ 2 := by
  decide +kernel

/-- `#E(Fp) = p + 1 − t = h₁·r` with trace `t = x + 1`. -/
theorem spec_h1_r :
    (Spec.BLS12381.h1 : Int) * Spec.BLS12381.r
      = (Spec.BLS12381.p : Int) + 1 - (Spec.BLS12381.x + 1) := by decide +kernel

/-- G2 cofactor: `h₂ = (x⁸ − 4x⁷ + 5x⁶ − 4x⁴ + 6x³ − 4x² − 4x + 13)/9`, stated without division. -/
theorem spec_h2_from_seed :
    let x := Spec.BLS12381.x
    (Spec.BLS12381.h2 : Int) * 9
      = x ^ 8 - 4 * x ^ 7 + 5 * x ^ 6 - 4 * x ^ 4 + 6 * x ^ 3 - 4 * x ^ 2 - 4 * x + 13 := by
  decide +kernel

/-- `h₂·r` is the order of the sextic twist predicted by the CM equation: with `t = x + 1`,
    `t₂ = t² − 2p` (trace over `Fp²`), `f = (x−1)(2x²−1)/3` (so `4p − t² = 3f²`), the twist has
    `p² + 1 − (t₂ − 3tf)/2` points, and that number is `h₂·r`.  (This is the arithmetic half; that `E'(Fp²)` really
    has this many points is `C17O.bls_card_E2` in `Props/C17_Order.lean`.) -/
theorem spec_h2_r_twist_order :
    let x := Spec.BLS12381.x; let p : Int := Spec.BLS12381.p; let t := Spec.BLS12381.t
    let f := (x - 1) * (2 * x ^ 2 - 1) / 3
    ((x - 1) * (2 * x ^ 2 - 1)) % 3 = 0 ∧ 4 * p - t ^ 2 = 3 * f ^ 2 ∧
    ((t ^ 2 - 2 * p) - 3 * t * f) % 2 = 0 ∧
    (Spec.BLS12381.h2 : Int) * Spec.BLS12381.r = p ^ 2 + 1 - ((t ^ 2 - 2 * p) - 3 * t * f) / 2 := by
  decide +kernel

/-- RFC 9380 §8.8.1: `h_eff(G1) = 1 − x`. -/
theorem spec_hEffG1_from_seed : (Spec.H2C.hEffG1 : Int) = 1 - Spec.BLS12381.x := by decide +kernel

/-- RFC 9380 §8.8.2: `h_eff(G2) = h₂ · (3x² − 3)`. -/
theorem spec_hEffG2_from_seed :
    (Spec.H2C.hEffG2 : Int) = Spec.BLS12381.h2 * (3 * Spec.BLS12381.x ^ 2 - 3) := by decide +kernel

/-! ### Part B: the library's constants -/

/-- `H_EFF_G1` (the scalar `clear_cofactor_G1` multiplies by) is RFC 9380's `0xd201000000010001`,
    i.e. `1 − x`. -/
theorem H_EFF_G1_eq :
    h2c_H_EFF_G1 = Spec.H2C.hEffG1 ∧ (h2c_H_EFF_G1 : Int) = 1 - Spec.BLS12381.x := by decide +kernel

/-- `G2_COFACTOR` of `py_ecc/bls/constants.py` is the standard `h₂`, i.e. the seed polynomial
    `(x⁸ − 4x⁷ + 5x⁶ − 4x⁴ + 6x³ − 4x² − 4x + 13)/9`. -/
theorem G2_COFACTOR_eq :
    let x := Spec.BLS12381.x
    blsconst_G2_COFACTOR = Spec.BLS12381.h2 ∧
    (blsconst_G2_COFACTOR : Int) * 9
      = x ^ 8 - 4 * x ^ 7 + 5 * x ^ 6 - 4 * x ^ 4 + 6 * x ^ 3 - 4 * x ^ 2 - 4 * x + 13 := by
  decide +kernel

/-- `H_EFF_G2` (the scalar `clear_cofactor_G2` multiplies by) is RFC 9380's value, i.e.
    `G2_COFACTOR · (3x² − 3)`; in particular the true cofactor `h₂` divides it. -/
theorem H_EFF_G2_eq :
    h2c_H_EFF_G2 = Spec.H2C.hEffG2 ∧
    (h2c_H_EFF_G2 : Int) = (blsconst_G2_COFACTOR : Int) * (3 * Spec.BLS12381.x ^ 2 - 3) ∧
    blsconst_G2_COFACTOR ∣ h2c_H_EFF_G2 := by decide +kernel

/-- `#E(Fp) = h₁·r = p + 1 − (x + 1)` with the library's own `field_modulus` and `curve_order`. -/
theorem h1_r_eq :
    (Spec.BLS12381.h1 : Int) * (optimized_bls12_381_curve_order : Int)
      = (optimized_bls12_381_field_modulus : Int) + 1 - (Spec.BLS12381.x + 1) := by decide +kernel

/-- The G1 cofactor is coprime to the library's `curve_order`: a point of `E(Fp)` killed by `h₁`
    and by `r` is the identity, so `subgroup_check` rejects every `k·G + T` with `T ≠ 0` in the
    cofactor part (`reject_mixed` in `Props/C17.lean`). -/
theorem coprime_h1_r : Nat.Coprime Spec.BLS12381.h1 blsR := by decide +kernel

/-- The G2 cofactor (`G2_COFACTOR`) is coprime to the library's `curve_order`. -/
theorem coprime_h2_r : Nat.Coprime blsconst_G2_COFACTOR blsR := by decide +kernel

/-- `H_EFF_G1 = 1 − x` is coprime to `curve_order`: clearing the cofactor is a bijection on the
    `r`-torsion (it does not collapse G1), and `H_EFF_G1² = 3·h₁`. -/
theorem coprime_H_EFF_G1_r :
    Nat.Coprime h2c_H_EFF_G1 blsR ∧ h2c_H_EFF_G1 ^ 2 = 3 * Spec.BLS12381.h1 := by decide +kernel

/-- `H_EFF_G2` is coprime to `curve_order`: clearing the cofactor is a bijection on the `r`-torsion
    (it does not collapse G2). -/
theorem coprime_H_EFF_G2_r : Nat.Coprime h2c_H_EFF_G2 blsR := by decide +kernel

/-- The derived integer constants of `py_ecc/bls/constants.py`: `FQ2_ORDER = p² − 1`,
    `POW_2_381 … POW_2_384 = 2³⁸¹ … 2³⁸⁴` (the flag bits of the ZCash point encoding). -/
theorem bls_constants :
    blsconst_FQ2_ORDER = Spec.BLS12381.p ^ 2 - 1 ∧
    blsconst_POW_2_381 = 2 ^ 381 ∧ blsconst_POW_2_382 = 2 ^ 382 ∧
    blsconst_POW_2_383 = 2 ^ 383 ∧ blsconst_POW_2_384 = 2 ^ 384 := by decide +kernel

/-- `p < 2³⁸¹`: a field element fits below the three flag bits of a 48-byte encoding, and
    `2³⁸⁴ = 256⁴⁸`. -/
theorem p_lt_pow_2_381 : Spec.BLS12381.p < blsconst_POW_2_381 ∧ blsconst_POW_2_384 = 256 ^ 48 := by
  decide +kernel

/-- The square-root exponents of the optimized SWU maps: `P_MINUS_3_DIV_4 = (p − 3)/4` and
    `P_MINUS_9_DIV_16 = (p² − 9)/16`, both divisions exact. -/
theorem sqrt_exponents :
    h2c_P_MINUS_3_DIV_4 * 4 = Spec.BLS12381.p - 3 ∧ 3 ≤ Spec.BLS12381.p ∧
    h2c_P_MINUS_9_DIV_16 * 16 = Spec.BLS12381.p ^ 2 - 9 ∧ 9 ≤ Spec.BLS12381.p ^ 2 := by
  decide +kernel

/-- `SQRT_MINUS_11_CUBED² = −11³ = −Z³ (mod p)` (RFC 9380 §F.2 / the 3-mod-4 SWU shortcut for G1). -/
theorem sqrt_minus_11_cubed :
    (h2c_SQRT_MINUS_11_CUBED ^ 2 + 11 ^ 3) % Spec.BLS12381.p = 0 ∧
    h2c_SQRT_MINUS_11_CUBED < Spec.BLS12381.p := by decide +kernel

end PyEcc.C17
